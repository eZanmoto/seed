/-
  C01 — whole-program behaviour equals the documented semantics; constructs compose.
  The Lean evaluator is the independent executable reading.  What can be proved about it:
  G1 the meaning of a terminating program does not depend on the fuel, and statement sequences compose.
-/
import SeedProofs.Global
import SeedProofs.Lemmas.C01Ctx
import SeedProofs.Lemmas.C01FnCtx4
-- audit: Seed.C01.simAll Seed.C01.stmts_sim Seed.C01.stmts_sim_same Seed.C01.prog_sim Seed.C01.prog_outcome_refines Seed.C01.fn_ctx_refines_stmts Seed.C01.fn_ctx_refines_stmts_rel Seed.C01.fn_ctx_refines Seed.C01.fn_ctx_congr_upto Seed.C01.fn_ctx_run Seed.C01.FCtx.plug_rel Seed.C01.uptoEq_not_preserved_by_fn_bodies Seed.C01.results_differ_in_a_body
-- audit: Seed.C01.exact_ctx_gen Seed.C01.exact_ctx Seed.C01.refines_ctx Seed.C01.uptoEq_ctx Seed.C01.reaches_bind Seed.C01.stmts_append_exact Seed.C01.uptoEq_iff
namespace Seed.C01
open Seed.C07 (FuelEq)
open Seed

/-- G1: a run that does not time out has the same outcome with any larger fuel: "terminating program" is well defined -/
theorem run_fuel_independent (path src : List Char) {n m : Nat} (hnm : n ≤ m)
    (h : (run n path src).status ≠ .timeout) : run m path src = run n path src :=
  Seed.run_fuel_independent path src hnm h

/-- G1 for all 23 functions of the evaluator at once -/
theorem eval_fuel_monotone (n : Nat) : MonoAll n := monoAll n

/-- continue with `k` after a statement list that did not escape -/
def thenStmts (r : Res Escape) (k : State → Res Escape) : Res Escape :=
  r.bind fun esc σ => match esc with
    | .none => k σ
    | other => .ok other σ

theorem thenStmts_le {r r' : Res Escape} {k k' : State → Res Escape} (h : Res.Le r r') (hk : ∀ σ, Res.Le (k σ) (k' σ)) :
    Res.Le (thenStmts r k) (thenStmts r' k') := by
  unfold thenStmts
  apply Res.Le.bind h
  intro esc σ
  cases esc <;> first | exact hk σ | exact Res.Le.refl _

/-- G6 (sequencing): running `s₁ ++ s₂` is running `s₁` and, if it did not escape, `s₂` in the resulting state — up to
    fuel (the right-hand side gives `s₂` at least as much fuel) -/
theorem seq_compose (n : Nat) (σ : State) (sc : List Addr) (s₁ s₂ : List Stmt) :
    Res.Le (evalStmts n σ sc (s₁ ++ s₂)) (thenStmts (evalStmts n σ sc s₁) fun σ' => evalStmts n σ' sc s₂) := by
  induction s₁ generalizing n σ with
  | nil =>
    cases n with
    | zero => left; unfold evalStmts; rfl
    | succ n =>
      right
      conv => rhs; unfold thenStmts; arg 1; unfold evalStmts
      simp [Res.bind]
  | cons st r ih =>
    cases n with
    | zero => left; unfold evalStmts; rfl
    | succ n =>
      conv => arg 1; unfold evalStmts
      conv => arg 2; unfold thenStmts; arg 1; unfold evalStmts
      simp only [List.cons_append]
      cases hst : evalStmt n σ sc st with
      | timeout => left; rfl
      | err e σ1 => right; rfl
      | crash w σ1 => right; rfl
      | ok esc σ1 =>
        cases esc with
        | none =>
          simp only [Res.bind]
          refine Res.Le.trans (ih n σ1) ?_
          apply thenStmts_le (Res.Le.refl _)
          intro σ'
          exact (monoAll n).evalStmts σ' sc s₂
        | brk l => right; rfl
        | cont l => right; rfl
        | ret v l => right; rfl

/-- a statement after an escaping statement list does not run: `break`, `continue`, `return` cut the sequence -/
theorem escape_cuts (n : Nat) (σ σ' : State) (sc : List Addr) (s₁ s₂ : List Stmt) (esc : Escape)
    (h : evalStmts n σ sc s₁ = .ok esc σ') (hesc : esc ≠ .none) :
    Res.Le (evalStmts n σ sc (s₁ ++ s₂)) (.ok esc σ') := by
  have := seq_compose n σ sc s₁ s₂
  rw [h] at this
  unfold thenStmts at this
  simp only [Res.bind] at this
  cases esc with
  | none => exact absurd rfl hesc
  | brk l => exact this
  | cont l => exact this
  | ret v l => exact this

/-- G6 in both directions: up to fuel, `s₁ ++ s₂` IS `s₁` followed — if it did not escape — by `s₂` in the resulting
    state: every result other than a time-out that one side reaches (at some fuel) the other reaches too.  The direction
    `seq_compose` does not give (whatever the two-step reading yields, the concatenation yields with `s₁.length` more
    units of fuel) comes from the fuel-exact equation `stmts_append_exact`. -/
theorem seq_compose_upto (σ : State) (sc : List Addr) (s₁ s₂ : List Stmt) :
    FuelEq (fun n => evalStmts n σ sc (s₁ ++ s₂))
      (fun n => thenStmts (evalStmts n σ sc s₁) fun σ' => evalStmts n σ' sc s₂) := by
  intro r hr
  constructor
  · rintro ⟨k, hk⟩
    refine ⟨k, ?_⟩
    replace hk : evalStmts k σ sc (s₁ ++ s₂) = r := hk
    show thenStmts (evalStmts k σ sc s₁) (fun σ' => evalStmts k σ' sc s₂) = r
    rcases seq_compose k σ sc s₁ s₂ with h | h
    · exact absurd (hk.symm.trans h) hr
    · exact h.symm.trans hk
  · rintro ⟨k, hk⟩
    refine ⟨k + s₁.length, ?_⟩
    show evalStmts (k + s₁.length) σ sc (s₁ ++ s₂) = r
    replace hk : thenStmts (evalStmts k σ sc s₁) (fun σ' => evalStmts k σ' sc s₂) = r := hk
    rw [stmts_append_exact]
    simp only [thenStmts] at hk
    cases h1 : evalStmts k σ sc s₁ with
    | timeout => rw [h1] at hk; exact absurd hk.symm hr
    | err e σ1 =>
      rw [h1] at hk
      rw [fuel_stable (mono_stmts σ sc s₁) h1 (by simp) (Nat.le_add_right _ _)]
      exact hk
    | crash w σ1 =>
      rw [h1] at hk
      rw [fuel_stable (mono_stmts σ sc s₁) h1 (by simp) (Nat.le_add_right _ _)]
      exact hk
    | ok esc σ1 =>
      rw [h1] at hk
      rw [fuel_stable (mono_stmts σ sc s₁) h1 (by simp) (Nat.le_add_right _ _)]
      cases esc with
      | none => simpa [Res.bind] using hk
      | brk l => exact hk
      | cont l => exact hk
      | ret v l => exact hk

/-- non-vacuity: `x := 1; x()` in a scope of its own — both readings reach the same (non-time-out) result at fuel 8 -/
example :
    let s₁ : List Stmt := [.Declare (.mk (.Var c!"x") (1, 1)) (.mk (.Int 1) (1, 6))]
    let s₂ : List Stmt := [.Expr (.mk (.Call (.mk (.Var c!"x") (2, 1)) []) (2, 1))]
    ∃ e σ', evalStmts 8 (State.init.alloc (.scope [])).2 [0] (s₁ ++ s₂) = .err e σ' ∧
      thenStmts (evalStmts 8 (State.init.alloc (.scope [])).2 [0] s₁)
        (fun σ' => evalStmts 8 σ' [0] s₂) = .err e σ' :=
  ⟨_, _, by with_unfolding_all rfl, by with_unfolding_all rfl⟩

/-! ### observational congruence for statement contexts -/

/-- **Congruence, same result at every fuel.**  If `s` and `t` have the same result at every fuel, state and scope
    chain, so have `K[s]` and `K[t]`, for every one-hole context `K` built from statement sequences, bare blocks, the
    bodies of `if` / `else if` / `else` branches, `while` bodies and `for` bodies — provided `s` and `t` have the same
    number of statements or nothing follows the hole in its own statement list (`exact_not_congruent_in_general` shows
    that this proviso cannot be dropped: the fuel-exact equality counts statements). -/
theorem stmt_ctx_congr (K : SCtx) {s t : List Stmt} (h : ∀ n σ sc, evalStmts n σ sc s = evalStmts n σ sc t)
    (hok : s.length = t.length ∨ K.HoleLast) :
    ∀ n σ sc, evalStmts n σ sc (K.plug s) = evalStmts n σ sc (K.plug t) := exact_ctx_gen K h hok

/-- **Congruence up to fuel** (the full statement: no proviso).  If in every state and scope chain `s` and `t` reach the
    same results — whatever one yields at some fuel, other than a time-out, the other yields at some fuel — then so do
    `K[s]` and `K[t]`, for every context `K`. -/
theorem stmt_ctx_congr_upto (K : SCtx) {s t : List Stmt}
    (h : ∀ σ sc, FuelEq (fun n => evalStmts n σ sc s) (fun n => evalStmts n σ sc t)) :
    ∀ σ sc, FuelEq (fun n => evalStmts n σ sc (K.plug s)) (fun n => evalStmts n σ sc (K.plug t)) := uptoEq_ctx K h

/-- the one-directional form: if `t` can do whatever `s` does, `K[t]` can do whatever `K[s]` does -/
theorem stmt_ctx_refines (K : SCtx) {s t : List Stmt}
    (h : ∀ n σ sc, evalStmts n σ sc s ≠ .timeout → ∃ m, evalStmts m σ sc t = evalStmts n σ sc s) :
    ∀ n σ sc, evalStmts n σ sc (K.plug s) ≠ .timeout → ∃ m, evalStmts m σ sc (K.plug t) = evalStmts n σ sc (K.plug s) :=
  refines_ctx K h

private def tt : Expr := .mk (.Bool true) (1, 0)
private def andtt : Expr := .mk (.BinaryOp .And (1, 5) tt tt) (1, 0)

/-- `true; true;` and `true && true;` have the same result at every fuel (a time-out below 4, normal completion in the
    same state from 4 on) … -/
theorem two_vs_one : ExactEq [.Expr tt, .Expr tt] [.Expr andtt] := by
  intro n σ sc
  match n with
  | 0 => with_unfolding_all rfl
  | 1 => with_unfolding_all rfl
  | 2 => with_unfolding_all rfl
  | 3 => with_unfolding_all rfl
  | n + 4 =>
    have hs : ∀ k σ, evalStmt (k + 2) σ sc (.Expr tt) = .ok .none σ := by
      intro k σ; unfold evalStmt; unfold evalExpr; rfl
    have ht : ∀ k σ, evalStmt (k + 3) σ sc (.Expr andtt) = .ok .none σ := by
      intro k σ; unfold evalStmt; unfold evalExpr; unfold evalExpr; rfl
    rw [evalStmts_cons, evalStmts_cons, hs (n + 1), ht n]
    simp only [Res.bind, evalStmts_nil]
    rw [evalStmts_cons, hs n]
    simp only [Res.bind, evalStmts_nil]

/-- … but followed by a third statement they differ at fuel 4: without the proviso of `stmt_ctx_congr` the fuel-exact
    equality is not a congruence (the up-to-fuel one is: `stmt_ctx_congr_upto`) -/
theorem exact_not_congruent_in_general :
    ∃ (K : SCtx) (s t : List Stmt), (∀ n σ sc, evalStmts n σ sc s = evalStmts n σ sc t) ∧
      ¬ ∀ n σ sc, evalStmts n σ sc (K.plug s) = evalStmts n σ sc (K.plug t) := by
  refine ⟨.seq [] .hole [.Expr tt], _, _, two_vs_one, fun h => ?_⟩
  have h4 := h 4 State.init []
  have hl : evalStmts 4 State.init [] ((SCtx.seq [] .hole [.Expr tt]).plug [.Expr tt, .Expr tt]) = .timeout := by
    with_unfolding_all rfl
  have hr : evalStmts 4 State.init [] ((SCtx.seq [] .hole [.Expr tt]).plug [.Expr andtt]) = .ok .none State.init := by
    with_unfolding_all rfl
  rw [hl, hr] at h4
  cases h4

/-- non-vacuity of `stmt_ctx_congr`: the pair above in `while c { pre; □ }` (nothing follows the hole) -/
example (c : Expr) (pre : Stmt) (n : Nat) (σ : State) (sc : List Addr) :
    evalStmts n σ sc [.While c [pre, .Expr tt, .Expr tt]] = evalStmts n σ sc [.While c [pre, .Expr andtt]] :=
  stmt_ctx_congr (.whileBody c (.seq [pre] .hole [])) two_vs_one (Or.inr ⟨trivial, fun _ => rfl⟩) n σ sc

/-- `true;` is equivalent to no statement at all up to fuel (not at every fuel: it needs two more units) … -/
theorem true_stmt_skip (σ : State) (sc : List Addr) :
    FuelEq (fun n => evalStmts n σ sc [.Expr tt]) (fun n => evalStmts n σ sc []) :=
  true_skip_upto (1, 0) σ sc

example : evalStmts 1 State.init [] [.Expr tt] ≠ evalStmts 1 State.init [] [] := by
  have h1 : evalStmts 1 State.init [] [.Expr tt] = .timeout := by with_unfolding_all rfl
  have h2 : evalStmts 1 State.init [] [] = .ok .none State.init := by with_unfolding_all rfl
  rw [h1, h2]; simp

/-- … hence removable anywhere: in the body of a `for` inside an `else` inside a `while`, with statements before and
    after it (non-vacuity of `stmt_ctx_congr_upto`, lists of different lengths, a hole followed by a statement) -/
example (c lhs iter : Expr) (bs : List Branch) (a b : Stmt) (σ : State) (sc : List Addr) :
    FuelEq (fun n => evalStmts n σ sc [.While c [.If bs (some [.For lhs iter [a, .Expr tt, b]])]])
      (fun n => evalStmts n σ sc [.While c [.If bs (some [.For lhs iter [a, b]])]]) :=
  stmt_ctx_congr_upto (.whileBody c (.ifElse bs (.forBody lhs iter (.seq [a] .hole [b])))) true_stmt_skip σ sc

end Seed.C01

/-! ### contexts through function bodies (`Lemmas/C01FnCtx*.lean`)

`stmt_ctx_congr_upto` stops at function bodies because a body is not run where it stands: it is stored in a heap cell and run
at the calls.  `fn_ctx_congr_upto` closes this: for EVERY one-hole context `K : FCtx` — all of `SCtx`, the bodies and parameter
patterns of `fn` statements and function literals, every expression position, at any depth — and statement lists `s`, `t` that
are equivalent up to fuel, the programs `K[s]` and `K[t]` have the same outcomes (stdout, exit status, stderr): every outcome
other than a time-out that one reaches, the other reaches.  The proof is a simulation over all 23 evaluator functions
(`simAll`): the two runs go through states that are equal except for the CODE stored in function cells (`wb β σ`), which is
related by "same syntax except `s` for `t` at any number of positions"; no hypothesis about related states is needed, because
the left occurrence of `s` is first matched by the right run of the same `s` and the equivalence is applied inside the right
state.  The conclusion is about outcomes and not about result states, and that cannot be improved:
`uptoEq_not_preserved_by_fn_bodies` (the stored code itself differs).  Not covered: a hole inside the TEXT of an interpolated
literal (slot expressions are parsed at run time from the text). -/
