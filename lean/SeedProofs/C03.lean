/-
  C03.lean — the front end decides every input: the lexer and the parser always terminate within their fuel, a rejected
  input prints nothing but one diagnostic, and the line it names lies in `1 … 1 + (number of newlines in the source)`.
-/
import SeedProofs.Lemmas.Scan
import SeedProofs.Lemmas.ParseTotal
import SeedProofs.Lemmas.ParseErrTok
import SeedModel.Run
namespace Seed.C03
open Seed

-- audit: Seed.errAll Seed.parseStmts_err_tok_mem
-- audit: Seed.pmonoAll Seed.pbndAll Seed.ptotAll Seed.parseStmts_total Seed.parseExpr_total

/-- the parser never runs out of the fuel the driver gives it: parsing terminates on every token list -/
theorem parse_total (ts : List Span) :
    parseStmts (parseFuel ts) false [] ts ≠ .timeout ∧ parseExpr (parseFuel ts) false ts ≠ .timeout :=
  Seed.parse_total ts

/-- the whole front end (lexer with its fuel, parser with its fuel) decides every source text: it accepts it or rejects
    it with a diagnostic, it never "hangs" -/
theorem front_end_total (src : List Char) : parseProg src ≠ .timeout := Seed.parseProg_ne_timeout src

/-- so does the expression parser used for interpolation slots -/
theorem slot_parser_total (src : List Char) : parseExprTop src ≠ .timeout := Seed.parseExprTop_ne_timeout src

/-- every token consumes at least one character -/
theorem nextToken_progress {s s' : Scanner} {sp : Span} (h : nextToken s = .tok sp s') :
    s'.rest.length < s.rest.length := nextToken_rest_lt h

/-- the lexer never runs out of fuel: more fuel than `rest.length + 1` changes nothing -/
theorem lexRaw_fuel_enough {n : Nat} {s : Scanner} (h : s.rest.length < n) :
    lexRaw n s = lexRaw (s.rest.length + 1) s :=
  lexRaw_fuel_irrelevant n _ s h (by omega)

/-- in particular the fuel `src.length + 1` used by `lexAll` is always enough -/
theorem lexAll_fuel_enough (src : List Char) (n : Nat) (h : src.length < n) :
    lexRaw n (Scanner.new src) = lexRaw (src.length + 1) (Scanner.new src) := by
  have := lexRaw_fuel_enough (n := n) (s := Scanner.new src) (by rw [Scanner.new_rest]; exact h)
  rw [Scanner.new_rest] at this; exact this

/-- no reported line exceeds `1 +` the number of newlines of the source -/
theorem lexRaw_lines_le (src : List Char) (n k : Nat) :
    (∀ sp ∈ (lexRaw n ((Scanner.new src).advance k)).1,
        sp.start.1 ≤ 1 + src.count '\n' ∧ sp.stop.1 ≤ 1 + src.count '\n') ∧
    (∀ e, (lexRaw n ((Scanner.new src).advance k)).2 = some e → e.loc.1 ≤ 1 + src.count '\n') :=
  lexRaw_lines_bounded src (· ≤ 1 + src.count '\n') (line_le src) n k

/-- every reported line is at least 1 -/
theorem lexRaw_lines_ge_one (src : List Char) (n k : Nat) :
    (∀ sp ∈ (lexRaw n ((Scanner.new src).advance k)).1, 1 ≤ sp.start.1 ∧ 1 ≤ sp.stop.1) ∧
    (∀ e, (lexRaw n ((Scanner.new src).advance k)).2 = some e → 1 ≤ e.loc.1) :=
  lexRaw_lines_bounded src (1 ≤ ·) (line_ge_one src) n k

/-- terminator suppression only removes spans -/
theorem suppress_subset (last : Option Token) (ts : List Span) : ∀ sp ∈ suppress last ts, sp ∈ ts := by
  induction ts generalizing last with
  | nil => intro sp h; simp [suppress] at h
  | cons t r ih =>
    intro sp h
    unfold suppress at h
    repeat' split at h
    all_goals first
      | (rcases List.mem_cons.mp h with rfl | h
         · exact List.mem_cons_self
         · exact List.mem_cons_of_mem _ (ih _ sp h))
      | exact List.mem_cons_of_mem _ (ih _ sp h)

/-- the lines of the token stream the parser sees, and of the lexical error ending it -/
theorem lexAll_lines (src : List Char) :
    (∀ sp ∈ (lexAll src).1,
        (1 ≤ sp.start.1 ∧ sp.start.1 ≤ 1 + src.count '\n') ∧
        (1 ≤ sp.stop.1 ∧ sp.stop.1 ≤ 1 + src.count '\n')) ∧
    (∀ e, (lexAll src).2 = some e → 1 ≤ e.loc.1 ∧ e.loc.1 ≤ 1 + src.count '\n') := by
  have hle := lexRaw_lines_le src (src.length + 1) 0
  have hge := lexRaw_lines_ge_one src (src.length + 1) 0
  simp only [Scanner.advance_zero] at hle hge
  unfold lexAll
  refine ⟨?_, fun e he => ⟨hge.2 e he, hle.2 e he⟩⟩
  intro sp hsp
  have hmem := suppress_subset _ _ sp hsp
  exact ⟨⟨(hge.1 sp hmem).1, (hle.1 sp hmem).1⟩, ⟨(hge.1 sp hmem).2, (hle.1 sp hmem).2⟩⟩

theorem suppress_length_le (last : Option Token) (ts : List Span) : (suppress last ts).length ≤ ts.length := by
  induction ts generalizing last with
  | nil => simp [suppress]
  | cons sp r ih =>
    unfold suppress
    split
    · simp only [List.length_cons]; have := ih (some sp.tok); omega
    · split
      · have := ih (some sp.tok); simp only [List.length_cons]; omega
      · split
        · have := ih (some sp.tok); simp only [List.length_cons]; omega
        · simp only [List.length_cons]; have := ih (some sp.tok); omega

/-- `syntax_error_no_output`: an input the front end rejects produces no output at all, the failure status, and the
    one-line diagnostic — at every fuel (the evaluator never starts) -/
theorem syntax_error_no_output (n : Nat) (path src : List Char) (e : FrontErr) (h : parseProg src = .err e) :
    run n path src = ⟨[], .failed, parseErrText path e⟩ := by
  unfold run
  rw [h]

/-- an accepted or rejected input: the front end decides, only evaluation can use up the fuel -/
theorem run_timeout_is_eval (n : Nat) (path src : List Char) (h : (run n path src).status = .timeout) :
    ∃ stmts, parseProg src = .ok stmts ∧ evalProg n stmts = .timeout := by
  unfold run at h
  cases hp : parseProg src with
  | timeout => exact absurd hp (front_end_total src)
  | err e => rw [hp] at h; cases h
  | ok stmts =>
    rw [hp] at h
    refine ⟨stmts, rfl, ?_⟩
    dsimp only [] at h
    cases he : evalProg n stmts with
    | timeout => rfl
    | ok a σ => rw [he] at h; cases h
    | err e σ => rw [he] at h; cases h
    | crash w σ => rw [he] at h; cases h

/-- `diag_format`: the diagnostic of a rejected input is exactly `<path>:<line>:<col>: <message>` and a newline -/
theorem diag_format (path : List Char) (e : FrontErr) :
    parseErrText path e =
      path ++ c!":" ++ natToChars (parseErrMsg e).1.1 ++ c!":" ++ natToChars (parseErrMsg e).1.2 ++ c!": " ++
        (parseErrMsg e).2 ++ c!"\n" := rfl

/-- the message is never empty -/
theorem diag_msg_nonempty (e : FrontErr) : (parseErrMsg e).2 ≠ [] := by
  cases e with
  | lex e => cases e <;> simp [parseErrMsg]
  | unexpectedTok sp => simp [parseErrMsg]
  | unexpectedEof l => simp [parseErrMsg]

theorem lastEnd_mem : ∀ (ts : List Span), ts ≠ [] → ∃ sp ∈ ts, lastEnd ts = sp.stop
  | [], h => absurd rfl h
  | [sp], _ => ⟨sp, by simp, rfl⟩
  | sp :: sp2 :: r, _ => by
    obtain ⟨x, hx, he⟩ := lastEnd_mem (sp2 :: r) (by simp)
    exact ⟨x, List.mem_cons_of_mem _ hx, by simpa [lastEnd] using he⟩

theorem parseStmts_nil_ok (n : Nat) : parseStmts (n + 1) false [] [] = .ok [] [] := by
  unfold parseStmts; rfl

/-- `syntax_error_line_bound`: the position a rejected input is reported at lies on a line of the file
    (lines are counted from 1; an error at the very end may sit on the line after the last newline) -/
theorem syntax_error_line_bound (src : List Char) (e : FrontErr) (h : parseProg src = .err e) :
    1 ≤ (parseErrMsg e).1.1 ∧ (parseErrMsg e).1.1 ≤ 1 + src.count '\n' := by
  have hl := lexAll_lines src
  unfold parseProg at h
  generalize lexAll src = p at h hl
  obtain ⟨ts, le⟩ := p
  simp only at h hl
  have hlex : ∀ x, le = some x → 1 ≤ (parseErrMsg (.lex x)).1.1 ∧ (parseErrMsg (.lex x)).1.1 ≤ 1 + src.count '\n' := by
    intro x hx
    have := hl.2 x hx
    cases x <;> exact this
  cases hp : parseStmts (parseFuel ts) false [] ts with
  | timeout => rw [hp] at h; cases h
  | ok a rest =>
    rw [hp] at h
    cases le with
    | none => cases h
    | some x =>
      simp only [Front.err.injEq] at h
      subst h
      exact hlex x rfl
  | err pe =>
    rw [hp] at h
    simp only [Front.err.injEq] at h
    subst h
    cases pe with
    | tok sp =>
      have hm := parseStmts_err_tok_mem hp
      exact (hl.1 sp hm).1
    | eof =>
      cases le with
      | some x => exact hlex x rfl
      | none =>
        cases ts with
        | nil =>
          rw [show parseFuel [] = 79 + 1 from rfl, parseStmts_nil_ok] at hp
          cases hp
        | cons sp r =>
          obtain ⟨x, hx, he⟩ := lastEnd_mem (sp :: r) (by simp)
          show 1 ≤ (lastEnd (sp :: r)).1 ∧ (lastEnd (sp :: r)).1 ≤ 1 + src.count '\n'
          rw [he]
          exact (hl.1 x hx).2

/-- the hypotheses are satisfiable: an unterminated call on line 3 -/
example : ∃ e, parseProg c!"a := 1;\n\nf(a" = .err e ∧ (parseErrMsg e).1 = (3, 3) := ⟨_, rfl, rfl⟩
example : (run 0 c!"p.sd" c!"print(1); )").stderr = c!"p.sd:1:11: unexpected ')'\n" ∧
    (run 0 c!"p.sd" c!"print(1); )").out = [] ∧ (run 0 c!"p.sd" c!"print(1); )").status = .failed := by decide +kernel

end Seed.C03
