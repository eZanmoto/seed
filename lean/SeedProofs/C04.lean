/-
  C04 — lexical scoping; closures capture their defining scope by reference.

  Certain part (scope layer): `scopeGet` finds the innermost scope that holds the name, `scopeAssign` rewrites
  exactly that cell, `scopeDeclare` touches only the innermost scope cell and shadows without disturbing outer
  scopes; an update is seen through *every* chain that reaches the same cell (capture by reference).
  Evaluator part (one unfolding each): every block / branch / iteration / call body runs in one fresh scope
  cell pushed on the chain it is given; a function value stores the defining chain itself; `evalCall` uses the
  caller's chain only for the arguments and the callee expression — the body runs on `closure`.
  Renaming: the scope layer and `bindNextName` are equivariant under an injective renaming that fixes `_`
  (`alpha_equivariance_partial`, `bindNextName_equivariant`), and — through the whole evaluator, by induction on the
  fuel over all 23 functions (Lemmas/C04Equiv{Defs,Prim,Eval}.lean) — the run of the renamed program is the renaming
  of the run: `alpha_equivariance`, with the corollary `renaming_preserves_output`.
-/
import SeedProofs.Lemmas.C04Scope
import SeedProofs.Lemmas.EvalStep
import SeedProofs.Lemmas.C04Rename
import SeedProofs.Lemmas.C04EquivEval
namespace Seed.C04
open Seed ScopeL

/-! ### concrete states used by the `example`s: scope 0 = globals `{x ↦ 1}`, scope 1 = a block `{y ↦ 2}`,
    scope 2 = an inner block `{x ↦ 3}` shadowing the global -/

def sv (n : Int) : SVal := SVal.plain (.int n)
def σ₀ : State :=
  ⟨#[.scope [(c!"x", sv 1, (1, 0))], .scope [(c!"y", sv 2, (2, 4))], .scope [(c!"x", sv 3, (3, 8))]], []⟩

/-- the chain is walked innermost first: the top scope answers if it has the name, otherwise the rest does -/
theorem get_innermost (σ : State) (top : Addr) (sc : List Addr) (x : List Char) (m : ScopeMap)
    (h : σ.getScope top = some m) :
    scopeGet σ (top :: sc) x = ((scopeLookup x m).map Prod.fst).orElse (fun _ => scopeGet σ sc x) := by
  rw [scopeGet_cons, h]
  cases hl : scopeLookup x m with
  | none => simp only [hl]; rfl
  | some p => obtain ⟨v, l⟩ := p; simp only [hl]; rfl

example : σ₀.getScope 2 = some [(c!"x", sv 3, (3, 8))] := by decide

/-- `scopeGet` returns the value held by the innermost scope of the chain that has the name: every scope
    before it is a scope cell without the name -/
theorem get_finds_innermost {σ : State} {sc : List Addr} {x : List Char} {v : SVal} :
    scopeGet σ sc x = some v ↔
      ∃ pre a post m l, sc = pre ++ a :: post ∧ Skips σ pre x ∧ σ.getScope a = some m ∧ scopeLookup x m = some (v, l) :=
  scopeGet_some_iff

example : scopeGet σ₀ [2, 1, 0] c!"x" = some (sv 3) := by decide      -- the shadowing declaration wins
example : scopeGet σ₀ [1, 0] c!"x" = some (sv 1) := by decide         -- outside the inner block: the global
example : scopeGet σ₀ [2, 1, 0] c!"y" = some (sv 2) := by decide
example : scopeGet σ₀ [2, 1, 0] c!"z" = none := by decide

/-- a name that no scope of the chain holds is not found -/
theorem get_none_of_skips {σ : State} {sc : List Addr} {x : List Char} (h : Skips σ sc x) : scopeGet σ sc x = none := by
  have := scopeGet_skip h []
  rw [List.append_nil] at this; rw [this]; rfl

example : Skips σ₀ [2, 1, 0] c!"z" := by
  intro b hb
  simp only [List.mem_cons, List.not_mem_nil, or_false] at hb
  rcases hb with rfl | rfl | rfl
  · exact ⟨[(c!"x", sv 3, (3, 8))], by decide, by decide⟩
  · exact ⟨[(c!"y", sv 2, (2, 4))], by decide, by decide⟩
  · exact ⟨[(c!"x", sv 1, (1, 0))], by decide, by decide⟩

/-- `scopeAssign` changes exactly the nearest scope cell that has the name: the cell keeps the declaration
    position and every other name, every other address keeps its cell, nothing is printed or allocated -/
theorem assign_nearest {σ σ' : State} {sc : List Addr} {x : List Char} {v : SVal}
    (h : scopeAssign σ sc x v = some σ') :
    ∃ pre a post m w l, sc = pre ++ a :: post ∧ Skips σ pre x ∧ σ.getScope a = some m ∧ scopeLookup x m = some (w, l) ∧
      σ'.getScope a = some (scopeSetVal x v m) ∧
      scopeLookup x (scopeSetVal x v m) = some (v, l) ∧
      (∀ y, y ≠ x → scopeLookup y (scopeSetVal x v m) = scopeLookup y m) ∧
      (∀ b, b ≠ a → σ'.heap[b]? = σ.heap[b]?) ∧ σ'.out = σ.out ∧ σ'.heap.size = σ.heap.size := by
  obtain ⟨pre, a, post, m, w, l, e, hs, h1, h2, rfl⟩ := scopeAssign_some_iff.mp h
  exact ⟨pre, a, post, m, w, l, e, hs, h1, h2, getScope_set_same _ (getScope_lt h1), lookup_setVal_same h2,
    fun y hy => lookup_setVal_other hy m, fun b hb => set_other σ a _ hb, rfl, set_size σ a _⟩

example : ∃ σ', scopeAssign σ₀ [1, 0] c!"x" (sv 7) = some σ' := ⟨_, rfl⟩

/-- after an assignment through a chain, reading through **any** chain that reaches the same cell first
    (a closure's chain, the caller's chain, a deeper block) yields the new value -/
theorem assign_seen_through_every_chain {σ σ' : State} {sc : List Addr} {x : List Char} {v : SVal}
    (h : scopeAssign σ sc x v = some σ') :
    ∃ a, (∃ pre post, sc = pre ++ a :: post ∧ Skips σ pre x) ∧
      ∀ pre' post', Skips σ pre' x → scopeGet σ' (pre' ++ a :: post') x = some v := by
  obtain ⟨pre, a, post, m, w, l, e, hs, h1, h2, rfl⟩ := scopeAssign_some_iff.mp h
  refine ⟨a, ⟨pre, post, e, hs⟩, ?_⟩
  intro pre' post' hs'
  have hs'' : Skips (σ.set a (.scope (scopeSetVal x v m))) pre' x := by
    intro b hb
    obtain ⟨mb, hb1, hb2⟩ := hs' b hb
    have : b ≠ a := by
      rintro rfl
      rw [h1] at hb1; cases hb1; rw [h2] at hb2; cases hb2
    exact ⟨mb, by rw [getScope_set_other _ this]; exact hb1, hb2⟩
  rw [scopeGet_skip hs'']
  exact scopeGet_hit (getScope_set_same _ (getScope_lt h1)) (lookup_setVal_same h2) post'

/-- in particular through the chain that was used for the assignment -/
theorem assign_then_get {σ σ' : State} {sc : List Addr} {x : List Char} {v : SVal}
    (h : scopeAssign σ sc x v = some σ') : scopeGet σ' sc x = some v := by
  obtain ⟨a, ⟨pre, post, e, hs⟩, hall⟩ := assign_seen_through_every_chain h
  rw [e]; exact hall pre post hs

/-- an assignment to `x` leaves every other name as it was, through every chain -/
theorem assign_other_names {σ σ' : State} {sc : List Addr} {x : List Char} {v : SVal}
    (h : scopeAssign σ sc x v = some σ') (sc' : List Addr) (y : List Char) (hy : y ≠ x) :
    scopeGet σ' sc' y = scopeGet σ sc' y := by
  obtain ⟨pre, a, post, m, w, l, e, hs, h1, h2, rfl⟩ := scopeAssign_some_iff.mp h
  apply scopeGet_congr
  intro b _
  by_cases hb : b = a
  · subst hb
    rw [getScope_set_same _ (getScope_lt h1), h1]
    simp only [Option.map, lookup_setVal_other hy]
  · rw [getScope_set_other _ hb]

/-- the shadowed outer variable is untouched: assigning `x` inside the inner block of `σ₀` changes scope 2,
    and the global `x` read from outside is still 1 -/
example : (scopeAssign σ₀ [2, 1, 0] c!"x" (sv 7)).map (fun σ' => (scopeGet σ' [2, 1, 0] c!"x", scopeGet σ' [1, 0] c!"x"))
    = some (some (sv 7), some (sv 1)) := by decide

/-- assignment fails exactly when the name cannot be read (`Undefined`) -/
theorem assign_fails_iff (σ : State) (sc : List Addr) (x : List Char) (v : SVal) :
    scopeAssign σ sc x v = none ↔ scopeGet σ sc x = none := scopeAssign_none_iff σ sc x v

/-- only the innermost scope is consulted: the rest of the chain is irrelevant to `declare` -/
theorem declare_ignores_outer (σ : State) (top : Addr) (sc sc' : List Addr) (x : List Char) (loc : Loc) (v : SVal) :
    scopeDeclare σ (top :: sc) x loc v = scopeDeclare σ (top :: sc') x loc v := rfl

/-- `scopeDeclare` touches only the innermost scope cell -/
theorem declare_top_only {σ σ' : State} {top : Addr} {sc : List Addr} {x : List Char} {loc : Loc} {v : SVal}
    (h : scopeDeclare σ (top :: sc) x loc v = .ok σ') :
    (∀ b, b ≠ top → σ'.heap[b]? = σ.heap[b]?) ∧ σ'.out = σ.out ∧ σ'.heap.size = σ.heap.size ∧
      ∃ m, σ.getScope top = some m ∧ σ'.getScope top = some ((x, v, loc) :: m) := by
  obtain ⟨m, h1, _, rfl⟩ := scopeDeclare_ok_iff.mp h
  exact ⟨fun b hb => set_other σ top _ hb, rfl, set_size σ top _, m, h1, getScope_set_same _ (getScope_lt h1)⟩

example : ∃ σ', scopeDeclare σ₀ [1, 0] c!"x" (9, 9) (sv 5) = .ok σ' := ⟨_, rfl⟩

/-- it fails, reporting the previous position, iff the innermost scope already has the name -/
theorem declare_dup_iff {σ : State} {top : Addr} {sc : List Addr} {x : List Char} {loc prev : Loc} {v : SVal} :
    scopeDeclare σ (top :: sc) x loc v = .dup prev ↔ ∃ m w, σ.getScope top = some m ∧ scopeLookup x m = some (w, prev) :=
  scopeDeclare_dup_iff

/-- it succeeds iff the innermost scope does not have it — whatever the outer scopes hold (shadowing) -/
theorem declare_ok_iff {σ σ' : State} {top : Addr} {sc : List Addr} {x : List Char} {loc : Loc} {v : SVal} :
    scopeDeclare σ (top :: sc) x loc v = .ok σ' ↔
      ∃ m, σ.getScope top = some m ∧ scopeLookup x m = none ∧ σ' = σ.set top (.scope ((x, v, loc) :: m)) :=
  scopeDeclare_ok_iff

/-- shadowing: a declaration in the top scope leaves every lookup through the outer chain unchanged
    (the outer `x` included) -/
theorem shadow_frame {σ σ' : State} {top : Addr} {sc : List Addr} {x : List Char} {loc : Loc} {v : SVal}
    (h : scopeDeclare σ (top :: sc) x loc v = .ok σ') (hfresh : top ∉ sc) (y : List Char) :
    scopeGet σ' sc y = scopeGet σ sc y := by
  obtain ⟨m, _, _, rfl⟩ := scopeDeclare_ok_iff.mp h
  exact scopeGet_frame y (fun a ha => set_other σ top _ (fun e => hfresh (e ▸ ha)))

example : (match scopeDeclare σ₀ [1, 0] c!"x" (9, 9) (sv 5) with
    | .ok σ' => (scopeGet σ' [1, 0] c!"x", scopeGet σ' [0] c!"x") | _ => (none, none)) = (some (sv 5), some (sv 1)) := by
  decide
example : (1 : Addr) ∉ ([0] : List Addr) := by decide

/-- the declared name is then read through the declaring chain — which is also the chain stored in every
    closure created in this scope *before* the declaration (the same address list) -/
theorem declare_then_get {σ σ' : State} {top : Addr} {sc : List Addr} {x : List Char} {loc : Loc} {v : SVal}
    (h : scopeDeclare σ (top :: sc) x loc v = .ok σ') : scopeGet σ' (top :: sc) x = some v := by
  obtain ⟨m, h1, _, rfl⟩ := scopeDeclare_ok_iff.mp h
  exact scopeGet_hit (getScope_set_same _ (getScope_lt h1)) (lookup_cons_same x v loc m) sc

/-- declaring `x` leaves every other name as it was, through every chain -/
theorem declare_other_names {σ σ' : State} {top : Addr} {sc : List Addr} {x : List Char} {loc : Loc} {v : SVal}
    (h : scopeDeclare σ (top :: sc) x loc v = .ok σ') (sc' : List Addr) (y : List Char) (hy : y ≠ x) :
    scopeGet σ' sc' y = scopeGet σ sc' y := by
  obtain ⟨m, h1, _, rfl⟩ := scopeDeclare_ok_iff.mp h
  apply scopeGet_congr
  intro b _
  by_cases hb : b = top
  · subst hb
    rw [getScope_set_same _ (getScope_lt h1), h1]
    simp only [Option.map, lookup_cons_other hy]
  · rw [getScope_set_other _ hb]

/-! ### one fresh scope per block, branch, iteration and call -/

/-- `evalBlock` allocates one new, empty scope cell at the next free address, pushes it on the chain it was
    given, binds there and runs the statements there -/
theorem block_fresh_scope (n : Nat) (σ : State) (sc : List Addr) (bs : List (Expr × SVal)) (ss : List Stmt) :
    evalBlock (n + 1) σ sc bs ss =
      (declareAll n (σ.alloc (.scope [])).2 (σ.heap.size :: sc) bs).bind fun _ σ2 =>
        evalStmts n σ2 (σ.heap.size :: sc) ss :=
  evalBlock_succ n σ sc bs ss

/-- the new address is not in the chain (all live addresses are below the heap size) and every existing cell
    is preserved; through the new chain every name still resolves as before -/
theorem fresh_scope_is_new (σ : State) (sc : List Addr) (hwf : ∀ a ∈ sc, a < σ.heap.size) :
    σ.heap.size ∉ sc ∧ (∀ b, b < σ.heap.size → (σ.alloc (.scope [])).2.heap[b]? = σ.heap[b]?) ∧
      (σ.alloc (.scope [])).2.getScope σ.heap.size = some [] ∧
      ∀ x, scopeGet (σ.alloc (.scope [])).2 (σ.heap.size :: sc) x = scopeGet σ sc x := by
  refine ⟨fun h => Nat.lt_irrefl _ (hwf _ h), fun b hb => alloc_old σ _ hb, getScope_heap.mpr (alloc_new σ _), ?_⟩
  intro x
  rw [scopeGet_cons, getScope_heap.mpr (alloc_new σ _)]
  exact scopeGet_frame x (fun a ha => alloc_old σ _ (hwf a ha))

example : ∀ a ∈ ([2, 1, 0] : List Addr), a < σ₀.heap.size := by decide

/-- bare block, `if` branch, `else`, `while` body, `for` body: all are `evalBlock` on the current chain -/
theorem block_stmt_uses_evalBlock (n : Nat) (σ : State) (sc : List Addr) (b : List Stmt) :
    evalStmt (n + 1) σ sc (.Block b) = evalBlock n σ sc [] b := by
  rw [evalStmt]

theorem else_uses_evalBlock (n : Nat) (σ : State) (sc : List Addr) (ss : List Stmt) :
    evalIf (n + 1) σ sc [] (some ss) = evalBlock n σ sc [] ss := by
  rw [evalIf]

theorem branch_uses_evalBlock (n : Nat) (σ : State) (sc : List Addr) (c : Expr) (ss : List Stmt) (r : List Branch)
    (els : Option (List Stmt)) :
    evalIf (n + 1) σ sc (.mk c ss :: r) els =
      (evalToBool n σ sc c!"condition" c).bind fun b σ1 => if b then evalBlock n σ1 sc [] ss else evalIf n σ1 sc r els := by
  rw [evalIf]

/-- each iteration of `while` gets its own `evalBlock` (hence its own fresh scope) -/
theorem while_iteration_fresh (n : Nat) (σ : State) (sc : List Addr) (c : Expr) (ss : List Stmt) :
    evalWhile (n + 1) σ sc c ss =
      (evalToBool n σ sc c!"condition" c).bind fun b σ1 =>
        if !b then .ok .none σ1
        else (evalBlock n σ1 sc [] ss).bind fun esc σ2 =>
          match esc with
          | .none => evalWhile n σ2 sc c ss
          | .brk _ => .ok .none σ2
          | .cont _ => evalWhile n σ2 sc c ss
          | .ret v l => .ok (.ret v l) σ2 := by
  rw [evalWhile]; rfl

/-- each iteration of `for` gets its own `evalBlock`, with the target declared in that same fresh scope -/
theorem for_iteration_fresh (n : Nat) (σ : State) (sc : List Addr) (lhs : Expr) (k v : SVal) (r : List (SVal × SVal))
    (ss : List Stmt) :
    evalFor (n + 1) σ sc lhs ((k, v) :: r) ss =
      (evalBlock n (σ.alloc (.list [k, v])).2 sc [(lhs, SVal.plain (.list σ.heap.size))] ss).bind fun esc σ2 =>
        match esc with
        | .none => evalFor n σ2 sc lhs r ss
        | .brk _ => .ok .none σ2
        | .cont _ => evalFor n σ2 sc lhs r ss
        | .ret v l => .ok (.ret v l) σ2 := by
  rw [evalFor]; rfl

/-- a function expression stores the defining chain itself — the same address list, so the same cells:
    later declarations and assignments in those scopes are what the body reads, and the cells stay
    reachable after the block ends (cells are never freed) -/
theorem closure_shares_expr (n : Nat) (σ : State) (sc : List Addr) (args : List Expr) (c : Bool) (ss : List Stmt) (loc : Loc) :
    evalExpr (n + 1) σ sc (.mk (.Func args c ss) loc) =
        .ok (SVal.plain (.func σ.heap.size)) (σ.alloc (.func ⟨none, args, c, ss, sc⟩)).2 ∧
      ((σ.alloc (.func ⟨none, args, c, ss, sc⟩)).2.getFunc σ.heap.size).map (·.closure) = some sc := by
  constructor
  · rw [evalExpr]; rfl
  · unfold State.getFunc; rw [alloc_new]; rfl

/-- the same for `fn name(…) {…}`: the chain is stored, then the name is declared in the top scope of that
    very chain, so the function can call itself -/
theorem closure_shares_stmt (n : Nat) (σ : State) (sc : List Addr) (name : List Char) (nl : Loc) (args : List Expr) (c : Bool)
    (ss : List Stmt) (hv : validateArgs n args [] = some none) :
    evalStmt (n + 1) σ sc (.Func name nl args c ss) =
      (bindNextName n (σ.alloc (.func ⟨some name, args, c, ss, sc⟩)).2 sc [] name nl (SVal.plain (.func σ.heap.size)) none true).bind
        fun _ σ2 => .ok .none σ2 := by
  rw [evalStmt]; simp only [validateArgsRes, hv, Res.bind]; rfl

example : validateArgs 5 [Expr.mk (.Var c!"p") (1, 5)] [] = some none := by rfl

/-! ### calls never see the caller's scopes -/

/-- what a call does once the arguments and the callee value are known: **no scope chain is a parameter** -/
def callValue (n : Nat) (σ2 : State) (fv : SVal) (argVals : List SVal) (loc : Loc) : Res SVal :=
  match fv.v with
  | .builtin name id =>
    (callBuiltin n σ2 id (fv.src.map SVal.plain) argVals).mapErr (Err.builtinCall (some name) loc)
  | .func a =>
    match σ2.getFunc a with
    | none => crashHeap σ2
    | some fr =>
      let numParams := fr.args.length
      let got := argVals.length
      if fr.collect && numParams - 1 > got then errAt loc (Gen.Leaf.TooFewArgs (numParams - 1) got) σ2
      else if !fr.collect && numParams ≠ got then errAt loc (Gen.Leaf.ArgNumMismatch numParams got) σ2
      else
        let (plainVals, σ3) :=
          if fr.collect then
            let (ra, σ3) := σ2.alloc (.list (argVals.drop (numParams - 1)))
            (argVals.take (numParams - 1) ++ [SVal.plain (.list ra)], σ3)
          else (argVals, σ2)
        let bindings := fr.args.zip plainVals
        let bindings :=
          match fv.src with
          | some this => bindings ++ [(Expr.mk (.Var c!"this") loc, SVal.plain this)]
          | none => bindings
        ((evalBlock n σ3 fr.closure bindings fr.stmts).mapErr (Err.funcCall fr.name loc)).bind fun esc σ4 =>
        match esc with
        | .none => .ok (SVal.plain .null) σ4
        | .brk l => errAt l Gen.Leaf.BreakOutsideLoop σ4
        | .cont l => errAt l Gen.Leaf.ContinueOutsideLoop σ4
        | .ret v _ => .ok v σ4
  | v => errAt loc (Gen.Leaf.CannotCallNonFunc v.kind) σ2

/-- `evalCall` uses the caller's chain `sc` to evaluate the arguments and the callee expression and for nothing
    else: the body runs in a fresh scope pushed on `fr.closure` (see `block_fresh_scope`) -/
theorem call_factors (n : Nat) (σ : State) (sc : List Addr) (f : Expr) (args : List ListItem) (loc : Loc) :
    evalCall (n + 1) σ sc f args loc =
      (evalListItems n σ sc args []).bind fun argVals σ1 =>
      (evalExpr n σ1 sc f).bind fun fv σ2 => callValue n σ2 fv argVals loc := by
  rw [evalCall]; rfl

/-- two call sites with different scope chains (different callers, different depths of blocks) that produce the
    same argument values, the same function value and the same state behave identically: the callee cannot
    observe its caller's variables (no dynamic scoping) -/
theorem call_ignores_caller_scopes (n : Nat) (σ σ' : State) (sc sc' : List Addr) (f f' : Expr) (args args' : List ListItem)
    (loc : Loc) (argVals : List SVal) (σ1 : State) (fv : SVal) (σ2 : State)
    (ha : evalListItems n σ sc args [] = .ok argVals σ1) (ha' : evalListItems n σ' sc' args' [] = .ok argVals σ1)
    (hf : evalExpr n σ1 sc f = .ok fv σ2) (hf' : evalExpr n σ1 sc' f' = .ok fv σ2) :
    evalCall (n + 1) σ sc f args loc = evalCall (n + 1) σ' sc' f' args' loc := by
  rw [call_factors, call_factors, ha, ha']
  simp only [Res.bind, hf, hf']

/-- hypotheses satisfiable: the global `x` holds the same value seen from chain `[0]` and from chain `[1, 0]` -/
example : evalExpr 1 σ₀ [0] (.mk (.Var c!"x") (1, 0)) = .ok (sv 1) σ₀ ∧
          evalExpr 1 σ₀ [1, 0] (.mk (.Var c!"x") (5, 5)) = .ok (sv 1) σ₀ ∧
          evalListItems 1 σ₀ [0] [] [] = .ok [] σ₀ ∧ evalListItems 1 σ₀ [1, 0] [] [] = .ok [] σ₀ := by
  refine ⟨?_, ?_, ?_, ?_⟩
  · rw [evalExpr]; rfl
  · rw [evalExpr]; rfl
  · rw [evalListItems]
  · rw [evalListItems]

/-! ### consistent renaming

  `alpha_equivariance` (below, after two partial results): for an injective renaming `π` of variable
  names that keeps `_`, `this` and `print` apart, the run of the renamed program is the renaming of the run — same
  addresses, same heap shape, scope cells with renamed keys, function cells with renamed code, the *same printed
  lines*, the same outcome, and a diagnostic that differs only in the variable name it mentions.

  The action `Eqv.rStmts π` renames every variable occurrence (`Var`), every parameter and every `fn` statement name.
  Two kinds of name are not only variables, and `π` has to fix them (`Eqv.okStmts π P prog`):
    * the name of a `fn name(…)` statement, which `print(f)` and stack traces show;
    * a name used in object shorthand `{a}` (expression or pattern), which is also the property key — the harness
      expands `{a}` to `{"a": a'}` instead, which is the same program up to one evaluation step of fuel.
  Interpolation slots are parsed from the text of the literal at run time, so no action on syntax trees reaches
  them: `P` is any set of slot expressions that `π` leaves alone (`hP`); `P := fun _ => False` covers programs
  without slots.
-/

/-- the scope layer is equivariant: renaming the keys of every scope cell with an injective `π` and looking
    up / assigning / declaring `π x` is the renaming of doing it with `x` -/
theorem alpha_equivariance_partial (π : List Char → List Char) (hπ : ∀ a b, π a = π b → a = b)
    (σ : State) (sc : List Addr) (x : List Char) (v : SVal) (loc : Loc) :
    scopeGet (Ren.state π σ) sc (π x) = scopeGet σ sc x ∧
    scopeAssign (Ren.state π σ) sc (π x) v = (scopeAssign σ sc x v).map (Ren.state π) ∧
    scopeDeclare (Ren.state π σ) sc (π x) loc v = Ren.decl π (scopeDeclare σ sc x loc v) :=
  ⟨Ren.scopeGet_ren π hπ σ sc x, Ren.scopeAssign_ren π hπ σ sc x v, Ren.scopeDeclare_ren π hπ σ sc x loc v⟩

/-- … and so is the name binder (`:=`, `=`, `fn`, parameters, `for` targets all end here), for a renaming that
    keeps `_` apart: same outcome, with the name in the diagnostic renamed -/
theorem bindNextName_equivariant (π : List Char → List Char) (hπ : ∀ a b, π a = π b → a = b)
    (hu : ∀ a, π a = c!"_" ↔ a = c!"_")
    (fuel : Nat) (σ : State) (sc : List Addr) (names : List (List Char)) (x : List Char) (loc : Loc) (rhs : SVal) (decl : Bool) :
    bindNextName fuel (Ren.state π σ) sc (names.map π) (π x) loc rhs none decl =
      Ren.res π (bindNextName fuel σ sc names x loc rhs none decl) :=
  Ren.bindNextName_ren π hπ hu fuel σ sc names x loc rhs decl

/-- a renaming satisfying the hypotheses: put a `v` in front of every name except `_` -/
example : ∃ π : List Char → List Char, (∀ a b, π a = π b → a = b) ∧ (∀ a, π a = c!"_" ↔ a = c!"_") ∧ π c!"x" ≠ c!"x" := by
  refine ⟨fun a => if a = c!"_" then a else 'v' :: a, ?_, ?_, by decide⟩
  · intro a b h
    by_cases ha : a = c!"_" <;> by_cases hb : b = c!"_" <;> simp only [ha, hb, if_true, if_false] at h
    · rw [ha, hb]
    · exact absurd (List.cons.inj h).1 (by decide)
    · exact absurd (List.cons.inj h).1 (by decide)
    · exact (List.cons.inj h).2
  · intro a
    by_cases ha : a = c!"_"
    · simp only [ha, if_true]
    · simp only [ha, if_false, iff_false]
      exact fun h => absurd (List.cons.inj h).1 (by decide)

open Eqv in
/-- **Consistent renaming never changes what a program prints**: the whole run of the renamed program is the renaming
    of the run.  (`Eqv.rRes π id` keeps the result value, renames the final state — which leaves `out` untouched — and
    renames the variable name inside the diagnostic.) -/
theorem alpha_equivariance (π : List Char → List Char) (P : Expr → Prop)
    (hπ : ∀ a b, π a = π b → a = b) (hu : ∀ a, π a = c!"_" ↔ a = c!"_")
    (hthis : π c!"this" = c!"this") (hprint : π c!"print" = c!"print")
    (hP : ∀ ast, P ast → rExpr π ast = ast ∧ okExpr π P ast)
    (n : Nat) (prog : List Stmt) (hok : okStmts π P prog) :
    evalProg n (rStmts π prog) = rRes π id (evalProg n prog) :=
  evalProg_ren hπ hu hthis hP hprint n prog hok

/-- what `seed` shows of a run: the printed lines and whether it succeeded / failed / crashed / ran out of fuel -/
def observable : Res Unit → List (List Char) × Nat
  | .ok _ σ => (σ.out, 0)
  | .err _ σ => (σ.out, 103)
  | .crash _ σ => (σ.out, 101)
  | .timeout => ([], 1)

open Eqv in
/-- the printed lines and the exit status of the renamed program are those of the program -/
theorem renaming_preserves_output (π : List Char → List Char) (P : Expr → Prop)
    (hπ : ∀ a b, π a = π b → a = b) (hu : ∀ a, π a = c!"_" ↔ a = c!"_")
    (hthis : π c!"this" = c!"this") (hprint : π c!"print" = c!"print")
    (hP : ∀ ast, P ast → rExpr π ast = ast ∧ okExpr π P ast)
    (n : Nat) (prog : List Stmt) (hok : okStmts π P prog) :
    observable (evalProg n (rStmts π prog)) = observable (evalProg n prog) := by
  rw [alpha_equivariance π P hπ hu hthis hprint hP n prog hok]
  cases evalProg n prog <;> rfl

open Eqv in
/-- … and the diagnostic is the same up to the renamed variable name -/
theorem renaming_renames_diagnostic (π : List Char → List Char) (P : Expr → Prop)
    (hπ : ∀ a b, π a = π b → a = b) (hu : ∀ a, π a = c!"_" ↔ a = c!"_")
    (hthis : π c!"this" = c!"this") (hprint : π c!"print" = c!"print")
    (hP : ∀ ast, P ast → rExpr π ast = ast ∧ okExpr π P ast)
    (n : Nat) (prog : List Stmt) (hok : okStmts π P prog) (e : Err) (σ : State)
    (h : evalProg n prog = .err e σ) :
    evalProg n (rStmts π prog) = .err (rErr π e) (rSt π σ) := by
  rw [alpha_equivariance π P hπ hu hthis hprint hP n prog hok, h]; rfl

/-! the hypotheses are satisfiable: the renaming that swaps `a` and `b`, and the program

        a := 1
        fn f(p) { return p + a; }
        print(f(2)) -/

def swapAB (x : List Char) : List Char := if x = c!"a" then c!"b" else if x = c!"b" then c!"a" else x

theorem swapAB_invol (x : List Char) : swapAB (swapAB x) = x := by
  unfold swapAB
  by_cases h1 : x = c!"a"
  · simp [h1]
  · by_cases h2 : x = c!"b"
    · simp [h2]
    · simp [h1, h2]

theorem swapAB_inj (a b : List Char) (h : swapAB a = swapAB b) : a = b := by
  have := congrArg swapAB h
  rwa [swapAB_invol, swapAB_invol] at this

theorem swapAB_underscore (a : List Char) : swapAB a = c!"_" ↔ a = c!"_" := by
  constructor
  · intro h
    have := congrArg swapAB h
    rw [swapAB_invol] at this
    rw [this]; decide
  · intro h; rw [h]; decide

def progEx : List Stmt :=
  [ .Declare (.mk (.Var c!"a") (1, 0)) (.mk (.Int 1) (1, 5)),
    .Func c!"f" (2, 3) [.mk (.Var c!"p") (2, 5)] false
      [.Return (2, 10) (.mk (.BinaryOp .Sum (2, 19) (.mk (.Var c!"p") (2, 17)) (.mk (.Var c!"a") (2, 21))) (2, 17))],
    .Expr (.mk (.Call (.mk (.Var c!"print") (3, 0))
      [.mk (.mk (.Call (.mk (.Var c!"f") (3, 6)) [.mk (.mk (.Int 2) (3, 8)) false]) (3, 6)) false]) (3, 0)) ]

example : (∀ a b, swapAB a = swapAB b → a = b) ∧ (∀ a, swapAB a = c!"_" ↔ a = c!"_") ∧
    swapAB c!"this" = c!"this" ∧ swapAB c!"print" = c!"print" ∧
    (∀ ast, (fun _ => False) ast → Eqv.rExpr swapAB ast = ast ∧ Eqv.okExpr swapAB (fun _ => False) ast) ∧
    Eqv.okStmts swapAB (fun _ => False) progEx ∧
    (Eqv.rStmts swapAB progEx).head? = some (.Declare (.mk (.Var c!"b") (1, 0)) (.mk (.Int 1) (1, 5))) := by
  exact ⟨swapAB_inj, swapAB_underscore, by decide, by decide, fun _ h => h.elim, by repeat' constructor, rfl⟩

/-- the instance: running `progEx` with `a` and `b` swapped prints the same lines -/
example (n : Nat) : observable (evalProg n (Eqv.rStmts swapAB progEx)) = observable (evalProg n progEx) := by
  exact renaming_preserves_output swapAB (fun _ => False) swapAB_inj swapAB_underscore (by decide) (by decide) (fun _ h => h.elim) n
    progEx (by repeat' constructor)

end Seed.C04
