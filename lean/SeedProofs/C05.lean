/-
  C05 — containers are shared by reference; building operations return fresh ones; scalars are immutable.

  A container value is an address into the heap.  Aliasing sites store the `SVal` they are given (same address);
  an update rewrites the one cell at that address (frame: every other cell is kept), so it is seen through every
  alias and through nothing else; `===` is equality of addresses; every building operation allocates at
  `heap.size`, an address no existing value can hold, and copies the operands' element `SVal`s (sharing the
  elements, not the identity).  Scalars are not addresses: no heap update can change what a variable holding a
  scalar reads.
-/
import SeedProofs.Lemmas.C05Heap
import SeedProofs.Lemmas.C05ProgBuild
namespace Seed.C05
open Seed ScopeL HeapL C05P

def sv (n : Int) : SVal := SVal.plain (.int n)
/-- cell 0 = scope `{a ↦ list@1, b ↦ list@1, c ↦ list@2, n ↦ 7, m ↦ 7}`, cells 1, 2 = lists, cell 3 = object `{"k": list@1}` -/
def σ₀ : State :=
  ⟨#[.scope [(c!"a", SVal.plain (.list 1), (1, 0)), (c!"b", SVal.plain (.list 1), (2, 0)), (c!"c", SVal.plain (.list 2), (3, 0)),
             (c!"n", sv 7, (4, 0)), (c!"m", sv 7, (5, 0))],
     .list [sv 1, sv 2], .list [sv 1, sv 2], .obj [(c!"k", SVal.plain (.list 1))]], []⟩

/-- `===` on containers is equality of addresses, and is defined only on containers and functions -/
theorem refEq_iff_addr (a b : Addr) :
    refEq (.list a) (.list b) = some (decide (a = b)) ∧ refEq (.obj a) (.obj b) = some (decide (a = b)) ∧
    refEq (.func a) (.func b) = some (decide (a = b)) :=
  ⟨rfl, rfl, rfl⟩

/-- `===` is true exactly between two copies of the same reference -/
theorem refEq_true_iff (u v : Val) : refEq u v = some true ↔ u = v ∧ (refEq u v).isSome := by
  unfold refEq
  split <;> simp

example : refEq (.list 1) (.list 1) = some true ∧ refEq (.list 1) (.list 2) = some false := by decide

/-- the operator itself: no state change, a bool that is address equality (and its negation for `!==`) -/
theorem refEq_op (fuel : Nat) (σ : State) (loc : Loc) (a b : Addr) :
    applyBinOp fuel σ .RefEq loc (.list a) (.list b) = .ok (.bool (a == b)) σ ∧
    applyBinOp fuel σ .RefNe loc (.list a) (.list b) = .ok (.bool (!(a == b))) σ ∧
    applyBinOp fuel σ .RefEq loc (.obj a) (.obj b) = .ok (.bool (a == b)) σ ∧
    applyBinOp fuel σ .RefNe loc (.obj a) (.obj b) = .ok (.bool (!(a == b))) σ := by
  refine ⟨?_, ?_, ?_, ?_⟩ <;> simp [applyBinOp, refEq]

/-- scalars have no identity: `===` on them is a type error, not a comparison -/
theorem refEq_scalars (u v : Val) (hu : u.kind = .Null ∨ u.kind = .Bool ∨ u.kind = .Int ∨ u.kind = .Str) : refEq u v = none := by
  unfold refEq
  split <;> first | rfl | simp [Val.kind] at hu

example : (Val.int 3).kind = .Null ∨ (Val.int 3).kind = .Bool ∨ (Val.int 3).kind = .Int ∨ (Val.int 3).kind = .Str := by decide

/-- allocation returns the next free address — one that held nothing before, so no existing value refers to
    it — stores the cell there and preserves every existing cell -/
theorem alloc_fresh (σ : State) (c : Cell) :
    (σ.alloc c).1 = σ.heap.size ∧ σ.heap[σ.heap.size]? = none ∧ (σ.alloc c).2.heap[σ.heap.size]? = some c ∧
    (∀ b, b < σ.heap.size → (σ.alloc c).2.heap[b]? = σ.heap[b]?) ∧ (σ.alloc c).2.heap.size = σ.heap.size + 1 ∧
    (σ.alloc c).2.out = σ.out :=
  ⟨rfl, by simp, alloc_new σ c, fun _ hb => alloc_old σ c hb, alloc_size σ c, rfl⟩

/-- the fresh address differs from the address of every live container -/
theorem fresh_ne_live (σ : State) (c : Cell) (b : Addr) (xs : List SVal) (h : σ.getList b = some xs) : (σ.alloc c).1 ≠ b := by
  intro e
  have := getList_lt h
  rw [← e] at this
  exact Nat.lt_irrefl _ this

example : σ₀.getList 1 = some [sv 1, sv 2] := by decide

/-! ### updates: seen through every alias and through nothing else -/

/-- overwriting the cell at `a`: reading at `a` gives the new contents — whichever copy of the reference is used,
    since all copies are the number `a` — and every other address keeps its cell; nothing is allocated or printed -/
theorem set_frame (σ : State) (a : Addr) (c : Cell) (h : a < σ.heap.size) :
    (σ.set a c).heap[a]? = some c ∧ (∀ b, b ≠ a → (σ.set a c).heap[b]? = σ.heap[b]?) ∧
    (σ.set a c).heap.size = σ.heap.size ∧ (σ.set a c).out = σ.out :=
  ⟨set_same σ a c h, fun _ hb => set_other σ a c hb, set_size σ a c, rfl⟩

/-- element update `xs[i] = v` (the state change made by `bindNext` on an index target): the cell at `a` holds
    the list with position `i` replaced, every other list, object, function and scope is unchanged -/
theorem update_frame_list (σ : State) (a : Addr) (items : List SVal) (i : Nat) (v : SVal) (h : σ.getList a = some items) :
    let σ' := σ.set a (.list (listSet items i v))
    σ'.getList a = some (listSet items i v) ∧
    (∀ b, b ≠ a → σ'.getList b = σ.getList b ∧ σ'.getObj b = σ.getObj b ∧ σ'.getFunc b = σ.getFunc b) ∧
    (∀ b, σ'.getScope b = σ.getScope b) := by
  have other (b : Addr) (hb : b ≠ a) := set_other σ a (.list (listSet items i v)) hb
  exact ⟨getList_set_same _ h, fun b hb => ⟨getList_congr (other b hb), getObj_congr (other b hb), getFunc_congr (other b hb)⟩,
    getScope_set_list _ h⟩

/-- `listSet` replaces position `i` and nothing else -/
theorem listSet_spec (xs : List SVal) (i : Nat) (v : SVal) :
    (listSet xs i v).length = xs.length ∧ (i < xs.length → (listSet xs i v)[i]? = some v) ∧
    ∀ j, j ≠ i → (listSet xs i v)[j]? = xs[j]? :=
  ⟨listSet_len xs i v, listSet_get_same xs i v, fun j hj => listSet_get_other xs i j v hj⟩

example : listSet [sv 1, sv 2] 1 (sv 9) = [sv 1, sv 9] := by decide

/-- property update `o.k = v` / `o["k"] = v`: same frame for the object cell -/
theorem update_frame_obj (σ : State) (a : Addr) (props : ObjMap) (k : List Char) (v : SVal) (h : σ.getObj a = some props) :
    let σ' := σ.set a (.obj (objInsert k v props))
    σ'.getObj a = some (objInsert k v props) ∧
    (∀ b, b ≠ a → σ'.getList b = σ.getList b ∧ σ'.getObj b = σ.getObj b ∧ σ'.getFunc b = σ.getFunc b) ∧
    (∀ b, σ'.getScope b = σ.getScope b) := by
  have other (b : Addr) (hb : b ≠ a) := set_other σ a (.obj (objInsert k v props)) hb
  exact ⟨getObj_set_same _ h, fun b hb => ⟨getList_congr (other b hb), getObj_congr (other b hb), getFunc_congr (other b hb)⟩,
    getScope_set_obj _ h⟩

example : σ₀.getObj 3 = some [(c!"k", SVal.plain (.list 1))] := by decide

/-- the whole statement `xs[i] = e` for a variable target, through the evaluator: given the value of the
    right-hand side, the list `x` refers to and a valid index, the result state is the one-cell update above -/
theorem index_assign_updates_cell (n : Nat) (σ : State) (sc : List Addr) (names : List (List Char)) (x : List Char) (lx li loc : Loc)
    (i : Int) (a : Addr) (src : Option Val) (items : List SVal) (cur rhs : SVal)
    (hx : scopeGet σ sc x = some ⟨.list a, src⟩) (hl : σ.getList a = some items) (hi : 0 ≤ i)
    (hc : items[i.toNat]? = some cur) :
    bindNext (n + 5) σ sc names (.mk (.Index (.mk (.Var x) lx) (.mk (.Int i) li)) loc) rhs none false =
      .ok names (σ.set a (.list (listSet items i.toNat rhs))) := by
  rw [bindNext, var_read (n + 3) lx hx]
  simp only [Res.bind, toIndex_int (n + 1) σ sc li hi, hl, hc, opAssignValue]

example : scopeGet σ₀ [0] c!"a" = some ⟨.list 1, none⟩ ∧ σ₀.getList 1 = some [sv 1, sv 2] ∧ (0 : Int) ≤ 1 ∧
    [sv 1, sv 2][(1 : Int).toNat]? = some (sv 2) := by decide

/-- … hence `a[1] = 9` in `σ₀` is seen through the alias `b` (same address), through the object property that
    holds the same list, and not through `c`, an equal but distinct list -/
example :
    let σ' := σ₀.set 1 (.list (listSet [sv 1, sv 2] 1 (sv 9)))
    scopeGet σ' [0] c!"b" = some ⟨.list 1, none⟩ ∧ σ'.getList 1 = some [sv 1, sv 9] ∧
    σ'.getObj 3 = some [(c!"k", SVal.plain (.list 1))] ∧ σ'.getList 2 = some [sv 1, sv 2] := by decide

/-! ### aliasing sites keep the address -/

/-- declaration and assignment store the `SVal` they are given, and reading the variable returns that same
    `SVal` (same address): `b := a` makes `b` the same container as `a` -/
theorem alias_by_declare {σ σ' : State} {top : Addr} {sc : List Addr} {x : List Char} {loc l : Loc} {v : SVal} (n : Nat)
    (h : scopeDeclare σ (top :: sc) x loc v = .ok σ') :
    evalExpr (n + 1) σ' (top :: sc) (.mk (.Var x) l) = .ok v σ' := by
  obtain ⟨m, h1, _, rfl⟩ := scopeDeclare_ok_iff.mp h
  exact var_read n l (scopeGet_declared sc x v loc h1)

theorem alias_by_assign {σ σ' : State} {sc : List Addr} {x : List Char} {l : Loc} {v : SVal} (n : Nat)
    (h : scopeAssign σ sc x v = some σ') :
    evalExpr (n + 1) σ' sc (.mk (.Var x) l) = .ok v σ' :=
  var_read n l (scopeGet_assigned h)

example : ∃ σ', scopeDeclare σ₀ [0] c!"d" (5, 0) (SVal.plain (.list 2)) = .ok σ' := ⟨_, rfl⟩
example : ∃ σ', scopeAssign σ₀ [0] c!"c" (SVal.plain (.list 1)) = some σ' := ⟨_, rfl⟩

/-- a list literal stores, for a plain item, the very `SVal` the item evaluated to (so `[a]` holds `a` itself) … -/
theorem alias_by_list_item (n : Nat) (σ σ1 : State) (sc : List Addr) (e : Expr) (r : List ListItem) (acc : List SVal) (v : SVal)
    (he : evalExpr n σ sc e = .ok v σ1) :
    evalListItems (n + 1) σ sc (.mk e false :: r) acc = evalListItems n σ1 sc r (acc ++ [v]) :=
  listItems_item r acc he

/-- … and for a spread item the element `SVal`s of the operand, not the operand: elements are shared, identity is not -/
theorem spread_copies_elements (n : Nat) (σ σ1 : State) (sc : List Addr) (e : Expr) (r : List ListItem) (acc xs : List SVal)
    (a : Addr) (s : Option Val) (he : evalExpr n σ sc e = .ok ⟨.list a, s⟩ σ1) (hl : σ1.getList a = some xs) :
    evalListItems (n + 1) σ sc (.mk e true :: r) acc = evalListItems n σ1 sc r (acc ++ xs) :=
  listItems_spread r acc he hl

example : evalExpr 1 σ₀ [0] (.mk (.Var c!"a") (1, 1)) = .ok ⟨.list 1, none⟩ σ₀ := by rw [evalExpr]; rfl

/-- argument passing: the parameters are paired with the argument `SVal`s themselves (`C04.call_factors`:
    `bindings := fr.args.zip argVals`), and `return e` hands back the `SVal` of `e` -/
theorem alias_by_return (n : Nat) (σ : State) (sc : List Addr) (l : Loc) (e : Expr) :
    evalStmt (n + 1) σ sc (.Return l e) = (evalExpr n σ sc e).bind fun v σ1 => .ok (.ret v l) σ1 := by
  rw [evalStmt]

/-- a closure stores addresses of scope cells, never a copy of their contents (`C04.closure_shares_expr`), and
    reading a captured variable is `scopeGet` through those cells: it returns the stored reference -/
theorem alias_by_capture (n : Nat) (σ : State) (closure : List Addr) (x : List Char) (l : Loc) (v : SVal)
    (h : scopeGet σ closure x = some v) (fresh : Addr) (hf : σ.getScope fresh = some []) :
    evalExpr (n + 1) σ (fresh :: closure) (.mk (.Var x) l) = .ok v σ :=
  var_read n l (by rw [scopeGet_cons, hf]; exact h)

/-! ### building operations return a new container sharing the elements -/

/-- `xs + ys`: a new cell at `heap.size` (≠ both operands) holding exactly the operands' element values; the
    operands' cells are unchanged -/
theorem sum_fresh (fuel : Nat) (σ : State) (loc : Loc) (x y : Addr) (xs ys : List SVal)
    (hx : σ.getList x = some xs) (hy : σ.getList y = some ys) :
    applyBinOp fuel σ .Sum loc (.list x) (.list y) = .ok (.list σ.heap.size) (σ.alloc (.list (xs ++ ys))).2 ∧
    σ.heap.size ≠ x ∧ σ.heap.size ≠ y ∧
    (σ.alloc (.list (xs ++ ys))).2.getList σ.heap.size = some (xs ++ ys) ∧
    (σ.alloc (.list (xs ++ ys))).2.getList x = some xs ∧ (σ.alloc (.list (xs ++ ys))).2.getList y = some ys :=
  ⟨sum_lists fuel loc hx hy, fresh_ne_live σ (.list []) x xs hx, fresh_ne_live σ (.list []) y ys hy,
    getList_alloc_new σ _, getList_alloc _ hx, getList_alloc _ hy⟩

example : σ₀.getList 1 = some [sv 1, sv 2] ∧ σ₀.getList 2 = some [sv 1, sv 2] := by decide

/-- list literal (also with spreads, via the two item lemmas above): a new cell at the heap size reached after
    evaluating the items -/
theorem list_literal_fresh (n : Nat) (σ σ1 : State) (sc : List Addr) (items : List ListItem) (loc : Loc) (vals : List SVal)
    (h : evalListItems n σ sc items [] = .ok vals σ1) :
    evalExpr (n + 1) σ sc (.mk (.List items false) loc) = .ok (SVal.plain (.list σ1.heap.size)) (σ1.alloc (.list vals)).2 :=
  list_literal loc h

example : evalListItems 1 σ₀ [0] [] [] = .ok [] σ₀ := by rw [evalListItems]

theorem object_literal_fresh (n : Nat) (σ σ1 : State) (sc : List Addr) (props : List PropItem) (loc : Loc) (m : ObjMap)
    (h : evalProps n σ sc loc props [] = .ok m σ1) :
    evalExpr (n + 1) σ sc (.mk (.Object props) loc) = .ok (SVal.plain (.obj σ1.heap.size)) (σ1.alloc (.obj m)).2 := by
  rw [evalExpr]; simp only [h, Res.bind]; rfl

example : evalProps 1 σ₀ [0] (1, 0) [] [] = .ok [] σ₀ := by rw [evalProps]

/-- reading a range `xs[i:j]`: a new cell holding the selected element values (not a view) -/
theorem range_read_fresh (n : Nat) (σ σ1 σ2 σ3 : State) (sc : List Addr) (ex : Expr) (start stop : Option Expr) (loc : Loc)
    (a b : Option Nat) (addr : Addr) (s : Option Val) (items : List SVal)
    (h1 : evalOptIndex n σ sc start = .ok a σ1) (h2 : evalOptIndex n σ1 sc stop = .ok b σ2)
    (h3 : evalExpr n σ2 sc ex = .ok ⟨.list addr, s⟩ σ3) (h4 : σ3.getList addr = some items)
    (hb : a.getD 0 ≤ b.getD items.length ∧ b.getD items.length ≤ items.length) :
    evalExpr (n + 1) σ sc (.mk (.RangeIndex ex start stop) loc) =
      .ok (SVal.plain (.list σ3.heap.size))
        (σ3.alloc (.list ((items.drop (a.getD 0)).take (b.getD items.length - a.getD 0)))).2 :=
  rangeIndex_step loc h1 h2 h3 h4 hb.1 hb.2

example : evalOptIndex 1 σ₀ [0] none = .ok none σ₀ := by rw [evalOptIndex]

/-- `a .. b`: a new cell -/
theorem range_fresh (n : Nat) (σ σ1 σ2 : State) (sc : List Addr) (start stop : Expr) (loc : Loc) (a b : Int)
    (h1 : evalToInt n σ sc c!"range start" start = .ok a σ1) (h2 : evalToInt n σ1 sc c!"range end" stop = .ok b σ2) :
    evalExpr (n + 1) σ sc (.mk (.Range start stop) loc) =
      .ok (SVal.plain (.list σ2.heap.size)) (σ2.alloc (.list (intRange a b))).2 := by
  rw [evalExpr]; simp only [h1, h2, Res.bind]; rfl

/-- the collected rest of a list destructuring `[.., ..rest]`: a new cell holding the remaining element values -/
theorem collect_fresh (n : Nat) (σ : State) (sc : List Addr) (names : List (List Char)) (e : Expr) (lhsLoc : Loc) (b : Addr) (decl : Bool)
    (lhsLen : Nat) (rhsItems : List SVal) (hb : σ.getList b = some rhsItems) :
    bindList (n + 1) σ sc names [.mk e false] true lhsLoc b decl (lhsLen - 1) lhsLen =
      (bindNext n (σ.alloc (.list (rhsItems.drop (lhsLen - 1)))).2 sc names e (SVal.plain (.list σ.heap.size)) none decl).bind
        fun names' σ2 => bindList n σ2 sc names' [] true lhsLoc b decl (lhsLen - 1 + 1) lhsLen :=
  bindList_collect hb

/-- `x += ys` on a variable holding a list: a **new** list is built and `x` is re-bound to it; the old cell — and so
    every other alias of it — is unchanged -/
theorem opassign_var_rebinds (fuel : Nat) (σ : State) (sc : List Addr) (names : List (List Char)) (x : List Char) (loc ol : Loc)
    (a b : Addr) (sa sb : Option Val) (xs ys : List SVal) (hx : x ≠ c!"_") (hn : names.contains x = false)
    (hg : scopeGet σ sc x = some ⟨.list a, sa⟩) (ha : σ.getList a = some xs) (hb : σ.getList b = some ys) :
    ∃ σ', bindNextName fuel σ sc names x loc ⟨.list b, sb⟩ (some (.Sum, ol)) false = .ok (x :: names) σ' ∧
      scopeGet σ' sc x = some (SVal.plain (.list σ.heap.size)) ∧ σ.heap.size ≠ a ∧
      σ'.getList σ.heap.size = some (xs ++ ys) ∧ σ'.getList a = some xs ∧ σ'.getList b = some ys := by
  let σ1 := (σ.alloc (.list (xs ++ ys))).2
  -- the chain still resolves `x` after the allocation, so the store succeeds
  have hsome : (scopeAssign σ1 sc x (SVal.plain (.list σ.heap.size))).isSome := by
    rw [scopeAssign_isSome, scopeGet_alloc _ hg]; rfl
  obtain ⟨σ', hσ'⟩ := Option.isSome_iff_exists.mp hsome
  refine ⟨σ', ?_, scopeGet_assigned hσ', fresh_ne_live σ (.list []) a xs ha, ?_, ?_, ?_⟩
  · unfold bindNextName
    simp only [hx, hn, if_false, Bool.false_eq_true, hg, sum_lists fuel ol ha hb, Res.bind]
    show (match scopeAssign σ1 sc x (SVal.plain (.list σ.heap.size)) with
      | some σ2 => Res.ok (x :: names) σ2 | none => _) = _
    rw [hσ']
  all_goals rw [getList_assign hσ']
  · exact getList_alloc_new σ _
  · exact getList_alloc _ ha
  · exact getList_alloc _ hb

example : c!"a" ≠ c!"_" ∧ scopeGet σ₀ [0] c!"a" = some ⟨.list 1, none⟩ ∧ σ₀.getList 1 = some [sv 1, sv 2] ∧
    σ₀.getList 2 = some [sv 1, sv 2] := by decide

/-! ### scalars are immutable values -/

/-- no update of a container cell changes what any variable reads (through any chain): a variable holding an
    int, bool, string or null keeps exactly that value — scalars are stored in the `SVal` itself, not behind an
    address — and a variable holding a container keeps the same reference -/
theorem container_update_keeps_bindings (σ : State) (a : Addr) (xs xs' : List SVal) (sc : List Addr) (x : List Char)
    (h : σ.getList a = some xs) : scopeGet (σ.set a (.list xs')) sc x = scopeGet σ sc x :=
  scopeGet_set_list xs' h sc x

theorem object_update_keeps_bindings (σ : State) (a : Addr) (m m' : ObjMap) (sc : List Addr) (x : List Char)
    (h : σ.getObj a = some m) : scopeGet (σ.set a (.obj m')) sc x = scopeGet σ sc x :=
  scopeGet_set_obj m' h sc x

/-- an operation on a copy of a scalar (`m := n; m += 1`) re-binds only the variable it is applied to
    (`C04.assign_other_names`): here for `+=` on ints — `n` still reads 7 afterwards -/
theorem scalar_opassign_local (fuel : Nat) (σ σ' : State) (sc : List Addr) (names names' : List (List Char)) (x y : List Char)
    (loc : Loc) (rhs : SVal) (op : Option (BinaryOp × Loc)) (hy : y ≠ x)
    (h : bindNextName fuel σ sc names x loc rhs op false = .ok names' σ')
    (hwf : ∀ a ∈ sc, a < σ.heap.size) :
    scopeGet σ' sc y = scopeGet σ sc y := by
  unfold bindNextName at h
  by_cases hx : x = c!"_"
  · rw [if_pos hx] at h; cases h; rfl
  · rw [if_neg hx] at h
    by_cases hc : names.contains x = true
    · rw [if_pos hc] at h; cases h
    · rw [if_neg hc, if_neg Bool.false_ne_true] at h
      -- the store, from any state `σ1` that agrees with `σ` on the cells of the chain
      have store : ∀ (σ1 : State) (v : SVal), (∀ a ∈ sc, σ1.heap[a]? = σ.heap[a]?) →
          (match scopeAssign σ1 sc x v with
            | some σ2 => Res.ok (x :: names) σ2
            | none => errAt loc (Gen.Leaf.Undefined x) σ1) = .ok names' σ' → scopeGet σ' sc y = scopeGet σ sc y := by
        intro σ1 v h1 hs
        cases ha : scopeAssign σ1 sc x v with
        | none => rw [ha] at hs; cases hs
        | some σ2 => rw [ha] at hs; cases hs; rw [scopeGet_assign_other ha hy, scopeGet_frame y h1]
      cases op with
      | none => exact store σ rhs (fun _ _ => rfl) h
      | some p =>
        obtain ⟨o, ol⟩ := p
        simp only at h
        cases hg : scopeGet σ sc x with
        | none => simp only [hg] at h; cases h
        | some cur =>
          simp only [hg] at h
          cases hb : applyBinOp fuel σ o ol cur.v rhs.v with
          | ok v σ1 =>
            rw [hb] at h
            refine store σ1 (SVal.plain v) ?_ h
            -- the operation left the state alone or allocated
            rcases BindL.applyBinOp_state hb with rfl | ⟨zs, rfl⟩
            · intro _ _; rfl
            · intro a ha; exact alloc_old σ _ (hwf a ha)
          | _ => rw [hb] at h; cases h

example : (match bindNextName 5 σ₀ [0] [] c!"m" (5, 0) (sv 1) (some (.Sum, (5, 2))) false with
    | .ok _ σ' => (scopeGet σ' [0] c!"m", scopeGet σ' [0] c!"n") | _ => (none, none)) = (some (sv 8), some (sv 7)) := by decide

/-! # End to end: the frame theorems composed through the evaluator

  The theorems above are about the primitives, one step each.  Below they are composed into statements about small
  programs: which state a statement list leaves, what the reads `a[i]`, `a.k`, `a === b` then evaluate to, and which
  cells are equal to the cells of the initial state.  The setting is the one of a program's top level or of a function
  body: the chain is `A0 :: sc'`, the innermost scope cell `A0` holds `ms`, `a` is one of its names and `b` is a fresh
  name.  Sub-evaluations (the right-hand side `e`) are hypotheses at fuel `n`; the conclusions are equations at the
  exact fuel `n + c` whose right-hand side runs the rest of the program at the fuel the evaluator really gives it (by
  G1, fuel monotonicity, they hold at every larger fuel).  The single steps are in Lemmas/C05ProgStep.lean, the reads
  that survive a write in Lemmas/C05ProgFrame.lean, the copying statements and the call of a one-parameter function in
  Lemmas/C05ProgBuild.lean.
-/
-- audit: Seed.C05P.stmts_step Seed.C05P.declare_var_stmt Seed.C05P.assign_var_stmt Seed.C05P.opassign_var_stmt Seed.C05P.index_assign_stmt Seed.C05P.prop_assign_stmt Seed.C05P.key_assign_stmt Seed.C05P.call_stmt Seed.C05P.var_read Seed.C05P.var_index_read Seed.C05P.var_prop_read Seed.C05P.var_key_read Seed.C05P.refeq_read Seed.C05P.refeq_vars Seed.C05P.toIndex_lit Seed.C05P.toStr_lit
-- audit: Seed.C05P.scopeGet_some_frame Seed.C05P.scopeGet_set_list Seed.C05P.scopeGet_set_obj Seed.C05P.scopeGet_declared Seed.C05P.scopeGet_declared_other Seed.C05P.applyBinOp_scalar_state Seed.C05P.sum_ints Seed.C05P.set_set Seed.C05P.list1_literal Seed.C05P.spread_copy Seed.C05P.sum_copy Seed.C05P.range_copy Seed.C05P.freshCopy_declare Seed.C05P.copy_by_spread Seed.C05P.copy_by_sum Seed.C05P.copy_by_range Seed.C05P.copy_by_collect Seed.C05P.call1_spec Seed.C05P.paramEntry_param Seed.C05P.paramEntry_scope Seed.C05P.paramEntry_old
/-! ## (1) a mutation through one alias is seen through the other -/

/-- **`b := a; b[i] = e; rest`**: whatever `e` does (`σd → σ2`: calls, other mutations, also of the list itself), as
    long as afterwards `a` and `b` still name the cell `A` and `i` is a position of it, the write goes to that one cell
    and is seen through `a` -/
theorem alias_mutation_visible_effects {n : Nat} {σ σ2 : State} {A0 : Addr} {sc' : List Addr} {ms : ScopeMap} {a b : List Char}
    {A : Addr} {sa sa2 sb2 : Option Val} {la : Loc} {items2 : List SVal} {i : Nat} {e : Expr} {v : SVal}
    (lb lr lb2 li ls : Loc)
    (hs : σ.getScope A0 = some ms) (ha : scopeLookup a ms = some (⟨.list A, sa⟩, la))
    (hb : b ≠ c!"_") (hfresh : scopeLookup b ms = none)
    (he : evalExpr n (σ.set A0 (.scope ((b, ⟨.list A, sa⟩, lb) :: ms))) (A0 :: sc') e = .ok v σ2)
    (ha2 : scopeGet σ2 (A0 :: sc') a = some ⟨.list A, sa2⟩) (hb2 : scopeGet σ2 (A0 :: sc') b = some ⟨.list A, sb2⟩)
    (hl2 : σ2.getList A = some items2) (hi : i < items2.length) :
    let σ3 := σ2.set A (.list (listSet items2 i v))
    (∀ rest, evalStmts (n + 7) σ (A0 :: sc')
        (.Declare (.mk (.Var b) lb) (.mk (.Var a) lr) ::
         .Assign (.mk (.Index (.mk (.Var b) lb2) (.mk (.Int (Int.ofNat i)) li)) ls) e :: rest) =
      evalStmts (n + 5) σ3 (A0 :: sc') rest) ∧
    (∀ j l1 l2 l3, evalExpr (j + 4) σ3 (A0 :: sc')
        (.mk (.Index (.mk (.Var a) l1) (.mk (.Int (Int.ofNat i)) l2)) l3) = .ok v σ3) ∧
    (∀ j l1 l2 l3 l4, evalExpr (j + 2) σ3 (A0 :: sc')
        (.mk (.BinaryOp .RefEq l3 (.mk (.Var a) l1) (.mk (.Var b) l2)) l4) = .ok (SVal.plain (.bool true)) σ3) ∧
    σ3.getList A = some (listSet items2 i v) ∧
    (∀ c, c ≠ A → σ3.heap[c]? = σ2.heap[c]?) ∧ σ3.heap.size = σ2.heap.size ∧ σ3.out = σ2.out := by
  intro σ3
  have hga3 : scopeGet σ3 (A0 :: sc') a = some ⟨.list A, sa2⟩ := (scopeGet_set_list _ hl2 _ a).trans ha2
  have hgb3 : scopeGet σ3 (A0 :: sc') b = some ⟨.list A, sb2⟩ := (scopeGet_set_list _ hl2 _ b).trans hb2
  have hl3 : σ3.getList A = some (listSet items2 i v) := getList_set_same _ hl2
  refine ⟨fun rest => ?_, fun j l1 l2 l3 => var_index_read j l1 l2 l3 hga3 hl3 (listSet_get_same items2 i v hi),
    fun j l1 l2 l3 l4 => refeq_vars j l1 l2 l3 l4 hga3 hgb3 (by simp [refEq]), hl3, fun c hc => set_other _ _ _ hc,
    set_size _ _ _, rfl⟩
  rw [declare_alias_stmts lb lr _ hs ha hb hfresh (by omega), index_lit_assign_stmts lb2 li ls _ he hb2 hl2 hi (by omega)]

/-- the same for an `e` without effects: then `a`, `b` and the list are as the declaration left them, and nothing but
    the cells `A` and `A0` differs from the initial state -/
theorem alias_mutation_visible {n : Nat} {σ : State} {A0 : Addr} {sc' : List Addr} {ms : ScopeMap} {a b : List Char}
    {A : Addr} {sa : Option Val} {la : Loc} {items : List SVal} {i : Nat} {e : Expr} {v : SVal}
    (lb lr lb2 li ls : Loc)
    (hs : σ.getScope A0 = some ms) (ha : scopeLookup a ms = some (⟨.list A, sa⟩, la))
    (hb : b ≠ c!"_") (hfresh : scopeLookup b ms = none)
    (hl : σ.getList A = some items) (hi : i < items.length)
    (he : evalExpr n (σ.set A0 (.scope ((b, ⟨.list A, sa⟩, lb) :: ms))) (A0 :: sc') e =
      .ok v (σ.set A0 (.scope ((b, ⟨.list A, sa⟩, lb) :: ms)))) :
    let σ3 := (σ.set A0 (.scope ((b, ⟨.list A, sa⟩, lb) :: ms))).set A (.list (listSet items i v))
    (∀ rest, evalStmts (n + 7) σ (A0 :: sc')
        (.Declare (.mk (.Var b) lb) (.mk (.Var a) lr) ::
         .Assign (.mk (.Index (.mk (.Var b) lb2) (.mk (.Int (Int.ofNat i)) li)) ls) e :: rest) =
      evalStmts (n + 5) σ3 (A0 :: sc') rest) ∧
    (∀ j l1 l2 l3, evalExpr (j + 4) σ3 (A0 :: sc')
        (.mk (.Index (.mk (.Var a) l1) (.mk (.Int (Int.ofNat i)) l2)) l3) = .ok v σ3) ∧
    (∀ j l1 l2 l3 l4, evalExpr (j + 2) σ3 (A0 :: sc')
        (.mk (.BinaryOp .RefEq l3 (.mk (.Var a) l1) (.mk (.Var b) l2)) l4) = .ok (SVal.plain (.bool true)) σ3) ∧
    σ3.getScope A0 = some ((b, ⟨.list A, sa⟩, lb) :: ms) ∧ σ3.getList A = some (listSet items i v) ∧
    (∀ c, c ≠ A → c ≠ A0 → σ3.heap[c]? = σ.heap[c]?) ∧ σ3.heap.size = σ.heap.size ∧ σ3.out = σ.out := by
  intro σ3
  have hld := (getList_set_scope σ A0 ((b, ⟨.list A, sa⟩, lb) :: ms) A hs).trans hl
  obtain ⟨h1, h2, h3, h4, h5, h6, h7⟩ := alias_mutation_visible_effects lb lr lb2 li ls hs ha hb hfresh he
    (scopeGet_declared_other sc' _ lb hs (ne_of_lookup ha hfresh) ha) (scopeGet_declared sc' b _ lb hs) hld hi
  exact ⟨h1, h2, h3, (getScope_set_list _ hld A0).trans (getScope_set_same _ (getScope_lt hs)), h4,
    fun c hc hc0 => (h5 c hc).trans (set_other _ _ _ hc0), h6.trans (set_size _ _ _), h7⟩

/-- **`b := a; b.k = e; rest`** for an object -/
theorem alias_mutation_visible_prop {n : Nat} {σ : State} {A0 : Addr} {sc' : List Addr} {ms : ScopeMap} {a b k : List Char}
    {A : Addr} {sa : Option Val} {la : Loc} {m : ObjMap} {e : Expr} {v : SVal}
    (lb lr lb2 ls : Loc)
    (hs : σ.getScope A0 = some ms) (ha : scopeLookup a ms = some (⟨.obj A, sa⟩, la))
    (hb : b ≠ c!"_") (hfresh : scopeLookup b ms = none) (hm : σ.getObj A = some m)
    (he : evalExpr n (σ.set A0 (.scope ((b, ⟨.obj A, sa⟩, lb) :: ms))) (A0 :: sc') e =
      .ok v (σ.set A0 (.scope ((b, ⟨.obj A, sa⟩, lb) :: ms)))) :
    let σ3 := (σ.set A0 (.scope ((b, ⟨.obj A, sa⟩, lb) :: ms))).set A (.obj (objInsert k v m))
    (∀ rest, evalStmts (n + 5) σ (A0 :: sc')
        (.Declare (.mk (.Var b) lb) (.mk (.Var a) lr) ::
         .Assign (.mk (.Prop (.mk (.Var b) lb2) k false) ls) e :: rest) =
      evalStmts (n + 3) σ3 (A0 :: sc') rest) ∧
    (∀ j l1 l2, evalExpr (j + 2) σ3 (A0 :: sc') (.mk (.Prop (.mk (.Var a) l1) k false) l2) =
      .ok ⟨v.v, some (.obj A)⟩ σ3) ∧
    (∀ j l1 l2 l3 l4, evalExpr (j + 2) σ3 (A0 :: sc')
        (.mk (.BinaryOp .RefEq l3 (.mk (.Var a) l1) (.mk (.Var b) l2)) l4) = .ok (SVal.plain (.bool true)) σ3) ∧
    σ3.getScope A0 = some ((b, ⟨.obj A, sa⟩, lb) :: ms) ∧ σ3.getObj A = some (objInsert k v m) ∧
    (∀ c, c ≠ A → c ≠ A0 → σ3.heap[c]? = σ.heap[c]?) ∧ σ3.heap.size = σ.heap.size ∧ σ3.out = σ.out := by
  intro σ3
  have hmd := (getObj_set_scope σ A0 ((b, ⟨.obj A, sa⟩, lb) :: ms) A hs).trans hm
  have hgb := scopeGet_declared sc' b ⟨.obj A, sa⟩ lb hs
  have hga3 : scopeGet σ3 (A0 :: sc') a = some ⟨.obj A, sa⟩ :=
    (scopeGet_set_obj _ hmd _ a).trans (scopeGet_declared_other sc' _ lb hs (ne_of_lookup ha hfresh) ha)
  have hgb3 : scopeGet σ3 (A0 :: sc') b = some ⟨.obj A, sa⟩ := (scopeGet_set_obj _ hmd _ b).trans hgb
  have hm3 : σ3.getObj A = some (objInsert k v m) := getObj_set_same _ hmd
  refine ⟨fun rest => ?_, fun j l1 l2 => var_prop_read j l1 l2 hga3 hm3 (objGet_objInsert_same k v m),
    fun j l1 l2 l3 l4 => refeq_vars j l1 l2 l3 l4 hga3 hgb3 (by simp [refEq]),
    (getScope_set_obj _ hmd A0).trans (getScope_set_same _ (getScope_lt hs)), hm3,
    fun c hc hc0 => (set_other _ _ _ hc).trans (set_other _ _ _ hc0), (set_size _ _ _).trans (set_size _ _ _), rfl⟩
  rw [declare_alias_stmts lb lr _ hs ha hb hfresh (by omega), stmts_step _ (prop_assign_stmt (n := n) (k := k) lb2 ls
    (evalExpr_fuel_mono he ok_ne_timeout (by omega)) hgb hmd) (by omega)]

/-- **`b := a; b["k"] = e; rest`** for an object (any key expression `ke` without effects that evaluates to `k`) -/
theorem alias_mutation_visible_key {n : Nat} {σ : State} {A0 : Addr} {sc' : List Addr} {ms : ScopeMap} {a b k : List Char}
    {A : Addr} {sa : Option Val} {la : Loc} {m : ObjMap} {e ke : Expr} {v : SVal}
    (lb lr lb2 ls : Loc)
    (hs : σ.getScope A0 = some ms) (ha : scopeLookup a ms = some (⟨.obj A, sa⟩, la))
    (hb : b ≠ c!"_") (hfresh : scopeLookup b ms = none) (hm : σ.getObj A = some m)
    (he : evalExpr n (σ.set A0 (.scope ((b, ⟨.obj A, sa⟩, lb) :: ms))) (A0 :: sc') e =
      .ok v (σ.set A0 (.scope ((b, ⟨.obj A, sa⟩, lb) :: ms))))
    (hke : evalToStr (n + 1) (σ.set A0 (.scope ((b, ⟨.obj A, sa⟩, lb) :: ms))) (A0 :: sc') c!"property" ke =
      .ok k (σ.set A0 (.scope ((b, ⟨.obj A, sa⟩, lb) :: ms)))) :
    let σ3 := (σ.set A0 (.scope ((b, ⟨.obj A, sa⟩, lb) :: ms))).set A (.obj (objInsert k v m))
    (∀ rest, evalStmts (n + 5) σ (A0 :: sc')
        (.Declare (.mk (.Var b) lb) (.mk (.Var a) lr) ::
         .Assign (.mk (.Index (.mk (.Var b) lb2) ke) ls) e :: rest) =
      evalStmts (n + 3) σ3 (A0 :: sc') rest) ∧
    (∀ j l1 l2, evalExpr (j + 2) σ3 (A0 :: sc') (.mk (.Prop (.mk (.Var a) l1) k false) l2) =
      .ok ⟨v.v, some (.obj A)⟩ σ3) ∧
    (utf8Decode (utf8Encode k) = .ok k → ∀ j l1 l2 l3, evalExpr (j + 3) σ3 (A0 :: sc')
        (.mk (.Index (.mk (.Var a) l1) (.mk (.Str k none) l2)) l3) = .ok ⟨v.v, some (.obj A)⟩ σ3) ∧
    (∀ j l1 l2 l3 l4, evalExpr (j + 2) σ3 (A0 :: sc')
        (.mk (.BinaryOp .RefEq l3 (.mk (.Var a) l1) (.mk (.Var b) l2)) l4) = .ok (SVal.plain (.bool true)) σ3) ∧
    σ3.getScope A0 = some ((b, ⟨.obj A, sa⟩, lb) :: ms) ∧ σ3.getObj A = some (objInsert k v m) ∧
    (∀ c, c ≠ A → c ≠ A0 → σ3.heap[c]? = σ.heap[c]?) ∧ σ3.heap.size = σ.heap.size ∧ σ3.out = σ.out := by
  intro σ3
  have hmd := (getObj_set_scope σ A0 ((b, ⟨.obj A, sa⟩, lb) :: ms) A hs).trans hm
  have hgb := scopeGet_declared sc' b ⟨.obj A, sa⟩ lb hs
  have hga3 : scopeGet σ3 (A0 :: sc') a = some ⟨.obj A, sa⟩ :=
    (scopeGet_set_obj _ hmd _ a).trans (scopeGet_declared_other sc' _ lb hs (ne_of_lookup ha hfresh) ha)
  have hgb3 : scopeGet σ3 (A0 :: sc') b = some ⟨.obj A, sa⟩ := (scopeGet_set_obj _ hmd _ b).trans hgb
  have hm3 : σ3.getObj A = some (objInsert k v m) := getObj_set_same _ hmd
  refine ⟨fun rest => ?_, fun j l1 l2 => var_prop_read j l1 l2 hga3 hm3 (objGet_objInsert_same k v m),
    fun hk j l1 l2 l3 => var_key_read j l1 l2 l3 hk hga3 hm3 (objGet_objInsert_same k v m),
    fun j l1 l2 l3 l4 => refeq_vars j l1 l2 l3 l4 hga3 hgb3 (by simp [refEq]),
    (getScope_set_obj _ hmd A0).trans (getScope_set_same _ (getScope_lt hs)), hm3,
    fun c hc hc0 => (set_other _ _ _ hc).trans (set_other _ _ _ hc0), (set_size _ _ _).trans (set_size _ _ _), rfl⟩
  rw [declare_alias_stmts lb lr _ hs ha hb hfresh (by omega), stmts_step _ (key_assign_stmt (n := n) lb2 ls
    (evalExpr_fuel_mono he ok_ne_timeout (by omega)) hgb hke hmd) (by omega)]

/-! ## (3) scalars are copied -/

/-- **`b := a; b op= e; rest`** where `a` holds a scalar (null, bool, int, string) -/
theorem scalar_copy_independent {n : Nat} {σ : State} {A0 : Addr} {sc' : List Addr} {ms : ScopeMap} {a b : List Char}
    {va ve : SVal} {la : Loc} {e : Expr} {op : BinaryOp} {r : Val} {σ' : State} (lb lr lb2 ol : Loc)
    (hs : σ.getScope A0 = some ms) (ha : scopeLookup a ms = some (va, la))
    (hk : va.v.kind = .Null ∨ va.v.kind = .Bool ∨ va.v.kind = .Int ∨ va.v.kind = .Str)
    (hb : b ≠ c!"_") (hfresh : scopeLookup b ms = none)
    (he : evalExpr n (σ.set A0 (.scope ((b, va, lb) :: ms))) (A0 :: sc') e = .ok ve (σ.set A0 (.scope ((b, va, lb) :: ms))))
    (hop : applyBinOp n (σ.set A0 (.scope ((b, va, lb) :: ms))) op ol va.v ve.v = .ok r σ') :
    let σ4 := σ.set A0 (.scope ((b, SVal.plain r, lb) :: ms))
    (∀ rest, evalStmts (n + 4) σ (A0 :: sc')
        (.Declare (.mk (.Var b) lb) (.mk (.Var a) lr) :: .OpAssign (.mk (.Var b) lb2) op ol e :: rest) =
      evalStmts (n + 2) σ4 (A0 :: sc') rest) ∧
    (∀ j l, evalExpr (j + 1) σ4 (A0 :: sc') (.mk (.Var a) l) = .ok va σ4) ∧
    (∀ j l, evalExpr (j + 1) σ4 (A0 :: sc') (.mk (.Var b) l) = .ok (SVal.plain r) σ4) ∧
    (∀ c, c ≠ A0 → σ4.heap[c]? = σ.heap[c]?) ∧ σ4.heap.size = σ.heap.size ∧ σ4.out = σ.out := by
  intro σ4
  have hsd := getScope_set_same (σ := σ) ((b, va, lb) :: ms) (getScope_lt hs)
  obtain rfl := applyBinOp_scalar_state hk hop
  refine ⟨fun rest => ?_, fun j l => var_read j l (scopeGet_declared_other sc' _ lb hs (ne_of_lookup ha hfresh) ha),
    fun j l => var_read j l (scopeGet_declared sc' b _ lb hs), fun c hc => set_other _ _ _ hc, set_size _ _ _, rfl⟩
  have hst := opassign_var_stmt (n := n) (sc := sc') lb2 ol (evalExpr_fuel_mono he ok_ne_timeout (Nat.le_succ n)) hb hsd
    (lookup_cons_same b va lb ms) hop hsd
  rw [setVal_head, set_set] at hst
  rw [declare_alias_stmts lb lr _ hs ha hb hfresh (by omega), stmts_step _ hst (by omega)]

/-- **`b := a; b = e; rest`**: assignment re-binds `b`; whatever `a` holds (scalar or container), `a` still holds it -/
theorem copy_then_assign_independent {n : Nat} {σ : State} {A0 : Addr} {sc' : List Addr} {ms : ScopeMap} {a b : List Char}
    {va ve : SVal} {la : Loc} {e : Expr} (lb lr lb2 : Loc)
    (hs : σ.getScope A0 = some ms) (ha : scopeLookup a ms = some (va, la))
    (hb : b ≠ c!"_") (hfresh : scopeLookup b ms = none)
    (he : evalExpr n (σ.set A0 (.scope ((b, va, lb) :: ms))) (A0 :: sc') e = .ok ve (σ.set A0 (.scope ((b, va, lb) :: ms)))) :
    let σ4 := σ.set A0 (.scope ((b, ve, lb) :: ms))
    (∀ rest, evalStmts (n + 4) σ (A0 :: sc')
        (.Declare (.mk (.Var b) lb) (.mk (.Var a) lr) :: .Assign (.mk (.Var b) lb2) e :: rest) =
      evalStmts (n + 2) σ4 (A0 :: sc') rest) ∧
    (∀ j l, evalExpr (j + 1) σ4 (A0 :: sc') (.mk (.Var a) l) = .ok va σ4) ∧
    (∀ j l, evalExpr (j + 1) σ4 (A0 :: sc') (.mk (.Var b) l) = .ok ve σ4) ∧
    (∀ c, c ≠ A0 → σ4.heap[c]? = σ.heap[c]?) ∧ σ4.heap.size = σ.heap.size ∧ σ4.out = σ.out := by
  intro σ4
  have hsd := getScope_set_same (σ := σ) ((b, va, lb) :: ms) (getScope_lt hs)
  refine ⟨fun rest => ?_, fun j l => var_read j l (scopeGet_declared_other sc' _ lb hs (ne_of_lookup ha hfresh) ha),
    fun j l => var_read j l (scopeGet_declared sc' b _ lb hs), fun c hc => set_other _ _ _ hc, set_size _ _ _, rfl⟩
  have hst := assign_var_stmt (n := n) (sc := sc') lb2 (evalExpr_fuel_mono he ok_ne_timeout (Nat.le_succ n)) hb hsd
    (lookup_cons_same b va lb ms)
  rw [setVal_head, set_set] at hst
  rw [declare_alias_stmts lb lr _ hs ha hb hfresh (by omega), stmts_step _ hst (by omega)]

/-- the instance `m := n; m += e` on ints: `n` keeps its value, `m` holds the sum -/
theorem int_copy_independent {n : Nat} {σ : State} {A0 : Addr} {sc' : List Addr} {ms : ScopeMap} {a b : List Char}
    {x y : Int} {sx sy : Option Val} {la : Loc} {e : Expr} (lb lr lb2 ol : Loc)
    (hs : σ.getScope A0 = some ms) (ha : scopeLookup a ms = some (⟨.int x, sx⟩, la))
    (hb : b ≠ c!"_") (hfresh : scopeLookup b ms = none)
    (he : evalExpr n (σ.set A0 (.scope ((b, ⟨.int x, sx⟩, lb) :: ms))) (A0 :: sc') e =
      .ok ⟨.int y, sy⟩ (σ.set A0 (.scope ((b, ⟨.int x, sx⟩, lb) :: ms))))
    (hr : inI64 (x + y) = true) :
    let σ4 := σ.set A0 (.scope ((b, SVal.plain (.int (x + y)), lb) :: ms))
    (∀ rest, evalStmts (n + 4) σ (A0 :: sc')
        (.Declare (.mk (.Var b) lb) (.mk (.Var a) lr) :: .OpAssign (.mk (.Var b) lb2) .Sum ol e :: rest) =
      evalStmts (n + 2) σ4 (A0 :: sc') rest) ∧
    (∀ j l, evalExpr (j + 1) σ4 (A0 :: sc') (.mk (.Var a) l) = .ok ⟨.int x, sx⟩ σ4) ∧
    (∀ j l, evalExpr (j + 1) σ4 (A0 :: sc') (.mk (.Var b) l) = .ok (SVal.plain (.int (x + y))) σ4) := by
  have h := scalar_copy_independent (r := .int (x + y)) lb lr lb2 ol hs ha (Or.inr (Or.inr (Or.inl rfl))) hb hfresh he
    (sum_ints n _ ol x y hr)
  exact ⟨h.1, h.2.1, h.2.2.1⟩

/-! ## (5) `+=` on a list re-binds, it does not mutate -/

/-- **`b := a; b += [x]; rest`** -/
theorem opassign_rebinds_not_mutates {n : Nat} {σ : State} {A0 : Addr} {sc' : List Addr} {ms : ScopeMap} {a b : List Char}
    {A : Addr} {sa : Option Val} {la : Loc} {items : List SVal} {x : Expr} {vx : SVal} (lb lr lb2 ol ll : Loc)
    (hs : σ.getScope A0 = some ms) (ha : scopeLookup a ms = some (⟨.list A, sa⟩, la))
    (hb : b ≠ c!"_") (hfresh : scopeLookup b ms = none) (hl : σ.getList A = some items)
    (hx : evalExpr n (σ.set A0 (.scope ((b, ⟨.list A, sa⟩, lb) :: ms))) (A0 :: sc') x =
      .ok vx (σ.set A0 (.scope ((b, ⟨.list A, sa⟩, lb) :: ms)))) :
    let σ4 := ((((σ.set A0 (.scope ((b, ⟨.list A, sa⟩, lb) :: ms))).alloc (.list [vx])).2.alloc
      (.list (items ++ [vx]))).2).set A0 (.scope ((b, SVal.plain (.list (σ.heap.size + 1)), lb) :: ms))
    (∀ rest, evalStmts (n + 5) σ (A0 :: sc')
        (.Declare (.mk (.Var b) lb) (.mk (.Var a) lr) ::
         .OpAssign (.mk (.Var b) lb2) .Sum ol (.mk (.List [.mk x false] false) ll) :: rest) =
      evalStmts (n + 3) σ4 (A0 :: sc') rest) ∧
    σ4.getList A = some items ∧ σ4.getList (σ.heap.size + 1) = some (items ++ [vx]) ∧
    scopeGet σ4 (A0 :: sc') a = some ⟨.list A, sa⟩ ∧
    scopeGet σ4 (A0 :: sc') b = some (SVal.plain (.list (σ.heap.size + 1))) ∧
    (∀ j l1 l2 l3 l4, evalExpr (j + 2) σ4 (A0 :: sc')
        (.mk (.BinaryOp .RefEq l3 (.mk (.Var a) l1) (.mk (.Var b) l2)) l4) = .ok (SVal.plain (.bool false)) σ4) ∧
    (∀ c, c < σ.heap.size → c ≠ A0 → σ4.heap[c]? = σ.heap[c]?) ∧ σ4.out = σ.out := by
  intro σ4
  have hsd := getScope_set_same (σ := σ) ((b, ⟨.list A, sa⟩, lb) :: ms) (getScope_lt hs)
  have hld := (getList_set_scope σ A0 ((b, ⟨.list A, sa⟩, lb) :: ms) A hs).trans hl
  have hs2 := getScope_alloc (.list (items ++ [vx])) (getScope_alloc (.list [vx]) hsd)
  have hga4 : scopeGet σ4 (A0 :: sc') a = some ⟨.list A, sa⟩ :=
    scopeGet_hit (getScope_set_same _ (getScope_lt hs2)) ((lookup_cons_other (ne_of_lookup ha hfresh) _ lb ms).trans ha) sc'
  have hgb4 : scopeGet σ4 (A0 :: sc') b = some (SVal.plain (.list (σ.heap.size + 1))) :=
    scopeGet_hit (getScope_set_same _ (getScope_lt hs2)) (lookup_cons_same b _ lb ms) sc'
  have hA : A ≠ σ.heap.size + 1 := Nat.ne_of_lt (Nat.lt_succ_of_lt (getList_lt hl))
  refine ⟨fun rest => ?_, (getList_set_scope _ A0 _ A hs2).trans (getList_alloc _ (getList_alloc _ hld)),
    (getList_set_scope _ A0 _ _ hs2).trans ?_, hga4, hgb4,
    fun j l1 l2 l3 l4 => refeq_vars j l1 l2 l3 l4 hga4 hgb4 (by simp [refEq, SVal.plain, hA]), fun c hc hc0 => ?_,
    by simp only [σ4, set_out, alloc_out]⟩
  · have hst := opassign_list1_stmt (n := n) lb2 ol ll hx hb hsd (lookup_cons_same b _ lb ms) hld
    rw [setVal_head, set_size] at hst
    rw [declare_alias_stmts lb lr _ hs ha hb hfresh (by omega), stmts_step _ hst (by omega)]
  · have := getList_alloc_new ((σ.set A0 (.scope ((b, ⟨.list A, sa⟩, lb) :: ms))).alloc (.list [vx])).2 (items ++ [vx])
    rwa [alloc_size, set_size] at this
  · have hd : c < (σ.set A0 (.scope ((b, ⟨.list A, sa⟩, lb) :: ms))).heap.size := by rw [set_size]; exact hc
    rw [set_other _ _ _ hc0, alloc_old _ _ (by rw [alloc_size]; exact Nat.lt_succ_of_lt hd), alloc_old _ _ hd,
      set_other _ _ _ hc0]

/-! ## (2) a copy is a different container holding the same element values -/

/-- **`<b := copy of a>; b[i] = e; rest`**, for every statement `st` that declares `b` as a fresh copy
    (`C05P.FreshCopy`; the four forms are `copy_by_spread` `b := [a..]`, `copy_by_sum` `b := a + []`,
    `copy_by_range` `b := a[0:k]`, `copy_by_collect` `[..b] := a`): `a`'s cell and every other cell that existed are
    untouched by the mutation of `b`, `a === b` is false, and the elements are shared — position `j ≠ i` of `b` still
    reads the element value the copy put there, and where `a[j]` and `b[j]` hold the same list cell `C`,
    `b[j] === a[j]` is true. -/
theorem copy_mutation_invisible {n k : Nat} {σ σ1 : State} {A0 : Addr} {sc' : List Addr} {ms : ScopeMap} {a b : List Char}
    {A B : Addr} {sa : Option Val} {la : Loc} {items ys : List SVal} {i : Nat} {st : Stmt} {e : Expr} {v : SVal}
    (lb lb2 li ls : Loc)
    (hcopy : C05P.FreshCopy k σ A0 sc' ms st b lb B ys σ1) (hk : k ≤ n + 6)
    (hs : σ.getScope A0 = some ms) (ha : scopeLookup a ms = some (⟨.list A, sa⟩, la)) (hfresh : scopeLookup b ms = none)
    (hl : σ.getList A = some items) (hi : i < ys.length)
    (he : evalExpr n (σ1.set A0 (.scope ((b, SVal.plain (.list B), lb) :: ms))) (A0 :: sc') e =
      .ok v (σ1.set A0 (.scope ((b, SVal.plain (.list B), lb) :: ms)))) :
    let σ3 := (σ1.set A0 (.scope ((b, SVal.plain (.list B), lb) :: ms))).set B (.list (listSet ys i v))
    (∀ rest, evalStmts (n + 7) σ (A0 :: sc')
        (st :: .Assign (.mk (.Index (.mk (.Var b) lb2) (.mk (.Int (Int.ofNat i)) li)) ls) e :: rest) =
      evalStmts (n + 5) σ3 (A0 :: sc') rest) ∧
    σ3.getList A = some items ∧ σ3.getList B = some (listSet ys i v) ∧ B ≠ A ∧
    (∀ j w, items[j]? = some w → ∀ f l1 l2 l3, evalExpr (f + 4) σ3 (A0 :: sc')
        (.mk (.Index (.mk (.Var a) l1) (.mk (.Int (Int.ofNat j)) l2)) l3) = .ok w σ3) ∧
    (∀ f l1 l2 l3, evalExpr (f + 4) σ3 (A0 :: sc')
        (.mk (.Index (.mk (.Var b) l1) (.mk (.Int (Int.ofNat i)) l2)) l3) = .ok v σ3) ∧
    (∀ j w, j ≠ i → ys[j]? = some w → ∀ f l1 l2 l3, evalExpr (f + 4) σ3 (A0 :: sc')
        (.mk (.Index (.mk (.Var b) l1) (.mk (.Int (Int.ofNat j)) l2)) l3) = .ok w σ3) ∧
    (∀ f l1 l2 l3 l4, evalExpr (f + 2) σ3 (A0 :: sc')
        (.mk (.BinaryOp .RefEq l3 (.mk (.Var a) l1) (.mk (.Var b) l2)) l4) = .ok (SVal.plain (.bool false)) σ3) ∧
    (∀ j C s s', j ≠ i → items[j]? = some ⟨.list C, s⟩ → ys[j]? = some ⟨.list C, s'⟩ →
      ∀ f l1 l2 l3 l4 l5 l6 l7 l8, evalExpr (f + 5) σ3 (A0 :: sc')
        (.mk (.BinaryOp .RefEq l7
          (.mk (.Index (.mk (.Var b) l1) (.mk (.Int (Int.ofNat j)) l2)) l3)
          (.mk (.Index (.mk (.Var a) l4) (.mk (.Int (Int.ofNat j)) l5)) l6)) l8) = .ok (SVal.plain (.bool true)) σ3) ∧
    (∀ c, c < σ.heap.size → c ≠ A0 → σ3.heap[c]? = σ.heap[c]?) ∧ σ3.out = σ.out := by
  intro σ3
  have hAlt := getList_lt hl
  have hBA : B ≠ A := fun e' => Nat.lt_irrefl _ (Nat.lt_of_lt_of_le hAlt (e' ▸ hcopy.fresh))
  have hs1 : σ1.getScope A0 = some ms := (getScope_congr (hcopy.old A0 (getScope_lt hs))).trans hs
  have hl1 : σ1.getList A = some items := (getList_congr (hcopy.old A hAlt)).trans hl
  have hld := (getList_set_scope σ1 A0 ((b, SVal.plain (.list B), lb) :: ms) A hs1).trans hl1
  have hBd := (getList_set_scope σ1 A0 ((b, SVal.plain (.list B), lb) :: ms) B hs1).trans hcopy.cell
  have hgb := scopeGet_declared sc' b (SVal.plain (.list B)) lb hs1
  have hga3 : scopeGet σ3 (A0 :: sc') a = some ⟨.list A, sa⟩ :=
    (scopeGet_set_list _ hBd _ a).trans (scopeGet_declared_other sc' _ lb hs1 (ne_of_lookup ha hfresh) ha)
  have hgb3 : scopeGet σ3 (A0 :: sc') b = some (SVal.plain (.list B)) := (scopeGet_set_list _ hBd _ b).trans hgb
  have hB3 : σ3.getList B = some (listSet ys i v) := getList_set_same _ hBd
  have hA3 : σ3.getList A = some items := (getList_set_other _ (Ne.symm hBA)).trans hld
  refine ⟨fun rest => ?_, hA3, hB3, hBA, fun j w hw f l1 l2 l3 => var_index_read f l1 l2 l3 hga3 hA3 hw,
    fun f l1 l2 l3 => var_index_read f l1 l2 l3 hgb3 hB3 (listSet_get_same ys i v hi),
    fun j w hj hw f l1 l2 l3 => var_index_read f l1 l2 l3 hgb3 hB3 ((listSet_get_other ys i j v hj).trans hw),
    fun f l1 l2 l3 l4 => refeq_vars f l1 l2 l3 l4 hga3 hgb3 (by simp [refEq, SVal.plain, Ne.symm hBA]),
    fun j C s s' hj h1 h2 f l1 l2 l3 l4 l5 l6 l7 l8 => refeq_read l7 l8
      (var_index_read f l1 l2 l3 hgb3 hB3 ((listSet_get_other ys i j v hj).trans h2))
      (var_index_read f l4 l5 l6 hga3 hA3 h1) (by simp [refEq]),
    fun c hc hc0 => ?_, hcopy.out⟩
  · rw [stmts_step _ hcopy.run hk, index_lit_assign_stmts lb2 li ls _ he hgb hBd hi (by omega)]
  · have hcB : c ≠ B := fun e' => Nat.lt_irrefl _ (Nat.lt_of_lt_of_le hc (e' ▸ hcopy.fresh))
    rw [set_other _ _ _ hcB, set_other _ _ _ hc0, hcopy.old c hc]

/-! ## (4) an argument is the caller's container; a parameter is the callee's variable -/

/-- **`fn f(p) { p[i] = e; }` … `f(a); rest`**: the call writes the cell `a` denotes -/
theorem argument_alias {n : Nat} {σ : State} {sc clo : List Addr} {f a p : List Char} {F A : Addr} {sa : Option Val}
    {name : Option (List Char)} {items : List SVal} {i : Nat} {e : Expr} {v : SVal} (lp lp2 li ls lf la lc : Loc)
    (hf : scopeGet σ sc f = some ⟨.func F, none⟩)
    (hfr : σ.getFunc F = some ⟨name, [.mk (.Var p) lp], false,
      [.Assign (.mk (.Index (.mk (.Var p) lp2) (.mk (.Int (Int.ofNat i)) li)) ls) e], clo⟩)
    (hp : p ≠ c!"_") (ha : scopeGet σ sc a = some ⟨.list A, sa⟩) (hl : σ.getList A = some items) (hi : i < items.length)
    (he : evalExpr n (C05P.paramEntry σ p lp ⟨.list A, sa⟩) (σ.heap.size :: clo) e =
      .ok v (C05P.paramEntry σ p lp ⟨.list A, sa⟩)) :
    let σ' := (C05P.paramEntry σ p lp ⟨.list A, sa⟩).set A (.list (listSet items i v))
    evalCall (n + 8) σ sc (.mk (.Var f) lf) [.mk (.mk (.Var a) la) false] lc = .ok (SVal.plain .null) σ' ∧
    (∀ rest, evalStmts (n + 11) σ sc
        (.Expr (.mk (.Call (.mk (.Var f) lf) [.mk (.mk (.Var a) la) false]) lc) :: rest) =
      evalStmts (n + 10) σ' sc rest) ∧
    scopeGet σ' sc a = some ⟨.list A, sa⟩ ∧ σ'.getList A = some (listSet items i v) ∧
    (∀ j l1 l2 l3, evalExpr (j + 4) σ' sc
        (.mk (.Index (.mk (.Var a) l1) (.mk (.Int (Int.ofNat i)) l2)) l3) = .ok v σ') ∧
    (∀ c, c < σ.heap.size → c ≠ A → σ'.heap[c]? = σ.heap[c]?) ∧ σ'.out = σ.out := by
  intro σ'
  have hold : ∀ c, c < σ.heap.size → (paramEntry σ p lp ⟨.list A, sa⟩).heap[c]? = σ.heap[c]? :=
    fun c hc => paramEntry_old σ p lp _ hc
  have hlp := (getList_congr (hold A (getList_lt hl))).trans hl
  have hga' : scopeGet σ' sc a = some ⟨.list A, sa⟩ := (scopeGet_set_list _ hlp _ a).trans (scopeGet_some_frame hold ha)
  have hl' : σ'.getList A = some (listSet items i v) := getList_set_same _ hlp
  have hcall : evalCall (n + 8) σ sc (.mk (.Var f) lf) [.mk (.mk (.Var a) la) false] lc = .ok (SVal.plain .null) σ' := by
    rw [call1_spec (n + 4) lf la lp lc hf hfr hp ha,
      index_lit_assign_stmts lp2 li ls _ he (paramEntry_param σ clo p lp _) hlp hi (by omega), evalStmts_nil]
    rfl
  exact ⟨hcall, fun rest => call_stmts rest hcall (by omega), hga', hl',
    fun j l1 l2 l3 => var_index_read j l1 l2 l3 hga' hl' (listSet_get_same items i v hi),
    fun c hc hcA => (set_other _ _ _ hcA).trans (hold c hc), rfl⟩

/-- **`fn g(p) { p = e; }` … `g(a); rest`**: assigning the parameter re-binds the callee's own variable — the state
    after the call is the entry state with `p ↦` the new value: no cell that existed has changed, whatever `a` holds -/
theorem argument_rebind_local {n : Nat} {σ : State} {sc clo : List Addr} {g a p : List Char} {F : Addr} {arg : SVal}
    {name : Option (List Char)} {e : Expr} {v : SVal} (lp lp2 lf la lc : Loc)
    (hf : scopeGet σ sc g = some ⟨.func F, none⟩)
    (hfr : σ.getFunc F = some ⟨name, [.mk (.Var p) lp], false, [.Assign (.mk (.Var p) lp2) e], clo⟩)
    (hp : p ≠ c!"_") (ha : scopeGet σ sc a = some arg)
    (he : evalExpr n (C05P.paramEntry σ p lp arg) (σ.heap.size :: clo) e = .ok v (C05P.paramEntry σ p lp arg)) :
    let σ' := C05P.paramEntry σ p lp v
    evalCall (n + 8) σ sc (.mk (.Var g) lf) [.mk (.mk (.Var a) la) false] lc = .ok (SVal.plain .null) σ' ∧
    (∀ rest, evalStmts (n + 11) σ sc
        (.Expr (.mk (.Call (.mk (.Var g) lf) [.mk (.mk (.Var a) la) false]) lc) :: rest) =
      evalStmts (n + 10) σ' sc rest) ∧
    scopeGet σ' sc a = some arg ∧
    (∀ c, c < σ.heap.size → σ'.heap[c]? = σ.heap[c]?) ∧
    (∀ A items, σ.getList A = some items → σ'.getList A = some items) ∧
    (∀ A m, σ.getObj A = some m → σ'.getObj A = some m) ∧ σ'.out = σ.out := by
  intro σ'
  have hold : ∀ c, c < σ.heap.size → σ'.heap[c]? = σ.heap[c]? := fun c hc => paramEntry_old σ p lp v hc
  have hcall : evalCall (n + 8) σ sc (.mk (.Var g) lf) [.mk (.mk (.Var a) la) false] lc = .ok (SVal.plain .null) σ' := by
    have hst := assign_var_stmt (n := n) (sc := clo) lp2 (evalExpr_fuel_mono he ok_ne_timeout (Nat.le_succ n)) hp
      (paramEntry_scope σ p lp arg) (lookup_cons_same p arg lp [])
    rw [setVal_head] at hst
    rw [call1_spec (n + 4) lf la lp lc hf hfr hp ha, stmts_step _ hst (by omega), evalStmts_nil]
    unfold paramEntry
    rw [set_set]
    rfl
  exact ⟨hcall, fun rest => call_stmts rest hcall (by omega), scopeGet_some_frame hold ha, hold,
    fun A items h => (getList_congr (hold A (getList_lt h))).trans h,
    fun A m h => (getObj_congr (hold A (getObj_lt h))).trans h, rfl⟩

def sl (a : Addr) : SVal := SVal.plain (.list a)
def e9 : Expr := .mk (.Int 9) (9, 9)
/-- `fn f(p) { p[0] = 9; }` and `fn g(p) { p = 9; }`, closed over the global scope -/
def frF : FuncRec :=
  ⟨some c!"f", [.mk (.Var c!"p") (4, 5)], false,
    [.Assign (.mk (.Index (.mk (.Var c!"p") (4, 10)) (.mk (.Int (Int.ofNat 0)) (4, 12))) (4, 11)) e9], [0]⟩
def frG : FuncRec := ⟨some c!"g", [.mk (.Var c!"p") (5, 5)], false, [.Assign (.mk (.Var c!"p") (5, 10)) e9], [0]⟩
/-- scope 0: `a ↦ list 1`, `o ↦ object 3`, `n ↦ 7`, `f ↦ func 4`, `g ↦ func 5`; list 1 = `[list 2, 5]` (its first element
    is itself a list), list 2 = `[1]`, object 3 = `{"k": 1}` -/
def msP : ScopeMap :=
  [(c!"a", sl 1, (1, 0)), (c!"o", SVal.plain (.obj 3), (2, 0)), (c!"n", sv 7, (3, 0)),
   (c!"f", SVal.plain (.func 4), (4, 3)), (c!"g", SVal.plain (.func 5), (5, 3))]
def σP : State :=
  ⟨#[.scope msP, .list [sl 2, sv 5], .list [sv 1], .obj [(c!"k", sv 1)], .func frF, .func frG], []⟩

theorem e9_pure (n : Nat) (σ : State) (sc : List Addr) : evalExpr (n + 1) σ sc e9 = .ok (sv 9) σ := by
  unfold e9; rw [evalExpr]; rfl

/-- `d := a; d[1] = 9;` in `σP`: cell 1 becomes `[list 2, 9]`, the scope cell gets `d ↦ list 1` -/
example :
    evalStmts 8 σP [0]
      [.Declare (.mk (.Var c!"d") (6, 0)) (.mk (.Var c!"a") (6, 5)),
       .Assign (.mk (.Index (.mk (.Var c!"d") (7, 0)) (.mk (.Int (Int.ofNat 1)) (7, 2))) (7, 1)) e9] =
      evalStmts 6 ((σP.set 0 (.scope ((c!"d", sl 1, (6, 0)) :: msP))).set 1 (.list [sl 2, sv 9])) [0] [] :=
  (alias_mutation_visible (n := 1) (σ := σP) (sc' := []) (ms := msP) (a := c!"a") (b := c!"d") (A := 1) (sa := none)
    (la := (1, 0)) (items := [sl 2, sv 5]) (i := 1) (e := e9) (v := sv 9) (6, 0) (6, 5) (7, 0) (7, 2) (7, 1)
    (by rfl) (by decide) (by decide) (by decide) (by rfl) (by decide) (e9_pure 0 _ _)).1 []

/-- `d := a; d[1] = [];` in `σP`: the right-hand side allocates (cell 6) before the write -/
example :
    evalStmts 9 σP [0]
      [.Declare (.mk (.Var c!"d") (6, 0)) (.mk (.Var c!"a") (6, 5)),
       .Assign (.mk (.Index (.mk (.Var c!"d") (7, 0)) (.mk (.Int (Int.ofNat 1)) (7, 2))) (7, 1)) (.mk (.List [] false) (7, 7))] =
      evalStmts 7 (((σP.set 0 (.scope ((c!"d", sl 1, (6, 0)) :: msP))).alloc (.list [])).2.set 1 (.list [sl 2, sl 6])) [0] [] :=
  (alias_mutation_visible_effects (n := 2) (σ := σP) (sc' := []) (ms := msP) (a := c!"a") (b := c!"d") (A := 1) (sa := none)
    (σ2 := ((σP.set 0 (.scope ((c!"d", sl 1, (6, 0)) :: msP))).alloc (.list [])).2) (sa2 := none) (sb2 := none)
    (la := (1, 0)) (items2 := [sl 2, sv 5]) (i := 1) (v := sl 6) (6, 0) (6, 5) (7, 0) (7, 2) (7, 1)
    (by rfl) (by decide) (by decide) (by decide) (by with_unfolding_all rfl) (by rfl) (by rfl) (by rfl) (by decide)).1 []

/-- `p := o; p.k = 9;` and `p := o; p["j"] = 9;` in `σP` -/
example :
    evalStmts 6 σP [0]
      [.Declare (.mk (.Var c!"p") (6, 0)) (.mk (.Var c!"o") (6, 5)),
       .Assign (.mk (.Prop (.mk (.Var c!"p") (7, 0)) c!"k" false) (7, 1)) e9] =
      evalStmts 4 ((σP.set 0 (.scope ((c!"p", SVal.plain (.obj 3), (6, 0)) :: msP))).set 3 (.obj [(c!"k", sv 9)])) [0] [] :=
  (alias_mutation_visible_prop (n := 1) (σ := σP) (sc' := []) (ms := msP) (a := c!"o") (b := c!"p") (k := c!"k") (A := 3)
    (sa := none) (la := (2, 0)) (m := [(c!"k", sv 1)]) (e := e9) (v := sv 9) (6, 0) (6, 5) (7, 0) (7, 1)
    (by rfl) (by decide) (by decide) (by decide) (by rfl) (e9_pure 0 _ _)).1 []

example :
    evalStmts 6 σP [0]
      [.Declare (.mk (.Var c!"p") (6, 0)) (.mk (.Var c!"o") (6, 5)),
       .Assign (.mk (.Index (.mk (.Var c!"p") (7, 0)) (.mk (.Str c!"j" none) (7, 2))) (7, 1)) e9] =
      evalStmts 4 ((σP.set 0 (.scope ((c!"p", SVal.plain (.obj 3), (6, 0)) :: msP))).set 3
        (.obj [(c!"j", sv 9), (c!"k", sv 1)])) [0] [] :=
  (alias_mutation_visible_key (n := 1) (σ := σP) (sc' := []) (ms := msP) (a := c!"o") (b := c!"p") (k := c!"j") (A := 3)
    (sa := none) (la := (2, 0)) (m := [(c!"k", sv 1)]) (e := e9) (ke := .mk (.Str c!"j" none) (7, 2)) (v := sv 9)
    (6, 0) (6, 5) (7, 0) (7, 1)
    (by rfl) (by decide) (by decide) (by decide) (by rfl) (e9_pure 0 _ _)
    (toStr_lit 0 _ _ _ c!"j" (7, 2) (by rfl))).1 []

/-- `d := [a..]; d[1] = 9;` (and the three other copying forms) in `σP`: the new cell 6 is `[list 2, 9]`, cell 1 is
    untouched, and `d[0] === a[0]` — the shared inner list, cell 2 — is true -/
example :
    let σ3 := ((σP.alloc (.list [sl 2, sv 5])).2.set 0 (.scope ((c!"d", sl 6, (6, 0)) :: msP))).set 6 (.list [sl 2, sv 9])
    evalStmts 8 σP [0]
      [.Declare (.mk (.Var c!"d") (6, 0)) (.mk (.List [.mk (.mk (.Var c!"a") (6, 6)) true] false) (6, 5)),
       .Assign (.mk (.Index (.mk (.Var c!"d") (7, 0)) (.mk (.Int (Int.ofNat 1)) (7, 2))) (7, 1)) e9] =
      evalStmts 6 σ3 [0] [] ∧
    σ3.getList 1 = some [sl 2, sv 5] ∧
    evalExpr 5 σ3 [0]
      (.mk (.BinaryOp .RefEq (8, 5)
        (.mk (.Index (.mk (.Var c!"d") (8, 0)) (.mk (.Int (Int.ofNat 0)) (8, 2))) (8, 1))
        (.mk (.Index (.mk (.Var c!"a") (8, 9)) (.mk (.Int (Int.ofNat 0)) (8, 11))) (8, 10))) (8, 5)) =
      .ok (SVal.plain (.bool true)) σ3 := by
  have h := copy_mutation_invisible (n := 1) (a := c!"a") (A := 1) (sa := none) (la := (1, 0)) (i := 1) (e := e9) (v := sv 9)
    (6, 0) (7, 0) (7, 2) (7, 1)
    (copy_by_spread (σ := σP) (A0 := 0) (sc' := []) (ms := msP) (a := c!"a") (b := c!"d") (A := 1) (s := none)
      (items := [sl 2, sv 5]) 0 (6, 0) (6, 6) (6, 5) (by rfl) (by rfl) (by rfl) (by decide) (by decide))
    (by decide) (by rfl) (by decide) (by decide) (by rfl) (by decide) (e9_pure 0 _ _)
  exact ⟨h.1 [], h.2.1, h.2.2.2.2.2.2.2.2.1 0 2 none none (by decide) (by rfl) (by rfl) 0 _ _ _ _ _ _ _ _⟩

example : C05P.FreshCopy 4 σP 0 [] msP
    (.Declare (.mk (.Var c!"d") (6, 0)) (.mk (.BinaryOp .Sum (6, 7) (.mk (.Var c!"a") (6, 5)) (.mk (.List [] false) (6, 9))) (6, 7)))
    c!"d" (6, 0) 7 [sl 2, sv 5] ((σP.alloc (.list [])).2.alloc (.list [sl 2, sv 5])).2 :=
  copy_by_sum (a := c!"a") (A := 1) (s := none) 0 (6, 0) (6, 5) (6, 7) (6, 9) (6, 7) (by rfl) (by rfl) (by rfl)
    (by decide) (by decide)

example : C05P.FreshCopy 6 σP 0 [] msP
    (.Declare (.mk (.Var c!"d") (6, 0)) (.mk (.RangeIndex (.mk (.Var c!"a") (6, 5)) (some (.mk (.Int (Int.ofNat 0)) (6, 7)))
      (some (.mk (.Int (Int.ofNat 2)) (6, 9)))) (6, 6)))
    c!"d" (6, 0) 6 [sl 2, sv 5] (σP.alloc (.list [sl 2, sv 5])).2 :=
  copy_by_range (a := c!"a") (A := 1) (s := none) (items := [sl 2, sv 5]) 0 2 (6, 0) (6, 5) (6, 7) (6, 9) (6, 6)
    (by rfl) (by rfl) (by rfl) (by decide) (by decide) (by decide)

example : C05P.FreshCopy 5 σP 0 [] msP
    (.Declare (.mk (.List [.mk (.mk (.Var c!"d") (6, 3)) false] true) (6, 0)) (.mk (.Var c!"a") (6, 10)))
    c!"d" (6, 3) 6 [sl 2, sv 5] (σP.alloc (.list [sl 2, sv 5])).2 :=
  copy_by_collect (a := c!"a") (A := 1) (s := none) 0 (6, 3) (6, 10) (6, 0) (by rfl) (by rfl) (by rfl)
    (by decide) (by decide)

/-- `m := n; m += 9;` in `σP`: `n` still reads 7, `m` reads 16 -/
example :
    let σ4 := σP.set 0 (.scope ((c!"m", sv 16, (6, 0)) :: msP))
    evalStmts 5 σP [0]
      [.Declare (.mk (.Var c!"m") (6, 0)) (.mk (.Var c!"n") (6, 5)),
       .OpAssign (.mk (.Var c!"m") (7, 0)) .Sum (7, 2) e9] = evalStmts 3 σ4 [0] [] ∧
    evalExpr 1 σ4 [0] (.mk (.Var c!"n") (8, 0)) = .ok (sv 7) σ4 := by
  have h := int_copy_independent (n := 1) (σ := σP) (A0 := 0) (sc' := []) (ms := msP) (a := c!"n") (b := c!"m") (x := 7) (y := 9)
    (sx := none) (sy := none) (la := (3, 0)) (e := e9) (6, 0) (6, 5) (7, 0) (7, 2)
    (by rfl) (by decide) (by decide) (by decide) (e9_pure 0 _ _) (by decide)
  exact ⟨h.1 [], h.2.1 0 _⟩

/-- `m := n; m = 9;` -/
example :
    evalStmts 5 σP [0]
      [.Declare (.mk (.Var c!"m") (6, 0)) (.mk (.Var c!"n") (6, 5)), .Assign (.mk (.Var c!"m") (7, 0)) e9] =
      evalStmts 3 (σP.set 0 (.scope ((c!"m", sv 9, (6, 0)) :: msP))) [0] [] :=
  (copy_then_assign_independent (n := 1) (σ := σP) (sc' := []) (ms := msP) (a := c!"n") (b := c!"m") (va := sv 7)
    (ve := sv 9) (la := (3, 0)) (e := e9) (6, 0) (6, 5) (7, 0)
    (by rfl) (by decide) (by decide) (by decide) (e9_pure 0 _ _)).1 []

/-- `d := a; d += [9];` in `σP`: cell 1 is untouched, `d` is re-bound to the new cell 7 = `[list 2, 5, 9]` -/
example :
    let σ4 := ((((σP.set 0 (.scope ((c!"d", sl 1, (6, 0)) :: msP))).alloc (.list [sv 9])).2.alloc
      (.list [sl 2, sv 5, sv 9])).2).set 0 (.scope ((c!"d", sl 7, (6, 0)) :: msP))
    evalStmts 6 σP [0]
      [.Declare (.mk (.Var c!"d") (6, 0)) (.mk (.Var c!"a") (6, 5)),
       .OpAssign (.mk (.Var c!"d") (7, 0)) .Sum (7, 2) (.mk (.List [.mk e9 false] false) (7, 5))] =
      evalStmts 4 σ4 [0] [] ∧ σ4.getList 1 = some [sl 2, sv 5] := by
  have h := opassign_rebinds_not_mutates (n := 1) (σ := σP) (A0 := 0) (sc' := []) (ms := msP) (a := c!"a") (b := c!"d") (A := 1)
    (sa := none) (la := (1, 0)) (items := [sl 2, sv 5]) (x := e9) (vx := sv 9) (6, 0) (6, 5) (7, 0) (7, 2) (7, 5)
    (by rfl) (by decide) (by decide) (by decide) (by rfl) (e9_pure 0 _ _)
  exact ⟨h.1 [], h.2.1⟩

/-- `f(a);` with `fn f(p) { p[0] = 9; }` in `σP`: cell 1 becomes `[9, 5]`; `g(a);` with `fn g(p) { p = 9; }`: no cell that
    existed changes -/
example :
    evalCall 9 σP [0] (.mk (.Var c!"f") (6, 0)) [.mk (.mk (.Var c!"a") (6, 2)) false] (6, 1) =
      .ok (SVal.plain .null) ((C05P.paramEntry σP c!"p" (4, 5) (sl 1)).set 1 (.list [sv 9, sv 5])) :=
  (argument_alias (n := 1) (σ := σP) (sc := [0]) (clo := [0]) (f := c!"f") (a := c!"a") (p := c!"p") (F := 4) (A := 1)
    (sa := none) (name := some c!"f") (items := [sl 2, sv 5]) (i := 0) (e := e9) (v := sv 9)
    (4, 5) (4, 10) (4, 12) (4, 11) (6, 0) (6, 2) (6, 1)
    (by rfl) (by rfl) (by decide) (by rfl) (by rfl) (by decide) (e9_pure 0 _ _)).1

example :
    evalCall 9 σP [0] (.mk (.Var c!"g") (6, 0)) [.mk (.mk (.Var c!"a") (6, 2)) false] (6, 1) =
      .ok (SVal.plain .null) (C05P.paramEntry σP c!"p" (5, 5) (sv 9)) ∧
    (C05P.paramEntry σP c!"p" (5, 5) (sv 9)).getList 1 = some [sl 2, sv 5] := by
  have h := argument_rebind_local (n := 1) (σ := σP) (sc := [0]) (clo := [0]) (g := c!"g") (a := c!"a") (p := c!"p") (F := 5)
    (arg := sl 1) (name := some c!"g") (e := e9) (v := sv 9) (5, 5) (5, 10) (6, 0) (6, 2) (6, 1)
    (by rfl) (by rfl) (by decide) (by rfl) (e9_pure 0 _ _)
  exact ⟨h.1, h.2.2.2.2.1 1 _ (by rfl)⟩

/-- (1) a mutation through an alias is seen through the other name, for lists and objects -/
example : (run 100 c!"t.sd" c!"a := [1, 2];\nb := a;\nb[0] = 9;\nprint(a[0]);\nprint(a === b);\n").out =
    [c!"9", c!"true"] := by decide +kernel

example : (run 100 c!"t.sd"
    c!"o := {\"k\": 1};\np := o;\np.k = 2;\nprint(o.k);\np[\"j\"] = 3;\nprint(o[\"j\"]);\nprint(o === p);\n").out =
    [c!"2", c!"3", c!"true"] := by decide +kernel

/-- (2) the four copying forms give a different container … -/
example : (run 100 c!"t.sd" c!"a := [1, 2];\nc := [a..];\nc[1] = 7;\nprint(a[1]);\nprint(a === c);\n").out =
    [c!"2", c!"false"] := by decide +kernel
example : (run 100 c!"t.sd" c!"a := [1, 2];\nc := a + [];\nc[1] = 7;\nprint(a[1]);\nprint(a === c);\n").out =
    [c!"2", c!"false"] := by decide +kernel
example : (run 100 c!"t.sd" c!"a := [1, 2];\nc := a[0:2];\nc[1] = 7;\nprint(a[1]);\nprint(a === c);\n").out =
    [c!"2", c!"false"] := by decide +kernel
example : (run 100 c!"t.sd" c!"a := [1, 2];\n[..c] := a;\nc[1] = 7;\nprint(a[1]);\nprint(a === c);\n").out =
    [c!"2", c!"false"] := by decide +kernel

/-- … that shares the elements: the inner list is the same cell -/
example : (run 100 c!"t.sd"
    c!"a := [[1], 2];\nc := [a..];\nc[1] = 7;\nprint(c[0] === a[0]);\nc[0][0] = 5;\nprint(a[0][0]);\n").out =
    [c!"true", c!"5"] := by decide +kernel

/-- (3) scalars are copied -/
example : (run 100 c!"t.sd"
    c!"n := 7;\nm := n;\nm += 1;\nprint(n);\nprint(m);\ns := \"x\";\nt := s;\nt += \"y\";\nprint(s);\nt = \"z\";\nprint(s);\n").out =
    [c!"7", c!"8", c!"x", c!"x"] := by decide +kernel

/-- (4) a parameter assignment is local, a mutation through the parameter is not -/
example : (run 100 c!"t.sd"
    c!"fn f(p) { p[0] = 9; }\nfn g(p) { p = [9]; }\na := [1, 2];\ng(a);\nprint(a[0]);\nf(a);\nprint(a[0]);\n").out =
    [c!"1", c!"9"] := by decide +kernel

/-- (5) `+=` on a list re-binds -/
example : (run 100 c!"t.sd" c!"a := [1, 2];\nb := a;\nb += [3];\nprint(a === b);\nprint(b[2]);\nprint(a == [1, 2]);\n").out =
    [c!"false", c!"3", c!"true"] := by decide +kernel

end Seed.C05
