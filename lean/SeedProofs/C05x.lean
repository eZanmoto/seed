/-
  C05x — property theorems of C05 that are proved on top of C05.lean (Lemmas/C05SelfStore.lean imports it).

  A container in its own slot; builders are fresh even when the result is empty.
  `self_store_is_alias` / `_obj`: `x[i] = x`, `o.k = o`, `o["k"] = o` store the container ITSELF (same address, nothing
  allocated): `x[i] === x` is true and a later write through one path is read through the other (`self_store_then_write`).
  `builders_fresh_even_when_empty`: the eight building forms — `[]`, `[ys..]`, `xs + ys`, `a .. b`, `xs[k:k]`, `xs[len:]`, the
  collector of a list pattern with nothing left, a rest parameter with no surplus — each allocate a new cell at the old heap
  size whose contents are `[]`; `later_build_differs`: two evaluations never give the same address (`refEq` false both ways).
-/
import SeedProofs.Lemmas.C05SelfStore
-- audit: Seed.C05S.self_store_is_alias Seed.C05S.self_store_then_write Seed.C05S.self_store_is_alias_obj Seed.C05S.self_store_then_write_obj Seed.C05S.builders_fresh_even_when_empty Seed.C05S.later_build_differs Seed.C05S.builds_around_stmts_differ Seed.C05S.range_empty_fresh Seed.C05S.range_tail_empty_fresh Seed.C05S.collect_rest_empty Seed.C05S.rest_param_fresh Seed.C05S.rest_param_fresh_empty Seed.C05S.sum_empty_fresh Seed.C05S.int_range_empty_fresh
