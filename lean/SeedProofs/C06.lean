/-
  C06 — integer arithmetic is exact over 64 bits or reports an error.

  Property theorems about the model's primitives (`applyBinOp`/`arith`, `lexInt`, `parseAtom`, `intRange`,
  `bindNextName`, `opAssignValue`) and, for op-assignment, through the fuel-indexed evaluator (using fuel
  monotonicity G1, `Global.lean`).
-/
import SeedProofs.Lemmas.C06Int
import SeedProofs.Global
import SeedModel.Run
namespace Seed.C06
open Seed

/-! ## the reference: exact integer arithmetic -/

/-- the mathematically exact result of an arithmetic operator (`/` truncates toward zero, `%` is its remainder) -/
def exact : BinaryOp → Int → Int → Int
  | .Sum, a, b => a + b
  | .Sub, a, b => a - b
  | .Mul, a, b => a * b
  | .Div, a, b => Int.tdiv a b
  | .Mod, a, b => Int.tmod a b
  | _, _, _ => 0

def IsArith (op : BinaryOp) : Prop := op = .Sum ∨ op = .Sub ∨ op = .Mul ∨ op = .Div ∨ op = .Mod
def NeedsDivisor (op : BinaryOp) : Prop := op = .Div ∨ op = .Mod

/-- the operation has a result: it fits 64 bits and the divisor (if the operator has one) is not zero -/
def Defined (op : BinaryOp) (a b : Int) : Prop := inI64 (exact op a b) = true ∧ (NeedsDivisor op → b ≠ 0)

instance (op : BinaryOp) : Decidable (IsArith op) := by unfold IsArith; infer_instance
instance (op : BinaryOp) : Decidable (NeedsDivisor op) := by unfold NeedsDivisor; infer_instance
instance (op : BinaryOp) (a b : Int) : Decidable (Defined op a b) := by unfold Defined; infer_instance

/-- on two integers every arithmetic operator is `arith` (no other arm of `apply_binary_operation` is taken) -/
theorem applyBinOp_int {op : BinaryOp} (hop : IsArith op) (fuel : Nat) (σ : State) (loc : Loc) (a b : Int) :
    applyBinOp fuel σ op loc (.int a) (.int b) = arith op loc a b σ := by
  rcases hop with rfl | rfl | rfl | rfl | rfl <;> rfl

example : IsArith .Mul ∧ ¬ IsArith .Lt := by decide

/-! ## exact or error -/

/-- `arith`, the five operators at once: a zero divisor is the diagnostic; otherwise the exact result if it fits 64 bits
    (the remainder is not tested) and the diagnostic if it does not -/
theorem arith_cases {op : BinaryOp} (hop : IsArith op) (loc : Loc) (a b : Int) (σ : State) :
    arith op loc a b σ =
      if NeedsDivisor op ∧ b = 0 then .err (intOverflow op loc a b) σ
      else if op = .Mod ∨ inI64 (exact op a b) = true then .ok (.int (exact op a b)) σ
      else .err (intOverflow op loc a b) σ := by
  rcases hop with rfl | rfl | rfl | rfl | rfl <;> simp [arith, exact, NeedsDivisor]

/-- whenever the exact result exists it is the answer, and the state is untouched -/
theorem arith_exact_ok {op : BinaryOp} (hop : IsArith op) {a b : Int} (hd : Defined op a b)
    (fuel : Nat) (σ : State) (loc : Loc) :
    applyBinOp fuel σ op loc (.int a) (.int b) = .ok (.int (exact op a b)) σ := by
  rw [applyBinOp_int hop, arith_cases hop, if_neg (fun h => hd.2 h.1 h.2), if_pos (Or.inr hd.1)]

example : Defined .Mul 3037000499 3037000499 := by decide
example : Defined .Div (-9223372036854775807) (-1) := by decide
example : Defined .Mod (-9223372036854775808) (-1) := by decide

/-- otherwise — the exact result does not fit, or the divisor is zero — the answer is the overflow diagnostic naming
    the operator and both operands; nothing is wrapped or saturated -/
theorem arith_exact_err {op : BinaryOp} (hop : IsArith op) {a b : Int} (ha : inI64 a = true)
    (hd : ¬ Defined op a b) (fuel : Nat) (σ : State) (loc : Loc) :
    applyBinOp fuel σ op loc (.int a) (.int b) = .err (intOverflow op loc a b) σ := by
  rw [applyBinOp_int hop, arith_cases hop]
  by_cases hz : NeedsDivisor op ∧ b = 0
  · rw [if_pos hz]
  · rw [if_neg hz, if_neg]
    rintro (rfl | hr)
    · exact hd ⟨tmod_inI64 b ha, fun _ hb => hz ⟨Or.inr rfl, hb⟩⟩
    · exact hd ⟨hr, fun hn hb => hz ⟨hn, hb⟩⟩

example : inI64 (-9223372036854775808) = true ∧ ¬ Defined .Div (-9223372036854775808) (-1) := by decide
example : ¬ Defined .Mod 1 0 := by decide
example : ¬ Defined .Mul 3037000500 3037000500 := by decide
example : ¬ Defined .Sub (-9223372036854775808) 1 := by decide

/-- **C06, arithmetic.**  On 64-bit operands the answer is the exact result iff that result exists, and is the
    overflow diagnostic iff it does not; there is no third outcome. -/
theorem arith_exact {op : BinaryOp} (hop : IsArith op) {a b : Int} (ha : inI64 a = true)
    (fuel : Nat) (σ : State) (loc : Loc) :
    (Defined op a b → applyBinOp fuel σ op loc (.int a) (.int b) = .ok (.int (exact op a b)) σ) ∧
    (¬ Defined op a b → applyBinOp fuel σ op loc (.int a) (.int b) = .err (intOverflow op loc a b) σ) :=
  ⟨fun hd => arith_exact_ok hop hd fuel σ loc, fun hd => arith_exact_err hop ha hd fuel σ loc⟩

/-- a value that comes back is the exact result, fits 64 bits, and the state is the one given -/
theorem never_wrapped {op : BinaryOp} (hop : IsArith op) {a b : Int} (ha : inI64 a = true)
    {fuel : Nat} {σ σ' : State} {loc : Loc} {v : Val}
    (h : applyBinOp fuel σ op loc (.int a) (.int b) = .ok v σ') :
    v = .int (exact op a b) ∧ inI64 (exact op a b) = true ∧ σ' = σ := by
  by_cases hd : Defined op a b
  · rw [arith_exact_ok hop hd] at h
    cases h
    exact ⟨rfl, hd.1, rfl⟩
  · rw [arith_exact_err hop ha hd] at h
    cases h

example : applyBinOp 0 State.init .Div (1, 1) (.int (-7)) (.int 2) = .ok (.int (-3)) State.init := by rfl

/-- the diagnostic text names the operation and both operands: `'<a> <op> <b>' caused an integer overflow` -/
theorem overflow_msg (op : BinaryOp) (a b : Int) :
    (Gen.Leaf.IntOverflow op a b).msg =
      c!"'" ++ intToChars a ++ c!" " ++ Gen.opSymbol op ++ c!" " ++ intToChars b ++ c!"' caused an integer overflow" := rfl

/-- the symbols printed for the five arithmetic operators -/
theorem arith_symbols :
    Gen.opSymbol .Sum = c!"+" ∧ Gen.opSymbol .Sub = c!"-" ∧ Gen.opSymbol .Mul = c!"*" ∧
    Gen.opSymbol .Div = c!"/" ∧ Gen.opSymbol .Mod = c!"%" := ⟨rfl, rfl, rfl, rfl, rfl⟩

/-- where the operators can fail at all: `%` only on a zero divisor … -/
theorem mod_defined_iff {a b : Int} (ha : inI64 a = true) : Defined .Mod a b ↔ b ≠ 0 :=
  ⟨fun h => h.2 (Or.inr rfl), fun hb => ⟨tmod_inI64 b ha, fun _ => hb⟩⟩

/-- … and `/` only on a zero divisor or on `-2^63 / -1` -/
theorem div_defined_iff {a b : Int} (ha : inI64 a = true) :
    Defined .Div a b ↔ b ≠ 0 ∧ ¬ (a = -9223372036854775808 ∧ b = -1) := by
  constructor
  · rintro ⟨hr, hz⟩
    refine ⟨hz (Or.inl rfl), ?_⟩
    rintro ⟨rfl, rfl⟩
    revert hr; decide
  · rintro ⟨hb, hne⟩
    exact ⟨tdiv_inI64 ha hb hne, fun _ => hb⟩

/-! ## division and remainder -/

/-- `(a/b)*b + a%b = a` -/
theorem div_mod_law (a b : Int) : Int.tdiv a b * b + Int.tmod a b = a := Int.tdiv_mul_add_tmod a b

/-- the remainder is zero or has the dividend's sign -/
theorem mod_sign (a b : Int) : Int.tmod a b = 0 ∨ (Int.tmod a b).sign = a.sign := by
  have hb := tmod_between a b
  by_cases h0 : Int.tmod a b = 0
  · exact Or.inl h0
  · right
    by_cases ha : 0 ≤ a
    · have := hb.1 ha
      have hr : 0 < Int.tmod a b := by omega
      rw [Int.sign_eq_one_of_pos hr, Int.sign_eq_one_of_pos (by omega)]
    · have := hb.2 (by omega)
      have hr : Int.tmod a b < 0 := by omega
      rw [Int.sign_eq_neg_one_of_neg hr, Int.sign_eq_neg_one_of_neg (by omega)]

/-- the remainder is smaller in magnitude than the divisor -/
theorem mod_lt_divisor (a b : Int) (hb : b ≠ 0) : (Int.tmod a b).natAbs < b.natAbs := by
  have := tmod_bounds a b hb
  by_cases ha : 0 ≤ a
  · have := this.1 ha; omega
  · have := this.2 (by omega); omega

/-- “truncating toward zero, remainder with the dividend's sign” determines quotient and remainder:
    `Int.tdiv`/`Int.tmod` are the only pair satisfying the three clauses of the statement -/
theorem trunc_div_unique {a b q r : Int} (hb : b ≠ 0) (hlaw : q * b + r = a) (hlt : r.natAbs < b.natAbs)
    (hsign : r = 0 ∨ r.sign = a.sign) : q = Int.tdiv a b ∧ r = Int.tmod a b := by
  have hlaw' : r + b * q = a := by rw [Int.mul_comm b q]; omega
  by_cases ha : 0 ≤ a
  · have hr : 0 ≤ r := by
      rcases hsign with h | h
      · omega
      · exact Int.sign_nonneg_iff.mp (h ▸ Int.sign_nonneg_iff.mpr ha)
    have := (Int.tdiv_tmod_unique ha hb).mpr ⟨hlaw', hr, by omega⟩
    exact ⟨this.1.symm, this.2.symm⟩
  · have hr : r ≤ 0 := by
      rcases hsign with h | h
      · omega
      · exact Int.sign_nonpos_iff.mp (h ▸ Int.sign_nonpos_iff.mpr (by omega))
    have := (Int.tdiv_tmod_unique' (by omega) hb).mpr ⟨hlaw', by omega, hr⟩
    exact ⟨this.1.symm, this.2.symm⟩

example : (-3 : Int) * 2 + (-1) = -7 ∧ (-1 : Int).natAbs < (2 : Int).natAbs ∧ (-1 : Int).sign = (-7 : Int).sign := by decide

/-- the law holds *in the language*: whenever `a / b` has a result, `(a / b) * b + a % b` evaluates, without
    overflow in any intermediate step, to `a` -/
theorem div_mod_law_evaluates {a b : Int} (ha : inI64 a = true) (hd : Defined .Div a b)
    (fuel : Nat) (σ : State) (loc : Loc) :
    applyBinOp fuel σ .Div loc (.int a) (.int b) = .ok (.int (Int.tdiv a b)) σ ∧
    applyBinOp fuel σ .Mod loc (.int a) (.int b) = .ok (.int (Int.tmod a b)) σ ∧
    applyBinOp fuel σ .Mul loc (.int (Int.tdiv a b)) (.int b) = .ok (.int (Int.tdiv a b * b)) σ ∧
    applyBinOp fuel σ .Sum loc (.int (Int.tdiv a b * b)) (.int (Int.tmod a b)) = .ok (.int a) σ := by
  have hb : b ≠ 0 := hd.2 (Or.inl rfl)
  have hlaw := div_mod_law a b
  have hbet := tmod_between a b
  have ha' := (inI64_iff a).mp ha
  have hprod : inI64 (Int.tdiv a b * b) = true := by
    rw [inI64_iff]
    by_cases h0 : 0 ≤ a
    · have := hbet.1 h0; omega
    · have := hbet.2 (by omega); omega
  refine ⟨arith_exact_ok (Or.inr (Or.inr (Or.inr (Or.inl rfl)))) hd fuel σ loc,
    arith_exact_ok (Or.inr (Or.inr (Or.inr (Or.inr rfl)))) ((mod_defined_iff ha).mpr hb) fuel σ loc,
    arith_exact_ok (Or.inr (Or.inr (Or.inl rfl))) ⟨hprod, by rintro (h | h) <;> cases h⟩ fuel σ loc, ?_⟩
  have := arith_exact_ok (op := .Sum) (Or.inl rfl) (a := Int.tdiv a b * b) (b := Int.tmod a b)
    ⟨by simp only [exact]; rw [hlaw]; exact ha, by rintro (h | h) <;> cases h⟩ fuel σ loc
  simp only [exact] at this
  rw [hlaw] at this
  exact this

example : inI64 (-9223372036854775808) = true ∧ Defined .Div (-9223372036854775808) 3 := by decide

/-! ## comparisons -/

/-- `< <= > >=` on integers are the mathematical order; `==`/`!=` are equality and its negation -/
theorem cmp_exact (fuel : Nat) (σ : State) (loc : Loc) (a b : Int) :
    applyBinOp fuel σ .Lt loc (.int a) (.int b) = .ok (.bool (decide (a < b))) σ ∧
    applyBinOp fuel σ .Lte loc (.int a) (.int b) = .ok (.bool (decide (a ≤ b))) σ ∧
    applyBinOp fuel σ .Gt loc (.int a) (.int b) = .ok (.bool (decide (b < a))) σ ∧
    applyBinOp fuel σ .Gte loc (.int a) (.int b) = .ok (.bool (decide (b ≤ a))) σ ∧
    applyBinOp (fuel + 1) σ .Eq loc (.int a) (.int b) = .ok (.bool (decide (a = b))) σ ∧
    applyBinOp (fuel + 1) σ .Ne loc (.int a) (.int b) = .ok (.bool (decide (a ≠ b))) σ := by
  have hbeq : (a == b) = decide (a = b) := by by_cases h : a = b <;> simp [h]
  refine ⟨rfl, rfl, rfl, rfl, ?_, ?_⟩
  · simp [applyBinOp, eqVal, hbeq]
  · simp [applyBinOp, eqVal, hbeq]

/-- exactly one of `a < b`, `a == b`, `a > b` is answered `true` -/
theorem cmp_trichotomy (a b : Int) :
    (decide (a < b) = true ∧ decide (a = b) = false ∧ decide (b < a) = false) ∨
    (decide (a < b) = false ∧ decide (a = b) = true ∧ decide (b < a) = false) ∨
    (decide (a < b) = false ∧ decide (a = b) = false ∧ decide (b < a) = true) := by
  simp only [decide_eq_true_eq, decide_eq_false_iff_not]
  omega

/-! ## integer literals -/

theorem takeWhile_run {α} (p : α → Bool) (raw tail : List α) (hraw : ∀ c ∈ raw, p c = true)
    (htail : ∀ c, tail.head? = some c → p c = false) : (raw ++ tail).takeWhile p = raw := by
  induction raw with
  | nil =>
    cases tail with
    | nil => rfl
    | cons c t => simp [htail c rfl]
  | cons c r ih =>
    have hc := hraw c List.mem_cons_self
    simp only [List.cons_append, List.takeWhile, hc]
    rw [ih (fun d hd => hraw d (List.mem_cons_of_mem _ hd))]

/-- the digits of a literal: the run of digits and `_` with the `_` removed -/
def digitsOf (raw : List Char) : List Char := raw.filter (fun c => c ≠ '_')

/-- `lexInt` in terms of the text of the literal -/
theorem lexInt_eq (s : Scanner) :
    lexInt s =
      if decimalValue (digitsOf (s.rest.takeWhile isIntChar)) ≤ 9223372036854775807
      then .ok (Token.IntLiteral (Int.ofNat (decimalValue (digitsOf (s.rest.takeWhile isIntChar)))),
        s.advance (s.rest.takeWhile isIntChar).length)
      else .error (LexError.IntOverflow s.loc (s.rest.takeWhile isIntChar)) := rfl

/-- **C06, literals.**  A literal whose text is `raw` (digits and `_`, ended by any other character or the end of
    input) denotes the decimal value of its digits when that is at most 2^63-1, and is a lexical error naming the
    text otherwise. -/
theorem int_literal_value (s : Scanner) (raw tail : List Char) (hs : s.rest = raw ++ tail)
    (hraw : ∀ c ∈ raw, isIntChar c = true) (htail : ∀ c, tail.head? = some c → isIntChar c = false) :
    lexInt s =
      if decimalValue (digitsOf raw) ≤ 9223372036854775807
      then .ok (Token.IntLiteral (Int.ofNat (decimalValue (digitsOf raw))), s.advance raw.length)
      else .error (LexError.IntOverflow s.loc raw) := by
  rw [lexInt_eq, hs, takeWhile_run isIntChar raw tail hraw htail]

example : (⟨c!"1_0 + 2", 1, 1⟩ : Scanner).rest = c!"1_0" ++ c!" + 2" ∧ (∀ c ∈ c!"1_0", isIntChar c = true) ∧
    (∀ c, (c!" + 2").head? = some c → isIntChar c = false) := by
  refine ⟨rfl, by decide, ?_⟩
  intro c h; cases h; decide

/-- the value of a literal that lexes is its decimal value and fits 64 bits -/
theorem int_literal_in_range {s s' : Scanner} {n : Int} (h : lexInt s = .ok (Token.IntLiteral n, s')) :
    n = Int.ofNat (decimalValue (digitsOf (s.rest.takeWhile isIntChar))) ∧ 0 ≤ n ∧ inI64 n = true := by
  rw [lexInt_eq] at h
  split at h
  · rename_i hle
    cases h
    exact ⟨rfl, Int.natCast_nonneg _,
      (inI64_iff _).mpr ⟨Int.le_trans (by decide) (Int.natCast_nonneg _), Int.ofNat_le.mpr hle⟩⟩
  · cases h

example : lexInt ⟨c!"9_223_372_036_854_775_807;", 1, 1⟩ =
    .ok (Token.IntLiteral 9223372036854775807, ⟨c!";", 1, 26⟩) := by rfl

/-- `_` separators are ignored: the outcome depends on the digits only -/
theorem underscores_ignored (s₁ s₂ : Scanner)
    (h : digitsOf (s₁.rest.takeWhile isIntChar) = digitsOf (s₂.rest.takeWhile isIntChar)) :
    (∀ n s₁', lexInt s₁ = .ok (Token.IntLiteral n, s₁') → ∃ s₂', lexInt s₂ = .ok (Token.IntLiteral n, s₂')) ∧
    ((∃ e, lexInt s₁ = .error e) → ∃ e, lexInt s₂ = .error e) := by
  rw [lexInt_eq s₁, lexInt_eq s₂, ← h]
  by_cases hle : decimalValue (digitsOf (s₁.rest.takeWhile isIntChar)) ≤ 9223372036854775807
  · rw [if_pos hle, if_pos hle]
    exact ⟨fun n s₁' h1 => (by cases h1; exact ⟨_, rfl⟩), fun ⟨e, h1⟩ => (by cases h1)⟩
  · rw [if_neg hle, if_neg hle]
    exact ⟨fun n s₁' h1 => (by cases h1), fun _ => ⟨_, rfl⟩⟩

example : digitsOf ((⟨c!"1_000_000 ", 1, 1⟩ : Scanner).rest.takeWhile isIntChar) =
    digitsOf ((⟨c!"10__00000", 3, 4⟩ : Scanner).rest.takeWhile isIntChar) := by decide

/-- the decimal value is positional: empty string 0, leading digit weighs 10^(digits after it), appending a digit
    multiplies by ten; leading zeros do not matter -/
theorem decimal_value_positional (d : Char) (ds : List Char) :
    decimalValue [] = 0 ∧
    decimalValue (d :: ds) = digitVal d * 10 ^ ds.length + decimalValue ds ∧
    decimalValue (ds ++ [d]) = decimalValue ds * 10 + digitVal d ∧
    decimalValue ('0' :: ds) = decimalValue ds :=
  ⟨rfl, decimalValue_cons d ds, decimalValue_snoc ds d, foldl_dec_zero_cons ds⟩

/-- the ten digit characters have the values 0 … 9 -/
theorem digit_values : (c!"0123456789").map digitVal = [0, 1, 2, 3, 4, 5, 6, 7, 8, 9] := by decide

/-- the boundary is exactly 2^63-1: `9223372036854775807` is a literal, `9223372036854775808` is an error
    carrying the literal's text and position -/
theorem literal_boundary :
    lexInt ⟨c!"9223372036854775807", 1, 1⟩ = .ok (Token.IntLiteral 9223372036854775807, ⟨[], 1, 19⟩) ∧
    lexInt ⟨c!"9223372036854775808", 1, 1⟩ = .error (LexError.IntOverflow (1, 1) c!"9223372036854775808") :=
  ⟨by rfl, by rfl⟩

/-- a `-` directly before an integer literal in operand position forms the negative literal -/
theorem neg_literal (fuel : Nat) (sp sp2 : Span) (k : Int) (r : List Span)
    (h1 : sp.tok = .Sub) (h2 : sp2.tok = .IntLiteral k) :
    parseAtom (fuel + 1) none (sp :: sp2 :: r) = .ok (.Int (-k)) r := by
  simp [parseAtom, h1, h2]

example : (⟨(1, 1), Token.Sub, (1, 1)⟩ : Span).tok = .Sub ∧ (⟨(1, 2), Token.IntLiteral 5, (1, 2)⟩ : Span).tok = .IntLiteral 5 :=
  ⟨rfl, rfl⟩

/-- every negative literal is in range, and `-2^63` is not the negation of any literal -/
theorem neg_literal_range {s s' : Scanner} {n : Int} (h : lexInt s = .ok (Token.IntLiteral n, s')) :
    inI64 (-n) = true ∧ -n ≠ -9223372036854775808 := by
  have := int_literal_in_range h
  have h2 := (inI64_iff n).mp this.2.2
  rw [inI64_iff]
  omega

/-! ## ranges -/

/-- **C06, ranges.**  `a .. b` has `(b - a).toNat` elements and its `i`-th element is `a + i` -/
theorem range_spec (a b : Int) :
    (intRange a b).length = (b - a).toNat ∧
    ∀ i (h : i < (intRange a b).length), (intRange a b)[i] = SVal.plain (.int (a + Int.ofNat i)) := by
  unfold intRange
  refine ⟨by simp, ?_⟩
  intro i h
  simp

/-- membership: exactly the integers `i` with `a ≤ i < b` -/
theorem range_mem (a b : Int) (v : SVal) :
    v ∈ intRange a b ↔ ∃ i : Int, a ≤ i ∧ i < b ∧ v = SVal.plain (.int i) := by
  unfold intRange
  simp only [List.mem_map, List.mem_range]
  constructor
  · rintro ⟨k, hk, rfl⟩
    exact ⟨a + Int.ofNat k, by simp only [Int.ofNat_eq_natCast]; omega, by simp only [Int.ofNat_eq_natCast]; omega, rfl⟩
  · rintro ⟨i, h1, h2, rfl⟩
    refine ⟨(i - a).toNat, by omega, ?_⟩
    have : a + Int.ofNat (i - a).toNat = i := by simp only [Int.ofNat_eq_natCast]; omega
    rw [this]

/-- an empty or reversed range is the empty list -/
theorem range_empty (a b : Int) (h : b ≤ a) : intRange a b = [] := by
  unfold intRange
  have : (b - a).toNat = 0 := by omega
  rw [this]; rfl

example : intRange 9223372036854775804 9223372036854775807 =
    [SVal.plain (.int 9223372036854775804), SVal.plain (.int 9223372036854775805), SVal.plain (.int 9223372036854775806)] := by
  decide

/-- with 64-bit bounds every element is a 64-bit integer -/
theorem range_inI64 (a b : Int) (ha : inI64 a = true) (hb : inI64 b = true) (v : SVal) (hv : v ∈ intRange a b) :
    ∃ i, v = SVal.plain (.int i) ∧ inI64 i = true := by
  obtain ⟨i, h1, h2, rfl⟩ := (range_mem a b v).mp hv
  refine ⟨i, rfl, ?_⟩
  rw [inI64_iff] at *
  omega

/-! ## `x op= y` is `x = x op y` -/

/-- element / property targets: the stored value is the operator applied to the current and the new value -/
theorem opassign_slot (fuel : Nat) (σ : State) (cur rhs : SVal) (op : BinaryOp) (oloc : Loc) :
    opAssignValue fuel σ cur rhs (some (op, oloc)) = (applyBinOp fuel σ op oloc cur.v rhs.v).map SVal.plain := rfl

/-- variable targets: `x op= rhs` is “compute `x op rhs`, then do what `x = …` does with the result” -/
theorem opassign_var (fuel : Nat) (σ : State) (sc : List Addr) (names : List (List Char)) (name : List Char)
    (loc : Loc) (rhs cur : SVal) (op : BinaryOp) (oloc : Loc)
    (hn : name ≠ c!"_") (hfresh : name ∉ names) (hcur : scopeGet σ sc name = some cur) :
    bindNextName fuel σ sc names name loc rhs (some (op, oloc)) false =
      (applyBinOp fuel σ op oloc cur.v rhs.v).bind fun v σ1 =>
        bindNextName fuel σ1 sc names name loc (SVal.plain v) none false := by
  unfold bindNextName
  simp [hn, hfresh, hcur]

example : c!"x" ≠ c!"_" ∧ c!"x" ∉ ([] : List (List Char)) ∧
    scopeGet ⟨#[.scope [(c!"x", SVal.plain (.int 7), (1, 1))]], []⟩ [0] c!"x" = some (SVal.plain (.int 7)) := by decide

/-- **C06, op-assignment.**  `x op= rhs` equals `x = x op rhs` for every right-hand side whose evaluation terminates
    with a value and leaves `x` as it was (hypothesis `hpure`; a right-hand side that assigns `x` is the documented
    exception shown at the end of this file): with enough fuel both statements give the same result and state.
    `m` is fuel enough for `rhs`, `k` fuel enough for the operator (which needs fuel only for `==` on containers). -/
theorem opassign_eq_assign (n m k : Nat) (σ σ1 : State) (sc : List Addr) (x : List Char) (loc bloc : Loc)
    (op : BinaryOp) (oloc : Loc) (rhs : Expr) (cur v : SVal) (r : Res Val)
    (hx : x ≠ c!"_") (hget : scopeGet σ sc x = some cur)
    (hrhs : evalExpr m σ sc rhs = .ok v σ1) (hpure : scopeGet σ1 sc x = some cur)
    (hop : applyBinOp k σ1 op oloc cur.v v.v = r) (hr : r ≠ .timeout) (hm : m ≤ n + 2) (hk : k ≤ n + 2) :
    evalStmt (n + 4) σ sc (.OpAssign (.mk (.Var x) loc) op oloc rhs) =
    evalStmt (n + 4) σ sc (.Assign (.mk (.Var x) loc) (.mk (.BinaryOp op oloc (.mk (.Var x) bloc) rhs) bloc)) := by
  have e3 : evalExpr (n + 3) σ sc rhs = .ok v σ1 := evalExpr_fuel_mono hrhs (by simp) (by omega)
  have e2 : evalExpr (n + 2) σ sc rhs = .ok v σ1 := evalExpr_fuel_mono hrhs (by simp) hm
  have o2 : applyBinOp (n + 2) σ1 op oloc cur.v v.v = r :=
    fuel_stable (f := fun j => applyBinOp j σ1 op oloc cur.v v.v) (fun j => applyBinOp_mono j _ _ _ _ _) hop hr hk
  simp only [evalStmt, evalExpr, e3, e2, hget, Res.bind, bindNext, bindNextName, hx, if_false, List.contains_nil,
    Bool.false_eq_true, hpure, o2]
  cases r with
  | ok w σ2 => rfl
  | err e σ2 => rfl
  | crash w σ2 => rfl
  | timeout => exact absurd rfl hr

/-- the hypotheses are met by `x := 7; x *= x + 1` (the right-hand side reads `x` and leaves it alone) -/
example : ∃ (σ σ1 : State) (sc : List Addr) (rhs : Expr) (cur v : SVal) (r : Res Val),
    c!"x" ≠ c!"_" ∧ scopeGet σ sc c!"x" = some cur ∧ evalExpr 3 σ sc rhs = .ok v σ1 ∧ scopeGet σ1 sc c!"x" = some cur ∧
    applyBinOp 0 σ1 .Mul (2, 3) cur.v v.v = r ∧ r ≠ .timeout :=
  ⟨⟨#[.scope [(c!"x", SVal.plain (.int 7), (1, 1))]], []⟩, ⟨#[.scope [(c!"x", SVal.plain (.int 7), (1, 1))]], []⟩, [0],
   .mk (.BinaryOp .Sum (2, 8) (.mk (.Var c!"x") (2, 6)) (.mk (.Int 1) (2, 10))) (2, 6),
   SVal.plain (.int 7), SVal.plain (.int 8), .ok (.int 56) ⟨#[.scope [(c!"x", SVal.plain (.int 7), (1, 1))]], []⟩,
   by decide, by decide, by simp [evalExpr, scopeGet, State.getScope, scopeLookup, applyBinOp, arith, inI64, i64Min, i64MaxI, Res.bind, SVal.plain],
   by decide, by rfl, by simp⟩

/-- the special case of an integer literal on the right, with explicit fuel on both sides -/
theorem opassign_eq_assign_literal (n : Nat) (σ : State) (sc : List Addr) (x : List Char) (loc rloc bloc : Loc)
    (op : BinaryOp) (oloc : Loc) (i k : Int) (cur : SVal) (hop : IsArith op) (hx : x ≠ c!"_")
    (hget : scopeGet σ sc x = some cur) (hv : cur.v = .int i) :
    evalStmt (n + 3) σ sc (.OpAssign (.mk (.Var x) loc) op oloc (.mk (.Int k) rloc)) =
    evalStmt (n + 4) σ sc
      (.Assign (.mk (.Var x) loc) (.mk (.BinaryOp op oloc (.mk (.Var x) bloc) (.mk (.Int k) rloc)) bloc)) := by
  have hb : ∀ f, applyBinOp f σ op oloc (.int i) (.int k) = arith op oloc i k σ := fun f => applyBinOp_int hop f σ oloc i k
  simp only [evalStmt, evalExpr, bindNext, Res.bind, hget, bindNextName, SVal.plain, hv, hb]
  simp only [hx, if_false, List.contains_nil, Bool.false_eq_true]
  cases arith op oloc i k σ <;> rfl

/-- the hypotheses are met by `x := 7; x *= 6` … -/
example : c!"x" ≠ c!"_" ∧ ∃ σ sc cur, scopeGet σ sc c!"x" = some cur ∧ cur.v = .int 7 :=
  ⟨by decide, ⟨#[.scope [(c!"x", SVal.plain (.int 7), (1, 1))]], []⟩, [0], SVal.plain (.int 7), by decide, rfl⟩

/-- … and the side condition of the full statement is necessary: when the right-hand side is a call that assigns `x`,
    `x += f()` reads `x` after the call (11) while `x = x + f()` reads it before (2).  A documented choice of the
    language, not a finding: the property quantifies over integer operands. -/
example :
    (run 200 c!"t.sd" c!"x := 1\nfn f() { x = 10; return 1; }\nx += f()\nprint(x)\n").out = [c!"11"] ∧
    (run 200 c!"t.sd" c!"x := 1\nfn f() { x = 10; return 1; }\nx = x + f()\nprint(x)\n").out = [c!"2"] := by
  decide +kernel

/-- whole-pipeline instances of the property on boundary inputs (lexer, parser, evaluator, renderer together) -/
example :
    (run 200 c!"t.sd" c!"print(9_223_372_036_854_775_807 + 0)\nprint(-7 / 2)\nprint(-7 % 2)\nx := 3037000499\nx *= x\nprint(x)\n").out =
      [c!"9223372036854775807", c!"-3", c!"-1", c!"9223372030926249001"] ∧
    (run 200 c!"t.sd" c!"print((0 - 9223372036854775807 - 1) / -1)\n").stderr =
      c!"t.sd:1:37: '-9223372036854775808 / -1' caused an integer overflow\n" ∧
    (run 200 c!"t.sd" c!"print(1 % 0)\n").stderr = c!"t.sd:1:9: '1 % 0' caused an integer overflow\n" := by
  decide +kernel

/-! ## the host primitives, read off the source on every run

`Gen.binopPrims` is regenerated by tools/extract.py from the arms of `apply_binary_operation`: which `i64` method (and
which other arithmetic or bit operator, listed as `raw …`) each arm computes with.  The model's `arith` is "the exact
result if it fits 64 bits, else the overflow diagnostic"; that is what `checked_add/sub/mul/div` are, and what a zero test
followed by `wrapping_rem` is (only `MIN % -1` differs from `%`, and there the exact result `0` fits).  A wrapping or
saturating method, or a hand-written shortcut next to the primitive, changes this table and the theorem no longer checks. -/
theorem source_primitives_as_modelled :
    Gen.binopPrims =
      [(c!"Sum:Int:Int", [c!"checked_add(b)"]), (c!"Sum:Str:Str", [c!"concat"]), (c!"Sum:List:List", [c!"concat"]),
       (c!"Sub:Int:Int", [c!"checked_sub(b)"]), (c!"Mul:Int:Int", [c!"checked_mul(b)"]), (c!"Div:Int:Int", [c!"checked_div(b)"]),
       (c!"Mod:Int:Int", [c!"wrapping_rem(b)", c!"b == 0 -> overflow"]),
       (c!"And:Bool:Bool", [c!"a && b"]), (c!"Or:Bool:Bool", [c!"a || b"]),
       (c!"Gt:Int:Int", [c!"a > b"]), (c!"Gte:Int:Int", [c!"a >= b"]), (c!"Lt:Int:Int", [c!"a < b"]), (c!"Lte:Int:Int", [c!"a <= b"])] := by
  decide +kernel

end Seed.C06
