/-
  C07 — control flow: branches, loops, break/continue/return reach exactly their target.
-/
import SeedProofs.Global
import SeedProofs.C01
import SeedProofs.Lemmas.Located
import SeedProofs.Lemmas.C07Loops
import SeedProofs.Lemmas.C07Call
-- audit: Seed.evalStmt_break Seed.evalStmt_continue Seed.evalStmt_return Seed.evalStmts_cons_esc Seed.evalStmts_cons_ok Seed.evalBlock_no_binds Seed.evalStmt_block Seed.declareAll_nil Seed.evalIf_cons Seed.evalIf_else Seed.evalStmt_fuel_mono Seed.evalStmts_fuel_mono Seed.C07.fuel_stable Seed.C07.FuelEq.of_shift Seed.C07.FuelEq.of_const Seed.C07.for_enters Seed.C07.block_scope Seed.C07.block_after_decl Seed.C07.call_unfold Seed.C07.call_boundary Seed.C07.call_return Seed.C07.call_falls_off Seed.C07.call_break_is_error Seed.C07.call_continue_is_error Seed.C07.call_error_framed Seed.C07.expr_stmt_never_escapes Seed.C07.declare_never_escapes Seed.C07.assign_never_escapes Seed.C07.opassign_never_escapes Seed.C07.return_of_call
namespace Seed.C07
open Seed

theorem bool_mono {n m : Nat} {σ sc d e} {r : Res Bool} (h : evalToBool n σ sc d e = r) (hr : r ≠ .timeout) (hnm : n ≤ m) :
    evalToBool m σ sc d e = r :=
  fuel_stable (f := fun k => evalToBool k σ sc d e) (fun k => (monoAll k).evalToBool σ sc d e) h hr hnm

/-! ### one-step facts: what each construct does with an escape -/

theorem if_true_selects (n : Nat) (σ σ1 : State) (sc : List Addr) (cond : Expr) (stmts : List Stmt) (r : List Branch)
    (els : Option (List Stmt)) (h : evalToBool n σ sc c!"condition" cond = .ok true σ1) :
    evalIf (n + 1) σ sc (.mk cond stmts :: r) els = evalBlock n σ1 sc [] stmts := by
  rw [evalIf_cons, h]; rfl

theorem if_false_moves_on (n : Nat) (σ σ1 : State) (sc : List Addr) (cond : Expr) (stmts : List Stmt) (r : List Branch)
    (els : Option (List Stmt)) (h : evalToBool n σ sc c!"condition" cond = .ok false σ1) :
    evalIf (n + 1) σ sc (.mk cond stmts :: r) els = evalIf n σ1 sc r els := by
  rw [evalIf_cons, h]; rfl

theorem if_no_branch (n : Nat) (σ : State) (sc : List Addr) : evalIf (n + 1) σ sc [] none = .ok .none σ := by
  unfold evalIf; rfl

/-- `while`: the condition is evaluated before every iteration; `break` ends the loop normally, `continue` and normal
    completion re-enter it, `return` is forwarded -/
theorem while_step (n : Nat) (σ : State) (sc : List Addr) (cond : Expr) (stmts : List Stmt) :
    evalWhile (n + 1) σ sc cond stmts =
      (evalToBool n σ sc c!"condition" cond).bind fun b σ1 =>
        if !b then .ok .none σ1
        else (evalBlock n σ1 sc [] stmts).bind fun esc σ2 =>
          match esc with
          | .none => evalWhile n σ2 sc cond stmts
          | .brk _ => .ok .none σ2
          | .cont _ => evalWhile n σ2 sc cond stmts
          | .ret v l => .ok (.ret v l) σ2 :=
  evalWhile_succ n σ sc cond stmts

/-- `for` walks the list of pairs computed once at entry (a snapshot: the pairs are a parameter of the loop, the
    container is not consulted again), binding the two-element list `[key, value]` in a fresh scope each time -/
theorem for_step (n : Nat) (σ : State) (sc : List Addr) (lhs : Expr) (k v : SVal) (r : List (SVal × SVal)) (stmts : List Stmt) :
    evalFor (n + 1) σ sc lhs ((k, v) :: r) stmts =
      (evalBlock n (σ.alloc (.list [k, v])).2 sc [(lhs, SVal.plain (.list (σ.alloc (.list [k, v])).1))] stmts).bind fun esc σ2 =>
        match esc with
        | .none => evalFor n σ2 sc lhs r stmts
        | .brk _ => .ok .none σ2
        | .cont _ => evalFor n σ2 sc lhs r stmts
        | .ret v l => .ok (.ret v l) σ2 :=
  evalFor_cons n σ sc lhs k v r stmts

theorem for_done (n : Nat) (σ : State) (sc : List Addr) (lhs : Expr) (stmts : List Stmt) :
    evalFor (n + 1) σ sc lhs [] stmts = .ok .none σ := evalFor_nil n σ sc lhs stmts

/-- entry of `for`: the iterable expression — whatever it is: a name, a property, an element, a call, a range — is evaluated
    exactly once; the pairs are computed from its value in the state of that moment; the loop then runs on that fixed list -/
theorem for_entry (n : Nat) (σ : State) (sc : List Addr) (lhs iter : Expr) (stmts : List Stmt) :
    evalStmt (n + 1) σ sc (.For lhs iter stmts) =
      (evalExpr n σ sc iter).bind fun it σ1 =>
        match toPairs σ1 it.v with
        | none => crashHeap σ1
        | some none => errAt iter.loc Gen.Leaf.ForIterNotIterable σ1
        | some (some pairs) => evalFor n σ1 sc lhs pairs stmts :=
  evalStmt_for n σ sc lhs iter stmts

/-- the snapshot: a list is walked by index, a string byte by byte, an object by ascending key (its stored order) -/
theorem pairs_of_list (σ : State) (a : Addr) (items : List SVal) (h : σ.getList a = some items) :
    toPairs σ (.list a) = some (some ((enumFrom 0 items).map fun (i, x) => (SVal.plain (.int (Int.ofNat i)), x))) := by
  simp [toPairs, h]

theorem pairs_of_obj (σ : State) (a : Addr) (m : ObjMap) (h : σ.getObj a = some m) :
    toPairs σ (.obj a) = some (some (m.map fun (k, x) => (SVal.plain (.str (utf8Encode k)), x))) := by
  simp [toPairs, h]

theorem pairs_of_str (σ : State) (bs : Bytes) :
    toPairs σ (.str bs) = some (some ((enumFrom 0 bs).map fun (i, b) => (SVal.plain (.int (Int.ofNat i)), SVal.plain (.str [b])))) := by
  simp [toPairs]

/-- … so a loop over a list walks the items the list held when the iterable expression had been evaluated: what the body
    does to the list afterwards (through any alias) is not seen by the loop -/
theorem for_list_snapshot (n : Nat) (σ σ1 : State) (sc : List Addr) (lhs iter : Expr) (stmts : List Stmt) (it : SVal) (a : Addr)
    (items : List SVal) (he : evalExpr n σ sc iter = .ok it σ1) (hv : it.v = .list a) (hl : σ1.getList a = some items) :
    evalStmt (n + 1) σ sc (.For lhs iter stmts) =
      evalFor n σ1 sc lhs ((enumFrom 0 items).map fun (i, x) => (SVal.plain (.int (Int.ofNat i)), x)) stmts :=
  for_enters n σ σ1 sc lhs iter stmts it _ he (hv ▸ pairs_of_list σ1 a items hl)

theorem for_obj_snapshot (n : Nat) (σ σ1 : State) (sc : List Addr) (lhs iter : Expr) (stmts : List Stmt) (it : SVal) (a : Addr)
    (m : ObjMap) (he : evalExpr n σ sc iter = .ok it σ1) (hv : it.v = .obj a) (hl : σ1.getObj a = some m) :
    evalStmt (n + 1) σ sc (.For lhs iter stmts) =
      evalFor n σ1 sc lhs (m.map fun (k, x) => (SVal.plain (.str (utf8Encode k)), x)) stmts :=
  for_enters n σ σ1 sc lhs iter stmts it _ he (hv ▸ pairs_of_obj σ1 a m hl)

/-- a value that cannot be iterated is reported at the iterable expression, before anything of the body runs -/
theorem for_not_iterable (n : Nat) (σ σ1 : State) (sc : List Addr) (lhs iter : Expr) (stmts : List Stmt) (it : SVal)
    (he : evalExpr n σ sc iter = .ok it σ1) (hp : toPairs σ1 it.v = some none) :
    evalStmt (n + 1) σ sc (.For lhs iter stmts) = errAt iter.loc Gen.Leaf.ForIterNotIterable σ1 := by
  rw [for_entry, he]; simp only [Res.bind, hp]

/-- outside any loop or function the three jumps are reported as located errors, not ignored -/
theorem toplevel_jump_is_error (n : Nat) (stmts : List Stmt) (σ : State) (esc : Escape) (hesc : esc ≠ .none)
    (h : evalBlock n State.init [] [(.mk (.Var c!"print") (0, 0), SVal.plain (.builtin c!"print" .print))] stmts = .ok esc σ) :
    ∃ e, evalProg n stmts = .err e σ ∧ Located e := by
  unfold evalProg
  simp only [h, Res.bind]
  cases esc with
  | none => exact absurd rfl hesc
  | brk l => exact ⟨_, rfl, trivial⟩
  | cont l => exact ⟨_, rfl, trivial⟩
  | ret v l => exact ⟨_, rfl, trivial⟩

/-! ### jumps through any depth of blocks, branches and statement prefixes -/

/-- a nesting of: a completed statement prefix (and an ignored suffix), a bare block, a chosen `if` branch (after
    any number of branches whose conditions were false) or the `else` block -/
inductive JCtx where
  | hole
  | seq (pre : List Stmt) (c : JCtx) (post : List Stmt)
  | block (c : JCtx)
  | ifBranch (falses : List Branch) (cond : Expr) (c : JCtx) (later : List Branch) (els : Option (List Stmt))
  | ifElse (falses : List Branch) (c : JCtx)

/-- the body obtained by putting the jump statement `j` in the hole -/
def JCtx.plug : JCtx → Stmt → List Stmt
  | .hole, j => [j]
  | .seq pre c post, j => pre ++ c.plug j ++ post
  | .block c, j => [.Block (c.plug j)]
  | .ifBranch falses cond c later els, j => [.If (falses ++ .mk cond (c.plug j) :: later) els]
  | .ifElse falses c, j => [.If falses (some (c.plug j))]

/-- the conditions of these branches all evaluate to `false`, one after the other -/
inductive AllFalse : State → List Addr → List Branch → State → Prop where
  | nil (σ sc) : AllFalse σ sc [] σ
  | cons {σ σ1 σ2 sc cond stmts r} (n : Nat) (h : evalToBool n σ sc c!"condition" cond = .ok false σ1)
      (t : AllFalse σ1 sc r σ2) : AllFalse σ sc (.mk cond stmts :: r) σ2

/-- the path to the hole is taken: prefixes complete normally, chosen conditions are true; `σ'`/`sc'` are the state and
    scope chain in which the jump statement itself is evaluated -/
inductive Taken : JCtx → State → List Addr → State → List Addr → Prop where
  | hole (σ sc) : Taken .hole σ sc σ sc
  | seq {pre c post σ σ1 σ' sc sc'} (n : Nat) (h : evalStmts n σ sc pre = .ok .none σ1) (t : Taken c σ1 sc σ' sc') :
      Taken (.seq pre c post) σ sc σ' sc'
  | block {c σ σ' sc sc'} (t : Taken c (σ.alloc (.scope [])).2 ((σ.alloc (.scope [])).1 :: sc) σ' sc') :
      Taken (.block c) σ sc σ' sc'
  | ifBranch {falses cond c later els σ σ1 σ2 σ' sc sc'} (n : Nat) (hf : AllFalse σ sc falses σ1)
      (h : evalToBool n σ1 sc c!"condition" cond = .ok true σ2)
      (t : Taken c (σ2.alloc (.scope [])).2 ((σ2.alloc (.scope [])).1 :: sc) σ' sc') :
      Taken (.ifBranch falses cond c later els) σ sc σ' sc'
  | ifElse {falses c σ σ1 σ' sc sc'} (hf : AllFalse σ sc falses σ1)
      (t : Taken c (σ1.alloc (.scope [])).2 ((σ1.alloc (.scope [])).1 :: sc) σ' sc') :
      Taken (.ifElse falses c) σ sc σ' sc'

/-- a statement that completes normally (from some fuel on) is transparent: the list continues with the rest -/
theorem stmts_cons_fuelEq {σ σ1 : State} {sc : List Addr} {st : Stmt} (rest : List Stmt) {k0 : Nat}
    (h : ∀ m, k0 ≤ m → evalStmt m σ sc st = .ok .none σ1) :
    FuelEq (fun k => evalStmts k σ sc (st :: rest)) (fun k => evalStmts k σ1 sc rest) :=
  FuelEq.of_shift (fun k => (monoAll k).evalStmts _ _ _) (fun k => (monoAll k).evalStmts _ _ _) k0
    fun m hm => evalStmts_cons_ok rest (h m hm)

/-- a prefix that completes normally is transparent -/
theorem stmts_prefix_fuelEq {σ σ1 : State} {sc : List Addr} {pre : List Stmt} (rest : List Stmt) {n : Nat}
    (h : evalStmts n σ sc pre = .ok .none σ1) :
    FuelEq (fun k => evalStmts k σ sc (pre ++ rest)) (fun k => evalStmts k σ1 sc rest) := by
  induction pre generalizing n σ with
  | nil => rw [(stmts_nil_ok h).2]; exact FuelEq.refl _
  | cons st pre ih =>
    obtain ⟨m, σ2, rfl, hst, hpre⟩ := stmts_cons_none h
    exact (stmts_cons_fuelEq (pre ++ rest) fun k hk => evalStmt_fuel_mono hst (by simp) hk).trans (ih hpre)

theorem stmts_append_none {n m : Nat} {σ σ1 sc pre rest} {r : Res Escape}
    (h1 : evalStmts n σ sc pre = .ok .none σ1) (h2 : evalStmts m σ1 sc rest = r) (hr : r ≠ .timeout) :
    ∃ k, evalStmts k σ sc (pre ++ rest) = r :=
  (stmts_prefix_fuelEq rest h1 r hr).2 ⟨m, h2⟩

theorem stmts_escape_ignores_suffix {n : Nat} {σ σ' sc ss post} {esc : Escape}
    (h : evalStmts n σ sc ss = .ok esc σ') (hesc : esc ≠ .none) : ∃ k, evalStmts k σ sc (ss ++ post) = .ok esc σ' := by
  refine ⟨n, ?_⟩
  induction ss generalizing n σ with
  | nil => exact absurd (stmts_nil_ok h).1 hesc
  | cons st ss ih =>
    cases n with
    | zero => rw [evalStmts_zero] at h; cases h
    | succ n =>
      rw [evalStmts_cons] at h
      rw [List.cons_append, evalStmts_cons]
      cases hst : evalStmt n σ sc st with
      | ok e2 σ2 =>
        rw [hst] at h
        cases e2 <;> first | exact ih h | exact h
      | _ => rw [hst] at h; cases h

theorem if_mono {n m : Nat} {σ sc bs els} {r : Res Escape} (h : evalIf n σ sc bs els = r) (hr : r ≠ .timeout) (hnm : n ≤ m) :
    evalIf m σ sc bs els = r :=
  fuel_stable (f := fun k => evalIf k σ sc bs els) (fun k => (monoAll k).evalIf σ sc bs els) h hr hnm

theorem allFalse_if {σ σ1 sc falses} (hf : AllFalse σ sc falses σ1) (rest : List Branch) (els : Option (List Stmt))
    {m : Nat} {r : Res Escape} (h : evalIf m σ1 sc rest els = r) (hr : r ≠ .timeout) :
    ∃ k, evalIf k σ sc (falses ++ rest) els = r := by
  induction hf with
  | nil σ sc => exact ⟨m, h⟩
  | cons n hb _ ih =>
    obtain ⟨k, hk⟩ := ih h
    refine ⟨max n k + 1, ?_⟩
    rw [List.cons_append, if_false_moves_on _ _ _ _ _ _ _ _ (bool_mono hb (by simp) (Nat.le_max_left n k))]
    exact if_mono hk hr (Nat.le_max_right n k)

/-- statements that reach `r` in the fresh scope: the bare block reaches `r` -/
theorem block_of_stmts {k : Nat} {σ : State} {sc : List Addr} {b : List Stmt} {r : Res Escape}
    (h : evalStmts k (σ.alloc (.scope [])).2 ((σ.alloc (.scope [])).1 :: sc) b = r) (hr : r ≠ .timeout) :
    evalBlock (k + 2) σ sc [] b = r := by
  rw [evalBlock_no_binds]; exact evalStmts_fuel_mono h hr (Nat.le_succ k)

/-- an `if` statement whose chain, after conditions that are false, escapes: the one-statement body escapes -/
theorem if_stmt_escapes {σ σ1 σ'' : State} {sc : List Addr} {falses rest : List Branch} {els : Option (List Stmt)}
    {esc : Escape} {m : Nat} (hf : AllFalse σ sc falses σ1) (h : evalIf m σ1 sc rest els = .ok esc σ'') (hesc : esc ≠ .none) :
    ∃ k, evalStmts k σ sc [.If (falses ++ rest) els] = .ok esc σ'' := by
  obtain ⟨k, hk⟩ := allFalse_if hf rest els h (by simp)
  exact ⟨k + 2, evalStmts_cons_esc [] (by rw [evalStmt_if]; exact hk) hesc⟩

/-- **Jumps reach exactly their target, at any depth.**  If the path to the hole is taken and the jump statement `j`,
    evaluated in the state and scope reached there, escapes with `esc`, then the whole body escapes with the same `esc`
    in the same state: no enclosing block, branch or statement prefix absorbs, alters or delays it, and nothing after
    it runs. -/
theorem jump_through_ctx (C : JCtx) (j : Stmt) {σ σ' σ'' : State} {sc sc' : List Addr} {esc : Escape}
    (ht : Taken C σ sc σ' sc') {n : Nat} (hj : evalStmt n σ' sc' j = .ok esc σ'') (hesc : esc ≠ .none) :
    ∃ k, evalStmts k σ sc (C.plug j) = .ok esc σ'' := by
  induction ht with
  | hole σ sc => exact ⟨n + 1, evalStmts_cons_esc [] hj hesc⟩
  | @seq pre c post σ0 σ1 σ2 sc0 sc1 n1 h1 _ ih =>
    obtain ⟨k, hk⟩ := ih hj
    obtain ⟨k2, hk2⟩ := stmts_escape_ignores_suffix (post := post) hk hesc
    obtain ⟨k3, hk3⟩ := stmts_append_none h1 hk2 (by simp)
    exact ⟨k3, by rw [JCtx.plug, List.append_assoc]; exact hk3⟩
  | @block c σ0 σ1 sc0 sc1 _ ih =>
    obtain ⟨k, hk⟩ := ih hj
    exact ⟨k + 4, evalStmts_cons_esc [] (by rw [evalStmt_block]; exact block_of_stmts hk (by simp)) hesc⟩
  | @ifBranch falses cond c later els σ0 σ1 σ2 σ3 sc0 sc1 n1 hf hb _ ih =>
    obtain ⟨k, hk⟩ := ih hj
    refine if_stmt_escapes hf (m := max n1 (k + 2) + 1) ?_ hesc
    rw [if_true_selects _ _ _ _ _ _ _ _ (bool_mono hb (by simp) (Nat.le_max_left n1 (k + 2)))]
    exact evalBlock_fuel_mono (block_of_stmts hk (by simp)) (by simp) (Nat.le_max_right n1 (k + 2))
  | @ifElse falses c σ0 σ1 σ2 sc0 sc1 hf _ ih =>
    obtain ⟨k, hk⟩ := ih hj
    have := if_stmt_escapes hf (rest := []) (els := some (c.plug j)) (m := k + 3)
      (by rw [evalIf_else]; exact block_of_stmts hk (by simp)) hesc
    rwa [List.append_nil] at this

/-- non-vacuity: the context `{ { □ } }` is taken from any state -/
example (σ : State) (sc : List Addr) : ∃ σ' sc', Taken (.block (.block .hole)) σ sc σ' sc' :=
  ⟨_, _, Taken.block (Taken.block (Taken.hole _ _))⟩

/-! ### loops as targets: a jump that leaves a loop body acts on exactly that loop -/

section loops
variable {σ σ1 σ2 : State} {sc : List Addr} {cond : Expr} {stmts : List Stmt}

/-- `break` escaping the body of a `while`: the loop is finished, normally — nothing propagates — in the state at the
    `break`; the condition is not evaluated again -/
theorem while_break_exits (n : Nat) {l : Loc} (hc : evalToBool n σ sc c!"condition" cond = .ok true σ1)
    (hb : evalBlock n σ1 sc [] stmts = .ok (.brk l) σ2) : evalWhile (n + 1) σ sc cond stmts = .ok .none σ2 := by
  rw [while_step, hc]; simp only [Res.bind, hb]; rfl

/-- … so that the statements after the loop run, in that state -/
theorem while_break_then_rest (n : Nat) {l : Loc} (rest : List Stmt) (hc : evalToBool n σ sc c!"condition" cond = .ok true σ1)
    (hb : evalBlock n σ1 sc [] stmts = .ok (.brk l) σ2) :
    evalStmts (n + 3) σ sc (.While cond stmts :: rest) = evalStmts (n + 2) σ2 sc rest := by
  apply evalStmts_cons_ok
  rw [evalStmt_while]
  exact while_break_exits n hc hb

/-- `continue` escaping the body: the loop is re-entered at the state after the body; the condition is evaluated again -/
theorem while_continue_reenters (n : Nat) {l : Loc} (hc : evalToBool n σ sc c!"condition" cond = .ok true σ1)
    (hb : evalBlock n σ1 sc [] stmts = .ok (.cont l) σ2) :
    evalWhile (n + 1) σ sc cond stmts = evalWhile n σ2 sc cond stmts := by
  rw [while_step, hc]; simp only [Res.bind, hb]; rfl

/-- the same, free of fuel: the loop started at `σ` and the loop started at the post-body state have the same outcome -/
theorem while_continue_reenters_upto {n1 n2 : Nat} {l : Loc} (hc : evalToBool n1 σ sc c!"condition" cond = .ok true σ1)
    (hb : evalBlock n2 σ1 sc [] stmts = .ok (.cont l) σ2) :
    FuelEq (fun k => evalWhile k σ sc cond stmts) (fun k => evalWhile k σ2 sc cond stmts) :=
  FuelEq.of_shift (fun k => (monoAll k).evalWhile _ _ _ _) (fun k => (monoAll k).evalWhile _ _ _ _) (max n1 n2)
    fun m hm => while_continue_reenters m (bool_mono hc (by simp) (Nat.le_trans (Nat.le_max_left n1 n2) hm))
      (evalBlock_fuel_mono hb (by simp) (Nat.le_trans (Nat.le_max_right n1 n2) hm))

/-- a body that completes normally re-enters the loop in the same way (`continue` = "go to the end of the body") -/
theorem while_normal_reenters (n : Nat) (hc : evalToBool n σ sc c!"condition" cond = .ok true σ1)
    (hb : evalBlock n σ1 sc [] stmts = .ok .none σ2) :
    evalWhile (n + 1) σ sc cond stmts = evalWhile n σ2 sc cond stmts := by
  rw [while_step, hc]; simp only [Res.bind, hb]; rfl

theorem while_normal_reenters_upto {n1 n2 : Nat} (hc : evalToBool n1 σ sc c!"condition" cond = .ok true σ1)
    (hb : evalBlock n2 σ1 sc [] stmts = .ok .none σ2) :
    FuelEq (fun k => evalWhile k σ sc cond stmts) (fun k => evalWhile k σ2 sc cond stmts) :=
  FuelEq.of_shift (fun k => (monoAll k).evalWhile _ _ _ _) (fun k => (monoAll k).evalWhile _ _ _ _) (max n1 n2)
    fun m hm => while_normal_reenters m (bool_mono hc (by simp) (Nat.le_trans (Nat.le_max_left n1 n2) hm))
      (evalBlock_fuel_mono hb (by simp) (Nat.le_trans (Nat.le_max_right n1 n2) hm))

/-- `return` escaping the body is forwarded by the loop, value, position and state unchanged: it goes on to the
    enclosing call -/
theorem while_return_propagates (n : Nat) {v : SVal} {l : Loc} (hc : evalToBool n σ sc c!"condition" cond = .ok true σ1)
    (hb : evalBlock n σ1 sc [] stmts = .ok (.ret v l) σ2) : evalWhile (n + 1) σ sc cond stmts = .ok (.ret v l) σ2 := by
  rw [while_step, hc]; simp only [Res.bind, hb]; rfl

/-- a false condition ends the loop -/
theorem while_false_exits (n : Nat) (hc : evalToBool n σ sc c!"condition" cond = .ok false σ1) :
    evalWhile (n + 1) σ sc cond stmts = .ok .none σ1 := by
  rw [while_step, hc]; rfl

variable {lhs : Expr} {k v : SVal} {r : List (SVal × SVal)}

/-- `break` escaping the body of a `for`: the loop is finished, the remaining pairs `r` are dropped -/
theorem for_break_exits (n : Nat) {l : Loc}
    (hb : evalBlock n (σ.alloc (.list [k, v])).2 sc [(lhs, SVal.plain (.list (σ.alloc (.list [k, v])).1))] stmts = .ok (.brk l) σ2) :
    evalFor (n + 1) σ sc lhs ((k, v) :: r) stmts = .ok .none σ2 := by
  rw [for_step, hb]; rfl

theorem for_break_then_rest (n : Nat) {l : Loc} (rest : List Stmt)
    (hb : evalBlock n (σ.alloc (.list [k, v])).2 sc [(lhs, SVal.plain (.list (σ.alloc (.list [k, v])).1))] stmts = .ok (.brk l) σ2)
    {σ0 : State} {iter : Expr} {it : SVal} (hi : evalExpr (n + 1) σ0 sc iter = .ok it σ)
    (hp : toPairs σ it.v = some (some ((k, v) :: r))) :
    evalStmts (n + 3) σ0 sc (.For lhs iter stmts :: rest) = evalStmts (n + 2) σ2 sc rest := by
  apply evalStmts_cons_ok
  rw [for_enters _ _ _ _ _ _ _ _ _ hi hp]
  exact for_break_exits n hb

/-- `continue` escaping the body of a `for`: on to the next pair of the snapshot -/
theorem for_continue_next (n : Nat) {l : Loc}
    (hb : evalBlock n (σ.alloc (.list [k, v])).2 sc [(lhs, SVal.plain (.list (σ.alloc (.list [k, v])).1))] stmts = .ok (.cont l) σ2) :
    evalFor (n + 1) σ sc lhs ((k, v) :: r) stmts = evalFor n σ2 sc lhs r stmts := by
  rw [for_step, hb]; rfl

theorem for_continue_next_upto {n : Nat} {l : Loc}
    (hb : evalBlock n (σ.alloc (.list [k, v])).2 sc [(lhs, SVal.plain (.list (σ.alloc (.list [k, v])).1))] stmts = .ok (.cont l) σ2) :
    FuelEq (fun m => evalFor m σ sc lhs ((k, v) :: r) stmts) (fun m => evalFor m σ2 sc lhs r stmts) :=
  FuelEq.of_shift (fun m => (monoAll m).evalFor _ _ _ _ _) (fun m => (monoAll m).evalFor _ _ _ _ _) n
    fun m hm => for_continue_next m (evalBlock_fuel_mono hb (by simp) hm)

theorem for_normal_next (n : Nat)
    (hb : evalBlock n (σ.alloc (.list [k, v])).2 sc [(lhs, SVal.plain (.list (σ.alloc (.list [k, v])).1))] stmts = .ok .none σ2) :
    evalFor (n + 1) σ sc lhs ((k, v) :: r) stmts = evalFor n σ2 sc lhs r stmts := by
  rw [for_step, hb]; rfl

theorem for_normal_next_upto {n : Nat}
    (hb : evalBlock n (σ.alloc (.list [k, v])).2 sc [(lhs, SVal.plain (.list (σ.alloc (.list [k, v])).1))] stmts = .ok .none σ2) :
    FuelEq (fun m => evalFor m σ sc lhs ((k, v) :: r) stmts) (fun m => evalFor m σ2 sc lhs r stmts) :=
  FuelEq.of_shift (fun m => (monoAll m).evalFor _ _ _ _ _) (fun m => (monoAll m).evalFor _ _ _ _ _) n
    fun m hm => for_normal_next m (evalBlock_fuel_mono hb (by simp) hm)

/-- `return` escaping the body of a `for` is forwarded -/
theorem for_return_propagates (n : Nat) {w : SVal} {l : Loc}
    (hb : evalBlock n (σ.alloc (.list [k, v])).2 sc [(lhs, SVal.plain (.list (σ.alloc (.list [k, v])).1))] stmts = .ok (.ret w l) σ2) :
    evalFor (n + 1) σ sc lhs ((k, v) :: r) stmts = .ok (.ret w l) σ2 := by
  rw [for_step, hb]; rfl

end loops

/-! ### … through any depth of blocks and branches inside the body -/

/-- a body `C[j]` run as a block with bindings: once the bindings are declared in the fresh scope and the path to the
    hole is taken from there, the block yields the escape of `j`, at every sufficient fuel -/
theorem block_jump_through_ctx (C : JCtx) (j : Stmt) {σ σb σ' σ'' : State} {sc sc' : List Addr} {bs : List (Expr × SVal)}
    {esc : Escape} {nd n : Nat}
    (hd : declareAll nd (σ.alloc (.scope [])).2 ((σ.alloc (.scope [])).1 :: sc) bs = .ok () σb)
    (ht : Taken C σb ((σ.alloc (.scope [])).1 :: sc) σ' sc') (hj : evalStmt n σ' sc' j = .ok esc σ'') (hesc : esc ≠ .none) :
    ∃ k, ∀ m, k ≤ m → evalBlock m σ sc bs (C.plug j) = .ok esc σ'' := by
  obtain ⟨k, hk⟩ := jump_through_ctx C j ht hj hesc
  refine ⟨max nd k + 1, fun m hm => evalBlock_fuel_mono ?_ (by simp) hm⟩
  rw [block_after_decl _ (declareAll_mono hd (by simp) (Nat.le_max_left nd k))]
  exact evalStmts_fuel_mono hk (by simp) (Nat.le_max_right nd k)

section through
variable {σ σ1 σ' σ'' : State} {sc sc' : List Addr} {cond : Expr}

/-- the `while` statement whose condition holds and whose body yields `esc` from some fuel on has the result `r` that one
    step of the loop function makes of `esc`, from some fuel on -/
theorem while_stmt_of_body {body : List Stmt} {esc : Escape} {r : Res Escape} {n k : Nat}
    (hc : evalToBool n σ sc c!"condition" cond = .ok true σ1) (hb : ∀ m, k ≤ m → evalBlock m σ1 sc [] body = .ok esc σ')
    (hstep : ∀ m, evalToBool m σ sc c!"condition" cond = .ok true σ1 → evalBlock m σ1 sc [] body = .ok esc σ' →
      evalWhile (m + 1) σ sc cond body = r) (hr : r ≠ .timeout) :
    ∃ k, ∀ m, k ≤ m → evalStmt m σ sc (.While cond body) = r := by
  refine ⟨max n k + 2, fun m hm => evalStmt_fuel_mono ?_ hr hm⟩
  rw [evalStmt_while]
  exact hstep _ (bool_mono hc (by simp) (Nat.le_max_left n k)) (hb _ (Nat.le_max_right n k))

/-- **`break` targets the enclosing `while`, from any depth.**  The condition holds, the path through the body to the
    `break` is taken: the `while` statement completes normally in the state at the `break`. -/
theorem while_break_through_ctx (C : JCtx) (l : Loc) {n : Nat} (hc : evalToBool n σ sc c!"condition" cond = .ok true σ1)
    (ht : Taken C (σ1.alloc (.scope [])).2 ((σ1.alloc (.scope [])).1 :: sc) σ' sc') :
    ∃ k, ∀ m, k ≤ m → evalStmt m σ sc (.While cond (C.plug (.Break l))) = .ok .none σ' := by
  obtain ⟨k, hk⟩ := block_jump_through_ctx C (.Break l) (declareAll_nil 0 _ _) ht (evalStmt_break 0 σ' sc' l) (by simp)
  exact while_stmt_of_body hc hk (fun m => while_break_exits m) (by simp)

/-- **`continue` targets the enclosing `while`, from any depth**: the loop goes on from the state at the `continue`,
    starting with the condition; the rest of the body is skipped. -/
theorem while_continue_through_ctx (C : JCtx) (l : Loc) {n : Nat} (hc : evalToBool n σ sc c!"condition" cond = .ok true σ1)
    (ht : Taken C (σ1.alloc (.scope [])).2 ((σ1.alloc (.scope [])).1 :: sc) σ' sc') :
    FuelEq (fun k => evalWhile k σ sc cond (C.plug (.Continue l))) (fun k => evalWhile k σ' sc cond (C.plug (.Continue l))) := by
  obtain ⟨k, hk⟩ := block_jump_through_ctx C (.Continue l) (declareAll_nil 0 _ _) ht (evalStmt_continue 0 σ' sc' l) (by simp)
  exact while_continue_reenters_upto hc (hk k (Nat.le_refl k))

/-- **`return` passes through the enclosing `while`, from any depth**, with the value of its expression -/
theorem while_return_through_ctx (C : JCtx) (l : Loc) (e : Expr) {v : SVal} {n ne : Nat}
    (hc : evalToBool n σ sc c!"condition" cond = .ok true σ1)
    (ht : Taken C (σ1.alloc (.scope [])).2 ((σ1.alloc (.scope [])).1 :: sc) σ' sc')
    (he : evalExpr ne σ' sc' e = .ok v σ'') :
    ∃ k, ∀ m, k ≤ m → evalStmt m σ sc (.While cond (C.plug (.Return l e))) = .ok (.ret v l) σ'' := by
  obtain ⟨k, hk⟩ := block_jump_through_ctx C (.Return l e) (declareAll_nil 0 _ _) ht (evalStmt_return ne he) (by simp)
  exact while_stmt_of_body hc hk (fun m => while_return_propagates m) (by simp)

variable {σb : State} {lhs : Expr} {key val : SVal} {r : List (SVal × SVal)}

/-- **`break` targets the enclosing `for`, from any depth**: the remaining pairs are dropped.  `σb` is the state after the
    loop variable(s) have been bound to the pair in the fresh scope. -/
theorem for_break_through_ctx (C : JCtx) (l : Loc) {nd : Nat}
    (hd : declareAll nd ((σ.alloc (.list [key, val])).2.alloc (.scope [])).2 (((σ.alloc (.list [key, val])).2.alloc (.scope [])).1 :: sc)
      [(lhs, SVal.plain (.list (σ.alloc (.list [key, val])).1))] = .ok () σb)
    (ht : Taken C σb (((σ.alloc (.list [key, val])).2.alloc (.scope [])).1 :: sc) σ' sc') :
    ∃ k, ∀ m, k ≤ m → evalFor m σ sc lhs ((key, val) :: r) (C.plug (.Break l)) = .ok .none σ' := by
  obtain ⟨k, hk⟩ := block_jump_through_ctx C (.Break l) hd ht (evalStmt_break 0 σ' sc' l) (by simp)
  exact ⟨k + 1, fun m hm => for_mono (for_break_exits k (hk k (Nat.le_refl k))) (by simp) hm⟩

theorem for_continue_through_ctx (C : JCtx) (l : Loc) {nd : Nat}
    (hd : declareAll nd ((σ.alloc (.list [key, val])).2.alloc (.scope [])).2 (((σ.alloc (.list [key, val])).2.alloc (.scope [])).1 :: sc)
      [(lhs, SVal.plain (.list (σ.alloc (.list [key, val])).1))] = .ok () σb)
    (ht : Taken C σb (((σ.alloc (.list [key, val])).2.alloc (.scope [])).1 :: sc) σ' sc') :
    FuelEq (fun m => evalFor m σ sc lhs ((key, val) :: r) (C.plug (.Continue l)))
      (fun m => evalFor m σ' sc lhs r (C.plug (.Continue l))) := by
  obtain ⟨k, hk⟩ := block_jump_through_ctx C (.Continue l) hd ht (evalStmt_continue 0 σ' sc' l) (by simp)
  exact for_continue_next_upto (hk k (Nat.le_refl k))

theorem for_return_through_ctx (C : JCtx) (l : Loc) (e : Expr) {v : SVal} {nd ne : Nat}
    (hd : declareAll nd ((σ.alloc (.list [key, val])).2.alloc (.scope [])).2 (((σ.alloc (.list [key, val])).2.alloc (.scope [])).1 :: sc)
      [(lhs, SVal.plain (.list (σ.alloc (.list [key, val])).1))] = .ok () σb)
    (ht : Taken C σb (((σ.alloc (.list [key, val])).2.alloc (.scope [])).1 :: sc) σ' sc')
    (he : evalExpr ne σ' sc' e = .ok v σ'') :
    ∃ k, ∀ m, k ≤ m → evalFor m σ sc lhs ((key, val) :: r) (C.plug (.Return l e)) = .ok (.ret v l) σ'' := by
  obtain ⟨k, hk⟩ := block_jump_through_ctx C (.Return l e) hd ht (evalStmt_return ne he) (by simp)
  exact ⟨k + 1, fun m hm => for_mono (for_return_propagates k (hk k (Nat.le_refl k))) (by simp) hm⟩

end through

/-! ### nested loops: the innermost one is the target -/

/-- a block without bindings is its statements in the fresh scope -/
theorem block_fuelEq (σ : State) (sc : List Addr) (b : List Stmt) :
    FuelEq (fun k => evalBlock k σ sc [] b) (fun k => evalStmts k (σ.alloc (.scope [])).2 ((σ.alloc (.scope [])).1 :: sc) b) := by
  refine FuelEq.of_shift (fun k => (monoAll k).evalBlock _ _ _ _) (fun k => (monoAll k).evalStmts _ _ _) 1 fun m hm => ?_
  obtain ⟨m', rfl⟩ : ∃ m', m = m' + 1 := ⟨m - 1, by omega⟩
  exact evalBlock_no_binds m' σ sc b

/-- In the body `pre; st; post` of a `while` whose condition held: once `pre` has completed and `st` completes normally (from
    some fuel on), (a) the body goes on with `post` in the state `st` left, and (b) if `post` completes normally the loop is
    re-entered from the state after `post`. -/
theorem inner_stmt_completes {c1 : Expr} {pre post : List Stmt} {st : Stmt} {σ σ1 σp σ' : State} {sc : List Addr} {n1 n2 k : Nat}
    (hc1 : evalToBool n1 σ sc c!"condition" c1 = .ok true σ1)
    (hpre : evalStmts n2 (σ1.alloc (.scope [])).2 ((σ1.alloc (.scope [])).1 :: sc) pre = .ok .none σp)
    (hst : ∀ m, k ≤ m → evalStmt m σp ((σ1.alloc (.scope [])).1 :: sc) st = .ok .none σ') :
    FuelEq (fun k => evalBlock k σ1 sc [] (pre ++ st :: post)) (fun k => evalStmts k σ' ((σ1.alloc (.scope [])).1 :: sc) post) ∧
    ∀ {n4 : Nat} {σ'' : State}, evalStmts n4 σ' ((σ1.alloc (.scope [])).1 :: sc) post = .ok .none σ'' →
      FuelEq (fun k => evalWhile k σ sc c1 (pre ++ st :: post)) (fun k => evalWhile k σ'' sc c1 (pre ++ st :: post)) := by
  have ha := (block_fuelEq σ1 sc _).trans ((stmts_prefix_fuelEq (st :: post) hpre).trans (stmts_cons_fuelEq post hst))
  refine ⟨ha, fun {n4 σ''} hpost => ?_⟩
  obtain ⟨k, hk⟩ := (ha (.ok .none σ'') (by simp)).2 ⟨n4, hpost⟩
  exact while_normal_reenters_upto hc1 hk

/-- **`break` targets the innermost loop.**  In `while c1 { pre; while c2 { C[break] }; post }`, when the path to the
    `break` is taken, (a) the body of the outer loop goes on with `post`, in the outer body's scope and in the state at
    the `break` — the outer loop has not been left — and (b) if `post` completes normally the outer loop is re-entered
    (its condition is evaluated again) from the state after `post`. -/
theorem break_targets_innermost (C : JCtx) (l : Loc) (c1 c2 : Expr) (pre post : List Stmt)
    {σ σ1 σp σq σ' : State} {sc sc' : List Addr} {n1 n2 n3 : Nat}
    (hc1 : evalToBool n1 σ sc c!"condition" c1 = .ok true σ1)
    (hpre : evalStmts n2 (σ1.alloc (.scope [])).2 ((σ1.alloc (.scope [])).1 :: sc) pre = .ok .none σp)
    (hc2 : evalToBool n3 σp ((σ1.alloc (.scope [])).1 :: sc) c!"condition" c2 = .ok true σq)
    (ht : Taken C (σq.alloc (.scope [])).2 ((σq.alloc (.scope [])).1 :: (σ1.alloc (.scope [])).1 :: sc) σ' sc') :
    FuelEq (fun k => evalBlock k σ1 sc [] (pre ++ .While c2 (C.plug (.Break l)) :: post))
      (fun k => evalStmts k σ' ((σ1.alloc (.scope [])).1 :: sc) post) ∧
    ∀ {n4 : Nat} {σ'' : State}, evalStmts n4 σ' ((σ1.alloc (.scope [])).1 :: sc) post = .ok .none σ'' →
      FuelEq (fun k => evalWhile k σ sc c1 (pre ++ .While c2 (C.plug (.Break l)) :: post))
        (fun k => evalWhile k σ'' sc c1 (pre ++ .While c2 (C.plug (.Break l)) :: post)) := by
  obtain ⟨k, hk⟩ := while_break_through_ctx C l hc2 ht
  exact inner_stmt_completes hc1 hpre hk

/-- the same with a `for` as the outer loop is `for_normal_next_upto` after (a); with a `for` as the inner loop: -/
theorem break_targets_innermost_for (C : JCtx) (l : Loc) (c1 lhs iter : Expr) (pre post : List Stmt)
    {σ σ1 σp σi σb σ' : State} {sc sc' : List Addr} {n1 n2 n3 nd : Nat} {it key val : SVal} {r : List (SVal × SVal)}
    (hc1 : evalToBool n1 σ sc c!"condition" c1 = .ok true σ1)
    (hpre : evalStmts n2 (σ1.alloc (.scope [])).2 ((σ1.alloc (.scope [])).1 :: sc) pre = .ok .none σp)
    (hi : evalExpr n3 σp ((σ1.alloc (.scope [])).1 :: sc) iter = .ok it σi)
    (hp : toPairs σi it.v = some (some ((key, val) :: r)))
    (hd : declareAll nd ((σi.alloc (.list [key, val])).2.alloc (.scope [])).2
      (((σi.alloc (.list [key, val])).2.alloc (.scope [])).1 :: (σ1.alloc (.scope [])).1 :: sc)
      [(lhs, SVal.plain (.list (σi.alloc (.list [key, val])).1))] = .ok () σb)
    (ht : Taken C σb (((σi.alloc (.list [key, val])).2.alloc (.scope [])).1 :: (σ1.alloc (.scope [])).1 :: sc) σ' sc') :
    FuelEq (fun k => evalBlock k σ1 sc [] (pre ++ .For lhs iter (C.plug (.Break l)) :: post))
      (fun k => evalStmts k σ' ((σ1.alloc (.scope [])).1 :: sc) post) ∧
    ∀ {n4 : Nat} {σ'' : State}, evalStmts n4 σ' ((σ1.alloc (.scope [])).1 :: sc) post = .ok .none σ'' →
      FuelEq (fun k => evalWhile k σ sc c1 (pre ++ .For lhs iter (C.plug (.Break l)) :: post))
        (fun k => evalWhile k σ'' sc c1 (pre ++ .For lhs iter (C.plug (.Break l)) :: post)) := by
  obtain ⟨k, hk⟩ := for_break_through_ctx (r := r) C l hd ht
  refine inner_stmt_completes (k := max n3 k + 1) hc1 hpre fun m hm => evalStmt_fuel_mono ?_ (by simp) hm
  rw [for_enters _ _ _ _ _ _ _ _ _ (evalExpr_fuel_mono hi (by simp) (Nat.le_max_left n3 k)) hp]
  exact hk _ (Nat.le_max_right n3 k)

/-! ### the call boundary: `return` ends exactly the innermost enclosing call -/

/-- **`return` ends exactly the innermost enclosing call.**  A user function whose body is `C[return e]`, called with
    matching arity: when the path to the `return` is taken (through any blocks, branches — and, by
    `while_return_through_ctx` / `for_return_through_ctx`, loops), the call expression evaluates to the value of `e`,
    in the state after evaluating `e`.  The caller sees a value: it goes on with whatever follows the call. -/
theorem return_ends_call (C : JCtx) (l : Loc) (e : Expr) {n nd ne : Nat} {σ σ1 σ2 σb σ' σ'' : State} {sc sc' : List Addr}
    {f : Expr} {args : List ListItem} (loc : Loc) {argVals : List SVal} {fv : SVal} {a : Addr} {fr : FuncRec} {v : SVal}
    (hargs : evalListItems n σ sc args [] = .ok argVals σ1) (hf : evalExpr n σ1 sc f = .ok fv σ2)
    (hv : fv.v = .func a) (hfr : σ2.getFunc a = some fr) (har : ArityOK fr argVals.length)
    (hbody : fr.stmts = C.plug (.Return l e))
    (hd : declareAll nd ((callVals σ2 fr argVals).2.alloc (.scope [])).2 (((callVals σ2 fr argVals).2.alloc (.scope [])).1 :: fr.closure)
      (callBindings σ2 fr fv.src argVals loc) = .ok () σb)
    (ht : Taken C σb (((callVals σ2 fr argVals).2.alloc (.scope [])).1 :: fr.closure) σ' sc')
    (he : evalExpr ne σ' sc' e = .ok v σ'') :
    ∃ k, ∀ m, k ≤ m → evalCall m σ sc f args loc = .ok v σ'' := by
  obtain ⟨k, hk⟩ := block_jump_through_ctx C (.Return l e) hd ht (evalStmt_return ne he) (by simp)
  exact call_of_body loc hargs hf hv hfr har (hbody ▸ hk) (by simp [callResult, Res.mapErr, Res.bind])

/-- and a `break` / `continue` that would leave the function body is an error at the call, whatever loop surrounds the
    call: it cannot act on a loop of the caller -/
theorem break_stops_at_call (C : JCtx) (l : Loc) {n nd : Nat} {σ σ1 σ2 σb σ' : State} {sc sc' : List Addr}
    {f : Expr} {args : List ListItem} (loc : Loc) {argVals : List SVal} {fv : SVal} {a : Addr} {fr : FuncRec}
    (hargs : evalListItems n σ sc args [] = .ok argVals σ1) (hf : evalExpr n σ1 sc f = .ok fv σ2)
    (hv : fv.v = .func a) (hfr : σ2.getFunc a = some fr) (har : ArityOK fr argVals.length)
    (hbody : fr.stmts = C.plug (.Break l))
    (hd : declareAll nd ((callVals σ2 fr argVals).2.alloc (.scope [])).2 (((callVals σ2 fr argVals).2.alloc (.scope [])).1 :: fr.closure)
      (callBindings σ2 fr fv.src argVals loc) = .ok () σb)
    (ht : Taken C σb (((callVals σ2 fr argVals).2.alloc (.scope [])).1 :: fr.closure) σ' sc') :
    ∃ k, ∀ m, k ≤ m → evalCall m σ sc f args loc = .err (Err.at l Gen.Leaf.BreakOutsideLoop) σ' := by
  obtain ⟨k, hk⟩ := block_jump_through_ctx C (.Break l) hd ht (evalStmt_break 0 σ' sc' l) (by simp)
  exact call_of_body loc hargs hf hv hfr har (hbody ▸ hk) (by simp [callResult, Res.mapErr, Res.bind, errAt])

/-! ### non-vacuity: the hypotheses of the theorems above on concrete programs -/
section examples

private def tt : Expr := .mk (.Bool true) (1, 7)
private def seven : Expr := .mk (.Int 7) (3, 9)
private def σa : State := (State.init.alloc (.scope [])).2

/-- `while true { break }`: hypotheses of `while_break_exits`, and the loop followed by another statement -/
example : evalToBool 3 State.init [] c!"condition" tt = .ok true State.init ∧
    evalBlock 3 State.init [] [] [.Break (1, 14)] = .ok (.brk (1, 14)) σa :=
  ⟨by with_unfolding_all rfl, by with_unfolding_all rfl⟩
example : evalStmts 6 State.init [] [.While tt [.Break (1, 14)], .Break (2, 1)] = .ok (.brk (2, 1)) σa := by
  rw [while_break_then_rest 3 (l := (1, 14)) _ (σ1 := State.init) (σ2 := σa) (by with_unfolding_all rfl) (by with_unfolding_all rfl)]
  with_unfolding_all rfl
/-- `while true { continue }`, `while true { return 7 }`: hypotheses of `while_continue_reenters`, `while_return_propagates` -/
example : evalBlock 3 State.init [] [] [.Continue (1, 14)] = .ok (.cont (1, 14)) σa := by with_unfolding_all rfl
example : evalBlock 4 State.init [] [] [.Return (1, 14) seven] = .ok (.ret (SVal.plain (.int 7)) (1, 14)) σa := by
  with_unfolding_all rfl
example : evalWhile 5 State.init [] tt [.Return (1, 14) seven] = .ok (.ret (SVal.plain (.int 7)) (1, 14)) σa :=
  while_return_propagates 4 (σ1 := State.init) (by with_unfolding_all rfl) (by with_unfolding_all rfl)

/-- a `for` body over the pair `[0, 10]` bound to `p`: hypotheses of `for_break_exits`, `for_continue_next`, `for_return_propagates` -/
private def σl : State := (State.init.alloc (.list [SVal.plain (.int 0), SVal.plain (.int 10)])).2
private def pvar : Expr := .mk (.Var c!"p") (1, 5)
example : ∃ σ2, evalBlock 6 σl [] [(pvar, SVal.plain (.list 0))] [.Break (1, 14)] = .ok (.brk (1, 14)) σ2 :=
  ⟨_, by with_unfolding_all rfl⟩
example : ∃ σ2, evalBlock 6 σl [] [(pvar, SVal.plain (.list 0))] [.Continue (1, 14)] = .ok (.cont (1, 14)) σ2 :=
  ⟨_, by with_unfolding_all rfl⟩
example : ∃ σ2, evalBlock 6 σl [] [(pvar, SVal.plain (.list 0))] [.Return (1, 14) seven] = .ok (.ret (SVal.plain (.int 7)) (1, 14)) σ2 :=
  ⟨_, by with_unfolding_all rfl⟩
example : ∃ σb, declareAll 5 (σl.alloc (.scope [])).2 [(σl.alloc (.scope [])).1] [(pvar, SVal.plain (.list 0))] = .ok () σb :=
  ⟨_, by with_unfolding_all rfl⟩

/-- the context `if true { □ }; continue` (the trailing `continue` must not run) -/
private def Cif : JCtx := .seq [] (.ifBranch [] tt .hole [] none) [.Continue (9, 9)]
example : Cif.plug (.Break (2, 3)) = [.If [.mk tt [.Break (2, 3)]] none, .Continue (9, 9)] := rfl
private theorem cif_taken (σ : State) (sc : List Addr) : Taken Cif σ sc (σ.alloc (.scope [])).2 ((σ.alloc (.scope [])).1 :: sc) :=
  Taken.seq 1 (by unfold evalStmts; rfl) (Taken.ifBranch 2 (AllFalse.nil _ _) (by with_unfolding_all rfl) (Taken.hole _ _))

/-- `while true { if true { break }; continue }` ends, at the state of the `break` -/
example : ∃ k, ∀ m, k ≤ m → evalStmt m State.init [] (.While tt (Cif.plug (.Break (2, 3)))) = .ok .none (σa.alloc (.scope [])).2 :=
  while_break_through_ctx Cif (2, 3) (n := 2) (σ1 := State.init) (by with_unfolding_all rfl) (cif_taken _ _)

/-- `while true { while true { if true { break }; continue }; return 7 }`: after the inner `break` the outer body goes
    on with `return 7` -/
example : FuelEq (fun k => evalBlock k State.init [] [] ([] ++ .While tt (Cif.plug (.Break (2, 3))) :: [.Return (3, 2) seven]))
    (fun k => evalStmts k ((σa.alloc (.scope [])).2.alloc (.scope [])).2 [0] [.Return (3, 2) seven]) :=
  (break_targets_innermost Cif (2, 3) tt tt [] [.Return (3, 2) seven] (σ := State.init) (σ1 := State.init) (σp := σa) (σq := σa)
    (n1 := 2) (n2 := 1) (n3 := 2) (by with_unfolding_all rfl) (by with_unfolding_all rfl) (by with_unfolding_all rfl) (cif_taken _ _)).1

/-- the same programs, whole: inner `break` leaves only the inner loop; `return` inside two loops and a branch ends the
    call; a `break` in a function called from a loop is an error, not a `break` of that loop -/
example : (run 200 c!"t.sd" c!"i := 0;\nwhile i < 3 {\n j := 0;\n while true {\n if j == 2 { break; }\n j += 1;\n }\n print(j);\n i += 1;\n}\nprint(\"done\");\n").out
    = [c!"2", c!"2", c!"2", c!"done"] := by decide +kernel
example : (run 200 c!"t.sd" c!"for [i, x] in [10, 20, 30] {\n if i == 1 { continue; }\n print(x);\n}\n").out = [c!"10", c!"30"] := by
  decide +kernel
example : (run 200 c!"t.sd" c!"fn f() {\n while true {\n for x in [1] {\n if true { return 7; }\n }\n }\n}\nprint(f());\nprint(1);\n").out
    = [c!"7", c!"1"] := by decide +kernel
example : (run 200 c!"t.sd" c!"fn f() { break; }\nwhile true { f(); }\n").stderr = c!"t.sd:1:10: 'break' can't be used outside of a loop\n" := by
  decide +kernel

/-- a heap with `fn f() { if true { return 7 }; continue }` at address 1, bound to `f` in scope 0 -/
private def σf : State :=
  ⟨#[.scope [(c!"f", SVal.plain (.func 1), (1, 3))], .func ⟨some c!"f", [], false, Cif.plug (.Return (2, 3) seven), [0]⟩], []⟩
private def fvar : Expr := .mk (.Var c!"f") (5, 0)
example : ∃ k σ'', ∀ m, k ≤ m → evalCall m σf [0] fvar [] (5, 1) = .ok (SVal.plain (.int 7)) σ'' := by
  obtain ⟨k, hk⟩ := return_ends_call Cif (2, 3) seven (5, 1) (n := 2) (nd := 1) (ne := 1) (σ := σf) (σ1 := σf) (σ2 := σf) (sc := [0]) (f := fvar) (args := []) (argVals := [])
    (fv := SVal.plain (.func 1)) (a := 1) (fr := ⟨some c!"f", [], false, Cif.plug (.Return (2, 3) seven), [0]⟩)
    (v := SVal.plain (.int 7))
    (by with_unfolding_all rfl) (by with_unfolding_all rfl) rfl (by with_unfolding_all rfl) (by decide) rfl
    (by with_unfolding_all rfl) (cif_taken _ _) (by with_unfolding_all rfl)
  exact ⟨k, _, hk⟩

end examples

/-! ## what `for` can walk, read off the source on every run

`Gen.iterableKinds` is regenerated by tools/extract.py from the arms of the function that turns a value into `[key, value]`
pairs (`value_to_pairs`). -/

theorem iterable_kinds_as_documented : Gen.iterableKinds = [Kind.Str, Kind.List, Kind.Object] := by decide

/-- the model walks exactly the kinds the source has an arm for: a value is "not iterable" (`some none`) exactly when
    its kind is not listed -/
theorem model_iterables_are_the_source_kinds (σ : State) (v : Val) :
    (toPairs σ v = some none ↔ Gen.iterableKinds.contains v.kind = false) := by
  cases v <;> simp [toPairs, Val.kind, Gen.iterableKinds] <;> (try (split <;> simp))

end Seed.C07
