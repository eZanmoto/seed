/-
  C08.lean — "expressions group by fixed operator tiers, left to right; parentheses override": the tier tables,
  the print/parse round trip for the whole grammar (also through the lexer), and that every printed parenthesis is
  necessary.  The grouping theorems (`left_assoc`, `tighter_first_*`, …) are in ParseProps.lean.

  The parser model (`SeedModel/Parse.lean`) climbs the *extracted* table `Gen.binOps`
  (`opAt k t`), starts at `Gen.firstTier`, switches to the postfix productions at
  `Gen.postfixTier` and handles `..` in `rangeLoop`, outside (looser than) every tier.
  The first theorems say that the extracted tables are the documented ones:

      postfix {call, index, range-index, .name, ->name}           tier 5 (tightest)
      * / % == != < <= > >= === !==                               tier 4
      + -                                                         tier 3
      && ||                                                       tier 2
      ..                                                          no tier: loosest, handled after tier 2
-/
import SeedModel.Parse
import SeedProofs.ParseProps
import SeedProofs.Lemmas.ParseRT2Image
import SeedProofs.Lemmas.LexRTPrint
import SeedProofs.Lemmas.C08Necessary
namespace Seed.C08

/-! ### every printed parenthesis is necessary (`Lemmas/C08Necessary*.lean`, whole grammar)

`parseExpr_paren_count` (one induction over the 22 parser functions): the parser never returns a tree whose printing has more
`(` than the tokens it consumed.  Hence `printed_paren_necessary` — delete ANY one pair of parentheses the printer put, at
any depth, in any construct, and no parse of what is left, at any fuel, gives the tree back (up to positions);
`printed_parens_minimal` — among all token lists that parse to a well-formed tree the printed one has the fewest `(`;
`prE_paren` / `operand_slots` — the printer parenthesises exactly a left operand of strictly lower tier, a right operand of
lower or equal tier, and `..` anywhere but at the loosest level; `ctx_paren_necessary` — the same at tree level for
one-hole contexts (operands of operators and of `..`, receivers of the five postfix forms, index expressions). -/
-- audit: Seed.C08N.parseExpr_paren_count Seed.C08N.parseStmts_paren_count Seed.C08N.parseProg_paren_count Seed.C08N.fewer_parens_never_parse Seed.C08N.fewer_parens_never_parse_prog Seed.C08N.printed_parens_minimal Seed.C08N.printed_parens_minimal_prog Seed.C08N.printed_paren_necessary Seed.C08N.printed_paren_necessary_prog Seed.C08N.printed_paren_necessary_parseProg Seed.C08N.prE_paren Seed.C08N.operand_slots Seed.C08N.ctx_paren_necessary Seed.C08N.ctx_no_paren

-- audit: Seed.parse_print Seed.left_assoc Seed.tighter_first_lt Seed.tighter_first_gt Seed.range_loosest_right Seed.range_loosest_left Seed.range_left_assoc Seed.neg_literal_operand Seed.neg_literal_after_operand Seed.neg_literal_after_operator Seed.no_unary_minus Seed.parens_override_left Seed.parens_override_right Seed.binOps_tiers Seed.roundtrip_rel Seed.roundtrip_parseExpr
open Seed

/-- the documented operator table: token ↦ (operator, tier) -/
def documentedOp : Token → Option (BinaryOp × Nat)
  | .Mul => some (.Mul, 4)
  | .Div => some (.Div, 4)
  | .Mod => some (.Mod, 4)
  | .EqualsEquals => some (.Eq, 4)
  | .BangEquals => some (.Ne, 4)
  | .LessThan => some (.Lt, 4)
  | .LessThanEquals => some (.Lte, 4)
  | .GreaterThan => some (.Gt, 4)
  | .GreaterThanEquals => some (.Gte, 4)
  | .EqualsEqualsEquals => some (.RefEq, 4)
  | .BangEqualsEquals => some (.RefNe, 4)
  | .Sum => some (.Sum, 3)
  | .Sub => some (.Sub, 3)
  | .AmpAmp => some (.And, 2)
  | .PipePipe => some (.Or, 2)
  | _ => none

/-- the same table as a list (any order) -/
def documentedOps : List (Token × BinaryOp × Nat) := [
  (.Mul, .Mul, 4), (.Div, .Div, 4), (.Mod, .Mod, 4),
  (.EqualsEquals, .Eq, 4), (.BangEquals, .Ne, 4),
  (.LessThan, .Lt, 4), (.LessThanEquals, .Lte, 4), (.GreaterThan, .Gt, 4), (.GreaterThanEquals, .Gte, 4),
  (.EqualsEqualsEquals, .RefEq, 4), (.BangEqualsEquals, .RefNe, 4),
  (.Sum, .Sum, 3), (.Sub, .Sub, 3),
  (.AmpAmp, .And, 2), (.PipePipe, .Or, 2)]

/-- the opening tokens of the five postfix forms: call, index, range-index, `.name`, `->name` -/
def documentedPostfix : List (Token × List Char) := [
  (.ParenOpen, c!"Call"), (.BracketOpen, c!"Index"), (.BracketOpen, c!"RangeIndex"),
  (.Dot, c!"Prop"), (.DashGreaterThan, c!"PropT")]

/-- the extracted operator table and the documented one contain the same entries (order irrelevant),
    no token is listed twice, the loosest tier is 2, the postfix tier is 5 (tighter than every
    binary operator), and the postfix forms are the five documented ones -/
theorem tiers_as_documented :
    Gen.binOps.all (documentedOps.contains ·) = true ∧
    documentedOps.all (Gen.binOps.contains ·) = true ∧
    (Gen.binOps.map (·.1)).Nodup ∧
    Gen.firstTier = 2 ∧ Gen.postfixTier = 5 ∧
    Gen.binOps.all (fun e => Gen.firstTier ≤ e.2.2 && e.2.2 < Gen.postfixTier) = true ∧
    Gen.postfixForms.all (documentedPostfix.contains ·) = true ∧
    documentedPostfix.all (Gen.postfixForms.contains ·) = true := by
  refine ⟨by decide +kernel, by decide +kernel, by decide +kernel, rfl, rfl, by decide +kernel, by decide +kernel,
    by decide +kernel⟩

/-- as a finite map: looking a token up in the extracted table gives the documented entry — for
    every token, including identifiers and literals (which are not operators) -/
theorem binOps_lookup_as_documented (t : Token) : lookupAssoc t Gen.binOps = documentedOp t := by
  cases t <;> rfl

/-- `..` is not in the tier table: it is parsed by `rangeLoop`, after (looser than) tier `firstTier` -/
theorem range_not_in_tiers : lookupAssoc Token.DotDot Gen.binOps = none := by
  rfl

/-- what the parser's table lookup `opAt k t` accepts at tier `k`: exactly the documented operators
    of that tier -/
theorem opAt_as_documented (k : Nat) (t : Token) (op : BinaryOp) :
    opAt k t = some op ↔ documentedOp t = some (op, k) := by
  unfold opAt
  rw [binOps_lookup_as_documented]
  cases h : documentedOp t with
  | none => simp
  | some p =>
    obtain ⟨o, k'⟩ := p
    simp only [Option.some.injEq, Prod.mk.injEq]
    constructor
    · intro h2
      split at h2
      · next hk => injection h2 with h2; exact ⟨h2, hk.symm⟩
      · cases h2
    · rintro ⟨rfl, rfl⟩
      simp

-- the hypotheses of `opAt_as_documented` are satisfiable on non-trivial values, both ways
example : opAt 4 Token.Mod = some BinaryOp.Mod := by decide
example : opAt 3 Token.Mod = none := by decide
example : documentedOp Token.LessThanEquals = some (BinaryOp.Lte, 4) := rfl

end Seed.C08

/-! ## The rest of the grammar: `parse (print t) = t` for every tree the parser can produce

  Lemmas/ParseRT2*.lean extend the round trip `parse_print` from the operator fragment to the whole grammar
  of SeedModel/Parse.lean, on the model's own syntax tree (SeedModel/Ast.lean; definitions in Lemmas/ParseRT2Defs.lean):

    `prR k e` / `prE` / `prStmt` / `prStmts`   total token printers; parentheses exactly where the level of a
                                               sub-expression is looser than its slot
    `stripR` / `stripE` / `stripStmts`         erase the stored positions
    `wfR` / `wfE` / `wfStmt` / `wfStmts`       decidable shape of the parser's image: a collecting list / parameter
                                               list is non-empty, a block and an `if` are non-empty, `op=` uses one
                                               of `Gen.assignOps`

  Levels of `prR k`: 1 = `..`, 2–4 = the tiers of `Gen.binOps`, 5 = postfix forms (`e[i]`, `e[a:b]`, `e.x`,
  `e->x`, `e(args)`) and atoms (literals, names, `[…]`, `{…}`, `fn(…){…}`, `(e)`): the operand of a postfix
  form is printed at level 5, so it is parenthesised iff it is a binary-operator or `..` expression — a
  negative literal, a list, an object or a function literal needs none.  Every other slot (index, argument,
  item, property key / value, parameter, condition, right-hand side, statement) takes level 1.
-/
namespace Seed.C08
open Seed

-- audit: Seed.parse_print_prog Seed.parse_print_prog_rel Seed.parse_print_expr Seed.parse_print_expr_rel Seed.parse_print_expr0 Seed.parse_print_expr0_rel Seed.rt_all Seed.rt_noFn Seed.exprStep Seed.stmtStep Seed.blStep Seed.SE_of_RT_BL Seed.BL_object Seed.PExpr1.pre_swap Seed.prR_starts
-- audit: Seed.image_iff Seed.image_iff_expr Seed.prStmts_injective Seed.prE_injective Seed.wfStmts_strip Seed.wfE_strip
-- audit: Seed.psoundAll Seed.parse_sound Seed.parseExpr_sound Seed.parseProg_sound Seed.parseExprTop_sound Seed.print_parse_section Seed.print_parse_section_expr
-- audit: Seed.RT_bin Seed.RT_range Seed.KeyPR_index Seed.KeyPR_rangeIndex Seed.KeyPR_prop Seed.KeyPR_call Seed.args_rt Seed.list_rt Seed.params_rt Seed.props_rt Seed.AtomicR_list Seed.AtomicR_object Seed.AtomicR_func Seed.AtomicR_paren Seed.StmtRT_block Seed.StmtRT_if Seed.StmtRT_for Seed.StmtRT_func Seed.stmts_rt_top

/-- C08, whole programs: for every well-formed program `p`, every token list spelling `prStmts p` — whatever
    positions the tokens carry — is parsed by `parseStmts` (what `parseProg` runs on the lexer's output), with
    the driver's fuel, to a program equal to `p` up to stored positions, consuming every token. -/
theorem roundtrip_program (p : List Stmt) (hwf : wfStmts true p = true) (ts : List Span)
    (hts : ts.map Span.tok = prStmts p) :
    ∃ p', parseStmts (parseFuel ts) false [] ts = .ok p' [] ∧ stripStmts p' = stripStmts p :=
  parse_print_prog p hwf ts hts

/-- the same through the front end `parseProg`: a source text whose tokens are the printed ones is parsed
    to `p` (up to positions) -/
theorem roundtrip_parseProg (p : List Stmt) (hwf : wfStmts true p = true) (src : List Char)
    (hlex : (lexAll src).2 = none) (hts : (lexAll src).1.map Span.tok = prStmts p) :
    ∃ p', parseProg src = .ok p' ∧ stripStmts p' = stripStmts p :=
  have ⟨p', hp, hs⟩ := parse_print_prog p hwf (lexAll src).1 hts
  ⟨p', parseProg_eq_ok.mpr ⟨hlex, _, hp⟩, hs⟩

/-- C08, expressions: the same for every well-formed expression (postfix forms, literals of all kinds,
    function literals with their statements, operators), in the top-level expression slot -/
theorem roundtrip_expression (e : Expr) (hwf : wfE true e = true) (ts : List Span)
    (hts : ts.map Span.tok = prE 1 e) :
    ∃ e', parseExpr (parseFuel ts) false ts = .ok e' [] ∧ stripE e' = stripE e :=
  parse_print_expr e hwf ts hts

/-- … and inside any context: followed by a token that cannot extend an expression (a closing bracket,
    `,`, `:`, `;`, `{`, `in`, an assignment operator, or a spread marker where spreads are allowed), the
    expression parser returns the tree and stops exactly there -/
theorem roundtrip_expression_in_context (e : Expr) (hwf : wfE true e = true) (s : Bool) (ts rest : List Span)
    (hts : ts.map Span.tok = prE 1 e) (hst : stops s rest) (fuel : Nat) (hf : 10 * (ts ++ rest).length + 8 ≤ fuel) :
    ∃ e', parseExpr fuel s (ts ++ rest) = .ok e' rest ∧ stripE e' = stripE e := by
  obtain ⟨e', he', hp⟩ := parse_print_expr_rel e hwf s ts rest hts hst
  exact ⟨e', hp.at_fuel fuel hf, he'⟩

/-- the parser's image is well-formed: together with `roundtrip_program`, `parse ∘ print` is the identity
    (up to positions) exactly on what the front end can return -/
theorem image_wf {src : List Char} {p : List Stmt} (h : parseProg src = .ok p) : wfStmts true p = true :=
  parseProg_sound h

theorem print_is_section {src : List Char} {p : List Stmt} (h : parseProg src = .ok p) (ts : List Span)
    (hts : ts.map Span.tok = prStmts p) :
    ∃ p', parseStmts (parseFuel ts) false [] ts = .ok p' [] ∧ stripStmts p' = stripStmts p :=
  print_parse_section h ts hts

/-- the domain of the round trip is exactly the parser's image: `p` is well-formed iff some token list is
    parsed to `p` up to positions -/
theorem wf_iff_parsed (p : List Stmt) :
    wfStmts true p = true ↔
      ∃ ts p', parseStmts (parseFuel ts) false [] ts = .ok p' [] ∧ stripStmts p' = stripStmts p :=
  image_iff p

/-- the printed parentheses always suffice: two well-formed programs with the same printed tokens are equal
    up to positions -/
theorem print_injective (p q : List Stmt) (hp : wfStmts true p = true) (hq : wfStmts true q = true)
    (h : prStmts p = prStmts q) : stripStmts p = stripStmts q :=
  prStmts_injective p q hp hq h

/-- the printed tokens at position zero -/
def spans0 (toks : List Token) : List Span := toks.map fun t => ⟨(0, 0), t, (0, 0)⟩

private def v (s : List Char) : Expr := .mk (.Var s) (0, 0)
private def n (k : Int) : Expr := .mk (.Int k) (0, 0)
private def bin (op : BinaryOp) (l r : Expr) : Expr := .mk (.BinaryOp op (0, 0) l r) (0, 0)
private def idx (e i : Expr) : Expr := .mk (.Index e i) (0, 0)

-- postfix binds tighter than every binary operator: `a * b[0]` needs no parentheses, `(a * b)[0]` does
example : prE 1 (bin .Mul (v c!"a") (idx (v c!"b") (n 0))) =
    [.Ident c!"a", .Mul, .Ident c!"b", .BracketOpen, .IntLiteral 0, .BracketClose] := by decide +kernel
example : prE 1 (idx (bin .Mul (v c!"a") (v c!"b")) (n 0)) =
    [.ParenOpen, .Ident c!"a", .Mul, .Ident c!"b", .ParenClose, .BracketOpen, .IntLiteral 0, .BracketClose] := by
  decide +kernel
example : wfE true (idx (bin .Mul (v c!"a") (v c!"b")) (n 0)) = true := by decide +kernel
-- and these parentheses are needed: without them the tokens are the other tree
example : parseExpr 200 false (spans0 [.Ident c!"a", .Mul, .Ident c!"b", .BracketOpen, .IntLiteral 0, .BracketClose]) =
    .ok (bin .Mul (v c!"a") (idx (v c!"b") (n 0))) [] := by rfl
example : parseExpr 200 false
    (spans0 [.ParenOpen, .Ident c!"a", .Mul, .Ident c!"b", .ParenClose, .BracketOpen, .IntLiteral 0, .BracketClose]) =
    .ok (idx (bin .Mul (v c!"a") (v c!"b")) (n 0)) [] := by rfl

-- a negative literal is an atom: `-1[0]` indexes the literal, `a - -1.x` subtracts a property of `-1`
example : prE 1 (idx (n (-1)) (n 0)) = [.Sub, .IntLiteral 1, .BracketOpen, .IntLiteral 0, .BracketClose] := by
  decide +kernel
example : parseExpr 200 false (spans0 [.Sub, .IntLiteral 1, .BracketOpen, .IntLiteral 0, .BracketClose]) =
    .ok (idx (n (-1)) (n 0)) [] := by rfl
example : parseExpr 200 false (spans0 [.Ident c!"a", .Sub, .Sub, .IntLiteral 1, .Dot, .Ident c!"x"]) =
    .ok (bin .Sub (v c!"a") (.mk (.Prop (n (-1)) c!"x" false) (0, 0))) [] := by rfl

-- there is no unary minus, so `-x[0]` is a syntax error at `x` (`no_unary_minus`)
example : parseExpr 200 false (spans0 [.Sub, .Ident c!"x", .BracketOpen, .IntLiteral 0, .BracketClose]) =
    .err (.tok ⟨(0, 0), .Ident c!"x", (0, 0)⟩) := by rfl
-- a trailing comma is accepted in lists, arguments, objects and parameters and leaves no trace (the printer
-- never emits one): `[a,]` `f(a,)` `{a,}`
example : parseExpr 200 false (spans0 [.BracketOpen, .Ident c!"a", .Comma, .BracketClose]) =
    .ok (.mk (.List [.mk (v c!"a") false] false) (0, 0)) [] := by rfl
example : parseExpr 200 false (spans0 [.Ident c!"f", .ParenOpen, .Ident c!"a", .Comma, .ParenClose]) =
    .ok (.mk (.Call (v c!"f") [.mk (v c!"a") false]) (0, 0)) [] := by rfl
example : parseExpr 200 false (spans0 [.BraceOpen, .Ident c!"a", .Comma, .BraceClose]) =
    .ok (.mk (.Object [.Single (v c!"a") false false]) (0, 0)) [] := by rfl
-- the collecting item of a list literal is its last item, after any number of ordinary items: `[a, ..b]`
example : parseExpr 200 false (spans0 [.BracketOpen, .Ident c!"a", .Comma, .DotDot, .Ident c!"b", .BracketClose]) =
    .ok (.mk (.List [.mk (v c!"a") false, .mk (v c!"b") false] true) (0, 0)) [] := by rfl

-- chains, type-function calls, spread arguments, range indices: `a.b[0](x, y..)->f(z)[:1]`
private def chain : Expr :=
  .mk (.RangeIndex (.mk (.Call (.mk (.Prop (.mk (.Call (idx (.mk (.Prop (v c!"a") c!"b" false) (0, 0)) (n 0))
    [.mk (v c!"x") false, .mk (v c!"y") true]) (0, 0)) c!"f" true) (0, 0)) [.mk (v c!"z") false]) (0, 0))
    none (some (n 1))) (0, 0)
example : prE 1 chain =
    [.Ident c!"a", .Dot, .Ident c!"b", .BracketOpen, .IntLiteral 0, .BracketClose, .ParenOpen, .Ident c!"x", .Comma,
      .Ident c!"y", .DotDot, .ParenClose, .DashGreaterThan, .Ident c!"f", .ParenOpen, .Ident c!"z", .ParenClose,
      .BracketOpen, .Colon, .IntLiteral 1, .BracketClose] := by decide +kernel
example : wfE true chain = true := by decide +kernel
example : parseExpr (parseFuel (spans0 (prE 1 chain))) false (spans0 (prE 1 chain)) = .ok chain [] := by rfl

-- list / object / function literals as operands and operands of postfix forms, no parentheses:
-- `[a, ..b..][0]`, `{k: 1, s, ..r}.k`, `fn(x, ..r) { return x; }(1)`
private def lits : Expr :=
  bin .Sum (idx (.mk (.List [.mk (v c!"a") false, .mk (v c!"b") true] true) (0, 0)) (n 0))
    (bin .Mul (.mk (.Prop (.mk (.Object [.Pair (v c!"k") (n 1), .Single (v c!"s") false false,
        .Single (v c!"r") false true]) (0, 0)) c!"k" false) (0, 0))
      (.mk (.Call (.mk (.Func [v c!"x", v c!"r"] true [.Return (0, 0) (v c!"x")]) (0, 0)) [.mk (n 1) false]) (0, 0)))
example : wfE true lits = true := by decide +kernel
example : prE 1 lits =
    [.BracketOpen, .Ident c!"a", .Comma, .DotDot, .Ident c!"b", .DotDot, .BracketClose, .BracketOpen, .IntLiteral 0,
      .BracketClose, .Sum,
      .BraceOpen, .Ident c!"k", .Colon, .IntLiteral 1, .Comma, .Ident c!"s", .Comma, .DotDot, .Ident c!"r", .BraceClose,
      .Dot, .Ident c!"k", .Mul,
      .Fn, .ParenOpen, .Ident c!"x", .Comma, .DotDot, .Ident c!"r", .ParenClose, .BraceOpen, .Return, .Ident c!"x",
      .StmtEnd, .BraceClose, .ParenOpen, .IntLiteral 1, .ParenClose] := by decide +kernel
example : parseExpr (parseFuel (spans0 (prE 1 lits))) false (spans0 (prE 1 lits)) = .ok lits [] := by rfl

-- statements; an expression statement or assignment target may begin with `{` (object literal, also nested as
-- the first key) without parentheses, a block is `{ stmt; … }`
private def prog : List Stmt := [
  .Declare (.mk (.Object [.Single (v c!"a") false false, .Single (v c!"b") true false]) (0, 0)) (v c!"o"),
  .Expr (.mk (.Prop (.mk (.Object [.Pair (.mk (.Prop (.mk (.Object []) (0, 0)) c!"k" false) (0, 0)) (n 1)]) (0, 0))
    c!"x" false) (0, 0)),
  .Block [.Expr (.mk (.Object [.Single (v c!"q") false false]) (0, 0)), .OpAssign (v c!"a") .Sum (0, 0) (n 2)],
  .If [.mk (bin .Lt (v c!"a") (n 1)) [.Break (0, 0)], .mk (v c!"c") []] (some [.Continue (0, 0)]),
  .For (v c!"i") (.mk (.Range (n 0) (n 3)) (0, 0)) [.While (v c!"t") [.Assign (idx (v c!"a") (v c!"i")) (n 0)]],
  .Func c!"g" (0, 0) [v c!"x"] false [.Return (0, 0) (v c!"x")]]
example : wfStmts true prog = true := by decide +kernel
example : (prStmts prog).take 16 =
    [.BraceOpen, .Ident c!"a", .Comma, .Ident c!"b", .DotDot, .BraceClose, .ColonEquals, .Ident c!"o", .StmtEnd,
      .BraceOpen, .BraceOpen, .BraceClose, .Dot, .Ident c!"k", .Colon, .IntLiteral 1] := by decide +kernel
set_option maxRecDepth 100000 in
example : parseStmts (parseFuel (spans0 (prStmts prog))) false [] (spans0 (prStmts prog)) = .ok prog [] := by rfl
example : stripStmts prog = prog := by rfl

-- through the lexer: the hypotheses of `roundtrip_parseProg` hold for a source text spelling the printed tokens
private def src : List Char := c!"{a, b} := o;\nx = {k: 1}.k[0](y..);"
private def srcProg : List Stmt := [
  .Declare (.mk (.Object [.Single (v c!"a") false false, .Single (v c!"b") false false]) (0, 0)) (v c!"o"),
  .Assign (v c!"x") (.mk (.Call (idx (.mk (.Prop (.mk (.Object [.Pair (v c!"k") (n 1)]) (0, 0)) c!"k" false) (0, 0))
    (n 0)) [.mk (v c!"y") true]) (0, 0))]
private theorem src_printed :
    (lexAll src).2 = none ∧ (lexAll src).1.map Span.tok = prStmts srcProg ∧ wfStmts true srcProg = true := by
  decide +kernel
example : (lexAll src).2 = none ∧ (lexAll src).1.map Span.tok = prStmts srcProg ∧ wfStmts true srcProg = true :=
  src_printed
example : ∃ p', parseProg src = .ok p' ∧ stripStmts p' = stripStmts srcProg :=
  roundtrip_parseProg srcProg src_printed.2.2 src src_printed.1 src_printed.2.1

-- outside the image: an empty block statement, a collecting list without items, `&&=`
example : wfStmt true (.Block []) = false := by decide +kernel
example : wfE true (.mk (.List [] true) (0, 0)) = false := by decide +kernel
example : wfStmt true (.OpAssign (v c!"a") .And (0, 0) (n 1)) = false := by decide +kernel
-- `{ }` in statement position is the empty object literal, never a block
example : parseStmts 200 false [] (spans0 [.BraceOpen, .BraceClose, .StmtEnd]) =
    .ok [.Expr (.mk (.Object []) (0, 0))] [] := by rfl

end Seed.C08

/-! ## Through the lexer: the printed *source text* of a program parses back to the program

  Lemmas/LexRT*.lean (C09 `lex_render`): `renderToks ts` spells a token list as text — every token in its canonical
  spelling (`renderTok`: symbols and keywords from the generated tables, names, decimal literals, escaped string
  literals, interpolated literals with their slots, `StmtEnd` as `;`), separated by one blank — and lexing that
  text gives `ts` back, for tokens satisfying the decidable `TokWF`.  Lemmas/LexRTPrint.lean: `prStmts p` never
  contains a terminator that the lexer's terminator suppression would drop (`keepAll true (prStmts p)`): a printed
  statement is non-empty and ends with a name, literal, keyword or closing bracket, never with a continuation
  token, and a block `{ … }` begins with a statement — so the `.tok` projection of `lexAll` is `prStmts p` itself
  and `parse_print_prog` applies to it.  The printer is not adapted. -/
namespace Seed.C08
open Seed Seed.LexRT

-- audit: Seed.LexRT.prStmts_keepAll Seed.LexRT.prE_keepAll Seed.LexRT.lexAll_printed Seed.LexRT.prR_good Seed.LexRT.prStmt_good Seed.LexRT.prStmts_semi Seed.LexRT.sepBody_good Seed.LexRT.ifTail_opt Seed.LexRT.lexAll_render_keepAll Seed.LexRT.lexAll_render Seed.LexRT.lexRaw_render Seed.LexRT.lexTo_render Seed.LexRT.nextToken_render Seed.LexRT.suppressT_of_keepAll Seed.LexRT.suppress_map_tok

/-- the source text of a program: its printed tokens, spelled and separated by one blank -/
def printSource (p : List Stmt) : List Char := renderToks (prStmts p)

/-- no statement terminator printed by `prStmts` is one the lexer would suppress: none is first, none follows
    a terminator or a continuation token (`{ ;`, `; ;`, `= ;` … never occur) — for every program -/
theorem printed_terminators_survive (p : List Stmt) : keepAll true (prStmts p) = true :=
  prStmts_keepAll p

/-- the printed source text is lexed without error, and the parser sees exactly the printed tokens -/
theorem printed_source_tokens (p : List Stmt) (htok : ∀ t ∈ prStmts p, TokWF t) :
    (lexAll (printSource p)).2 = none ∧ (lexAll (printSource p)).1.map Span.tok = prStmts p :=
  lexAll_printed p htok

/-- **`front_end_roundtrip`**: for every well-formed program `p` whose tokens are well-formed, the front end
    `parseProg` (lexer, terminator suppression, parser) applied to the printed source text of `p` returns `p`,
    up to stored positions -/
theorem front_end_roundtrip (p : List Stmt) (hwf : wfStmts true p = true) (htok : ∀ t ∈ prStmts p, TokWF t) :
    ∃ p', parseProg (renderToks (prStmts p)) = .ok p' ∧ stripStmts p' = stripStmts p := by
  obtain ⟨h1, h2⟩ := lexAll_printed p htok
  exact roundtrip_parseProg p hwf _ h1 h2

/-- the same for an expression through `parseExprTop` (the front end used for interpolation slots) -/
theorem front_end_roundtrip_expr (e : Expr) (hwf : wfE true e = true) (htok : ∀ t ∈ prE 1 e, TokWF t) :
    ∃ e', parseExprTop (renderToks (prE 1 e)) = .ok e' ∧ stripE e' = stripE e := by
  obtain ⟨h1, h2⟩ := lexAll_render_keepAll (prE 1 e) htok (prE_keepAll e 1)
  obtain ⟨e', hp, hs⟩ := parse_print_expr e hwf (lexAll (renderToks (prE 1 e))).1 h2
  exact ⟨e', parseExprTop_eq_ok.mpr ⟨h1, hp⟩, hs⟩

/-- printing the result of the front end and running the front end again is the identity up to positions:
    what `parseProg` returns from any source text is reproduced from its own printed source text (provided its
    tokens are well-formed — they are tokens the lexer produced) -/
theorem front_end_idempotent {src : List Char} {p : List Stmt} (h : parseProg src = .ok p)
    (htok : ∀ t ∈ prStmts p, TokWF t) :
    ∃ p', parseProg (renderToks (prStmts p)) = .ok p' ∧ stripStmts p' = stripStmts p :=
  front_end_roundtrip p (parseProg_sound h) htok

-- hypotheses satisfiable: the text `src` above is accepted, and the tokens of what is returned are well-formed
example : (match parseProg src with
    | .ok p => decide (∀ t ∈ prStmts p, TokWF t)
    | _ => false) = true := by decide +kernel

private def ex (r : RawExpr) : Expr := .mk r (0, 0)

/-- a program with every token class: all 33 symbols, all 12 keywords, `;`, names, integer literals (a negative
    one), a string literal with escapes, an interpolated literal with a slot -/
private def allProg : List Stmt := [
  .Func c!"f" (0, 0) [v c!"a", v c!"r"] true [.Return (0, 0) (v c!"a")],
  .Declare (v c!"x") (idx (ex (.List [.mk (n 1) false, .mk (n (-2)) false, .mk (v c!"xs") true] true)) (n 0)),
  .Declare (v c!"o") (ex (.Object [.Pair (v c!"k") (ex (.Str c!"s\n\"é" none)), .Single (v c!"t") false false,
    .Single (v c!"u") false true])),
  .Assign (v c!"y") (bin .Sub (bin .Sum (v c!"a") (v c!"b"))
    (bin .Mod (bin .Div (bin .Mul (v c!"c") (v c!"d")) (v c!"e")) (v c!"g"))),
  .Assign (v c!"z") (bin .Or (bin .Eq (v c!"a") (v c!"b")) (bin .And (bin .Ne (v c!"a") (v c!"b"))
    (bin .Lt (v c!"a") (v c!"b")))),
  .Assign (v c!"w") (bin .RefNe (bin .RefEq (bin .Lte (v c!"a") (v c!"b")) (bin .Gte (v c!"a") (v c!"b")))
    (bin .Gt (v c!"a") (ex .Null))),
  .Assign (v c!"s") (ex (.Str c!"p${x}q$" (some [(1, 5)]))),
  .Assign (v c!"t") (ex (.RangeIndex (ex (.Call (ex (.Prop (ex (.Prop (v c!"o") c!"k" false)) c!"len" true)) []))
    (some (n 1)) (some (n 2)))),
  .OpAssign (v c!"x") .Sum (0, 0) (n 1), .OpAssign (v c!"x") .Sub (0, 0) (n 1), .OpAssign (v c!"x") .Mul (0, 0) (n 2),
  .OpAssign (v c!"x") .Div (0, 0) (n 2), .OpAssign (v c!"x") .Mod (0, 0) (n 2),
  .If [.mk (v c!"a") [.Break (0, 0)], .mk (v c!"b") [.Continue (0, 0)]] (some [.Expr (ex .Null)]),
  .While (ex (.Bool true)) [.Expr (ex (.Bool false))],
  .For (v c!"i") (ex (.Range (n 0) (n 3))) [.Expr (v c!"i")]]

private theorem allProg_wf : wfStmts true allProg = true := by decide +kernel
private theorem allProg_tokWF : ∀ t ∈ prStmts allProg, TokWF t := by decide +kernel
example : wfStmts true allProg = true := allProg_wf
example : ∀ t ∈ prStmts allProg, TokWF t := allProg_tokWF
-- every symbol and keyword occurs in it
example : ∀ t ∈ ([.BraceClose, .BraceOpen, .BracketClose, .BracketOpen, .Colon, .Comma, .Div, .Dot, .Equals,
    .GreaterThan, .LessThan, .Mod, .Mul, .ParenClose, .ParenOpen, .Sub, .Sum, .AmpAmp, .BangEquals, .ColonEquals,
    .DashGreaterThan, .DivEquals, .DotDot, .EqualsEquals, .GreaterThanEquals, .LessThanEquals, .ModEquals,
    .MulEquals, .PipePipe, .SubEquals, .SumEquals, .EqualsEqualsEquals, .BangEqualsEquals,
    .Break, .Continue, .Else, .False, .Fn, .For, .If, .In, .Null, .Return, .True, .While, .StmtEnd] : List Token),
    t ∈ prStmts allProg := by decide +kernel
example : printSource allProg =
    c!"fn f ( a , .. r ) { return a ; } ; x := [ 1 , - 2 , .. xs .. ] [ 0 ] ; o := { k : \"s\\n\\\"é\" , t , .. u } ; y = a + b - c * d / e % g ; z = a == b || ( a != b && a < b ) ; w = a <= b === ( a >= b ) !== ( a > null ) ; s = $\"p${x}q\\$\" ; t = o . k -> len ( ) [ 1 : 2 ] ; x += 1 ; x -= 1 ; x *= 2 ; x /= 2 ; x %= 2 ; if a { break ; } else if b { continue ; } else { null ; } ; while true { false ; } ; for i in 0 .. 3 { i ; } ;" := by
  decide +kernel
-- the theorem applied …
example : ∃ p', parseProg (renderToks (prStmts allProg)) = .ok p' ∧ stripStmts p' = stripStmts allProg :=
  front_end_roundtrip allProg allProg_wf allProg_tokWF
-- … and the same fact by evaluation of the model: the front end accepts the printed text and returns a well-formed
-- program that is printed like `allProg` (hence equal to it up to positions, `print_injective`)
example : (match parseProg (printSource allProg) with
    | .ok p' => wfStmts true p' && decide (prStmts p' = prStmts allProg)
    | _ => false) = true := by decide +kernel

-- an expression: `- 1 .. f ( $"a${x}" ) [ : 2 ]`
private def exE : Expr :=
  ex (.Range (n (-1)) (ex (.RangeIndex (ex (.Call (v c!"f") [.mk (ex (.Str c!"a${x}" (some [(1, 5)]))) false])) none
    (some (n 2)))))
private theorem exE_ok : wfE true exE = true ∧ ∀ t ∈ prE 1 exE, TokWF t := by decide +kernel
example : wfE true exE = true ∧ ∀ t ∈ prE 1 exE, TokWF t := exE_ok
example : renderToks (prE 1 exE) = c!"- 1 .. f ( $\"a${x}\" ) [ : 2 ]" := by decide +kernel
example : ∃ e', parseExprTop (renderToks (prE 1 exE)) = .ok e' ∧ stripE e' = stripE exE :=
  front_end_roundtrip_expr exE exE_ok.1 exE_ok.2

-- the token hypothesis matters: a variable named like a keyword is printed as the keyword and is not parsed back
example : wfStmts true [.Expr (v c!"while")] = true ∧ ¬ (∀ t ∈ prStmts [.Expr (v c!"while")], TokWF t) := by
  decide +kernel
example : (match parseProg (printSource [.Expr (v c!"while")]) with | .ok _ => true | _ => false) = false := by
  decide +kernel
-- the most negative integer has no literal: `- 9223372036854775808` overflows in the lexer (as in the implementation)
example : wfStmts true [.Expr (n (-9223372036854775808))] = true ∧
    ¬ (∀ t ∈ prStmts [.Expr (n (-9223372036854775808))], TokWF t) ∧
    (lexAll (printSource [.Expr (n (-9223372036854775808))])).2 =
      some (.IntOverflow (1, 3) c!"9223372036854775808") := by decide +kernel

end Seed.C08
