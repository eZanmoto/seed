/-
  C09 — "newline equals `;`; layout never changes meaning".

  * `continuation_as_documented`: the extracted list of tokens after which a terminator is dropped is
    the documented one: `+ - * / % == != < <= > >= && || = := += -= *= /= %= , . ( [ {` and `StmtEnd`.
  * `suppress_*`: the model of `Iterator::next for Lexer` (`Seed.suppress`, SeedModel/Lex.lean) keeps every
    token that is not a terminator and drops a terminator exactly when it is first or follows a
    terminator or a continuation token; consequently extra terminators at those places, and the choice
    between `;` and newline (both are the token `StmtEnd`), do not change the stream the parser sees.
  * The lexer and layout (helpers in Lemmas/C09*.lean): tokens do not depend on the scanner's line/column
    (L1), `skipWs` removes exactly the layout (L2), layout at a token boundary changes no token (L3), a
    newline is a `;` (L4), `_` in numbers does not matter (L5).
  * The lexer round trip (helpers in Lemmas/LexRT*.lean): the spelling of well-formed tokens is lexed back
    to them (`lex_render`).

  Not in this file (DESIGN.md §6 C09): `hex_escape_ascii`, which is `C15.hex_escape_same_token`.
-/
import SeedModel.Lex
import SeedProofs.Lemmas.Scan
import SeedProofs.Lemmas.C09Pos
import SeedProofs.Lemmas.C09Layout
import SeedProofs.Lemmas.C09Local
import SeedProofs.Lemmas.C09Tok
import SeedProofs.Lemmas.C09Raw
import SeedProofs.Lemmas.C09Int
import SeedProofs.Lemmas.LexRT
import SeedProofs.Lemmas.C09StrBoundary
namespace Seed.C09
open Seed

/-- the 25 documented continuation tokens -/
def documentedContinuation : List Token := [
  .Sum, .Sub, .Mul, .Div, .Mod,                                         -- + - * / %
  .EqualsEquals, .BangEquals, .LessThan, .LessThanEquals, .GreaterThan, .GreaterThanEquals,  -- == != < <= > >=
  .AmpAmp, .PipePipe,                                                   -- && ||
  .Equals, .ColonEquals, .SumEquals, .SubEquals, .MulEquals, .DivEquals, .ModEquals,         -- = := += -= *= /= %=
  .Comma, .Dot, .ParenOpen, .BracketOpen, .BraceOpen]                   -- , . ( [ {

/-- the same, as a predicate on all tokens (identifiers and literals included) -/
def isDocumentedContinuation : Token → Bool
  | .Sum | .Sub | .Mul | .Div | .Mod => true
  | .EqualsEquals | .BangEquals | .LessThan | .LessThanEquals | .GreaterThan | .GreaterThanEquals => true
  | .AmpAmp | .PipePipe => true
  | .Equals | .ColonEquals | .SumEquals | .SubEquals | .MulEquals | .DivEquals | .ModEquals => true
  | .Comma | .Dot | .ParenOpen | .BracketOpen | .BraceOpen => true
  | .StmtEnd => true
  | _ => false

/-- the extracted continuation list, as a set, is the 25 documented tokens plus `StmtEnd` -/
theorem continuation_as_documented :
    documentedContinuation.length = 25 ∧ documentedContinuation.Nodup ∧
    Gen.continuation.all ((Token.StmtEnd :: documentedContinuation).contains ·) = true ∧
    (Token.StmtEnd :: documentedContinuation).all (Gen.continuation.contains ·) = true := by
  refine ⟨rfl, by decide, by decide, by decide⟩

/-- … and as a predicate over *every* token: in particular `.. -> : === !== ) ] }`, identifiers,
    literals and keywords are not continuation tokens -/
theorem isContinuation_as_documented (t : Token) : isContinuation t = isDocumentedContinuation t := by
  cases t <;> rfl

theorem ineligible_not_continuation :
    isContinuation .DotDot = false ∧ isContinuation .DashGreaterThan = false ∧
    isContinuation .Colon = false ∧ isContinuation .EqualsEqualsEquals = false ∧
    isContinuation .BangEqualsEquals = false ∧ isContinuation .ParenClose = false ∧
    isContinuation .BracketClose = false ∧ isContinuation .BraceClose = false ∧
    (∀ s, isContinuation (.Ident s) = false) ∧ (∀ n, isContinuation (.IntLiteral n) = false) ∧
    (∀ s, isContinuation (.StrLiteral s) = false) ∧ (∀ s sl, isContinuation (.InterpStrLiteral s sl) = false) := by
  refine ⟨rfl, rfl, rfl, rfl, rfl, rfl, rfl, rfl, fun _ => rfl, fun _ => rfl, fun _ => rfl, fun _ _ => rfl⟩

/-- "a terminator arriving now would be dropped": nothing has been emitted yet, or the last raw token
    was a continuation token (a terminator is one) -/
def dropsAfter : Option Token → Bool
  | none => true
  | some t => isContinuation t

/-- a token that is not a terminator is always kept -/
theorem suppress_keeps (last : Option Token) (sp : Span) (r : List Span) (h : sp.tok ≠ Token.StmtEnd) :
    suppress last (sp :: r) = sp :: suppress (some sp.tok) r := by
  rw [suppress.eq_def]; simp [h]

example : (⟨(1, 1), Token.Sum, (1, 1)⟩ : Span).tok ≠ Token.StmtEnd := by decide

/-- a terminator is dropped iff it is first or follows a terminator or a continuation token -/
theorem suppress_stmtEnd (last : Option Token) (sp : Span) (r : List Span) (h : sp.tok = Token.StmtEnd) :
    suppress last (sp :: r) =
      if dropsAfter last then suppress (some Token.StmtEnd) r else sp :: suppress (some Token.StmtEnd) r := by
  rw [suppress.eq_def]
  cases last with
  | none => simp [h, dropsAfter]
  | some t => cases hc : isContinuation t <;> simp [h, dropsAfter, hc]

example : (⟨(1, 2), Token.StmtEnd, (1, 2)⟩ : Span).tok = Token.StmtEnd := rfl

theorem dropsAfter_stmtEnd : dropsAfter (some Token.StmtEnd) = true := rfl

/-- whether `sp`, arriving after `prev`, survives suppression -/
def kept (prev : Option Token) (sp : Span) : Bool :=
  sp.tok ≠ Token.StmtEnd || !dropsAfter prev

/-- the token that precedes each element of `ts` in the raw stream -/
def prevs (last : Option Token) (ts : List Span) : List (Option Token) :=
  last :: ts.map (fun sp => some sp.tok)

/-- specification of `suppress`: it is the raw stream with exactly those terminators removed that are
    first or follow a terminator or a continuation token (looking at the *raw* predecessor, dropped
    terminators included); all other tokens are kept, in order -/
theorem suppress_spec (last : Option Token) (ts : List Span) :
    suppress last ts = ((ts.zip (prevs last ts)).filter (fun p => kept p.2 p.1)).map Prod.fst := by
  induction ts generalizing last with
  | nil => simp [suppress]
  | cons sp r ih =>
    by_cases h : sp.tok = Token.StmtEnd
    · rw [suppress_stmtEnd last sp r h, ← h, ih]
      cases hd : dropsAfter last <;> simp [prevs, kept, h, hd]
    · rw [suppress_keeps last sp r h, ih]
      simp [prevs, kept, h]

/-- `suppress` looks at the previous token only through `dropsAfter` -/
theorem suppress_congr_last (l1 l2 : Option Token) (ts : List Span) (h : dropsAfter l1 = dropsAfter l2) :
    suppress l1 ts = suppress l2 ts := by
  cases ts with
  | nil => simp [suppress]
  | cons sp r =>
    by_cases hs : sp.tok = Token.StmtEnd
    · rw [suppress_stmtEnd l1 sp r hs, suppress_stmtEnd l2 sp r hs, h]
    · rw [suppress_keeps l1 sp r hs, suppress_keeps l2 sp r hs]

example : dropsAfter none = dropsAfter (some Token.Comma) := rfl

/-- an extra terminator at the very start changes nothing -/
theorem suppress_insert_start (se : Span) (ts : List Span) (h : se.tok = Token.StmtEnd) :
    suppress none (se :: ts) = suppress none ts := by
  rw [suppress_stmtEnd none se ts h]
  simp only [dropsAfter, if_true]
  exact suppress_congr_last _ _ ts rfl

/-- an extra terminator where a terminator would be dropped anyway changes nothing to what follows -/
theorem suppress_insert_here (last : Option Token) (se : Span) (post : List Span)
    (h : se.tok = Token.StmtEnd) (hd : dropsAfter last = true) :
    suppress last (se :: post) = suppress last post := by
  rw [suppress_stmtEnd last se post h, hd]
  simp only [if_true]
  exact suppress_congr_last _ _ post (by rw [hd]; rfl)

/-- the last raw token after `pre`, starting from `last` -/
def lastTok : Option Token → List Span → Option Token
  | last, [] => last
  | _, sp :: r => lastTok (some sp.tok) r

theorem lastTok_cons (last : Option Token) (sp : Span) (pre : List Span) :
    lastTok last (sp :: pre) = lastTok (some sp.tok) pre := rfl

theorem lastTok_eq_getLast (last : Option Token) (pre : List Span) :
    lastTok last pre = match pre.getLast? with
      | none => last
      | some sp => some sp.tok := by
  induction pre generalizing last with
  | nil => rfl
  | cons a r ih =>
    rw [lastTok_cons, ih]
    cases r with
    | nil => rfl
    | cons b r' =>
      rw [List.getLast?_cons_cons]
      cases h : (b :: r').getLast? with
      | none => simp at h
      | some x => rfl

/-- inserting an extra terminator right after a terminator or a continuation token (or at the start),
    anywhere in the stream, does not change what the parser sees -/
theorem suppress_layout_invariant (last : Option Token) (pre post : List Span) (se : Span)
    (h : se.tok = Token.StmtEnd) (hd : dropsAfter (lastTok last pre) = true) :
    suppress last (pre ++ se :: post) = suppress last (pre ++ post) := by
  induction pre generalizing last with
  | nil => exact suppress_insert_here last se post h (by simpa [lastTok] using hd)
  | cons sp r ih =>
    rw [lastTok_cons] at hd
    simp only [List.cons_append]
    by_cases hs : sp.tok = Token.StmtEnd
    · have ih' := ih _ hd
      rw [hs] at ih'
      rw [suppress_stmtEnd last sp _ hs, suppress_stmtEnd last sp _ hs, ih']
    · rw [suppress_keeps last sp _ hs, suppress_keeps last sp _ hs, ih _ hd]

-- the hypotheses are satisfiable: `x = ⏎ 1` — a terminator after `=` is dropped
example :
    let x : Span := ⟨(1, 1), .Ident c!"x", (1, 1)⟩
    let eq : Span := ⟨(1, 3), .Equals, (1, 3)⟩
    let nl : Span := ⟨(2, 0), .StmtEnd, (2, 0)⟩
    let one : Span := ⟨(2, 1), .IntLiteral 1, (2, 1)⟩
    dropsAfter (lastTok none [x, eq]) = true ∧
    suppress none ([x, eq] ++ nl :: [one]) = suppress none ([x, eq] ++ [one]) := by
  decide

/-- conversely, a terminator after a token that is not a continuation token is kept: a line break
    there does split the statement -/
theorem suppress_break_splits (last : Option Token) (pre post : List Span) (se : Span)
    (h : se.tok = Token.StmtEnd) (hd : dropsAfter (lastTok last pre) = false) :
    suppress last (pre ++ se :: post) = suppress last pre ++ se :: suppress (some Token.StmtEnd) post := by
  induction pre generalizing last with
  | nil =>
    have : dropsAfter last = false := by simpa [lastTok] using hd
    rw [List.nil_append, suppress_stmtEnd last se post h, this]
    simp [suppress]
  | cons sp r ih =>
    rw [lastTok_cons] at hd
    simp only [List.cons_append]
    by_cases hs : sp.tok = Token.StmtEnd
    · have ih' := ih _ hd
      rw [hs] at ih'
      rw [suppress_stmtEnd last sp _ hs, suppress_stmtEnd last sp _ hs, ih']
      cases dropsAfter last <;> simp
    · rw [suppress_keeps last sp _ hs, suppress_keeps last sp _ hs, ih _ hd]
      simp

example : dropsAfter (lastTok none [(⟨(1, 1), .DotDot, (1, 2)⟩ : Span)]) = false := by decide

/-- `;` and newline are the same token: the suppressed stream, positions erased, depends only on the
    raw stream with positions erased -/
theorem suppress_tok_only (last : Option Token) (ts ts' : List Span)
    (h : ts.map (·.tok) = ts'.map (·.tok)) :
    (suppress last ts).map (·.tok) = (suppress last ts').map (·.tok) :=
  suppress_tok_congr last ts ts' h

-- `a ; b` and `a ⏎ b`: same tokens, different positions
example :
    ([⟨(1, 1), .Ident c!"a", (1, 1)⟩, ⟨(1, 2), .StmtEnd, (1, 2)⟩, ⟨(1, 3), .Ident c!"b", (1, 3)⟩] : List Span).map (·.tok)
      = ([⟨(1, 1), .Ident c!"a", (2, 0)⟩, ⟨(2, 0), .StmtEnd, (2, 0)⟩, ⟨(2, 1), .Ident c!"b", (2, 1)⟩] : List Span).map (·.tok) := by
  decide

/-! ## The lexer and layout

  Helper definitions (Lemmas/C09*.lean): `kind` erases every position of a `nextToken` result
  (`TokK.tok t rest` / `TokK.err (eraseLoc e)` / `TokK.eof`); `Layout p`: `p` is blanks then possibly one
  `#…` comment without newline; `CommentClosed p r`: if `p` contains a comment, `r` is empty or starts
  with a newline; `LexTo src ts rest`: lexing `src` yields the tokens `ts` and stops at the token boundary
  before `rest`; `RawEq a b`: same raw tokens and same kind of error from any position with any fuel;
  `SameTokens a b`: `lexAll a` and `lexAll b` agree up to positions. -/

theorem kind_tok_iff {res : TokRes} {t : Token} {r : List Char} :
    kind res = .tok t r ↔ ∃ sp s', res = .tok sp s' ∧ sp.tok = t ∧ s'.rest = r := by
  cases res with
  | eof => simp [kind]
  | err e => simp [kind]
  | tok sp s' =>
    simp only [kind, TokK.tok.injEq, TokRes.tok.injEq]
    constructor
    · rintro ⟨h1, h2⟩; exact ⟨sp, s', ⟨rfl, rfl⟩, h1, h2⟩
    · rintro ⟨_, _, ⟨rfl, rfl⟩, h1, h2⟩; exact ⟨h1, h2⟩

/-- **L1** the token (kind and payload) and the remaining characters returned by `nextToken` depend
    only on the remaining characters of the scanner, not on its line/column; errors agree up to their
    location (same constructor, same character / raw-text payload) -/
theorem tokens_independent_of_position {s s' : Scanner} (h : s.rest = s'.rest) :
    (nextToken s = .eof ↔ nextToken s' = .eof) ∧
    (∀ sp t, nextToken s = .tok sp t →
      ∃ sp' t', nextToken s' = .tok sp' t' ∧ sp'.tok = sp.tok ∧ t'.rest = t.rest) ∧
    (∀ e, nextToken s = .err e → ∃ e', nextToken s' = .err e' ∧ eraseLoc e' = eraseLoc e) := by
  have hk := nextToken_kind_indep h
  cases h1 : nextToken s <;> cases h2 : nextToken s' <;> rw [h1, h2] at hk <;>
    simp only [kind, TokK.tok.injEq, TokK.err.injEq, reduceCtorEq] at hk <;>
    simp only [reduceCtorEq, TokRes.tok.injEq, TokRes.err.injEq, false_implies, implies_true,
      and_true, true_and, iff_self]
  · rintro sp t ⟨rfl, rfl⟩
    exact ⟨_, _, ⟨rfl, rfl⟩, hk.1.symm, hk.2.symm⟩
  · intro e he
    subst he
    exact ⟨_, rfl, hk.symm⟩

-- hypotheses satisfiable: the same text at two different places
example : (⟨c!"x = 1", 1, 1⟩ : Scanner).rest = (⟨c!"x = 1", 7, 3⟩ : Scanner).rest := rfl
example : ∃ sp t, nextToken ⟨c!"x = 1", 1, 1⟩ = .tok sp t := ⟨_, _, rfl⟩
example : ∃ e, nextToken ⟨c!"?", 1, 1⟩ = .err e := ⟨_, rfl⟩

/-- the location-erased error determines constructor and payload: only the location may differ -/
theorem eraseLoc_eq_iff (e e' : LexError) :
    eraseLoc e = eraseLoc e' ↔
      match e, e' with
      | .Unexpected _ a, .Unexpected _ b => a = b
      | .IntOverflow _ a, .IntOverflow _ b => a = b
      | .UnescapedDollar _, .UnescapedDollar _ => True
      | .InvalidInterpolationStart _ a, .InvalidInterpolationStart _ b => a = b
      | .InvalidEscapeChar _ a, .InvalidEscapeChar _ b => a = b
      | .InvalidHexChar _ a, .InvalidHexChar _ b => a = b
      | _, _ => False := by
  cases e <;> cases e' <;> simp [eraseLoc]

/-- **L1**, lifted: the raw token stream (positions erased) and the kind of the error that ends it
    depend only on the remaining characters -/
theorem lexRaw_independent_of_position (n : Nat) {s s' : Scanner} (h : s.rest = s'.rest) :
    (lexRaw n s).1.map Span.tok = (lexRaw n s').1.map Span.tok ∧
    (lexRaw n s).2.map eraseLoc = (lexRaw n s').2.map eraseLoc :=
  lexRaw_kind_indep n h

/-- the position-free pieces: the same holds for every sub-lexer -/
theorem sublexers_independent_of_position {s s' : Scanner} (h : s.rest = s'.rest) :
    s.skipWs.rest = s'.skipWs.rest ∧ exK (lexInt s) = exK (lexInt s') ∧
    (∀ interp, exK (lexStr interp s) = exK (lexStr interp s')) ∧
    (∀ interp a, accK (strLoop interp s.rest s.line s.col a) = accK (strLoop interp s'.rest s'.line s'.col a)) ∧
    (∀ c1, (lexSym c1 s).1 = (lexSym c1 s').1 ∧ (lexSym c1 s).2.rest = (lexSym c1 s').2.rest) :=
  ⟨Scanner.skipWs_rest_congr h, lexInt_indep h, fun i => lexStr_indep i h,
    fun i a => by rw [h]; exact strLoop_indep i _ _ _ _ _ a, fun c1 => lexSym_indep c1 h⟩

/-- **L2** `skipWs` removes a prefix `p` of blanks and at most one final comment (`Layout p`; a comment
    runs up to, not including, the next newline or to the end of input), and what is left does not
    start with a blank or `#`: the removed prefix is maximal -/
theorem skipWs_spec (s : Scanner) :
    ∃ p, s.rest = p ++ s.skipWs.rest ∧ Layout p ∧ CommentClosed p s.skipWs.rest ∧
      (∀ x, s.skipWs.rest.head? = some x → ¬ isBlank x ∧ x ≠ '#') :=
  skipWs_layout s.rest s.line s.col

/-- a layout text contains no newline (a newline is a token) -/
theorem layout_no_newline {p : List Char} (h : Layout p) : '\n' ∉ p :=
  fun hm => h.no_newline _ hm rfl

/-- **L2**, converse: such a decomposition is the one `skipWs` finds -/
theorem skipWs_spec_converse {p r : List Char} (hp : Layout p) (hc : CommentClosed p r)
    (hh : ∀ x, r.head? = some x → ¬ isBlank x ∧ x ≠ '#') (l c : Nat) :
    (Scanner.skipWs ⟨p ++ r, l, c⟩).rest = r :=
  skipWs_of_layout hp r hc hh l c

-- hypotheses satisfiable: two blanks, a tab and a comment before a newline
example : Layout c!"  \t# note" :=
  .blank (by decide) (.blank (by decide) (.blank (by decide) (.comment (by decide))))
example : CommentClosed c!"  \t# note" c!"\nx" := fun _ => Or.inr rfl
example : ∀ x, (c!"\nx" : List Char).head? = some x → ¬ isBlank x ∧ x ≠ '#' := by
  intro x hx; injection hx with hx; subst hx; decide
example : (Scanner.skipWs ⟨c!"  \t# note\nx", 1, 1⟩).rest = c!"\nx" := by decide

/-- **L3** layout in front of a token never changes the raw token stream (positions erased) nor the
    kind of error — whatever the starting positions and the fuel -/
theorem layout_invariance {p r : List Char} (hp : Layout p) (hc : CommentClosed p r)
    (n l c l' c' : Nat) :
    (lexRaw n ⟨p ++ r, l, c⟩).1.map Span.tok = (lexRaw n ⟨r, l', c'⟩).1.map Span.tok ∧
    (lexRaw n ⟨p ++ r, l, c⟩).2.map eraseLoc = (lexRaw n ⟨r, l', c'⟩).2.map eraseLoc :=
  lexRaw_skip_layout hp r hc n l c l' c'

/-- … and so the parser sees the same tokens for `p ++ r` as for `r` -/
theorem layout_invariance_lexAll {p r : List Char} (hp : Layout p) (hc : CommentClosed p r) :
    SameTokens (p ++ r) r :=
  RawEq.sameTokens (fun m l c l' c' => lexRaw_skip_layout hp r hc m l c l' c')

example : Layout c!"\t " ∧ CommentClosed c!"\t " c!"print(1)" :=
  ⟨.blank (by decide) (.blank (by decide) .nil), fun h => by revert h; decide⟩

/-- every prefix of the raw token stream ends at a token boundary (`LexTo` hypotheses are satisfiable
    for every text) -/
theorem token_boundaries_exist (n : Nat) (s : Scanner) (k : Nat) :
    ∃ rest, LexTo s.rest (((lexRaw n s).1.take k).map Span.tok) rest :=
  LexTo.of_lexRaw n s k

/-- a `LexTo` prefix is a prefix of the raw stream: with `n` units of fuel beyond the tokens of `ts`,
    `lexRaw` yields `ts` and then the stream of `rest` -/
theorem lexTo_lexRaw {src rest : List Char} {ts : List Token} (h : LexTo src ts rest)
    (n l c l' c' : Nat) :
    (lexRaw (ts.length + n) ⟨src, l, c⟩).1.map Span.tok =
        ts ++ (lexRaw n ⟨rest, l', c'⟩).1.map Span.tok ∧
    (lexRaw (ts.length + n) ⟨src, l, c⟩).2.map eraseLoc = (lexRaw n ⟨rest, l', c'⟩).2.map eraseLoc :=
  h.lexRaw n l c l' c'

/-- **token locality** (the lookahead lemma behind the boundary theorems): a token depends on its own
    characters and on how the following text starts, and a separator (blank, `#`, newline, `;`) there is
    as good as whatever followed before.  The exception is an unterminated string literal at the end of
    input (accepted by the model as by the implementation): it would swallow the inserted text. -/
theorem token_locality {a x y : List Char} {t : Token} (l c l' c' : Nat)
    (h : kind (nextToken ⟨a ++ x, l, c⟩) = .tok t x)
    (he : x.head? = y.head? ∨ ∃ e y', y = e :: y' ∧ isSep e)
    (hstr : x = [] → y = [] ∨ isStrTok t = false) :
    kind (nextToken ⟨a ++ y, l', c'⟩) = .tok t y :=
  nextToken_local l c l' c' h he hstr

example : kind (nextToken ⟨c!"ab" ++ c!"+1", 1, 1⟩) = .tok (.Ident c!"ab") c!"+1" := by decide
example : ∃ e y', c!" +1" = e :: y' ∧ isSep e := ⟨' ', c!"+1", rfl, by decide⟩
-- the excluded case is real: an unterminated literal at the end of input swallows appended layout
example : kind (nextToken ⟨c!"\"ab" ++ [], 1, 1⟩) = .tok (.StrLiteral c!"ab") [] ∧
    kind (nextToken ⟨c!"\"ab" ++ c!" ", 1, 1⟩) = .tok (.StrLiteral c!"ab ") [] := by decide

/-- **L3**, general: layout inserted at *any* token boundary changes neither the raw token stream nor
    the kind of error.  `pre` is lexed as `ts` up to the boundary before `r`; `p` is inserted there.
    Side conditions: a comment in `p` must be closed by `r` (newline or end of input); and if `r` is
    empty, the last token of `pre` must not be a string literal (it could be unterminated). -/
theorem layout_invariance_at_boundary {pre p r : List Char} {ts : List Token}
    (h : LexTo (pre ++ r) ts r) (hp : Layout p) (hc : CommentClosed p r)
    (hstr : r = [] → ∀ t, ts.getLast? = some t → isStrTok t = false) :
    RawEq (pre ++ (p ++ r)) (pre ++ r) :=
  layout_invariance_at_boundary_term h hp hc fun hr => by
    subst hr
    rw [List.append_nil] at h
    exact not_unterminated_of_last_not_str h (hstr rfl)

/-- … and so the parser sees the same tokens, up to positions -/
theorem layout_invariance_at_boundary_lexAll {pre p r : List Char} {ts : List Token}
    (h : LexTo (pre ++ r) ts r) (hp : Layout p) (hc : CommentClosed p r)
    (hstr : r = [] → ∀ t, ts.getLast? = some t → isStrTok t = false) :
    SameTokens (pre ++ (p ++ r)) (pre ++ r) :=
  (layout_invariance_at_boundary h hp hc hstr).sameTokens

-- hypotheses satisfiable: the boundary `x=` | `1`; and `x=` | `\n1`, where a comment may be inserted
-- (before `1` it could not: the comment would not be closed and would swallow the `1`)
example : LexTo (c!"x=" ++ c!"1") [.Ident c!"x", .Equals] c!"1" :=
  .cons 1 1 (mid := c!"=1") (by decide) (.cons 1 2 (mid := c!"1") (by decide) (.nil _))
theorem ex_boundary : LexTo (c!"x=" ++ c!"\n1") [.Ident c!"x", .Equals] c!"\n1" :=
  .cons 1 1 (mid := c!"=\n1") (by decide) (.cons 1 2 (mid := c!"\n1") (by decide) (.nil _))

example : LexTo (c!"x=" ++ c!"\n1") [.Ident c!"x", .Equals] c!"\n1" ∧ Layout c!" # c" ∧
    CommentClosed c!" # c" c!"\n1" :=
  ⟨ex_boundary, .blank (by decide) (.comment (by decide)), fun _ => Or.inr rfl⟩

-- the theorem applied, and the same fact checked by evaluation
example : SameTokens (c!"x=" ++ (c!" # c" ++ c!"\n1")) (c!"x=" ++ c!"\n1") :=
  layout_invariance_at_boundary_lexAll ex_boundary (.blank (by decide) (.comment (by decide)))
    (fun _ => Or.inr rfl) (fun h => by cases h)
example : (lexAll c!"x= # c\n1").1.map Span.tok = [.Ident c!"x", .Equals, .IntLiteral 1] ∧
    (lexAll c!"x=\n1").1.map Span.tok = [.Ident c!"x", .Equals, .IntLiteral 1] := by decide

/-- **L4** a newline and a `;` are the same token `StmtEnd`, leaving the same text -/
theorem newline_is_semicolon (r : List Char) (l c l' c' : Nat) :
    ∃ sp t sp' t', nextToken ⟨'\n' :: r, l, c⟩ = .tok sp t ∧ nextToken ⟨';' :: r, l', c'⟩ = .tok sp' t' ∧
      sp.tok = Token.StmtEnd ∧ sp'.tok = Token.StmtEnd ∧ t.rest = r ∧ t'.rest = r := by
  obtain ⟨sp, t, h1, h2, h3⟩ := kind_tok_iff.mp (nextToken_stmtEnd '\n' (Or.inl rfl) r l c)
  obtain ⟨sp', t', h1', h2', h3'⟩ := kind_tok_iff.mp (nextToken_stmtEnd ';' (Or.inr rfl) r l' c')
  exact ⟨sp, t, sp', t', h1, h1', h2, h2', h3, h3'⟩

theorem newline_is_semicolon_raw (r : List Char) : RawEq ('\n' :: r) (';' :: r) :=
  RawEq.newline_semicolon r

/-- **L4**, lifted: replacing a `;` at a token boundary (so: not inside a string literal) by a newline
    changes neither the raw token stream nor the kind of error -/
theorem newline_is_semicolon_at_boundary {pre r : List Char} {ts : List Token}
    (h : LexTo (pre ++ ';' :: r) ts (';' :: r)) : RawEq (pre ++ '\n' :: r) (pre ++ ';' :: r) :=
  RawEq.at_boundary h (Or.inr ⟨'\n', r, rfl, Or.inr (Or.inr (Or.inl rfl))⟩) (fun hr => by cases hr)
    (newline_is_semicolon_raw r)

/-- … and the other way round -/
theorem semicolon_is_newline_at_boundary {pre r : List Char} {ts : List Token}
    (h : LexTo (pre ++ '\n' :: r) ts ('\n' :: r)) : RawEq (pre ++ ';' :: r) (pre ++ '\n' :: r) :=
  RawEq.at_boundary h (Or.inr ⟨';', r, rfl, Or.inr (Or.inr (Or.inr rfl))⟩) (fun hr => by cases hr)
    (newline_is_semicolon_raw r).symm

theorem newline_is_semicolon_lexAll {pre r : List Char} {ts : List Token}
    (h : LexTo (pre ++ ';' :: r) ts (';' :: r)) : SameTokens (pre ++ '\n' :: r) (pre ++ ';' :: r) :=
  (newline_is_semicolon_at_boundary h).sameTokens

example : LexTo (c!"a" ++ ';' :: c!"b") [.Ident c!"a"] (';' :: c!"b") :=
  .cons 1 1 (mid := c!";b") (by decide) (.nil _)

/-- **L5** a digit string `ds` and the same digits with `_` inserted anywhere after the first digit
    (`ds'`), followed by a character that is neither a digit nor `_` (or by the end of input), give the
    same `IntLiteral` token — or both overflow `i64` -/
theorem int_separators (ds ds' x : List Char) (hne : ds ≠ [])
    (hdig : ∀ ch ∈ ds, isAsciiDigit ch = true)
    (hfil : ds'.filter (fun ch => ch ≠ '_') = ds) (hhead : ds'.head? = ds.head?)
    (hall : ∀ ch ∈ ds', isAsciiDigit ch = true ∨ ch = '_')
    (hx : ∀ e, x.head? = some e → isIntChar e = false) (l c l' c' : Nat) :
    (decimalValue ds ≤ i64Max →
      kind (nextToken ⟨ds' ++ x, l, c⟩) = .tok (.IntLiteral (Int.ofNat (decimalValue ds))) x ∧
      kind (nextToken ⟨ds ++ x, l', c'⟩) = .tok (.IntLiteral (Int.ofNat (decimalValue ds))) x) ∧
    (¬ decimalValue ds ≤ i64Max →
      kind (nextToken ⟨ds' ++ x, l, c⟩) = .err (.IntOverflow (0, 0) ds') ∧
      kind (nextToken ⟨ds ++ x, l', c'⟩) = .err (.IntOverflow (0, 0) ds)) := by
  cases ds with
  | nil => exact absurd rfl hne
  | cons d ds0 =>
    cases ds' with
    | nil => simp at hhead
    | cons d' ds0' =>
      simp only [List.head?_cons, Option.some.injEq] at hhead
      subst hhead
      have hd : isAsciiDigit d' = true := hdig d' (List.mem_cons_self ..)
      have hall1 : ∀ ch ∈ d' :: ds0, isIntChar ch = true :=
        fun ch hc => isIntChar_of_digit (hdig ch hc)
      have hall2 : ∀ ch ∈ d' :: ds0', isIntChar ch = true := by
        intro ch hc
        rcases hall ch hc with h | h
        · exact isIntChar_of_digit h
        · subst h; rfl
      have e1 := nextToken_int d' ds0' x l c hd hall2 hx
      have e2 := nextToken_int d' ds0 x l' c' hd hall1 hx
      rw [hfil] at e1
      rw [filter_digits hdig] at e2
      constructor
      · intro hle
        rw [e1, e2]
        simp only [hle, if_true, and_self]
      · intro hle
        rw [e1, e2]
        simp only [hle, if_false, and_self]

/-- **L5**, lifted: the raw token streams coincide -/
theorem int_separators_raw (ds ds' x : List Char) (hne : ds ≠ [])
    (hdig : ∀ ch ∈ ds, isAsciiDigit ch = true)
    (hfil : ds'.filter (fun ch => ch ≠ '_') = ds) (hhead : ds'.head? = ds.head?)
    (hall : ∀ ch ∈ ds', isAsciiDigit ch = true ∨ ch = '_')
    (hx : ∀ e, x.head? = some e → isIntChar e = false) (hle : decimalValue ds ≤ i64Max) :
    RawEq (ds' ++ x) (ds ++ x) :=
  RawEq.of_tok (t := .IntLiteral (Int.ofNat (decimalValue ds))) (ra := x) (rb := x)
    (fun l c => ((int_separators ds ds' x hne hdig hfil hhead hall hx l c 0 0).1 hle).1)
    (fun l c => ((int_separators ds ds' x hne hdig hfil hhead hall hx 0 0 l c).1 hle).2)
    (RawEq.refl x)

/-- **L5** anywhere in a program: the digit string starts at a token boundary -/
theorem int_separators_at_boundary {pre : List Char} {ts : List Token} (ds ds' x : List Char)
    (hne : ds ≠ []) (hdig : ∀ ch ∈ ds, isAsciiDigit ch = true)
    (hfil : ds'.filter (fun ch => ch ≠ '_') = ds) (hhead : ds'.head? = ds.head?)
    (hall : ∀ ch ∈ ds', isAsciiDigit ch = true ∨ ch = '_')
    (hx : ∀ e, x.head? = some e → isIntChar e = false) (hle : decimalValue ds ≤ i64Max)
    (h : LexTo (pre ++ (ds ++ x)) ts (ds ++ x)) :
    RawEq (pre ++ (ds' ++ x)) (pre ++ (ds ++ x)) ∧ SameTokens (pre ++ (ds' ++ x)) (pre ++ (ds ++ x)) := by
  have hh : (ds ++ x).head? = (ds' ++ x).head? := by
    cases ds with
    | nil => exact absurd rfl hne
    | cons d ds0 =>
      cases ds' with
      | nil => simp at hhead
      | cons d' ds0' => simpa using hhead.symm
  have hnil : ds ++ x = [] → False := by
    intro h0; exact hne (List.append_eq_nil_iff.mp h0).1
  have := RawEq.at_boundary h (Or.inl hh) (fun hr => (hnil hr).elim)
    (int_separators_raw ds ds' x hne hdig hfil hhead hall hx hle)
  exact ⟨this, this.sameTokens⟩

-- hypotheses satisfiable: `1_000_` and `1000` before `)`
example :
    let ds := c!"1000"; let ds' := c!"1_000_"; let x := c!")"
    ds ≠ [] ∧ (∀ ch ∈ ds, isAsciiDigit ch = true) ∧ ds'.filter (fun ch => ch ≠ '_') = ds ∧
    ds'.head? = ds.head? ∧ (∀ ch ∈ ds', isAsciiDigit ch = true ∨ ch = '_') ∧
    (∀ e, x.head? = some e → isIntChar e = false) ∧ decimalValue ds ≤ i64Max := by
  refine ⟨by decide, by decide, by decide, by decide, by decide, ?_, by decide⟩
  intro e he; injection he with he; subst he; decide

end Seed.C09

/-! ## The lexer round trip (`lex_render`)

  Helper definitions (Lemmas/LexRTDefs.lean): `renderTok t` is the canonical spelling of the token `t` —
  symbols and keywords by inverse lookup in `Gen.tripleSym` / `Gen.doubleSym` / `Gen.singleSym` / `Gen.keywords`,
  an identifier as its text, an integer literal in decimal, a string literal `"…"` escaped as in C15
  (`escapeChars`), an interpolated literal `$"…"` with escaped pieces and raw `${…}` slots (C15 `render`),
  `StmtEnd` as `;`.  `renderToks ts` is the spellings separated by exactly one blank.  `TokWF t` (decidable):
  every symbol, keyword and `StmtEnd`; `Ident w` with `w` a non-empty identifier text that is not a keyword;
  `IntLiteral n` with `0 ≤ n ≤ i64::MAX` (the lexer never produces a negative literal: `-5` is `Sub`,
  `IntLiteral 5`); every `StrLiteral s`; `InterpStrLiteral s slots` whose slots cut `s` into pieces and
  brace-balanced `${…}` texts from which `s` and `slots` are rebuilt exactly. -/

namespace Seed.C09
open Seed Seed.LexRT

-- audit: Seed.LexRT.nextToken_render Seed.LexRT.nextToken_render_int Seed.LexRT.nextToken_render_ident Seed.LexRT.nextToken_render_str Seed.LexRT.nextToken_render_interp Seed.LexRT.nextToken_render_closed Seed.LexRT.natToChars_spec Seed.LexRT.tokWF_interp_of_pieces Seed.LexRT.splitSlots_decoded
-- audit: Seed.LexRT.lexTo_render Seed.LexRT.lexRaw_render Seed.LexRT.lexAll_render Seed.LexRT.lexAll_render_keepAll Seed.LexRT.suppress_map_tok Seed.LexRT.suppressT_spec Seed.LexRT.suppressT_of_keepAll Seed.LexRT.suppress_of_keepAll Seed.LexRT.keepAll_append

/-- **one token**: the spelling of a well-formed token, followed by the end of input or by a separator
    character (blank, `#`, newline, `;`), is lexed — from any position — as exactly that token, and the
    scanner stops right behind the spelling -/
theorem lex_render_token (t : Token) (h : TokWF t) (rest : List Char)
    (hr : rest = [] ∨ ∃ e r, rest = e :: r ∧ isSep e) (l c : Nat) :
    ∃ sp s', nextToken ⟨renderTok t ++ rest, l, c⟩ = .tok sp s' ∧ sp.tok = t ∧ s'.rest = rest :=
  kind_tok_iff.mp (nextToken_render t h rest hr l c)

example : TokWF (.InterpStrLiteral c!"a${x}$" [(1, 5)]) ∧
    ((c!" +" : List Char) = [] ∨ ∃ e r, (c!" +" : List Char) = e :: r ∧ isSep e) :=
  ⟨by decide, Or.inr ⟨' ', c!"+", rfl, by decide⟩⟩
example : kind (nextToken ⟨renderTok (.InterpStrLiteral c!"a${x}$" [(1, 5)]) ++ c!" +", 3, 7⟩) =
    .tok (.InterpStrLiteral c!"a${x}$" [(1, 5)]) c!" +" := by decide

/-- **`lex_render`**: for every list `ts` of well-formed tokens, lexing its spelling `renderToks ts` — from any
    position, with any fuel exceeding the number of tokens — yields raw tokens whose `.tok` projection is
    exactly `ts` (terminators included: this is the stream *before* suppression) and no lexical error.  No
    adjacency side condition: consecutive spellings are separated by a blank. -/
theorem lex_render (ts : List Token) (h : ∀ t ∈ ts, TokWF t) (n l c : Nat) (hn : ts.length < n) :
    (lexRaw n ⟨renderToks ts, l, c⟩).1.map Span.tok = ts ∧ (lexRaw n ⟨renderToks ts, l, c⟩).2 = none :=
  lexRaw_render ts h n l c hn

/-- the same, position- and fuel-free: the spelling is cut at token boundaries into exactly `ts`, and nothing
    is left (so the boundary theorems above — layout, newline for `;`, `_` in numbers — apply to it) -/
theorem lex_render_boundaries (ts : List Token) (h : ∀ t ∈ ts, TokWF t) : LexTo (renderToks ts) ts [] :=
  lexTo_render ts h

theorem dropsNow_eq_dropsAfter (o : Option Token) : dropsNow o = dropsAfter o := by
  cases o <;> rfl

/-- **`lex_render`, what the parser sees**: `lexAll (renderToks ts)` reports no error, and its tokens are `ts`
    without exactly those `StmtEnd`s that are first or directly follow (in `ts`) a `StmtEnd` or a continuation
    token — the rule of `suppress_spec`, on bare tokens -/
theorem lex_render_lexAll (ts : List Token) (h : ∀ t ∈ ts, TokWF t) :
    (lexAll (renderToks ts)).2 = none ∧
    (lexAll (renderToks ts)).1.map Span.tok =
      ((ts.zip (none :: ts.map some)).filter (fun p => p.1 != Token.StmtEnd || !dropsAfter p.2)).map Prod.fst := by
  obtain ⟨h1, h2⟩ := lexAll_render ts h
  refine ⟨h1, ?_⟩
  rw [h2, suppressT_spec]
  simp only [keptT, dropsNow_eq_dropsAfter]

/-- … in particular nothing is removed when no terminator of `ts` is first or follows a terminator or a
    continuation token (`keepAll true ts`); the printer of C08 only produces such lists -/
theorem lex_render_exact (ts : List Token) (h : ∀ t ∈ ts, TokWF t) (hk : keepAll true ts = true) :
    (lexAll (renderToks ts)).2 = none ∧ (lexAll (renderToks ts)).1.map Span.tok = ts :=
  lexAll_render_keepAll ts h hk

/-- every interpolated literal of C15's `slots_exact` (any pieces, brace-balanced slot texts) is well-formed,
    so the round trip covers every literal that theorem describes -/
theorem interp_literals_wf (p0 : List Char) (segs : List (List Char × List Char))
    (hb : ∀ x ∈ segs, C15.Balanced x.1) :
    TokWF (.InterpStrLiteral (C15.decoded p0 segs) (C15.slotsOf 0 p0 segs)) :=
  tokWF_interp_of_pieces p0 segs hb

example : ∀ x ∈ [(c!"f({})", c!"$")], C15.Balanced x.1 := by decide

/-- a token list with every token class: all 33 symbols, all 12 keywords, `;`, identifiers, integer literals
    (0 and `i64::MAX`), string literals (escapes, non-ASCII, braces), interpolated literals (no slot, two slots) -/
def sampleTokens : List Token := [
  .BraceClose, .BraceOpen, .BracketClose, .BracketOpen, .Colon, .Comma, .Div, .Dot, .Equals, .GreaterThan,
  .LessThan, .Mod, .Mul, .ParenClose, .ParenOpen, .Sub, .Sum, .AmpAmp, .BangEquals, .ColonEquals,
  .DashGreaterThan, .DivEquals, .DotDot, .EqualsEquals, .GreaterThanEquals, .LessThanEquals, .ModEquals,
  .MulEquals, .PipePipe, .SubEquals, .SumEquals, .EqualsEqualsEquals, .BangEqualsEquals,
  .Break, .Continue, .Else, .False, .Fn, .For, .If, .In, .Null, .Return, .True, .While,
  .StmtEnd, .StmtEnd, .Ident c!"x", .Ident c!"_whileX9", .IntLiteral 0, .IntLiteral 9223372036854775807,
  .StrLiteral [], .StrLiteral c!"aé\\\"$\n\r€{}😀 # ;", .InterpStrLiteral c!"$" [],
  .InterpStrLiteral c!"é${x}}{${f({\"k\": 1})}$" [(1, 5), (7, 21)], .StmtEnd]

example : ∀ t ∈ sampleTokens, TokWF t := by decide
example : sampleTokens.length < 100 := by decide
example : renderToks (sampleTokens.drop 45) =
    c!"; ; x _whileX9 0 9223372036854775807 \"\" \"aé\\\\\\\"\\$\\n\\r€{}😀 # ;\" $\"\\$\" $\"é${x}}{${f({\"k\": 1})}\\$\" ;" := by
  decide
-- the theorem applied, and the same fact by evaluation of the lexer model
example : (lexRaw 100 ⟨renderToks sampleTokens, 1, 1⟩).1.map Span.tok = sampleTokens :=
  (lex_render sampleTokens (by decide) 100 1 1 (by decide)).1
example : (lexRaw 100 ⟨renderToks sampleTokens, 1, 1⟩).1.map Span.tok = sampleTokens ∧
    (lexRaw 100 ⟨renderToks sampleTokens, 1, 1⟩).2 = none := by decide +kernel
-- what the parser sees: of `; ;` the second is dropped; the first (after the keyword `while`) and the last
-- (after a literal) are kept
example : (lexAll (renderToks sampleTokens)).1.map Span.tok = sampleTokens.take 46 ++ sampleTokens.drop 47 := by
  decide +kernel
example : keepAll true [.Ident c!"x", .Equals, .Sub, .IntLiteral 5, .StmtEnd] = true ∧
    keepAll true [.Ident c!"x", .Equals, .StmtEnd, .IntLiteral 5] = false ∧
    keepAll true [.StmtEnd] = false := by decide
-- outside `TokWF` the spelling is lexed as something else, or not at all
example : (lexAll (renderTok (.Ident c!"while"))).1.map Span.tok = [.While] ∧
    (lexAll (renderTok (.Ident c!"a b"))).1.map Span.tok = [.Ident c!"a", .Ident c!"b"] ∧
    (lexAll (renderTok (.IntLiteral (-5)))).1.map Span.tok = [.IntLiteral 0] ∧
    (lexAll (renderTok (.IntLiteral 9223372036854775808))).2 =
      some (.IntOverflow (1, 1) c!"9223372036854775808") := by decide +kernel
-- a negative number is two tokens
example : (lexAll c!"-5").1.map Span.tok = [.Sub, .IntLiteral 5] := by decide

end Seed.C09

/-! ### the end of a text whose last token is a string literal (`Lemmas/C09Tok.lean`, `Lemmas/C09StrBoundary.lean`)

`layout_invariance_at_boundary` excludes, at the END of the text, a last token that is a string literal.  The exact condition
is `¬ Unterminated pre` (the text does not end inside a literal that is still open — the lexer, like `next_str_literal`,
returns such a literal as a token): `layout_invariance_at_boundary_term`, `newline_is_semicolon_at_end` hold under it,
`not_unterminated_of_last_not_str` shows that the hypothesis above implies it, `boundary_not_unterminated` that it always
holds when something follows the boundary, and `layout_at_end_iff` / `unterminated_layout_matters` that it cannot be weakened
(appended layout is invisible at the end of `pre` if and only if `pre` is not unterminated).  Inside an open literal appended
text is literal text: `open_literal_swallows`, with the outcome per state of the string machine; a literal that was rejected
stays rejected with the same error whatever is appended (`str_error_stable`). -/
-- audit: Seed.C09.layout_invariance_at_boundary_term Seed.C09.layout_invariance_at_boundary_term_lexAll Seed.C09.newline_is_semicolon_at_end Seed.C09.boundary_not_unterminated Seed.C09.not_unterminated_of_last_not_str Seed.C09.unterminated_iff Seed.C09.unterminated_layout_matters Seed.C09.layout_at_end_iff
-- audit: Seed.C09.nextToken_closed_local Seed.C09.open_literal_is_a_token Seed.C09.open_literal_swallows Seed.C09.open_none_plain Seed.C09.open_escape_fails Seed.C09.open_hex_fails Seed.C09.open_interp_start_fails Seed.C09.str_error_stable
