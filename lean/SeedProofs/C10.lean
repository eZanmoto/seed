/-
  C10 — `==` is a structural equivalence; `===` is identity; comparing never mutates.

  Part 1 (this file, primitive layer): `eqVal` on scalars, the identity short-cut, `refEq`, `!=`/`!==` as negations,
  purity, the shape of the mismatch diagnostic.
  Part 2 (built on `Lemmas/C10Tree.lean`): the inductive unfolding `Tree` of acyclic values (`Unf σ v s`), the
  comparison `eqT` on unfoldings, the tie `eq_is_tree_eq` between `eqVal` on the heap and `eqT`, and the laws:
  reflexive on function-free values and deep copies, `true` exactly on equal unfoldings, the same boolean in both
  operand orders, transitive, independent of addresses / aliasing / construction, total (boolean or a mismatch
  naming two kinds; never a crash).
-/
import SeedProofs.Lemmas.C10Tree
namespace Seed.C10
open Seed

/-! ## scalars -/

/-- on null, bools, ints and strings `==` is equality of the values -/
theorem eq_scalars (n : Nat) (σ : State) :
    eqVal (n + 1) σ .null .null = .ok true ∧
    (∀ x y : Bool, eqVal (n + 1) σ (.bool x) (.bool y) = .ok (decide (x = y))) ∧
    (∀ x y : Int, eqVal (n + 1) σ (.int x) (.int y) = .ok (decide (x = y))) ∧
    (∀ x y : Bytes, eqVal (n + 1) σ (.str x) (.str y) = .ok (decide (x = y))) :=
  ⟨rfl, fun x y => congrArg EqRes.ok (Bool.beq_eq_decide_eq x y), fun x y => congrArg EqRes.ok (Bool.beq_eq_decide_eq x y),
    fun x y => congrArg EqRes.ok (Bool.beq_eq_decide_eq x y)⟩

/-! ## identity -/

/-- a container compared with itself is equal, whatever it contains (the identity short-cut) -/
theorem eq_same_container (n : Nat) (σ : State) (x : Addr) :
    eqVal (n + 1) σ (.list x) (.list x) = .ok true ∧ eqVal (n + 1) σ (.obj x) (.obj x) = .ok true := by
  constructor <;> simp [eqVal]

/-- **C10.** `===` is defined exactly on list/list, object/object and function/function pairs, where it is equality
    of the container (address) -/
theorem refEq_spec (a b : Val) (r : Bool) :
    refEq a b = some r ↔
      (∃ x y, a = .list x ∧ b = .list y ∧ r = decide (x = y)) ∨
      (∃ x y, a = .obj x ∧ b = .obj y ∧ r = decide (x = y)) ∨
      (∃ x y, a = .func x ∧ b = .func y ∧ r = decide (x = y)) := by
  constructor
  · -- outside the three pairs the hypothesis is `none = some r`
    intro h
    cases a <;> cases b <;> cases h
    · exact Or.inl ⟨_, _, rfl, rfl, Bool.beq_eq_decide_eq _ _⟩
    · exact Or.inr (Or.inl ⟨_, _, rfl, rfl, Bool.beq_eq_decide_eq _ _⟩)
    · exact Or.inr (Or.inr ⟨_, _, rfl, rfl, Bool.beq_eq_decide_eq _ _⟩)
  · rintro (⟨x, y, rfl, rfl, rfl⟩ | ⟨x, y, rfl, rfl, rfl⟩ | ⟨x, y, rfl, rfl, rfl⟩) <;>
      exact congrArg some (Bool.beq_eq_decide_eq x y)

theorem refEq_undefined (a b : Val) :
    refEq a b = none ↔ ¬ ((a.kind = .List ∧ b.kind = .List) ∨ (a.kind = .Object ∧ b.kind = .Object) ∨
      (a.kind = .Func ∧ b.kind = .Func)) := by
  cases a <;> first | exact ⟨fun _ => by simp [Val.kind], fun _ => rfl⟩ | (cases b <;> simp [refEq, Val.kind])

theorem refEq_refl (a : Val) (h : a.kind = .List ∨ a.kind = .Object ∨ a.kind = .Func) : refEq a a = some true := by
  cases a <;> simp_all [refEq, Val.kind]

example : (Val.list 3).kind = .List ∨ (Val.list 3).kind = .Object ∨ (Val.list 3).kind = .Func := Or.inl rfl

theorem refEq_symm (a b : Val) : refEq a b = refEq b a := by
  cases a <;> cases b <;> simp [refEq, Bool.beq_comm]

/-- `a === b` implies `a == b` for data (lists and objects; for two functions `==` is an error by definition) -/
theorem refEq_implies_eq (n : Nat) (σ : State) (a b : Val) (h : refEq a b = some true)
    (hdata : a.kind ≠ .Func) : eqVal (n + 1) σ a b = .ok true := by
  rcases (refEq_spec a b true).mp h with ⟨x, y, rfl, rfl, e⟩ | ⟨x, y, rfl, rfl, e⟩ | ⟨x, y, rfl, rfl, _⟩
  · cases of_decide_eq_true e.symm
    exact (eq_same_container n σ x).1
  · cases of_decide_eq_true e.symm
    exact (eq_same_container n σ x).2
  · exact absurd rfl hdata

example : refEq (.obj 2) (.obj 2) = some true ∧ (Val.obj 2).kind ≠ .Func := by decide

/-! ## `!=` and `!==` are the negations -/

/-- ` (at <path>)`, or nothing when the mismatch is at the top -/
def pathSuffix (p : List Char) : List Char := if p.isEmpty then [] else c!" (at " ++ p ++ c!")"

/-- **C10.** `!=` answers `!v` exactly when `==` answers `v`, in the same state; one is an error iff the other is,
    with the same types and path -/
theorem ne_is_not (fuel : Nat) (σ : State) (loc : Loc) (a b : Val) :
    (∀ v, eqVal fuel σ a b = .ok v →
      applyBinOp fuel σ .Eq loc a b = .ok (.bool v) σ ∧ applyBinOp fuel σ .Ne loc a b = .ok (.bool (!v)) σ) ∧
    (∀ p lt rt, eqVal fuel σ a b = .mismatch p lt rt →
      applyBinOp fuel σ .Eq loc a b = .err (Err.at loc (Gen.Leaf.InvalidEqOpTypes .Eq lt rt (pathSuffix p))) σ ∧
      applyBinOp fuel σ .Ne loc a b = .err (Err.at loc (Gen.Leaf.InvalidEqOpTypes .Ne lt rt (pathSuffix p))) σ) := by
  constructor
  · intro v h; simp [applyBinOp, h]
  · intro p lt rt h; simp [applyBinOp, h, pathSuffix]

example : eqVal 1 State.init (.int 1) (.int 2) = .ok false := by simp [eqVal]

/-- whatever `==` answers, `!=` answers the opposite boolean (results of `applyBinOp` compared directly) -/
theorem ne_negates (fuel : Nat) (σ σ' : State) (loc : Loc) (a b : Val) (v : Val) :
    applyBinOp fuel σ .Eq loc a b = .ok v σ' →
      ∃ x, v = .bool x ∧ applyBinOp fuel σ .Ne loc a b = .ok (.bool (!x)) σ' := by
  intro h
  simp only [applyBinOp] at h ⊢
  cases hr : eqVal fuel σ a b with
  | ok x =>
    rw [hr] at h
    simp only [if_true, Res.ok.injEq] at h
    obtain ⟨rfl, rfl⟩ := h
    exact ⟨x, rfl, by simp⟩
  | mismatch p lt rt => rw [hr] at h; cases h
  | bad => rw [hr] at h; cases h
  | timeout => rw [hr] at h; cases h

/-- the same for `===`/`!==` -/
theorem refNe_negates (fuel : Nat) (σ : State) (loc : Loc) (a b : Val) :
    (∀ v, refEq a b = some v →
      applyBinOp fuel σ .RefEq loc a b = .ok (.bool v) σ ∧ applyBinOp fuel σ .RefNe loc a b = .ok (.bool (!v)) σ) ∧
    (refEq a b = none →
      applyBinOp fuel σ .RefEq loc a b = .err (invalidOpTypes .RefEq loc a b) σ ∧
      applyBinOp fuel σ .RefNe loc a b = .err (invalidOpTypes .RefNe loc a b) σ) := by
  constructor
  · intro v h; simp [applyBinOp, h]
  · intro h; simp [applyBinOp, h]

/-- the answer of a comparison is an ordinary boolean: compared with `true` it is itself, compared with `false` its
    negation — `(a == b) == true`, `(a == b) != false` and `(a != b) == false` ask what `a == b` asks -/
theorem answer_compared_again (fuel : Nat) (σ : State) (loc : Loc) (v : Bool) :
    applyBinOp (fuel + 1) σ .Eq loc (.bool v) (.bool true) = .ok (.bool v) σ ∧
    applyBinOp (fuel + 1) σ .Eq loc (.bool v) (.bool false) = .ok (.bool (!v)) σ ∧
    applyBinOp (fuel + 1) σ .Ne loc (.bool v) (.bool false) = .ok (.bool v) σ ∧
    applyBinOp (fuel + 1) σ .Eq loc (.bool true) (.bool v) = .ok (.bool v) σ := by
  cases v <;> simp [applyBinOp, eqVal]

/-- a comparison between the kinds `null`, `bool`, `int`, `string`, `list`, `object` never answers a boolean when the two
    kinds differ at the top: not for an empty list against an empty object or string, not for `null` against anything else -/
theorem top_kind_mismatch_is_error (fuel : Nat) (σ : State) (loc : Loc) (x : Addr) :
    (∀ bs, ∃ e, applyBinOp (fuel + 1) σ .Eq loc (.str bs) (.list x) = .err e σ) ∧
    (∀ y, ∃ e, applyBinOp (fuel + 1) σ .Eq loc (.obj y) (.list x) = .err e σ) ∧
    (∃ e, applyBinOp (fuel + 1) σ .Eq loc .null (.list x) = .err e σ) ∧
    (∀ i, ∃ e, applyBinOp (fuel + 1) σ .Eq loc (.int i) (.list x) = .err e σ) ∧
    (∀ b, ∃ e, applyBinOp (fuel + 1) σ .Eq loc (.bool b) (.list x) = .err e σ) := by
  refine ⟨fun bs => ?_, fun y => ?_, ?_, fun i => ?_, fun b => ?_⟩ <;> simp [applyBinOp, eqVal]

/-! ## comparing never mutates -/

/-- **C10.** the four comparison operators hand back the state they were given, on every outcome that has a state -/
theorem compare_pure (fuel : Nat) (σ : State) (op : BinaryOp) (loc : Loc) (a b : Val)
    (hop : op = .Eq ∨ op = .Ne ∨ op = .RefEq ∨ op = .RefNe) :
    (∀ v σ', applyBinOp fuel σ op loc a b = .ok v σ' → σ' = σ) ∧
    (∀ e σ', applyBinOp fuel σ op loc a b = .err e σ' → σ' = σ) ∧
    (∀ w σ', applyBinOp fuel σ op loc a b = .crash w σ' → σ' = σ) := by
  -- whatever the comparison answers, the outcome is built with the `σ` that was given
  rcases hop with rfl | rfl | rfl | rfl <;> rw [applyBinOp] <;> split <;>
    exact ⟨fun _ _ e => by cases e <;> rfl, fun _ _ e => by cases e <;> rfl, fun _ _ e => by cases e <;> rfl⟩

/-! ## the mismatch diagnostic -/

/-- reaching two values of different kinds, or two functions, at the top is reported with both type names in order -/
theorem eq_mismatch_top (n : Nat) (σ : State) (a b : Val)
    (h : a.kind ≠ b.kind ∨ a.kind = .Func ∨ a.kind = .BuiltinFunc) :
    eqVal (n + 1) σ a b = .mismatch [] (Gen.typeNameDiag a.kind) (Gen.typeNameDiag b.kind) := by
  cases a <;> cases b <;> first | rfl | simp [Val.kind] at h

example : (Val.int 1).kind ≠ (Val.str []).kind ∨ (Val.int 1).kind = .Func ∨ (Val.int 1).kind = .BuiltinFunc := by decide

/-- below the top the path to the offending pair is prefixed: `[i]` for list items, `.'k'` for properties -/
theorem eq_mismatch_path (p q lt rt : List Char) :
    (EqRes.mismatch q lt rt).prefixPath p = .mismatch (p ++ q) lt rt ∧
    (∀ b, (EqRes.ok b).prefixPath p = .ok b) := ⟨rfl, fun _ => rfl⟩

/-- the text: `can't apply '==' to '<lhs>' and '<rhs>' (at <path>)`, the path part only when non-empty -/
theorem eq_mismatch_msg (fuel : Nat) (σ : State) (loc : Loc) (a b : Val) (p lt rt : List Char)
    (h : eqVal fuel σ a b = .mismatch p lt rt) :
    applyBinOp fuel σ .Eq loc a b = .err (Err.at loc (Gen.Leaf.InvalidEqOpTypes .Eq lt rt (pathSuffix p))) σ ∧
    (Gen.Leaf.InvalidEqOpTypes .Eq lt rt (pathSuffix p)).msg =
      c!"can't apply '==' to '" ++ lt ++ c!"' and '" ++ rt ++ c!"'" ++ pathSuffix p ∧
    pathSuffix [] = [] ∧ pathSuffix c!"[1]" = c!" (at [1])" :=
  ⟨((ne_is_not fuel σ loc a b).2 p lt rt h).1, rfl, rfl, rfl⟩

example : eqVal 1 State.init (.int 1) (.str []) = .mismatch [] c!"int" c!"string" := by rfl

/-- an instance with shared sub-structure, through the whole pipeline: for `a := [[]]` both `[a] == a` and `a == [a]`
    are `false` (the inner lengths differ); `[a, 1] == [a, "x"]` names the path -/
example :
    (run 300 c!"t.sd" c!"a := [[]]\nprint([a] == a)\nprint(a == [a])\nb := [a, 1]\nprint(b == [a, \"x\"])\n").out = [c!"false", c!"false"] ∧
    (run 300 c!"t.sd" c!"a := [[]]\nprint([a] == a)\nprint(a == [a])\nb := [a, 1]\nprint(b == [a, \"x\"])\n").stderr =
      c!"t.sd:5:9: can't apply '==' to 'int' and 'string' (at [1])\n" := by
  decide +kernel

/-- with functions inside, aliasing matters (outside the property's function-free scope): `a == a` is `true` by the
    identity short-cut while `[f] == [f]` is an error -/
example :
    (run 300 c!"t.sd" c!"fn f() { return 1; }\na := [f]\nprint(a == a)\nprint([f] == [f])\n").out = [c!"true"] ∧
    (run 300 c!"t.sd" c!"fn f() { return 1; }\na := [f]\nprint(a == a)\nprint([f] == [f])\n").stderr =
      c!"t.sd:4:11: can't apply '==' to 'func' and 'func' (at [0])\n" := by
  decide +kernel

/-- the two operand orders can differ as *error versus false* (never as two different booleans):
    `{b:"s",c:1} == {a:1,b:2}` errors, `{a:1,b:2} == {b:"s",c:1}` is `false` -/
example :
    (run 300 c!"t.sd" c!"print({\"a\": 1, \"b\": 2} == {\"b\": \"s\", \"c\": 1})\nprint({\"b\": \"s\", \"c\": 1} == {\"a\": 1, \"b\": 2})\n").out = [c!"false"] ∧
    (run 300 c!"t.sd" c!"print({\"a\": 1, \"b\": 2} == {\"b\": \"s\", \"c\": 1})\nprint({\"b\": \"s\", \"c\": 1} == {\"a\": 1, \"b\": 2})\n").stderr =
      c!"t.sd:2:26: can't apply '==' to 'string' and 'int' (at .'b')\n" := by
  decide +kernel

/-! ## Part 2: `==` on acyclic values is the structural comparison of their unfoldings

`Tree` is the inductive unfolding of a value, `Unf σ v s` says that `s` is the unfolding of `v` in the heap of `σ`
(it exists exactly when no container is reachable from itself), `eqT` is the comparison algorithm on trees
(`Lemmas/C10Tree.lean`).  `s.FnFree`: no function occurs in `s`; `s.KO`: the keys of every object in `s` are distinct
(the invariant of the `BTreeMap` behind every object).  Fuel only ever turns an answer into a time-out. -/

/-- **C10.** On acyclic data `eqVal` answers what the structural comparison of the unfoldings answers: the identity
    and length short-cuts, the addresses, sharing and the way the operands were built play no role. -/
theorem eq_is_tree_eq {σ : State} {a b : Val} {s t : Tree} (n : Nat) (ha : Unf σ a s) (hb : Unf σ b t)
    (hf : s.FnFree) (hk : s.KO) : eqVal n σ a b = .timeout ∨ eqVal n σ a b = eqT s t :=
  (eq_link σ n).1 a b s t ha hb hf hk

/-- a concrete heap meeting the hypotheses: cell 0 is `[1]`, cells 1 and 2 are two lists `[c, c]` sharing cell 0 -/
def demoState : State :=
  ⟨#[.list [SVal.plain (.int 1)], .list [SVal.plain (.list 0), SVal.plain (.list 0)],
     .list [SVal.plain (.list 0), SVal.plain (.list 0)]], []⟩
def demoInner : Tree := .list (.cons (.int 1) .nil)
def demoTree : Tree := .list (.cons demoInner (.cons demoInner .nil))

theorem demo_unf : Unf demoState (.list 1) demoTree ∧ Unf demoState (.list 2) demoTree ∧ demoTree.FnFree ∧ demoTree.KO := by
  have h0 : Unf demoState (.list 0) demoInner := .list (items := [SVal.plain (.int 1)]) rfl (.cons (.int 1) .nil)
  refine ⟨.list (items := [SVal.plain (.list 0), SVal.plain (.list 0)]) rfl (.cons h0 (.cons h0 .nil)),
    .list (items := [SVal.plain (.list 0), SVal.plain (.list 0)]) rfl (.cons h0 (.cons h0 .nil)), ?_, ?_⟩
  · simp [demoTree, demoInner, Tree.FnFree, Trees.FnFree]
  · simp [demoTree, demoInner, Tree.KO, Trees.KO]

/-- **C10.** true on itself and on every deep copy (any value with the same unfolding), function-free -/
theorem eq_refl {σ : State} {a b : Val} {s : Tree} (n : Nat) (ha : Unf σ a s) (hb : Unf σ b s)
    (hf : s.FnFree) (hk : s.KO) : eqVal n σ a b = .timeout ∨ eqVal n σ a b = .ok true := by
  rw [← eqT_refl s hf hk]
  exact eq_is_tree_eq n ha hb hf hk

example : eqVal 5 demoState (.list 1) (.list 2) = .timeout ∨ eqVal 5 demoState (.list 1) (.list 2) = .ok true :=
  eq_refl 5 demo_unf.1 demo_unf.2.1 demo_unf.2.2.1 demo_unf.2.2.2

/-- with enough fuel the answer is there (the hypotheses `eqVal … = .ok x` of the laws below are satisfiable), and
    with too little it is a time-out -/
example : eqVal 5 demoState (.list 1) (.list 2) = .ok true ∧ eqVal 5 demoState (.list 2) (.list 1) = .ok true ∧
    eqVal 2 demoState (.list 1) (.list 2) = .timeout := ⟨by rfl, by rfl, by rfl⟩

/-- **C10.** the answer depends only on the two unfoldings — not on the heap, the addresses, aliasing or history -/
theorem eq_alias_independent {σ σ' : State} {a b a' b' : Val} {s t : Tree} (n m : Nat)
    (ha : Unf σ a s) (hb : Unf σ b t) (ha' : Unf σ' a' s) (hb' : Unf σ' b' t) (hf : s.FnFree) (hk : s.KO)
    (h1 : eqVal n σ a b ≠ .timeout) (h2 : eqVal m σ' a' b' ≠ .timeout) : eqVal n σ a b = eqVal m σ' a' b' := by
  rw [← eqT_of_eqVal n ha hb hf hk rfl h1, ← eqT_of_eqVal m ha' hb' hf hk rfl h2]

/-- **C10.** never two different booleans for the two operand orders (an error one way and `false` the other way is
    possible and allowed) -/
theorem eq_symm_bool {σ : State} {a b : Val} {s t : Tree} {x y : Bool} (n m : Nat) (ha : Unf σ a s) (hb : Unf σ b t)
    (hfs : s.FnFree) (hft : t.FnFree) (hks : s.KO) (hkt : t.KO)
    (h1 : eqVal n σ a b = .ok x) (h2 : eqVal m σ b a = .ok y) : x = y :=
  eqT_sym_bool s t x y hks hkt (eqT_of_eqVal n ha hb hfs hks h1 nofun) (eqT_of_eqVal m hb ha hft hkt h2 nofun)

/-- **C10.** transitive -/
theorem eq_trans {σ : State} {a b c : Val} {s t u : Tree} (n m k : Nat) (ha : Unf σ a s) (hb : Unf σ b t) (hc : Unf σ c u)
    (hfs : s.FnFree) (hft : t.FnFree) (hks : s.KO) (hkt : t.KO)
    (h1 : eqVal n σ a b = .ok true) (h2 : eqVal m σ b c = .ok true) :
    eqVal k σ a c = .timeout ∨ eqVal k σ a c = .ok true := by
  rw [← eqT_trans s t u (eqT_of_eqVal n ha hb hfs hks h1 nofun) (eqT_of_eqVal m hb hc hft hkt h2 nofun)]
  exact eq_is_tree_eq k ha hc hfs hks

/-- **C10.** comparing acyclic data is a boolean or the mismatch naming two different kinds (or two functions) with
    a path — never the internal failure `bad` (so `==` cannot crash), whatever is shared between the operands -/
theorem eq_mismatch_is_error {σ : State} {a b : Val} {s t : Tree} (n : Nat) (ha : Unf σ a s) (hb : Unf σ b t)
    (hf : s.FnFree) (hk : s.KO) :
    eqVal n σ a b = .timeout ∨ (∃ v, eqVal n σ a b = .ok v) ∨
    (∃ p k1 k2, eqVal n σ a b = .mismatch p (Gen.typeNameDiag k1) (Gen.typeNameDiag k2) ∧
      (k1 ≠ k2 ∨ k1 = .Func ∨ k1 = .BuiltinFunc)) := by
  rcases eq_is_tree_eq n ha hb hf hk with h | h
  · exact Or.inl h
  · exact Or.inr (h ▸ eqT_good s t)

theorem eq_no_crash {σ : State} {a b : Val} {s t : Tree} (n : Nat) (loc : Loc) (ha : Unf σ a s) (hb : Unf σ b t)
    (hf : s.FnFree) (hk : s.KO) (w : List Char) (σ' : State) : applyBinOp n σ .Eq loc a b ≠ .crash w σ' := by
  intro hc
  simp only [applyBinOp] at hc
  rcases eq_mismatch_is_error n ha hb hf hk with h | ⟨v, h⟩ | ⟨p, k1, k2, h, _⟩ <;> rw [h] at hc <;> cases hc

/-- the laws on trees themselves (no heap): reflexive on function-free trees, same boolean both ways, transitive,
    total -/
theorem tree_laws :
    (∀ s : Tree, s.FnFree → s.KO → eqT s s = .ok true) ∧
    (∀ s t x y, s.KO → t.KO → eqT s t = .ok x → eqT t s = .ok y → x = y) ∧
    (∀ s t u, eqT s t = .ok true → eqT t u = .ok true → eqT s u = .ok true) ∧
    (∀ s t, Good (eqT s t)) :=
  ⟨eqT_refl, fun s => eqT_sym_bool s, fun s => eqT_trans s, eqT_good⟩

/-- the two orders really can differ as error versus `false` (so `eq_symm_bool` is the strongest symmetric law):
    `{b:"s",c:1} == {a:1,b:2}` is a mismatch at `.'b'`, the other order is `false` -/
example :
    eqT (.obj (.cons c!"b" (.str [115]) (.cons c!"c" (.int 1) .nil))) (.obj (.cons c!"a" (.int 1) (.cons c!"b" (.int 2) .nil)))
      = .mismatch c!".'b'" c!"string" c!"int" ∧
    eqT (.obj (.cons c!"a" (.int 1) (.cons c!"b" (.int 2) .nil))) (.obj (.cons c!"b" (.str [115]) (.cons c!"c" (.int 1) .nil)))
      = .ok false := by
  constructor <;> simp [eqT, eqPs, Props.get, Props.toList, getP, Props.length, EqRes.prefixPath, Tree.kind, Gen.typeNameDiag]

/-- **C10.** `true` exactly on equal unfoldings.  `Canon`: the keys of every object are in increasing order (how
    `BTreeMap` stores them; `objInsert` of the model keeps it), so an unfolding is a canonical form: the value's
    shape and contents and nothing else. -/
theorem eq_true_iff {s t : Tree} (hf : s.FnFree) (hs : s.Canon) (ht : t.Canon) : eqT s t = .ok true ↔ s = t :=
  ⟨eqT_true_eq s t hs ht, fun h => h ▸ eqT_refl s hf (Tree.Canon.KO s hs)⟩

example : demoTree.FnFree ∧ demoTree.Canon := by
  constructor <;> simp [demoTree, demoInner, Tree.FnFree, Trees.FnFree, Tree.Canon, Trees.Canon]

/-- on the heap: an answer `true` means the two values have the same unfolding (never `true` on different shapes or
    contents) -/
theorem eq_true_same_unfolding {σ : State} {a b : Val} {s t : Tree} (n : Nat) (ha : Unf σ a s) (hb : Unf σ b t)
    (hf : s.FnFree) (hs : s.Canon) (ht : t.Canon) (h : eqVal n σ a b = .ok true) : s = t :=
  eqT_true_eq s t hs ht (eqT_of_eqVal n ha hb hf (Tree.Canon.KO s hs) h nofun)

end Seed.C10
