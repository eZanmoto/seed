/-
  C11x — property theorems of C11 about everyday idioms (Lemmas/IdiomsProofs2.lean).

  `range_assign_from_own_slice`: `xs[i:j] = xs[k:l]` first takes the slice as a fresh list (a snapshot) and then splices it: the
  result is `items.take i ++ (items.drop k).take (l-k) ++ items.drop j` of the OLD items, also when the ranges overlap
  (`xs[1:4] = xs[0:3]` on `[1,2,3,4,5]` gives `[1,1,2,3,5]`).
-/
import SeedProofs.C11
import SeedProofs.Lemmas.IdiomsProofs2
-- audit: Seed.Idioms.range_assign_from_own_slice
