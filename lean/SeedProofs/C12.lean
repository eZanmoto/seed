/-
  C12.lean — objects behave as string-keyed maps with a deterministic (ascending) key order.

  The object map of the model is an association list kept strictly sorted by `keyLt` (the order of
  Rust's `BTreeMap<String, _>`).  Part 1 proves that such lists are finite maps whose representation
  does not depend on the insertion order; part 2 connects the laws to the evaluator: literals,
  the `.k` / `["k"]` paths for read, assign and op-assign, missing properties, iteration order;
  part 3 shows that every reachable object cell is sorted, and that a key is always text.
-/
import SeedProofs.Lemmas.C12Map
import SeedProofs.Lemmas.C12Heap
import SeedProofs.Lemmas.C12Lit
import SeedProofs.Lemmas.NoCrash
import SeedProofs.C19
-- audit: Seed.WF.sorted Seed.Safe.state_wf Seed.Safe.state_sorted Seed.safeAll Seed.keepsWF Seed.evalProg_safe Seed.evalProg_state_wf Seed.evalProg_ok_sorted Seed.evalProg_err_wf Seed.evalProg_err_sorted Seed.evalProg_state_sorted
-- audit: Seed.evalExpr_keeps_sorted Seed.evalStmts_keeps_sorted Seed.evalStmt_keeps_sorted Seed.evalExpr_obj_sorted Seed.objInsert_sorted Seed.objInsert_foldl_sorted Seed.Sorted.filter Seed.set_obj_wf Seed.alloc_wf Seed.wf_init
namespace Seed.C12
open Seed Gen

/-! ## Part 1 — sorted association lists are finite maps -/

/-- `keyLt` is a strict total order on keys -/
theorem keyLt_strict_total :
    (∀ a, keyLt a a = false) ∧
    (∀ a b c, keyLt a b = true → keyLt b c = true → keyLt a c = true) ∧
    (∀ a b, keyLt a b = true ∨ a = b ∨ keyLt b a = true) :=
  ⟨keyLt_irrefl, fun _ _ _ => keyLt_trans, keyLt_trichotomy⟩

example : keyLt c!"A" c!"a" = true ∧ keyLt c!"a" c!"a b" = true ∧ keyLt c!"" c!"0" = true ∧ keyLt c!"b" c!"é" = true := by
  decide

theorem insert_sorted {m : ObjMap} (k : List Char) (v : SVal) (h : Sorted m) : Sorted (objInsert k v m) :=
  objInsert_sorted h

example : Sorted [(c!"A", SVal.plain .null), (c!"a", SVal.plain (.int 1))] := by
  unfold Sorted; decide

theorem lookup_insert (m : ObjMap) (k k' : List Char) (v : SVal) :
    objGet k' (objInsert k v m) = if k' = k then some v else objGet k' m :=
  objGet_objInsert k k' v m

/-- a new key is added exactly when it was absent -/
theorem insert_size {m : ObjMap} (k : List Char) (v : SVal) (h : Sorted m) :
    (objInsert k v m).length = m.length + (if (objGet k m).isSome then 0 else 1) :=
  objInsert_length k v h

theorem ext {m m' : ObjMap} (h : Sorted m) (h' : Sorted m') (e : ∀ k, objGet k m = objGet k m') : m = m' :=
  sorted_ext h h' e

/-- any two insertion orders of the same key/value pairs (distinct keys) give the *same list* -/
theorem order_independent {ps qs : List (List Char × SVal)} (p : ps.Perm qs) (hd : DistinctKeys ps)
    {acc : ObjMap} (h : Sorted acc) : insertAll acc ps = insertAll acc qs :=
  insertAll_perm p hd h

example : insertAll [] [(c!"b", SVal.plain (.int 2)), (c!"", SVal.plain (.int 0)), (c!"a", SVal.plain (.int 1))]
    = [(c!"", SVal.plain (.int 0)), (c!"a", SVal.plain (.int 1)), (c!"b", SVal.plain (.int 2))] := by decide

example : DistinctKeys [(c!"b", SVal.plain (.int 2)), (c!"", SVal.plain (.int 0)), (c!"a", SVal.plain (.int 1))] := by
  unfold DistinctKeys; decide

/-- every sorted map is the result of inserting its pairs in any order -/
theorem built_by_inserts {m : ObjMap} (h : Sorted m) {ps : List (List Char × SVal)} (p : ps.Perm m) :
    insertAll [] ps = m := by
  rw [insertAll_perm p (h.distinct.perm p.symm) Sorted.nil]
  exact insertAll_self h

/-- a later entry for the same key replaces an earlier one -/
theorem later_entry_wins (k : List Char) (v1 v2 : SVal) {m : ObjMap} (h : Sorted m) :
    objInsert k v2 (objInsert k v1 m) = objInsert k v2 m :=
  objInsert_overwrite k v1 v2 h

/-- inlining `x..`: every property of `x` replaces or adds, all others stay -/
theorem spread_lookup (k : List Char) {x : ObjMap} (hx : Sorted x) (acc : ObjMap) :
    objGet k (insertAll acc x) = match objGet k x with | some v => some v | none => objGet k acc :=
  objGet_insertAll_sorted k hx acc

/-! ## Part 2 — the evaluator -/

/-- `for` over an object visits the stored list front to back, i.e. in ascending key order -/
theorem for_ascending {σ : State} {a : Addr} {m : ObjMap} (h : σ.getObj a = some m) :
    toPairs σ (.obj a) = some (some (m.map fun (k, x) => (SVal.plain (.str (utf8Encode k)), x))) := by
  simp only [toPairs, h]

/-- the keys `for` produces are strictly ascending when the cell is sorted -/
theorem for_keys_ascending {m : ObjMap} (h : Sorted m) : (m.map Prod.fst).Pairwise fun a b => keyLt a b = true :=
  List.pairwise_map.mpr h

/-- two objects built from the same pairs in different orders are the same cell contents, hence give the
    same `for` sequence (and the same `print` text and `==` verdict, which are functions of the list) -/
theorem order_unobservable {σ : State} {a b : Addr} {ps qs : List (List Char × SVal)}
    (ha : σ.getObj a = some (insertAll [] ps)) (hb : σ.getObj b = some (insertAll [] qs))
    (p : ps.Perm qs) (hd : DistinctKeys ps) :
    σ.getObj a = σ.getObj b ∧ toPairs σ (.obj a) = toPairs σ (.obj b) := by
  have e := insertAll_perm p hd Sorted.nil
  refine ⟨by rw [ha, hb, e], ?_⟩
  rw [for_ascending ha, for_ascending hb, e]

/-- a state used by the examples: scope 0 holds `o` (object 1 = `{"A": null, "a": 1}`), `x` and `k` -/
def σex : State :=
  ⟨#[.scope [(c!"o", SVal.plain (.obj 1), (1, 0)), (c!"x", SVal.plain (.int 7), (2, 0)),
             (c!"k", SVal.plain (.str (utf8Encode c!"a")), (3, 0))],
     .obj [(c!"A", SVal.plain .null), (c!"a", SVal.plain (.int 1))]], []⟩

def eO : Expr := .mk (.Var c!"o") (4, 0)

example : evalExpr 1 σex [0] eO = .ok (SVal.plain (.obj 1)) σex := by with_unfolding_all rfl
example : σex.getObj 1 = some [(c!"A", SVal.plain .null), (c!"a", SVal.plain (.int 1))] := by rfl

/-- a `name: value` entry: the name, then the value, then the insert into what was built so far -/
theorem literal_pair_step (n : Nat) (σ : State) (sc : List Addr) (l : Loc) (nameE value : Expr) (r : List PropItem)
    (acc : ObjMap) :
    evalProps (n + 1) σ sc l (.Pair nameE value :: r) acc =
      (evalToStr n σ sc c!"property name" nameE).bind fun name σ1 =>
      (evalExpr n σ1 sc value).bind fun v σ2 =>
      evalProps n σ2 sc l r (objInsert name v acc) := by
  rw [evalProps]

/-- computed names must be strings -/
theorem literal_name_must_be_string {n : Nat} {σ σ1 : State} {sc : List Addr} {l : Loc} {nameE value : Expr}
    {r : List PropItem} {acc : ObjMap} {v : SVal}
    (h : evalExpr n σ sc nameE = .ok v σ1) (hv : ∀ bs, v.v ≠ .str bs) :
    evalProps (n + 2) σ sc l (.Pair nameE value :: r) acc =
      errAt nameE.loc (Leaf.IncorrectType c!"property name" c!"string" v.v.kind) σ1 := by
  rw [evalProps, evalToStr, h]
  simp only [Res.bind]
  cases hvv : v.v with
  | str bs => exact absurd hvv (hv bs)
  | _ => rfl

example : evalExpr 1 σex [0] (.mk (.Var c!"x") (5, 1)) = .ok (SVal.plain (.int 7)) σex ∧
    ∀ bs, (SVal.plain (.int 7)).v ≠ .str bs := ⟨by with_unfolding_all rfl, fun _ h => by cases h⟩

/-- a whole literal `{n₁: v₁, …}` whose names and values evaluate without side effects: the entries are folded left
    to right with later-wins insertion into the empty map, and the result is a fresh object -/
theorem literal_spec {k : Nat} {σ : State} {sc : List Addr} {props : List PropItem} {pairs : List (List Char × SVal)}
    (h : PureProps k σ sc props pairs) (loc : Loc) (d : Nat) :
    evalExpr (k + props.length + 2 + d) σ sc (.mk (.Object props) loc) =
      .ok (SVal.plain (.obj σ.heap.size)) (σ.alloc (.obj (insertAll [] pairs))).2 := by
  have e1 : k + props.length + 2 + d = (k + props.length + 1 + d) + 1 := by omega
  rw [e1, evalExpr, evalProps_pure h]
  rfl

example : PureProps 3 σex [0]
    [.Pair (.mk (.Str c!"b" none) (1, 1)) (.mk (.Int 2) (1, 6)), .Pair (.mk (.Var c!"k") (1, 9)) (.mk (.Var c!"x") (1, 12))]
    [(c!"b", SVal.plain (.int 2)), (c!"a", SVal.plain (.int 7))] := by
  refine ⟨?_, ?_, ?_, ?_, trivial⟩
  · intro m hm; obtain ⟨j, rfl⟩ : ∃ j, m = j + 3 := ⟨m - 3, by omega⟩
    rw [evalToStr, evalExpr]; rfl
  · intro m hm; obtain ⟨j, rfl⟩ : ∃ j, m = j + 3 := ⟨m - 3, by omega⟩
    rw [evalExpr]
  · intro m hm; obtain ⟨j, rfl⟩ : ∃ j, m = j + 3 := ⟨m - 3, by omega⟩
    rw [evalToStr, evalExpr]; rfl
  · intro m hm; obtain ⟨j, rfl⟩ : ∃ j, m = j + 3 := ⟨m - 3, by omega⟩
    rw [evalExpr]; rfl

/-- writing the same entries (distinct keys) in another order gives an object with the same contents -/
theorem literal_order_independent {k : Nat} {σ : State} {sc : List Addr} {props props' : List PropItem}
    {pairs pairs' : List (List Char × SVal)}
    (h : PureProps k σ sc props pairs) (h' : PureProps k σ sc props' pairs')
    (p : pairs.Perm pairs') (hd : DistinctKeys pairs) (loc loc' : Loc) (d : Nat) :
    evalExpr (k + props.length + 2 + d) σ sc (.mk (.Object props) loc) =
    evalExpr (k + props'.length + 2 + d) σ sc (.mk (.Object props') loc') := by
  rw [literal_spec h, literal_spec h', insertAll_perm p hd Sorted.nil]

/-- the round-trip hypothesis `hname` of the theorems above and below holds for every name (`C15U.decode_encode`);
    here for names made of ASCII characters — every identifier, so every `.k` and every shorthand `{k}` -/
theorem ascii_name_roundtrip {name : List Char} (h : IsAscii name) : utf8Decode (utf8Encode name) = .ok name :=
  C15U.decode_encode name

example : IsAscii c!"a_B9" := by intro c hc; simp at hc; rcases hc with h | h | h | h <;> subst h <;> decide

/-- `{a}` means `{"a": a}` -/
theorem literal_shorthand (n : Nat) (σ : State) (sc : List Addr) (l la lb : Loc) (a : List Char) (r : List PropItem)
    (acc : ObjMap) (hname : utf8Decode (utf8Encode a) = .ok a) :
    evalProps (n + 3) σ sc l (.Single (.mk (.Var a) la) false false :: r) acc =
    evalProps (n + 3) σ sc l (.Pair (.mk (.Str a none) lb) (.mk (.Var a) la) :: r) acc := by
  rw [evalProps, evalProps, evalToStr, evalExpr]
  simp only [Res.bind, SVal.plain, hname, Expr.raw, Expr.loc]
  rw [evalExpr]
  cases scopeGet σ sc a <;> rfl

example : utf8Decode (utf8Encode c!"a") = .ok c!"a" := by rfl

/-- `x..` inlines the properties of object `x` into what was built so far (later wins, see `spread_lookup`) -/
theorem literal_spread_step {n : Nat} {σ σ1 : State} {sc : List Addr} {l : Loc} {e : Expr} {r : List PropItem}
    {acc : ObjMap} {v : SVal} {a : Addr} {m : ObjMap}
    (h : evalExpr n σ sc e = .ok v σ1) (hv : v.v = .obj a) (hm : σ1.getObj a = some m) :
    evalProps (n + 1) σ sc l (.Single e true false :: r) acc = evalProps n σ1 sc l r (insertAll acc m) := by
  rw [evalProps]
  simp only [Bool.false_eq_true, if_false, if_true, h, Res.bind, hv, hm, insertAll]

example : evalExpr 1 σex [0] eO = .ok (SVal.plain (.obj 1)) σex ∧ (SVal.plain (.obj 1)).v = .obj 1 ∧
    σex.getObj 1 = some [(c!"A", SVal.plain .null), (c!"a", SVal.plain (.int 1))] := ⟨by with_unfolding_all rfl, rfl, by rfl⟩

/-- entries are evaluated in source order: an error in an earlier entry means later ones are never evaluated -/
theorem literal_source_order {n : Nat} {σ σ1 : State} {sc : List Addr} {l : Loc} {nameE value : Expr}
    {r : List PropItem} {acc : ObjMap} {e : Err}
    (h : evalToStr n σ sc c!"property name" nameE = .err e σ1) :
    evalProps (n + 1) σ sc l (.Pair nameE value :: r) acc = .err e σ1 := by
  rw [evalProps, h]; rfl

theorem read_prop {n : Nat} {σ σ1 : State} {sc : List Addr} {ex : Expr} {loc : Loc} {name : List Char} {s : Option Val}
    {a : Addr} {m : ObjMap}
    (h : evalExpr n σ sc ex = .ok ⟨.obj a, s⟩ σ1) (hm : σ1.getObj a = some m) :
    evalExpr (n + 1) σ sc (.mk (.Prop ex name false) loc) =
      match objGet name m with
      | some v => .ok ⟨v.v, some (.obj a)⟩ σ1
      | none => errAt loc (Leaf.PropNotFound name) σ1 := by
  rw [evalExpr, h]
  simp only [Res.bind, Bool.false_eq_true, if_false, hm]
  rfl

/-- `e.k` and `e["k"]` read the same property: same value, same state, same error -/
theorem prop_eq_index_read {n : Nat} {σ σ1 : State} {sc : List Addr} {ex : Expr} {loc lk : Loc} {name : List Char}
    {s : Option Val} {a : Addr}
    (hname : utf8Decode (utf8Encode name) = .ok name)
    (h : evalExpr (n + 2) σ sc ex = .ok ⟨.obj a, s⟩ σ1) :
    evalExpr (n + 3) σ sc (.mk (.Index ex (.mk (.Str name none) lk)) loc) =
    evalExpr (n + 3) σ sc (.mk (.Prop ex name false) loc) := by
  rw [evalExpr, evalExpr, h]
  simp only [Res.bind, Bool.false_eq_true, if_false]
  rw [evalToStr, evalExpr]
  simp only [Res.bind, SVal.plain, hname]

example : evalExpr 2 σex [0] eO = .ok ⟨.obj 1, none⟩ σex := by with_unfolding_all rfl

/-- reading a missing property is a reported (located) error, on both paths -/
theorem read_missing {n : Nat} {σ σ1 : State} {sc : List Addr} {ex : Expr} {loc : Loc} {name : List Char} {s : Option Val}
    {a : Addr} {m : ObjMap}
    (h : evalExpr n σ sc ex = .ok ⟨.obj a, s⟩ σ1) (hm : σ1.getObj a = some m) (hk : objGet name m = none) :
    evalExpr (n + 1) σ sc (.mk (.Prop ex name false) loc) = errAt loc (Leaf.PropNotFound name) σ1 := by
  rw [read_prop h hm, hk]

example : objGet c!"b" [(c!"A", SVal.plain .null), (c!"a", SVal.plain (.int 1))] = none := by decide

/-- plain assignment to a property: update-or-insert of that key, whatever path was used -/
theorem assign_prop {σ : State} {a : Addr} {props : ObjMap} (n : Nat) (name : List Char) (loc : Loc) (rhs : SVal)
    (names : List (List Char)) (via : Bool) (hm : σ.getObj a = some props) :
    bindProp (n + 1) σ a name loc rhs none names via = .ok names (σ.set a (.obj (objInsert name rhs props))) := by
  rw [bindProp, hm]
  simp only
  cases hk : objGet name props with
  | none => rfl
  | some cur => simp only [opAssignValue, Res.bind, hm]

/-- after `o[k] = v`: `o[k]` is `v`, every other property is unchanged, the object stays sorted, its size grows
    by one exactly when `k` was absent, and no other cell of the heap changes -/
theorem assign_then_read {σ : State} {a : Addr} {props : ObjMap} (name : List Char) (rhs : SVal)
    (hm : σ.getObj a = some props) (hs : Sorted props) :
    let σ' := σ.set a (.obj (objInsert name rhs props))
    ∃ props', σ'.getObj a = some props' ∧ Sorted props' ∧
      objGet name props' = some rhs ∧
      (∀ k, k ≠ name → objGet k props' = objGet k props) ∧
      props'.length = props.length + (if (objGet name props).isSome then 0 else 1) ∧
      (∀ b, b ≠ a → σ'.heap[b]? = σ.heap[b]?) := by
  refine ⟨_, getObj_set_same (getObj_lt hm) _, objInsert_sorted hs, objGet_objInsert_same _ _ _,
    fun k hk => objGet_objInsert_other hk _ _, objInsert_length _ _ hs, fun b hb => σ.heap_set_other _ hb⟩

/-- the `.k` and `["k"]` write paths do the same thing; they differ only in the wording of the error for an
    op-assign on a missing key -/
theorem prop_eq_index_write {σ : State} {a : Addr} {props : ObjMap} (fuel : Nat) (name : List Char) (loc : Loc)
    (rhs : SVal) (op : Option (BinaryOp × Loc)) (names : List (List Char))
    (hm : σ.getObj a = some props) (hok : op = none ∨ (objGet name props).isSome) :
    bindProp fuel σ a name loc rhs op names true = bindProp fuel σ a name loc rhs op names false := by
  cases fuel with
  | zero => rw [bindProp, bindProp]
  | succ n =>
    rw [bindProp, bindProp, hm]
    simp only
    cases hk : objGet name props with
    | some cur => rfl
    | none =>
      rcases hok with h | h
      · subst h; rfl
      · rw [hk] at h; cases h

/-- the two assignment forms reach `bindProp` with the same object, key and value -/
theorem prop_eq_index_assign {n : Nat} {σ σ1 : State} {sc : List Addr} {ex : Expr} {loc lk : Loc} {name : List Char}
    {s : Option Val} {a : Addr} {props : ObjMap} (rhs : SVal) (op : Option (BinaryOp × Loc)) (names : List (List Char))
    (decl : Bool)
    (hname : utf8Decode (utf8Encode name) = .ok name)
    (h : evalExpr (n + 2) σ sc ex = .ok ⟨.obj a, s⟩ σ1)
    (hm : σ1.getObj a = some props) (hok : op = none ∨ (objGet name props).isSome) :
    bindNext (n + 3) σ sc names (.mk (.Index ex (.mk (.Str name none) lk)) loc) rhs op decl =
    bindNext (n + 3) σ sc names (.mk (.Prop ex name false) loc) rhs op decl := by
  rw [bindNext, bindNext, h]
  simp only [Res.bind, Bool.false_eq_true, if_false]
  rw [evalToStr, evalExpr]
  simp only [Res.bind, SVal.plain, hname]
  exact prop_eq_index_write _ _ _ _ _ _ hm hok

/-- op-assign on a missing key is an error and inserts nothing (the state is returned unchanged) -/
theorem opassign_missing {σ : State} {a : Addr} {props : ObjMap} (n : Nat) (name : List Char) (loc : Loc) (rhs : SVal)
    (op : BinaryOp × Loc) (names : List (List Char)) (via : Bool)
    (hm : σ.getObj a = some props) (hk : objGet name props = none) :
    bindProp (n + 1) σ a name loc rhs (some op) names via =
      errAt loc (if via then Leaf.OpOnUndefinedIndex name else Leaf.OpOnUndefinedProp name) σ := by
  rw [bindProp, hm]
  simp only [hk]
  cases via <;> rfl

/-- op-assign on a present key stores `cur op rhs` under that key (when the operation succeeds without
    touching the object) -/
theorem opassign_present {σ : State} {a : Addr} {props : ObjMap} (n : Nat) (name : List Char) (loc : Loc) (rhs cur : SVal)
    (o : BinaryOp) (ol : Loc) (names : List (List Char)) (via : Bool) (v : Val)
    (hm : σ.getObj a = some props) (hk : objGet name props = some cur)
    (hop : applyBinOp n σ o ol cur.v rhs.v = .ok v σ) :
    bindProp (n + 1) σ a name loc rhs (some (o, ol)) names via =
      .ok names (σ.set a (.obj (objInsert name (SVal.plain v) props))) := by
  rw [bindProp, hm]
  simp only [hk, opAssignValue, hop, Res.map, Res.bind, hm]

example : applyBinOp 1 σex .Sum (9, 2) (Val.int 1) (Val.int 2) = .ok (.int 3) σex := by rfl

/-! ## Part 3 — the sortedness invariant holds in every reachable state

`Sorted` was a hypothesis of the theorems above.  It is an invariant of the evaluator: `WF σ` (Lemmas/WF.lean)
contains "every object cell of `σ` is `Sorted`", the initial state is `WF`, and every one of the 23 evaluator
functions, started in a `WF` state, ends in a `WF` state — whether it succeeds, reports an error or crashes with
`lock` (`Seed.safeAll`, `Seed.keepsWF`; object cells are written at four places: the literal, whose accumulator
only grows by `objInsert`; the two `objInsert`s of `bindProp`; the `filter` of the rest pattern `{…, ..r}`). -/

/-- **C12.** when a program ends normally, every object cell of its final heap is strictly sorted by key -/
theorem objects_always_sorted {n : Nat} {stmts : List Stmt} {σ : State} (h : evalProg n stmts = .ok () σ)
    {a : Addr} {m : ObjMap} (hm : σ.getObj a = some m) : Sorted m :=
  evalProg_ok_sorted n stmts σ h a m hm

/-- … and the same when it ends in a reported error … -/
theorem objects_always_sorted_err {n : Nat} {stmts : List Stmt} {e : Err} {σ : State} (h : evalProg n stmts = .err e σ)
    {a : Addr} {m : ObjMap} (hm : σ.getObj a = some m) : Sorted m :=
  evalProg_err_sorted n stmts e σ h a m hm

/-- … or in any outcome that carries a state at all (success, error, `lock` crash) -/
theorem objects_always_sorted_any {n : Nat} {stmts : List Stmt} {σ : State} (h : (evalProg n stmts).state? = some σ)
    {a : Addr} {m : ObjMap} (hm : σ.getObj a = some m) : Sorted m :=
  evalProg_state_sorted n stmts σ h a m hm

/-- **C12.** the invariant at every point of evaluation: each of the 23 evaluator functions, at every fuel, takes
    a well-formed state (all object cells sorted) to a well-formed state, whatever the outcome.  Since every state an
    evaluator function is called with is either `State.init` or the state carried by the result of an earlier call,
    all reachable states are well-formed. -/
theorem reachable_sorted (n : Nat) : KeepsWF n := keepsWF n

/-- `reachable_sorted` spelled out for expressions -/
theorem reachable_sorted_expr {n : Nat} {σ σ' : State} {sc : List Addr} {e : Expr} (hw : WF σ) (hs : ScOK σ sc)
    (h : (evalExpr n σ sc e).state? = some σ') : WF σ' ∧ ∀ a m, σ'.getObj a = some m → Sorted m :=
  evalExpr_keeps_sorted n σ sc e hw hs σ' h

/-- `reachable_sorted` spelled out for statement sequences -/
theorem reachable_sorted_stmts {n : Nat} {σ σ' : State} {sc : List Addr} {stmts : List Stmt} (hw : WF σ) (hs : ScOK σ sc)
    (h : (evalStmts n σ sc stmts).state? = some σ') : WF σ' ∧ ∀ a m, σ'.getObj a = some m → Sorted m :=
  evalStmts_keeps_sorted n σ sc stmts hw hs σ' h

theorem σex_wf : WF σex ∧ ScOK σex [0] := by
  refine ⟨?_, by simp, ?_⟩
  · intro a cell h
    match a with
    | 0 =>
      cases h
      intro e he
      simp only [List.mem_cons, List.not_mem_nil, or_false] at he
      rcases he with rfl | rfl | rfl
      · exact SValOK.plain (v := .obj 1) (by rfl)
      · exact SValOK.plain trivial
      · exact SValOK.plain trivial
    | 1 =>
      cases h
      refine ⟨?_, by unfold Sorted; decide⟩
      intro e he
      simp only [List.mem_cons, List.not_mem_nil, or_false] at he
      rcases he with rfl | rfl
      · exact SValOK.plain trivial
      · exact SValOK.plain trivial
    | k + 2 => simp [σex] at h
  · intro a ha
    simp only [List.mem_cons, List.not_mem_nil, or_false] at ha
    subst ha; rfl

example : (evalExpr 1 σex [0] eO).state? = some σex := by with_unfolding_all rfl

/-- a program used by the examples: a literal written out of order, the three write paths, a rest pattern and a
    spread -/
def srcSorted : List Char :=
  c!"o := {\"b\": 1, \"a\": 2};\no.A = 3;\no[\"b\"] += 1;\n{a, ..r} := o;\nq := {\"z\": 0, o.., \"A\": 9};\n"
def progSorted : List Stmt := match parseProg srcSorted with | .ok s => s | _ => []
def isOk {α : Type} : Res α → Bool | .ok _ _ => true | _ => false
def keysAt {α : Type} (r : Res α) (a : Addr) : Option (List (List Char)) :=
  (r.state?.bind (·.getObj a)).map (·.map Prod.fst)

example : progSorted.length = 5 := by decide +kernel
/-- the one run of `progSorted` the examples below speak of -/
theorem progSorted_run : isOk (evalProg 30 progSorted) = true ∧
    keysAt (evalProg 30 progSorted) 1 = some [c!"A", c!"a", c!"b"] ∧
    keysAt (evalProg 30 progSorted) 2 = some [c!"A", c!"b"] ∧
    keysAt (evalProg 30 progSorted) 3 = some [c!"A", c!"a", c!"b", c!"z"] := by decide +kernel

/-- the hypotheses of `objects_always_sorted` on a concrete run: `o`, `r` and `q` are the cells 1, 2, 3 -/
example : isOk (evalProg 30 progSorted) = true ∧
    keysAt (evalProg 30 progSorted) 1 = some [c!"A", c!"a", c!"b"] ∧
    keysAt (evalProg 30 progSorted) 2 = some [c!"A", c!"b"] ∧
    keysAt (evalProg 30 progSorted) 3 = some [c!"A", c!"a", c!"b", c!"z"] := progSorted_run

example : ∃ σ m, evalProg 30 progSorted = .ok () σ ∧ σ.getObj 3 = some m ∧ m.map Prod.fst = [c!"A", c!"a", c!"b", c!"z"] := by
  have hk := progSorted_run.2.2.2
  have ho := progSorted_run.1
  unfold keysAt at hk
  cases h : evalProg 30 progSorted with
  | ok u σ =>
    rw [h] at hk
    cases hm : σ.getObj 3 with
    | none => simp [Res.state?, hm] at hk
    | some m => exact ⟨σ, m, rfl, hm, by simpa [Res.state?, hm] using hk⟩
  | err e σ => rw [h] at ho; cases ho
  | crash w σ => rw [h] at ho; cases ho
  | timeout => rw [h] at ho; cases ho

/-- an error outcome carrying a state with an object (hypotheses of `objects_always_sorted_err`) -/
def progSortedErr : List Stmt :=
  match parseProg c!"o := {\"b\": 1, \"a\": 2};\no.c += 1;\n" with | .ok s => s | _ => []
example : isOk (evalProg 30 progSortedErr) = false ∧ keysAt (evalProg 30 progSortedErr) 1 = some [c!"a", c!"b"] := by
  decide +kernel

/-! ### the theorems of part 2 without the `Sorted` hypothesis -/

/-- in a well-formed state `for` over an object visits its keys in strictly ascending order -/
theorem for_keys_ascending_wf {σ : State} {a : Addr} {m : ObjMap} (hw : WF σ) (hm : σ.getObj a = some m) :
    toPairs σ (.obj a) = some (some (m.map fun (k, x) => (SVal.plain (.str (utf8Encode k)), x))) ∧
    (m.map Prod.fst).Pairwise fun k k' => keyLt k k' = true :=
  ⟨for_ascending hm, for_keys_ascending (hw.sorted hm)⟩

/-- … in particular in the final state of any program -/
theorem for_keys_ascending_reached {n : Nat} {stmts : List Stmt} {σ : State} (h : evalProg n stmts = .ok () σ)
    {a : Addr} {m : ObjMap} (hm : σ.getObj a = some m) :
    toPairs σ (.obj a) = some (some (m.map fun (k, x) => (SVal.plain (.str (utf8Encode k)), x))) ∧
    (m.map Prod.fst).Pairwise fun k k' => keyLt k k' = true :=
  for_keys_ascending_wf (evalProg_ok_wf n stmts σ h) hm

/-- … and at the point where it matters: a `for` statement met anywhere during evaluation (the state `σ` it starts in
    is well-formed) whose iterable evaluates to an object runs its body over that object's keys in strictly ascending
    order -/
theorem for_stmt_keys_ascending {n : Nat} {σ σ1 : State} {sc : List Addr} {lhs iter : Expr} {stmts : List Stmt} {a : Addr}
    {s : Option Val} (hw : WF σ) (hs : ScOK σ sc) (h : evalExpr n σ sc iter = .ok ⟨.obj a, s⟩ σ1) :
    ∃ m, σ1.getObj a = some m ∧ (m.map Prod.fst).Pairwise (fun k k' => keyLt k k' = true) ∧
      evalStmt (n + 1) σ sc (.For lhs iter stmts) =
        evalFor n σ1 sc lhs (m.map fun (k, x) => (SVal.plain (.str (utf8Encode k)), x)) stmts := by
  obtain ⟨m, hm, hsm⟩ := evalExpr_obj_sorted n σ sc iter hw hs a s σ1 h
  refine ⟨m, hm, for_keys_ascending hsm, ?_⟩
  rw [evalStmt, h]
  simp only [Res.bind, toPairs, hm]

example : WF σex ∧ ScOK σex [0] ∧ evalExpr 1 σex [0] eO = .ok ⟨.obj 1, none⟩ σex :=
  ⟨σex_wf.1, σex_wf.2, by with_unfolding_all rfl⟩

/-- `Seed.C19.render_keys_ascending` in a well-formed state: what `print` writes for an object lists the keys in
    strictly ascending order -/
theorem render_keys_ascending_wf {σ : State} {a : Addr} {props : ObjMap} {n : Nat} {out : List Char} (hw : WF σ)
    (hg : σ.getObj a = some props) (hr : render n σ [] (.obj a) = .ok out) :
    ∃ rs : List (List Char), C19.Forall2 (fun p s => ∃ m, render m σ [a] p.2.v = .ok s) props rs ∧
      out = c!"{\n" ++ (List.zipWith (fun p s => C19.propLine p.1 s) props rs).flatten ++ c!"}" ∧
      (props.map Prod.fst).Pairwise (fun k k' => keyLt k k' = true) :=
  C19.render_keys_ascending hg (hw.sorted hg) hr

/-- … in particular in the final state of any program -/
theorem render_keys_ascending_reached {k : Nat} {stmts : List Stmt} {σ : State} (h : evalProg k stmts = .ok () σ)
    {a : Addr} {props : ObjMap} {n : Nat} {out : List Char}
    (hg : σ.getObj a = some props) (hr : render n σ [] (.obj a) = .ok out) :
    ∃ rs : List (List Char), C19.Forall2 (fun p s => ∃ m, render m σ [a] p.2.v = .ok s) props rs ∧
      out = c!"{\n" ++ (List.zipWith (fun p s => C19.propLine p.1 s) props rs).flatten ++ c!"}" ∧
      (props.map Prod.fst).Pairwise (fun k k' => keyLt k k' = true) :=
  render_keys_ascending_wf (evalProg_ok_wf k stmts σ h) hg hr

example : σex.getObj 1 = some [(c!"A", SVal.plain .null), (c!"a", SVal.plain (.int 1))] ∧
    render 5 σex [] (.obj 1) = .ok c!"{\n    \"A\": <null>,\n    \"a\": 1,\n}" := ⟨by rfl, by with_unfolding_all rfl⟩

/-- `assign_then_read` in a well-formed state (no `Sorted` hypothesis), with the new state well-formed again -/
theorem assign_then_read_wf {σ : State} {a : Addr} {props : ObjMap} (name : List Char) {rhs : SVal} (hw : WF σ)
    (hr : SValOK σ rhs) (hm : σ.getObj a = some props) :
    let σ' := σ.set a (.obj (objInsert name rhs props))
    WF σ' ∧ ∃ props', σ'.getObj a = some props' ∧ Sorted props' ∧
      objGet name props' = some rhs ∧
      (∀ k, k ≠ name → objGet k props' = objGet k props) ∧
      props'.length = props.length + (if (objGet name props).isSome then 0 else 1) ∧
      (∀ b, b ≠ a → σ'.heap[b]? = σ.heap[b]?) :=
  ⟨set_obj_wf hw hm (objInsert_ok (hw.obj hm) hr) (objInsert_sorted (hw.sorted hm)),
    assign_then_read name rhs hm (hw.sorted hm)⟩

example : WF σex ∧ SValOK σex (SVal.plain (.int 5)) ∧
    σex.getObj 1 = some [(c!"A", SVal.plain .null), (c!"a", SVal.plain (.int 1))] :=
  ⟨σex_wf.1, SValOK.plain trivial, by rfl⟩

/-- in a well-formed state an object is determined by its lookups: two objects that agree on every key have the
    same cell contents, hence the same `for` sequence -/
theorem wf_obj_ext {σ : State} {a b : Addr} {m m' : ObjMap} (hw : WF σ) (ha : σ.getObj a = some m)
    (hb : σ.getObj b = some m') (e : ∀ k, objGet k m = objGet k m') :
    m = m' ∧ toPairs σ (.obj a) = toPairs σ (.obj b) := by
  have := sorted_ext (hw.sorted ha) (hw.sorted hb) e
  subst this
  exact ⟨rfl, by rw [for_ascending ha, for_ascending hb]⟩

example : WF σex ∧ σex.getObj 1 = some [(c!"A", SVal.plain .null), (c!"a", SVal.plain (.int 1))] := ⟨σex_wf.1, by rfl⟩

/-- a computed key is text: a string value whose bytes are not valid UTF-8 (a byte-wise piece of a multi-byte character) is
    rejected where the key expression stands, on every path that takes a computed key — reading, assigning, op-assigning,
    literal entries and pattern keys all go through `evalToStr` — so it never names, or collides with, a property -/
theorem key_must_be_text (n : Nat) (σ σ1 : State) (sc : List Addr) (descr : List Char) (e : Expr) (v : SVal) (bs : Bytes)
    (er : Utf8Err) (he : evalExpr n σ sc e = .ok v σ1) (hv : v.v = .str bs) (hd : utf8Decode bs = .error er) :
    evalToStr (n + 1) σ sc descr e = errAt e.loc (Gen.Leaf.StringConstructionFailed er.msg descr) σ1 := by
  unfold evalToStr; simp [he, Res.bind, hv, hd]

/-- … and a string that is text names exactly the property spelt by its decoded characters -/
theorem key_is_decoded_text (n : Nat) (σ σ1 : State) (sc : List Addr) (descr : List Char) (e : Expr) (v : SVal) (bs : Bytes)
    (cs : List Char) (he : evalExpr n σ sc e = .ok v σ1) (hv : v.v = .str bs) (hd : utf8Decode bs = .ok cs) :
    evalToStr (n + 1) σ sc descr e = .ok cs σ1 := by
  unfold evalToStr; simp [he, Res.bind, hv, hd]

/-- anything but a string is rejected as a key, naming its kind -/
theorem key_must_be_string (n : Nat) (σ σ1 : State) (sc : List Addr) (descr : List Char) (e : Expr) (v : SVal)
    (he : evalExpr n σ sc e = .ok v σ1) (hv : ∀ bs, v.v ≠ .str bs) :
    evalToStr (n + 1) σ sc descr e = errAt e.loc (Gen.Leaf.IncorrectType descr c!"string" v.v.kind) σ1 := by
  unfold evalToStr
  rw [he]
  show (match v.v with
    | .str bs => (match utf8Decode bs with
      | .ok cs => Res.ok cs σ1
      | .error er => errAt e.loc (Gen.Leaf.StringConstructionFailed er.msg descr) σ1)
    | w => errAt e.loc (Gen.Leaf.IncorrectType descr c!"string" w.kind) σ1) = _
  split
  · rename_i bs hb; exact absurd hb (hv bs)
  · rfl

/-- the two bytes of `é`, taken one at a time, are both not text (so neither can be a key, and they cannot collide) -/
example : utf8Decode [0xC3] = .error (.incomplete 0) ∧ utf8Decode [0xA9] = .error (.invalid 1 0) ∧
    utf8Decode [0xC3, 0xA9] = .ok c!"é" := ⟨by rfl, by rfl, by rfl⟩

end Seed.C12
