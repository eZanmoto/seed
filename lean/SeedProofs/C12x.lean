/-
  C12x — property theorems of C12 about everyday idioms (Lemmas/IdiomsProofs2.lean).

  `opassign_key_evaluated_once`: in `o[ke] op= rhs` the key expression `ke` — whatever it is, side effects included — is evaluated
  exactly once (after the right-hand side and the target): the final state is the state after that one evaluation with the
  property `k` replaced; `opassign_key_missing`: a missing key is the error, still after one evaluation.
-/
import SeedProofs.Lemmas.IdiomsProofs2
-- audit: Seed.Idioms.opassign_key_evaluated_once Seed.Idioms.opassign_key_missing
