/-
  C13.lean — destructuring, spread and collect are inverse, lossless rearrangements.

  * list patterns of names: equal length (or ≥ n with `..rest`), position by position, the rest is a fresh list
    holding exactly `drop n`, and `take n ++ drop n` is the source;
  * object patterns of names / renames: each name gets the source's property, the rest is a fresh object with
    exactly the keys that were not named, and rest + named = source;
  * `_` binds nothing, a name binds once per pattern; declaration, assignment, `for` target and parameters all
    go through `bindNext`;
  * spread: `[xs.., ys..]` and `xs + ys` build the same list; `f(xs..)` and `f(xs[0], …)` evaluate to the same
    argument values; the rest parameter is a fresh list of the surplus; the argument-count rule;
  * shape errors are located diagnostics.

  The theorems of the first sections treat patterns of depth 1 with names as targets.  The last section
  (`## nested patterns`) is the general theorem over *arbitrarily nested* pure declaration patterns
  (`C13N.Pat`, Lemmas/C13NestedDefs.lean: names and `_`, list patterns with an optional collecting last item
  — itself a pattern —, object patterns of shorthand names (`_` discards), literal-key pairs `"k": p` (any key,
  `"_"` included, is looked up) and `..rest`):
      theorem bind_nested : for fuel ≥ p.size, `bindNext … p.toExpr v none true` into the scope cell `a` is ok ↔
        `proj p σ v` is defined (shape) ∧ the leaf names are new and pairwise distinct (`FreshBs`), and then the
        state is `σ` + one fresh cell per `..rest` (`drop n` / the filtered map) with exactly the leaves of
        `proj` declared in cell `a`, in pattern order, and nothing else changed (`bind_nested_frame`,
        `bind_nested_leaves`, `rest_cells`); `bind_nested_sound` is the ⇒ half at any fuel, `bind_nested_not_ok` the failing half;
      theorem bind_nested_exact / bind_nested_any_fuel : on *every* outcome (each located error at any depth,
        with the partial bindings made before it) the engine equals the pure, fuel-free `C13N.pmatch`.
  Proved by induction over the pattern tree (Lemmas/C13Nested*.lean).  Not covered (kept out of `Pat` because
  they evaluate expressions in the middle of the binding): computed / interpolated keys and index, range-index
  and property targets (the last example of Lemmas/C13Assign3.lean shows why an index leaf does not fit `proj`: the source
  is re-read at every item, so `[xs[1], xs[0]] = xs` gives `[1, 1]`).

  ASSIGNMENT mode (`=`) of nested patterns, arbitrary depth, plain-name leaves (Lemmas/C13Assign*.lean):
      theorem assign_nested : for fuel ≥ p.size, `bindNext … p.toExpr v none false` is ok ↔ `proj p σ v` is defined (shape),
        the leaf names are pairwise distinct and not yet bound by this pattern, every leaf name is declared somewhere in the
        chain, and the state is `assignAll`: each leaf stored in its NEAREST binding (`assign_nested_nearest`), names, order
        and declaration positions of every scope cell kept, every other name of every scope cell — shadowed outer bindings,
        scopes outside the chain — reads as before (`assign_nested_others`, `assign_nested_frame`), each leaf reads back
        (`assign_nested_leaves`, `assign_nested_eval`); `assign_nested_exact` / `assign_nested_any_fuel`: on every outcome
        the engine is the fuel-free `amatch`; `assign_nested_not_ok`: otherwise a reported error, never ok.
-/
import SeedProofs.Lemmas.EvalStep
import SeedProofs.Lemmas.C13Obj
import SeedProofs.Lemmas.C13Call
import SeedProofs.Lemmas.C13NestedFuel
import SeedProofs.Lemmas.C13Assign3
import SeedModel.Run
namespace Seed.C13
open Seed Gen

-- audit: Seed.C13N.assign_nested Seed.C13N.assign_nested_exact Seed.C13N.assign_nested_any_fuel Seed.C13N.assign_nested_succeeds Seed.C13N.assign_nested_sound Seed.C13N.assign_nested_not_ok Seed.C13N.assign_nested_frame Seed.C13N.assign_nested_nearest Seed.C13N.assign_nested_others Seed.C13N.assign_nested_leaves Seed.C13N.assign_nested_eval Seed.C13N.assign_stmt_nested Seed.C13N.aName_dup Seed.C13N.aName_undefined
-- audit: Seed.C13N.bindNext_pat Seed.C13N.bindList_pat Seed.C13N.bindObject_pat Seed.C13N.pmatch_agree Seed.C13N.proj_ext Seed.C13N.bindNext_pat_any Seed.C13N.FreshBs_iff Seed.C13N.FreshBs.lookup

/-- scope 0: `xs ↦ [10, 20, 30]` (cell 1), `o ↦ {"a": 1, "k": 2, "z": 3}` (cell 2), `ys ↦ [40]` (cell 3) -/
def σex : State :=
  ⟨#[.scope [(c!"xs", SVal.plain (.list 1), (1, 0)), (c!"o", SVal.plain (.obj 2), (2, 0)), (c!"ys", SVal.plain (.list 3), (3, 0))],
     .list [SVal.plain (.int 10), SVal.plain (.int 20), SVal.plain (.int 30)],
     .obj [(c!"a", SVal.plain (.int 1)), (c!"k", SVal.plain (.int 2)), (c!"z", SVal.plain (.int 3))],
     .list [SVal.plain (.int 40)]], []⟩

example : σex.getList 1 = some [SVal.plain (.int 10), SVal.plain (.int 20), SVal.plain (.int 30)] := by rfl
example : σex.getScope 0 = some [(c!"xs", SVal.plain (.list 1), (1, 0)), (c!"o", SVal.plain (.obj 2), (2, 0)),
    (c!"ys", SVal.plain (.list 3), (3, 0))] := by rfl

theorem varItems_length (vars : List (List Char × Loc)) : (varItems vars).length = vars.length := by
  simp [varItems]

/-- `[x₀, …, xₙ₋₁] := xs` requires equal lengths and then binds the names, left to right, position by position -/
theorem bind_list_spec {σ : State} {b : Addr} {vals : List SVal} (sc : List Addr) (names : List (List Char)) (loc : Loc)
    (decl : Bool) (vars : List (List Char × Loc)) (d : Nat) (rhs : SVal)
    (hr : rhs.v = .list b) (hb : σ.getList b = some vals) :
    bindNext (vars.length + 2 + d) σ sc names (.mk (.List (varItems vars) false) loc) rhs none decl =
      if vars.length = vals.length then bindVars σ sc names decl (vars.zip vals)
      else errAt loc (Leaf.ListDestructureItemMismatch vars.length vals.length) σ := by
  have e1 : vars.length + 2 + d = (vars.length + 1 + d) + 1 := by omega
  rw [e1, bindNext]
  simp only [hr, hb, varItems_length, Bool.false_and, Bool.false_eq_true, if_false, Bool.not_false, Bool.true_and,
    decide_eq_true_eq]
  by_cases h : vars.length = vals.length
  · simp only [h, ne_eq, not_true_eq_false, if_false, if_true]
    rw [← h, bindList_vars sc loc decl vars.length vars names 0 d hb (by omega), List.drop_zero]
  · simp only [h, ne_eq, not_false_eq_true, if_true, if_false]

example : (SVal.plain (.list 1)).v = .list 1 ∧ σex.getList 1 = some [SVal.plain (.int 10), SVal.plain (.int 20),
    SVal.plain (.int 30)] := ⟨rfl, by rfl⟩

/-- … and for fresh, pairwise different names the declaration succeeds: afterwards the `j`-th name holds the `j`-th
    element (the stored value itself, provenance included), other names are untouched, no other cell changes -/
theorem bind_list_declares {σ : State} {a : Addr} {m : ScopeMap} (sc : List Addr) (names : List (List Char))
    (vars : List (List Char × Loc)) (vals : List SVal)
    (hs : σ.getScope a = some m) (hf : FreshRow m names vars) (hl : vars.length = vals.length) :
    ∃ names' σ' m', bindVars σ (a :: sc) names true (vars.zip vals) = .ok names' σ' ∧
      σ'.getScope a = some m' ∧
      (∀ j (h1 : j < vars.length) (h2 : j < vals.length), (scopeLookup vars[j].1 m').map Prod.fst = some vals[j]) ∧
      (∀ k, (∀ p ∈ vars, p.1 ≠ k) → scopeLookup k m' = scopeLookup k m) ∧
      (∀ b, b ≠ a → σ'.heap[b]? = σ.heap[b]?) := by
  induction vars generalizing σ m names vals with
  | nil =>
    exact ⟨names, σ, m, rfl, hs, fun j h1 => absurd h1 (Nat.not_lt_zero _), fun _ _ => rfl, fun _ _ => rfl⟩
  | cons p r ih =>
    obtain ⟨x, l⟩ := p
    cases vals with
    | nil => simp at hl
    | cons v vs =>
      obtain ⟨h1, h2, h3, h4, h5⟩ := hf
      simp only [List.zip_cons_cons, bindVars]
      rw [bindNextName_declare l v h1 h2 hs h3]
      simp only [Res.bind]
      have hs1 : (σ.set a (.scope ((x, v, l) :: m))).getScope a = some ((x, v, l) :: m) :=
        getScope_set_same (getScope_lt hs) _
      obtain ⟨names', σ', m', hres, hsc, hlook, hother, hheap⟩ :=
        ih (x :: names) vs hs1 (h5.step h4) (by simpa using hl)
      refine ⟨names', σ', m', hres, hsc, ?_, ?_, ?_⟩
      · intro j hj1 hj2
        cases j with
        | zero =>
          simp only [List.getElem_cons_zero]
          rw [hother x h4]
          simp [scopeLookup]
        | succ j =>
          simp only [List.getElem_cons_succ]
          exact hlook j (by simpa using hj1) (by simpa using hj2)
      · intro k hk
        rw [hother k fun p hp => hk p (List.mem_cons_of_mem _ hp)]
        exact scopeLookup_cons_ne (Ne.symm (hk (x, l) List.mem_cons_self))
      · intro b hb
        rw [hheap b hb, State.heap_set_other _ _ hb]

example : FreshRow [(c!"xs", SVal.plain (.list 1), (1, 0))] [] [(c!"p", (5, 1)), (c!"q", (5, 4))] := by
  refine ⟨by decide, by simp, by decide, ?_, by decide, by simp, by decide, ?_, trivial⟩
  · intro p hp; simp at hp; subst hp; decide
  · intro p hp; simp at hp

/-- `[x₀, …, xₙ₋₁, ..r] := xs` requires at least `n` elements; the names get the first `n`, `r` a *fresh* list
    (the address `σ1.heap.size` is new) holding exactly `xs.drop n` -/
theorem bind_list_collect {σ : State} {b : Addr} {vals : List SVal} (sc : List Addr) (names : List (List Char)) (loc : Loc)
    (decl : Bool) (vars : List (List Char × Loc)) (r : List Char) (lr : Loc) (d : Nat) (rhs : SVal)
    (hr : rhs.v = .list b) (hb : σ.getList b = some vals) :
    bindNext (vars.length + 4 + d) σ sc names
        (.mk (.List (varItems vars ++ [ListItem.mk (.mk (.Var r) lr) false]) true) loc) rhs none decl =
      if vars.length ≤ vals.length then
        (bindVars σ sc names decl (vars.zip vals)).bind fun names' σ1 =>
          bindNextName 0 (σ1.alloc (.list (vals.drop vars.length))).2 sc names' r lr
            (SVal.plain (.list σ1.heap.size)) none decl
      else errAt loc (Leaf.ListCollectTooFew (vars.length + 1) vals.length) σ := by
  have e1 : vars.length + 4 + d = (vars.length + ((d + 2) + 1)) + 1 := by omega
  rw [e1, bindNext]
  simp only [hr, hb, List.length_append, varItems_length, List.length_cons, List.length_nil, Nat.zero_add,
    Nat.add_sub_cancel, Bool.true_and, decide_eq_true_eq, Bool.not_true, Bool.false_and, Bool.false_eq_true, if_false]
  by_cases h : vars.length ≤ vals.length
  · have h' : ¬ vars.length > vals.length := by omega
    simp only [h, h', if_true, if_false]
    rw [bindList_vars_tail sc loc decl true (vars.length + 1) _ vars names 0 (d + 2) hb (by omega) (fun _ => by omega),
      List.drop_zero]
    refine Res.bind_congr rfl ?_
    intro names' σ1 hres
    have hb1 : σ1.getList b = some vals := by rw [(bindVars_heap hres).1 b]; exact hb
    have := bindList_rest d sc loc decl (vars.length + 1) names' r lr hb1
    simp only [Nat.add_sub_cancel] at this
    simp only [Nat.zero_add]
    exact this
  · have h' : vars.length > vals.length := by omega
    simp only [h, h', if_true, if_false]

/-- collect is lossless: the named prefix and the collected rest concatenate to the source -/
theorem collect_lossless (vals : List SVal) (n : Nat) : vals.take n ++ vals.drop n = vals := List.take_append_drop n vals

/-- `{a, "k": b, ..r} := o` binds the names to the source's properties under those keys, left to right, and `r` to a
    *fresh* object holding exactly the properties whose keys were not named -/
theorem bind_obj_spec {σ : State} {b : Addr} {m : ObjMap} (sc : List Addr) (names : List (List Char)) (loc : Loc) (decl : Bool)
    (ps : List NamedProp) (vals : List SVal) (r : List Char) (lr : Loc) (d : Nat) (rhs : SVal)
    (hr : rhs.v = .obj b) (hb : σ.getObj b = some m) (hrow : NamedRow m ps vals) :
    bindNext (ps.length + 3 + d) σ sc names
        (.mk (.Object (ps.map NamedProp.item ++ [.Single (.mk (.Var r) lr) false true])) loc) rhs none decl =
      (bindVars σ sc names decl ((ps.map NamedProp.var).zip vals)).bind fun names' σ1 =>
        bindNextName 0 (σ1.alloc (.obj (restObj m (ps.map NamedProp.key)))).2 sc names' r lr
          (SVal.plain (.obj σ1.heap.size)) none decl := by
  have e1 : ps.length + 3 + d = (ps.length + (d + 2)) + 1 := by omega
  rw [e1, bindNext]
  simp only [hr, hb]
  rw [bindObject_named sc decl _ ps vals _ names 0 d _ hb hrow]
  refine Res.bind_congr rfl ?_
  intro names' σ1 hres
  have hb1 : σ1.getObj b = some m := by rw [(bindVars_heap hres).2.1 b]; exact hb
  have := bindObject_collect (n := d) sc names' r lr decl (ps.length + 1)
    ((m.map Prod.fst).filter fun key => !(ps.map NamedProp.key).contains key) hb1
  simp only [List.length_append, List.length_map, List.length_cons, List.length_nil, Nat.zero_add, Nat.add_sub_cancel]
    at this ⊢
  rw [this, rest_filter_eq]

example : NamedRow [(c!"a", SVal.plain (.int 1)), (c!"k", SVal.plain (.int 2)), (c!"z", SVal.plain (.int 3))]
    [.short c!"a" (4, 1), .pair c!"k" (4, 4) c!"b" (4, 9)] [SVal.plain (.int 1), SVal.plain (.int 2)] := by
  refine ⟨by decide, by rfl, by decide, by decide, by rfl, by decide, trivial⟩

/-- without `..r`: the names are bound, properties that are not named are simply ignored -/
theorem bind_obj_named {σ : State} {b : Addr} {m : ObjMap} (sc : List Addr) (names : List (List Char)) (loc : Loc) (decl : Bool)
    (ps : List NamedProp) (vals : List SVal) (d : Nat) (rhs : SVal)
    (hr : rhs.v = .obj b) (hb : σ.getObj b = some m) (hrow : NamedRow m ps vals) :
    bindNext (ps.length + 3 + d) σ sc names (.mk (.Object (ps.map NamedProp.item)) loc) rhs none decl =
      bindVars σ sc names decl ((ps.map NamedProp.var).zip vals) := by
  have e1 : ps.length + 3 + d = (ps.length + (d + 2)) + 1 := by omega
  rw [e1, bindNext]
  simp only [hr, hb]
  have := bindObject_named sc decl (ps.map NamedProp.item).length ps vals [] names 0 d (m.map Prod.fst) hb hrow
  rw [List.append_nil] at this
  rw [this]
  simp only [bindObject_nil, Res.bind_pure]

/-- the rest object has exactly the properties that were not named … -/
theorem rest_exact (m : ObjMap) (used : List (List Char)) (k : List Char) :
    objGet k (restObj m used) = if used.contains k then none else objGet k m := objGet_restObj m used k

/-- … so the bind is lossless: `{"a": a, "k": b, rest..} == o` (the literal inserts the named pairs into the rest) -/
theorem obj_collect_lossless {m : ObjMap} (h : Sorted m) (used : List (List Char)) :
    insertAll (restObj m used) (namedObj m used) = m := by
  have hn : Sorted (namedObj m used) := h.filter _
  have hr : Sorted (restObj m used) := h.filter _
  apply sorted_ext (insertAll_sorted hr _) h
  intro k
  rw [objGet_insertAll_sorted k hn, objGet_namedObj, objGet_restObj]
  cases hu : used.contains k with
  | true =>
    simp only [if_true]
    cases objGet k m <;> rfl
  | false => simp

example : Sorted [(c!"a", SVal.plain (.int 1)), (c!"k", SVal.plain (.int 2)), (c!"z", SVal.plain (.int 3))] := by
  unfold Sorted; decide

/-- a named property the source does not have is a located error -/
theorem bind_obj_missing {n : Nat} {σ : State} {b : Addr} {m : ObjMap} (sc : List Addr) (names : List (List Char))
    (lhs : Expr) (pname : List Char) (ploc : Loc) (decl : Bool)
    (hk : pname ≠ c!"_") (hb : σ.getObj b = some m) (hv : objGet pname m = none) :
    bindObjectProp (n + 1) σ sc names lhs b pname ploc decl = errAt ploc (Leaf.PropNotFound pname) σ := by
  rw [bindObjectProp]
  simp only [hb, hv]

example : c!"q" ≠ c!"_" ∧ σex.getObj 2 = some [(c!"a", SVal.plain (.int 1)), (c!"k", SVal.plain (.int 2)),
    (c!"z", SVal.plain (.int 3))] ∧ objGet c!"q" [(c!"a", SVal.plain (.int 1)), (c!"k", SVal.plain (.int 2)),
    (c!"z", SVal.plain (.int 3))] = none := ⟨by decide, by rfl, by decide⟩

/-- the collect must be the last property -/
theorem obj_collect_must_be_last {n : Nat} {σ : State} {b : Addr} (sc : List Addr) (names : List (List Char))
    (x : List Char) (l : Loc) (r : List PropItem) (decl : Bool) (i total : Nat) (rem : List (List Char))
    (h : i ≠ total - 1) :
    bindObject (n + 1) σ sc names (.Single (.mk (.Var x) l) false true :: r) b decl i total rem =
      errAt l Leaf.ObjectCollectIsNotLast σ := by
  rw [bindObject]
  simp only [Bool.false_eq_true, if_false, Expr.raw, if_true, ne_eq, h, not_false_eq_true, Expr.loc]

/-- `_` discards: nothing is bound, the state is unchanged -/
theorem underscore_discards (n : Nat) (σ : State) (sc : List Addr) (names : List (List Char)) (loc : Loc) (rhs : SVal)
    (op : Option (BinaryOp × Loc)) (decl : Bool) :
    bindNext (n + 1) σ sc names (.mk (.Var c!"_") loc) rhs op decl = .ok names σ := by
  rw [bindNext_var, bindNextName_underscore]

/-- a name may be bound only once per pattern, in declarations and assignments alike -/
theorem name_once {n : Nat} {σ : State} {sc : List Addr} {names : List (List Char)} {name : List Char} (loc : Loc)
    (rhs : SVal) (op : Option (BinaryOp × Loc)) (decl : Bool) (h1 : name ≠ c!"_") (h2 : name ∈ names) :
    bindNext (n + 1) σ sc names (.mk (.Var name) loc) rhs op decl = errAt loc (Leaf.AlreadyInBinding name) σ := by
  rw [bindNext_var]
  simp [bindNextName, h1, h2]

example : c!"a" ≠ c!"_" ∧ c!"a" ∈ [c!"b", c!"a"] := ⟨by decide, by simp⟩

/-- one engine: `:=` and `=` differ only in the declaration flag … -/
theorem same_engine_stmt (n : Nat) (σ : State) (sc : List Addr) (lhs rhs : Expr) :
    evalStmt (n + 1) σ sc (.Declare lhs rhs) =
      ((evalExpr n σ sc rhs).bind fun v σ1 => (bindNext n σ1 sc [] lhs v none true).bind fun _ σ2 => .ok .none σ2) ∧
    evalStmt (n + 1) σ sc (.Assign lhs rhs) =
      ((evalExpr n σ sc rhs).bind fun v σ1 => (bindNext n σ1 sc [] lhs v none false).bind fun _ σ2 => .ok .none σ2) := by
  constructor <;> rw [evalStmt]

/-- … `for` targets and parameters are declarations in the fresh scope of the body: both hand a list of
    (pattern, value) pairs to `evalBlock`, which declares them with `bindNext … true` one after the other -/
theorem same_engine_block (n : Nat) (σ : State) (sc : List Addr) (bindings : List (Expr × SVal)) (stmts : List Stmt)
    (lhs : Expr) (rhs : SVal) :
    evalBlock (n + 1) σ sc bindings stmts =
      ((declareAll n (σ.alloc (.scope [])).2 (σ.heap.size :: sc) bindings).bind fun _ σ2 =>
        evalStmts n σ2 (σ.heap.size :: sc) stmts) ∧
    declareAll (n + 1) σ sc ((lhs, rhs) :: bindings) =
      ((bindNext n σ sc [] lhs rhs none true).bind fun _ σ1 => declareAll n σ1 sc bindings) := by
  constructor
  · rw [evalBlock]; rfl
  · rw [declareAll]

theorem same_engine_for (n : Nat) (σ : State) (sc : List Addr) (lhs : Expr) (k v : SVal) (r : List (SVal × SVal))
    (stmts : List Stmt) :
    evalFor (n + 1) σ sc lhs ((k, v) :: r) stmts =
      (evalBlock n (σ.alloc (.list [k, v])).2 sc [(lhs, SVal.plain (.list σ.heap.size))] stmts).bind fun esc σ2 =>
        match esc with
        | .none => evalFor n σ2 sc lhs r stmts
        | .brk _ => .ok .none σ2
        | .cont _ => evalFor n σ2 sc lhs r stmts
        | .ret v l => .ok (.ret v l) σ2 := by
  rw [evalFor]
  rfl

/-- `[xs.., ys..]` and `xs + ys` evaluate to the same fresh list (same cell contents, same address, same state) -/
theorem spread_concat {σ : State} {sc : List Addr} {x y : List Char} {vx vy : SVal} {ax ay : Addr} {xs ys : List SVal}
    (n : Nat) (lx ly loc opLoc : Loc)
    (hx : scopeGet σ sc x = some vx) (hvx : vx.v = .list ax) (hax : σ.getList ax = some xs)
    (hy : scopeGet σ sc y = some vy) (hvy : vy.v = .list ay) (hay : σ.getList ay = some ys) :
    evalExpr (n + 4) σ sc (.mk (.List [.mk (.mk (.Var x) lx) true, .mk (.mk (.Var y) ly) true] false) loc) =
      .ok (SVal.plain (.list σ.heap.size)) (σ.alloc (.list (xs ++ ys))).2 ∧
    evalExpr (n + 4) σ sc (.mk (.BinaryOp .Sum opLoc (.mk (.Var x) lx) (.mk (.Var y) ly)) loc) =
      .ok (SVal.plain (.list σ.heap.size)) (σ.alloc (.list (xs ++ ys))).2 := by
  constructor
  · rw [evalExpr]
    simp only [Bool.false_eq_true, if_false]
    rw [evalListItems_cons_spread _ _ (evalExpr_var _ lx hx) hvx hax,
      evalListItems_cons_spread _ _ (evalExpr_var _ ly hy) hvy hay, evalListItems_nil]
    simp only [Res.bind, List.nil_append, State.alloc]
  · rw [evalExpr, evalExpr_var _ lx hx]
    simp only [Res.bind]
    rw [evalExpr_var _ ly hy]
    simp only [hvx, hvy, applyBinOp, hax, hay, State.alloc]

example : scopeGet σex [0] c!"xs" = some (SVal.plain (.list 1)) ∧ scopeGet σex [0] c!"ys" = some (SVal.plain (.list 3)) ∧
    σex.getList 3 = some [SVal.plain (.int 40)] := ⟨by rfl, by rfl, by rfl⟩

/-- spreading something that is not a list is a located error -/
theorem spread_non_list {n : Nat} {σ σ1 : State} {sc : List Addr} {e : Expr} {v : SVal}
    (r : List ListItem) (acc : List SVal) (h : evalExpr n σ sc e = .ok v σ1) (hv : ∀ a, v.v ≠ .list a) :
    evalListItems (n + 1) σ sc (.mk e true :: r) acc = errAt e.loc (Leaf.SpreadNonListInList v.v.kind) σ1 := by
  rw [evalListItems, h]
  simp only [Res.bind, Bool.not_true, Bool.false_eq_true, if_false]

example : evalExpr 1 σex [0] (.mk (.Var c!"o") (7, 1)) = .ok (SVal.plain (.obj 2)) σex ∧
    ∀ a, (SVal.plain (.obj 2)).v ≠ .list a := ⟨by with_unfolding_all rfl, fun _ h => by cases h⟩

/-- the arguments `xs[i], xs[i+1], …` (`c` of them) -/
def indexItems (x : List Char) (l : Loc) : Nat → Nat → List ListItem
  | _, 0 => []
  | i, c + 1 => .mk (.mk (.Index (.mk (.Var x) l) (.mk (.Int (Int.ofNat i)) l)) l) false :: indexItems x l (i + 1) c

theorem evalExpr_index_var {σ : State} {sc : List Addr} {x : List Char} {vx : SVal} {ax : Addr} {xs : List SVal} (l : Loc)
    (i : Nat) (hi : i < xs.length) (m : Nat) (hm : 5 ≤ m)
    (hx : scopeGet σ sc x = some vx) (hvx : vx.v = .list ax) (hax : σ.getList ax = some xs) :
    evalExpr m σ sc (.mk (.Index (.mk (.Var x) l) (.mk (.Int (Int.ofNat i)) l)) l) = .ok xs[i] σ := by
  obtain ⟨k, rfl⟩ : ∃ k, m = k + 5 := ⟨m - 5, by omega⟩
  rw [evalExpr, evalExpr_var _ l hx]
  simp only [Res.bind, hvx]
  rw [evalToIndex, evalToInt, evalExpr]
  simp only [Res.bind, SVal.plain, Expr.loc, Int.ofNat_eq_natCast]
  have : ¬ ((i : Int) < 0) := by omega
  simp only [this, if_false, Int.toNat_natCast, hax, List.getElem?_eq_getElem hi]

theorem indexItems_pure {σ : State} {sc : List Addr} {x : List Char} {vx : SVal} {ax : Addr} {xs : List SVal} (l : Loc)
    (hx : scopeGet σ sc x = some vx) (hvx : vx.v = .list ax) (hax : σ.getList ax = some xs)
    (c i : Nat) (h : i + c ≤ xs.length) :
    PureItems 5 σ sc (indexItems x l i c) ((xs.drop i).take c) := by
  induction c generalizing i with
  | zero => simp [indexItems, PureItems]
  | succ c ih =>
    have hi : i < xs.length := by omega
    rw [indexItems, List.drop_eq_getElem_cons hi, List.take_succ_cons]
    exact ⟨rfl, fun m hm => evalExpr_index_var l i hi m hm hx hvx hax, ih (i + 1) (by omega)⟩

/-- `f(xs..)` and `f(xs[0], …, xs[n-1])` evaluate to the same argument values (the stored elements themselves),
    leaving the state unchanged: the call proceeds identically from there -/
theorem call_spread {σ : State} {sc : List Addr} {x : List Char} {vx : SVal} {ax : Addr} {xs : List SVal} (l : Loc) (d : Nat)
    (hx : scopeGet σ sc x = some vx) (hvx : vx.v = .list ax) (hax : σ.getList ax = some xs) :
    evalListItems (d + 3) σ sc [.mk (.mk (.Var x) l) true] [] = .ok xs σ ∧
    evalListItems (5 + xs.length + 1 + d) σ sc (indexItems x l 0 xs.length) [] = .ok xs σ := by
  constructor
  · rw [evalListItems_cons_spread _ _ (evalExpr_var _ l hx) hvx hax, evalListItems_nil]; rfl
  · have hp := indexItems_pure l hx hvx hax xs.length 0 (by omega)
    have hl : (indexItems x l 0 xs.length).length = xs.length := by
      have : ∀ c i, (indexItems x l i c).length = c := by
        intro c; induction c with
        | zero => intro i; rfl
        | succ c ih => intro i; simp [indexItems, ih]
      exact this _ _
    have := evalListItems_pure hp d []
    rw [hl, List.drop_zero, List.take_length, List.nil_append] at this
    exact this

/-- the count rule: exactly `n` arguments, or at least `n - 1` when the last parameter collects -/
theorem arity_rule (numParams got : Nat) :
    (arityOk false numParams got = true ↔ got = numParams) ∧
    (arityOk true numParams got = true ↔ numParams - 1 ≤ got) := by
  simp [arityOk, eq_comm]

/-- a call of a user function: count check at the call position, then the body runs in a fresh scope on the
    *closure* chain with the parameters (and `this`) declared in it -/
theorem call_spec {n : Nat} {σ σ1 σ2 : State} {sc : List Addr} {f : Expr} {args : List ListItem} {loc : Loc}
    {argVals : List SVal} {fv : SVal} {a : Addr} {fr : FuncRec}
    (hargs : evalListItems n σ sc args [] = .ok argVals σ1)
    (hf : evalExpr n σ1 sc f = .ok fv σ2) (hv : fv.v = .func a) (hfr : σ2.getFunc a = some fr) :
    evalCall (n + 1) σ sc f args loc =
      if arityOk fr.collect fr.args.length argVals.length then
        ((evalBlock n (callPlainVals σ2 fr argVals).2 fr.closure
            (callBindings fr (callPlainVals σ2 fr argVals).1 fv.src loc) fr.stmts).mapErr
          (Err.funcCall fr.name loc)).bind finishCall
      else errAt loc (arityErr fr.collect fr.args.length argVals.length) σ2 :=
  evalCall_func hargs hf hv hfr

/-- a state with a function `fn (p, ..r) { }` in cell 1 and `f` bound to it -/
def σfn : State :=
  ⟨#[.scope [(c!"f", SVal.plain (.func 1), (1, 0))],
     .func ⟨none, [.mk (.Var c!"p") (1, 8), .mk (.Var c!"r") (1, 13)], true, [], [0]⟩], []⟩

example : evalListItems 3 σfn [0] [.mk (.mk (.Int 7) (2, 2)) false, .mk (.mk (.Int 8) (2, 5)) false] [] =
      .ok [SVal.plain (.int 7), SVal.plain (.int 8)] σfn ∧
    evalExpr 3 σfn [0] (.mk (.Var c!"f") (2, 0)) = .ok (SVal.plain (.func 1)) σfn ∧
    σfn.getFunc 1 = some ⟨none, [.mk (.Var c!"p") (1, 8), .mk (.Var c!"r") (1, 13)], true, [], [0]⟩ :=
  ⟨by with_unfolding_all rfl, by with_unfolding_all rfl, by rfl⟩

/-- the rest parameter receives exactly the surplus arguments, as a *fresh* list; the parameter values put back
    together are the arguments -/
theorem rest_param {σ : State} {fr : FuncRec} (argVals : List SVal) (h : fr.collect = true) (hpos : 0 < fr.args.length)
    (hok : arityOk fr.collect fr.args.length argVals.length = true) :
    (callPlainVals σ fr argVals).1 = argVals.take (fr.args.length - 1) ++ [SVal.plain (.list σ.heap.size)] ∧
    (callPlainVals σ fr argVals).1.length = fr.args.length ∧
    (callPlainVals σ fr argVals).2.getList σ.heap.size = some (argVals.drop (fr.args.length - 1)) ∧
    (∀ b, b < σ.heap.size → (callPlainVals σ fr argVals).2.heap[b]? = σ.heap[b]?) ∧
    argVals.take (fr.args.length - 1) ++ argVals.drop (fr.args.length - 1) = argVals :=
  ⟨by rw [callPlainVals_rest argVals h], callPlainVals_rest_length argVals h hpos hok,
   (callPlainVals_rest_cell argVals h).1, (callPlainVals_rest_cell argVals h).2, List.take_append_drop _ _⟩

example : (FuncRec.mk none [.mk (.Var c!"p") (1, 8), .mk (.Var c!"r") (1, 13)] true [] [0]).collect = true ∧
    arityOk true 2 3 = true := ⟨rfl, by decide⟩

/-! ## shape errors are located diagnostics -/

theorem shape_list_vs_non_list {n : Nat} {σ : State} (sc : List Addr) (names : List (List Char)) (items : List ListItem)
    (c : Bool) (loc : Loc) (rhs : SVal) (decl : Bool) (h : ∀ b, rhs.v ≠ .list b) :
    bindNext (n + 1) σ sc names (.mk (.List items c) loc) rhs none decl =
      errAt loc (Leaf.ListDestructureOnNonList rhs.v.kind) σ := by
  rw [bindNext]
  simp only

example : ∀ b, (SVal.plain (.int 3)).v ≠ .list b := fun _ h => by cases h

theorem shape_object_vs_non_object {n : Nat} {σ : State} (sc : List Addr) (names : List (List Char)) (props : List PropItem)
    (loc : Loc) (rhs : SVal) (decl : Bool) (h : ∀ b, rhs.v ≠ .obj b) :
    bindNext (n + 1) σ sc names (.mk (.Object props) loc) rhs none decl =
      errAt loc (Leaf.ObjectDestructureOnNonObject rhs.v.kind) σ := by
  rw [bindNext]
  simp only

example : ∀ b, (SVal.plain (.list 1)).v ≠ .obj b := fun _ h => by cases h

theorem shape_spread_in_list_pattern (n : Nat) (σ : State) (sc : List Addr) (names : List (List Char)) (e : Expr)
    (r : List ListItem) (c : Bool) (loc : Loc) (b : Addr) (decl : Bool) (i len : Nat) :
    bindList (n + 1) σ sc names (.mk e true :: r) c loc b decl i len = errAt loc (Leaf.SpreadInListDestructure i) σ := by
  rw [bindList]; rfl

theorem shape_spread_in_object_pattern (n : Nat) (σ : State) (sc : List Addr) (names : List (List Char)) (e : Expr)
    (c : Bool) (r : List PropItem) (b : Addr) (decl : Bool) (i total : Nat) (rem : List (List Char)) :
    bindObject (n + 1) σ sc names (.Single e true c :: r) b decl i total rem =
      errAt e.loc Leaf.SpreadOnObjectDestructure σ := by
  rw [bindObject]; rfl

theorem shape_collect_in_expression (n : Nat) (σ : State) (sc : List Addr) (items : List ListItem) (loc : Loc)
    (e : Expr) (sp : Bool) (r : List PropItem) (acc : ObjMap) :
    evalExpr (n + 1) σ sc (.mk (.List items true) loc) = errAt loc Leaf.ListCollectOutsideDestructure σ ∧
    evalProps (n + 1) σ sc loc (.Single e sp true :: r) acc = errAt loc Leaf.ObjectCollectOutsideDestructure σ := by
  constructor
  · rw [evalExpr]; rfl
  · rw [evalProps]; rfl

theorem shape_op_on_pattern (n : Nat) (σ : State) (sc : List Addr) (names : List (List Char)) (items : List ListItem)
    (props : List PropItem) (c : Bool) (loc : Loc) (rhs : SVal) (op : BinaryOp × Loc) (decl : Bool) :
    bindNext (n + 1) σ sc names (.mk (.List items c) loc) rhs (some op) decl = errAt loc Leaf.OpOnListDestructure σ ∧
    bindNext (n + 1) σ sc names (.mk (.Object props) loc) rhs (some op) decl = errAt loc Leaf.OpOnObjectDestructure σ := by
  constructor <;> rw [bindNext]

/-! ## nested patterns

  `C13N.Pat` are the pure declaration patterns of any depth, `Pat.toExpr` the expression the parser builds for
  them.  Two fuel-free readings (Lemmas/C13NestedDefs.lean):
  * `C13N.proj p σ v = some (bs, σ1)`: `v` has the shape of `p` on the heap of `σ`; `bs` are the leaves in pattern
    order — (name, the stored value itself, position of the name), `_` leaves omitted —; `σ1` is `σ` with one
    fresh cell per `..rest` pushed, in pattern order, holding `xs.drop (len - 1)` resp. the source object filtered
    to the keys that were not named;
  * `C13N.pmatch`: the engine itself as a pure total function of the names-in-binding, the contents of the scope
    cell and an allocate-only state, with every located error.
-/

open C13N

/-- **every outcome**: with fuel at least the size of the pattern the engine on a nested declaration pattern is
    the pure engine — success, each located error at whatever depth (with the bindings made before it), crash -/
theorem bind_nested_exact {σ : State} {a : Addr} {m : ScopeMap} (sc : List Addr) (names : List (List Char)) (p : Pat)
    (v : SVal) (fuel : Nat) (hs : σ.getScope a = some m) (hf : p.size ≤ fuel) :
    bindNext fuel σ (a :: sc) names p.toExpr v none true = (pmatch p names m σ v).toRes a := by
  have h := bindNext_pat a sc p fuel names m σ v hf ⟨m, hs⟩
  rw [set_self hs] at h
  exact h

/-- … and at any fuel whatsoever it is that answer or a time-out -/
theorem bind_nested_any_fuel {σ : State} {a : Addr} {m : ScopeMap} (sc : List Addr) (names : List (List Char)) (p : Pat)
    (v : SVal) (fuel : Nat) (hs : σ.getScope a = some m) :
    bindNext fuel σ (a :: sc) names p.toExpr v none true = .timeout ∨
    bindNext fuel σ (a :: sc) names p.toExpr v none true = (pmatch p names m σ v).toRes a :=
  bindNext_pat_any sc names p v hs fuel

theorem toRes_ok_iff (a : Addr) (r : MRes) (names' : List (List Char)) (σ' : State) :
    r.toRes a = .ok names' σ' ↔ ∃ M S, r = .ok names' M S ∧ σ' = S.set a (.scope M) := by
  cases r with
  | ok N M S => exact ⟨fun h => by cases h; exact ⟨M, S, rfl, rfl⟩, fun ⟨_, _, h, e⟩ => by cases h; rw [e]; rfl⟩
  | err loc leaf M S => exact ⟨nofun, fun ⟨_, _, h, _⟩ => nomatch h⟩
  | crash w M S => exact ⟨nofun, fun ⟨_, _, h, _⟩ => nomatch h⟩

/-- a declaration through a pattern of any depth succeeds exactly when the value has the shape of
    the pattern and the leaf names are pairwise distinct and new; it then has declared exactly the leaves of `proj`
    (each bound to the stored value at its path) in the scope cell, newest first, the names-in-binding grew by the
    leaf names, and the rest of the state is `proj`'s: the source plus the fresh rest cells -/
theorem bind_nested {σ : State} {a : Addr} {m : ScopeMap} (sc : List Addr) (names : List (List Char)) (p : Pat)
    (v : SVal) (fuel : Nat) (hs : σ.getScope a = some m) (hf : p.size ≤ fuel) (names' : List (List Char)) (σ' : State) :
    bindNext fuel σ (a :: sc) names p.toExpr v none true = .ok names' σ' ↔
      ∃ bs σ1, proj p σ v = some (bs, σ1) ∧ FreshBs names m bs ∧
        names' = bndNames bs ++ names ∧ σ' = σ1.set a (.scope (bs.reverse ++ m)) := by
  rw [bind_nested_exact sc names p v fuel hs hf, toRes_ok_iff]
  constructor
  · rintro ⟨M, S, h, rfl⟩
    obtain ⟨bs, e, fr, rfl, rfl⟩ := (pmatch_agree p names m σ v _ _ _).mp h
    exact ⟨bs, S, e, fr, rfl, rfl⟩
  · rintro ⟨bs, σ1, e, fr, rfl, rfl⟩
    exact ⟨_, σ1, (pmatch_agree p names m σ v _ _ _).mpr ⟨bs, e, fr, rfl, rfl⟩, rfl⟩

/-- the soundness half needs no fuel bound: whenever the engine answers ok, it is with the leaves of `proj` -/
theorem bind_nested_sound {σ : State} {a : Addr} {m : ScopeMap} (sc : List Addr) (names : List (List Char)) (p : Pat)
    (v : SVal) (fuel : Nat) (hs : σ.getScope a = some m) {names' : List (List Char)} {σ' : State}
    (h : bindNext fuel σ (a :: sc) names p.toExpr v none true = .ok names' σ') :
    ∃ bs σ1, proj p σ v = some (bs, σ1) ∧ FreshBs names m bs ∧
      names' = bndNames bs ++ names ∧ σ' = σ1.set a (.scope (bs.reverse ++ m)) := by
  have h' := bindNext_stable (Nat.le_max_left fuel p.size) h (fun e => by cases e)
  exact (bind_nested sc names p v _ hs (Nat.le_max_right _ _) names' σ').mp h'

/-- what "new and pairwise distinct" means -/
theorem fresh_iff (bs : List Bnd) (names : List (List Char)) (m : ScopeMap) :
    FreshBs names m bs ↔ (bs.map Prod.fst).Nodup ∧ ∀ x ∈ bs.map Prod.fst, x ∉ names ∧ scopeLookup x m = none :=
  FreshBs_iff bs names m

/-- the frame: the scope cell holds the leaves (in reverse pattern order) on top of what it held; every other cell
    of the old heap — in particular the source lists and objects — is untouched; the cells beyond are the rest
    cells of `proj`; nothing is printed -/
theorem bind_nested_frame {σ σ1 : State} {a : Addr} {m : ScopeMap} {p : Pat} {v : SVal} {bs : List Bnd}
    (hs : σ.getScope a = some m) (hp : proj p σ v = some (bs, σ1)) :
    (σ1.set a (.scope (bs.reverse ++ m))).getScope a = some (bs.reverse ++ m) ∧
    (∀ b, b ≠ a → b < σ.heap.size → (σ1.set a (.scope (bs.reverse ++ m))).heap[b]? = σ.heap[b]?) ∧
    (∀ b, b ≠ a → (σ1.set a (.scope (bs.reverse ++ m))).heap[b]? = σ1.heap[b]?) ∧
    σ.heap.size ≤ (σ1.set a (.scope (bs.reverse ++ m))).heap.size ∧
    (σ1.set a (.scope (bs.reverse ++ m))).out = σ.out := by
  have he := proj_ext p σ v bs σ1 hp
  have hs1 : IsScope σ1 a := IsScope.ext ⟨m, hs⟩ he
  refine ⟨getScope_setScope hs1 _, fun b hb hlt => ?_, fun b hb => State.heap_set_other _ _ hb, ?_, ?_⟩
  · rw [State.heap_set_other _ _ hb]; exact he.2.1 b hlt
  · rw [State.size_set]; exact he.1
  · rw [State.out_set]; exact he.2.2

/-- the leaves can be read back: after the bind every leaf name evaluates to the value at its path, and every name
    that is not a leaf reads as before -/
theorem bind_nested_leaves {σ σ1 : State} {a : Addr} {m : ScopeMap} (sc : List Addr) {names : List (List Char)} {p : Pat}
    {v : SVal} {bs : List Bnd} (hs : σ.getScope a = some m) (hp : proj p σ v = some (bs, σ1)) (hf : FreshBs names m bs) :
    (∀ x w l, (x, w, l) ∈ bs → scopeGet (σ1.set a (.scope (bs.reverse ++ m))) (a :: sc) x = some w) ∧
    (∀ x, (∀ b ∈ bs, b.1 ≠ x) → scopeLookup x (bs.reverse ++ m) = scopeLookup x m) := by
  have hget := (bind_nested_frame hs hp).1
  refine ⟨fun x w l hm => ?_, fun x hx => lookup_other hx⟩
  simp only [scopeGet, hget, hf.lookup hm]

/-- a `:=` statement with a nested pattern on the left -/
theorem declare_nested {n : Nat} {σ σ1 σ2 : State} {a : Addr} {sc : List Addr} {m : ScopeMap} {rhs : Expr} {v : SVal}
    {p : Pat} {bs : List Bnd} (he : evalExpr n σ (a :: sc) rhs = .ok v σ1) (hs : σ1.getScope a = some m)
    (hf : p.size ≤ n) (hp : proj p σ1 v = some (bs, σ2)) (hfr : FreshBs [] m bs) :
    evalStmt (n + 1) σ (a :: sc) (.Declare p.toExpr rhs) = .ok .none (σ2.set a (.scope (bs.reverse ++ m))) := by
  rw [evalStmt, he]
  simp only [Res.bind]
  rw [(bind_nested sc [] p v n hs hf _ _).mpr ⟨bs, σ2, hp, hfr, rfl, rfl⟩]

/-- the outermost mismatch of a nested pattern is the documented located error at the pattern's own position (the
    inner ones are in `pmatch`, e.g. the example below) -/
theorem bind_nested_outer_error {σ : State} {a : Addr} {m : ScopeMap} (sc : List Addr) (names : List (List Char))
    (ps : PatList) (pr : PatProps) (c : Bool) (l : Loc) (v : SVal) (fuel : Nat) (hs : σ.getScope a = some m) :
    ((∀ b, v.v ≠ .list b) → (PatList.size ps + 1 ≤ fuel) →
      bindNext fuel σ (a :: sc) names (Pat.list ps c l).toExpr v none true =
        errAt l (Leaf.ListDestructureOnNonList v.v.kind) σ) ∧
    ((∀ b, v.v ≠ .obj b) → (PatProps.size pr + 1 ≤ fuel) →
      bindNext fuel σ (a :: sc) names (Pat.obj pr l).toExpr v none true =
        errAt l (Leaf.ObjectDestructureOnNonObject v.v.kind) σ) ∧
    (∀ b xs, v.v = .list b → σ.getList b = some xs → (PatList.size ps + 1 ≤ fuel) →
      (c = false → ps.length ≠ xs.length →
        bindNext fuel σ (a :: sc) names (Pat.list ps c l).toExpr v none true =
          errAt l (Leaf.ListDestructureItemMismatch ps.length xs.length) σ) ∧
      (c = true → ps.length - 1 > xs.length →
        bindNext fuel σ (a :: sc) names (Pat.list ps c l).toExpr v none true =
          errAt l (Leaf.ListCollectTooFew ps.length xs.length) σ)) := by
  refine ⟨fun hv hf => ?_, fun hv hf => ?_, fun b xs hv hb hf => ⟨fun hc hl => ?_, fun hc hl => ?_⟩⟩
  · rw [bind_nested_exact sc names (.list ps c l) v fuel hs hf, pmatch]
    cases hvv : v.v <;> simp only [MRes.toRes, set_self hs, Val.kind]
    exact absurd hvv (hv _)
  · rw [bind_nested_exact sc names (.obj pr l) v fuel hs hf, pmatch]
    cases hvv : v.v <;> simp only [MRes.toRes, set_self hs, Val.kind]
    exact absurd hvv (hv _)
  · rw [bind_nested_exact sc names (.list ps c l) v fuel hs hf, pmatch]
    subst hc
    simp only [hv, hb, Bool.false_and, Bool.false_eq_true, if_false, Bool.not_false, Bool.true_and, decide_eq_true_eq, hl,
      ne_eq, not_false_eq_true, if_true, MRes.toRes, set_self hs]
  · rw [bind_nested_exact sc names (.list ps c l) v fuel hs hf, pmatch]
    subst hc
    simp only [hv, hb, Bool.true_and, decide_eq_true_eq, hl, if_true, MRes.toRes, set_self hs]

/-- when the shape does not match, or a leaf name is not new, the answer is a located error (which one: `pmatch`,
    by `bind_nested_exact`) or — on an ill-typed heap only, excluded by C02 — a crash; never ok, never a time-out -/
theorem bind_nested_not_ok {σ : State} {a : Addr} {m : ScopeMap} (sc : List Addr) (names : List (List Char)) (p : Pat)
    (v : SVal) (fuel : Nat) (hs : σ.getScope a = some m) (hf : p.size ≤ fuel)
    (hno : ∀ bs σ1, proj p σ v = some (bs, σ1) → ¬ FreshBs names m bs) :
    (∃ loc leaf σ', bindNext fuel σ (a :: sc) names p.toExpr v none true = errAt loc leaf σ') ∨
    (∃ w σ', bindNext fuel σ (a :: sc) names p.toExpr v none true = .crash w σ') := by
  rw [bind_nested_exact sc names p v fuel hs hf]
  cases hr : pmatch p names m σ v with
  | ok N M S =>
    obtain ⟨bs, e, fr, _⟩ := (pmatch_agree p names m σ v N M S).mp hr
    exact absurd fr (hno bs S e)
  | err loc leaf M S => exact Or.inl ⟨loc, leaf, _, rfl⟩
  | crash w M S => exact Or.inr ⟨w, _, rfl⟩

/-- the collecting position of a list pattern and the `..rest` of an object pattern are matched against a *fresh*
    cell (its address was not in use) that holds exactly the tail `drop (len - 1)` / the properties whose keys remain -/
theorem rest_cells (σ : State) (p : Pat) (r : PatList) (xs : List SVal) (len : Nat) (x : List Char) (l : Loc) (q : PatProps)
    (o : ObjMap) (total : Nat) (rem : List (List Char)) :
    projList (.cons p r) true xs (len - 1) len σ =
      seqP (proj p (σ.alloc (.list (xs.drop (len - 1)))).2 (SVal.plain (.list σ.heap.size)))
        (fun σ' => projList r true xs (len - 1 + 1) len σ') ∧
    projProps (.rest x l q) o (total - 1) total rem σ =
      seqP (projName (σ.alloc (.obj (o.filter fun kv => rem.contains kv.1))).2 x l (SVal.plain (.obj σ.heap.size)))
        (fun σ' => projProps q o (total - 1) total rem σ') ∧
    σ.heap[σ.heap.size]? = none ∧
    (σ.alloc (.list (xs.drop (len - 1)))).2.getList σ.heap.size = some (xs.drop (len - 1)) ∧
    (σ.alloc (.obj (o.filter fun kv => rem.contains kv.1))).2.getObj σ.heap.size =
      some (o.filter fun kv => rem.contains kv.1) := by
  refine ⟨?_, ?_, ?_, ?_, ?_⟩
  · rw [projList]; simp
  · rw [projProps]; simp
  · simp
  · exact getList_eq_some.mpr (State.alloc_heap_new σ _)
  · exact getObj_eq_some.mpr (State.alloc_heap_new σ _)

/-! ### the depth-3 example `[a, {"k": [b, ..c], ..r}, _] := [1, {"k": [2, 3, 4], "z": 5}, 6]` -/

/-- `[a, {"k": [b, ..c], ..r}, _]`, with the positions the parser gives -/
def pex : Pat :=
  .list (.cons (.var c!"a" (1, 2))
        (.cons (.obj (.pair c!"k" (1, 6) (.list (.cons (.var c!"b" (1, 12)) (.cons (.var c!"c" (1, 17)) .nil)) true (1, 11))
                     (.rest c!"r" (1, 23) .nil)) (1, 5))
        (.cons (.var c!"_" (1, 27)) .nil))) false (1, 1)

/-- `Pat.toExpr` is what the parser builds -/
example : parseExprTop c!"[a, {\"k\": [b, ..c], ..r}, _]" = .ok pex.toExpr := by with_unfolding_all rfl

/-- scope cell 0 (holding `print`), cell 1 = `[1, {…}, 6]`, cell 2 = `{"k": [2, 3, 4], "z": 5}`, cell 3 = `[2, 3, 4]` -/
def σnest : State :=
  ⟨#[.scope [(c!"print", SVal.plain (.builtin c!"print" .print), (0, 0))],
     .list [SVal.plain (.int 1), SVal.plain (.obj 2), SVal.plain (.int 6)],
     .obj [(c!"k", SVal.plain (.list 3)), (c!"z", SVal.plain (.int 5))],
     .list [SVal.plain (.int 2), SVal.plain (.int 3), SVal.plain (.int 4)]], []⟩

/-- the leaves, in pattern order; `c` and `r` are bound to the fresh cells 4 = `[3, 4]` and 5 = `{"z": 5}` -/
def bsNest : List Bnd :=
  [(c!"a", SVal.plain (.int 1), (1, 2)), (c!"b", SVal.plain (.int 2), (1, 12)),
   (c!"c", SVal.plain (.list 4), (1, 17)), (c!"r", SVal.plain (.obj 5), (1, 23))]

def σnest1 : State :=
  ⟨(σnest.heap.push (.list [SVal.plain (.int 3), SVal.plain (.int 4)])).push (.obj [(c!"z", SVal.plain (.int 5))]), []⟩

/-- the hypotheses of `bind_nested` (right-hand side) hold … -/
example : σnest.getScope 0 = some [(c!"print", SVal.plain (.builtin c!"print" .print), (0, 0))] ∧
    pex.size = 18 ∧ proj pex σnest (SVal.plain (.list 1)) = some (bsNest, σnest1) ∧
    FreshBs [] [(c!"print", SVal.plain (.builtin c!"print" .print), (0, 0))] bsNest :=
  ⟨by rfl, by rfl, by rfl, by simp [FreshBs, bsNest, scopeLookup]⟩

/-- … and this is the engine's answer (the left-hand side), computed by the evaluator itself -/
example : bindNext 18 σnest [0] [] pex.toExpr (SVal.plain (.list 1)) none true =
    .ok [c!"r", c!"c", c!"b", c!"a"]
      (σnest1.set 0 (.scope (bsNest.reverse ++ [(c!"print", SVal.plain (.builtin c!"print" .print), (0, 0))]))) := by
  with_unfolding_all rfl

/-- hypotheses of `declare_nested`: `xs` holds the list of cell 1, the statement is `[a, {"k": [b, ..c], ..r}, _] := xs` -/
example : evalExpr 18 (σnest.set 0 (.scope [(c!"xs", SVal.plain (.list 1), (0, 0))])) [0] (.mk (.Var c!"xs") (1, 33)) =
      .ok (SVal.plain (.list 1)) (σnest.set 0 (.scope [(c!"xs", SVal.plain (.list 1), (0, 0))])) ∧
    (σnest.set 0 (.scope [(c!"xs", SVal.plain (.list 1), (0, 0))])).getScope 0 = some [(c!"xs", SVal.plain (.list 1), (0, 0))] ∧
    proj pex (σnest.set 0 (.scope [(c!"xs", SVal.plain (.list 1), (0, 0))])) (SVal.plain (.list 1)) =
      some (bsNest, σnest1.set 0 (.scope [(c!"xs", SVal.plain (.list 1), (0, 0))])) ∧
    FreshBs [] [(c!"xs", SVal.plain (.list 1), (0, 0))] bsNest :=
  ⟨by with_unfolding_all rfl, by rfl, by with_unfolding_all rfl, by simp [FreshBs, bsNest, scopeLookup]⟩

/-- the whole pipeline on the source text -/
example : (run 60 c!"t.sd"
      c!"[a, {\"k\": [b, ..c], ..r}, _] := [1, {\"k\": [2, 3, 4], \"z\": 5}, 6];\nprint(a); print(b); print(c); print(r);\n").out =
    [c!"1", c!"2", c!"[\n    3,\n    4,\n]", c!"{\n    \"z\": 5,\n}"] := by
  decide +kernel

/-- an inner mismatch: in `[a, [b]] := [1, 2]` the error is the inner pattern's, at the inner position, and `a` is
    already declared when it is raised (the engine does not roll back) -/
example : pmatch (.list (.cons (.var c!"a" (1, 2)) (.cons (.list (.cons (.var c!"b" (1, 6)) .nil) false (1, 5)) .nil)) false (1, 1))
      [] [] ⟨#[.scope [], .list [SVal.plain (.int 1), SVal.plain (.int 2)]], []⟩ (SVal.plain (.list 1)) =
    .err (1, 5) (Leaf.ListDestructureOnNonList .Int) [(c!"a", SVal.plain (.int 1), (1, 2))]
      ⟨#[.scope [], .list [SVal.plain (.int 1), SVal.plain (.int 2)]], []⟩ := by rfl

/-- a name used twice at different depths: `[a, [a]] := [1, [2]]` -/
example : pmatch (.list (.cons (.var c!"a" (1, 2)) (.cons (.list (.cons (.var c!"a" (1, 6)) .nil) false (1, 5)) .nil)) false (1, 1))
      [] [] ⟨#[.scope [], .list [SVal.plain (.int 1), SVal.plain (.list 2)], .list [SVal.plain (.int 2)]], []⟩
      (SVal.plain (.list 1)) =
    .err (1, 6) (Leaf.AlreadyInBinding c!"a") [(c!"a", SVal.plain (.int 1), (1, 2))]
      ⟨#[.scope [], .list [SVal.plain (.int 1), SVal.plain (.list 2)], .list [SVal.plain (.int 2)]], []⟩ := by rfl

/-- hypotheses of `bind_nested_outer_error` are satisfiable -/
example : (∀ b, (SVal.plain (.int 3)).v ≠ .list b) ∧ PatList.size (.cons (.var c!"a" (1, 2)) .nil) + 1 ≤ 4 :=
  ⟨fun _ h => (by cases h), by decide⟩

/-- in a pair the key `_` is an ordinary key: `{"_": x} := {"_": 1}` looks it up and binds `x` to `1` … -/
example : proj (.obj (.pair c!"_" (1, 2) (.var c!"x" (1, 7)) .nil) (1, 1))
      ⟨#[.scope [], .obj [(c!"_", SVal.plain (.int 1))]], []⟩ (SVal.plain (.obj 1)) =
    some ([(c!"x", SVal.plain (.int 1), (1, 7))], ⟨#[.scope [], .obj [(c!"_", SVal.plain (.int 1))]], []⟩) := by rfl

/-- … the engine itself on that pattern … -/
example : bindNext 5 ⟨#[.scope [], .obj [(c!"_", SVal.plain (.int 1))]], []⟩ [0] []
      (Pat.obj (.pair c!"_" (1, 2) (.var c!"x" (1, 7)) .nil) (1, 1)).toExpr (SVal.plain (.obj 1)) none true =
    .ok [c!"x"] ⟨#[.scope [(c!"x", SVal.plain (.int 1), (1, 7))], .obj [(c!"_", SVal.plain (.int 1))]], []⟩ := by
  with_unfolding_all rfl

/-- … and a missing key `_` is `PropNotFound` at the key, like any other key -/
example : pmatch (.obj (.pair c!"_" (1, 2) (.var c!"x" (1, 7)) .nil) (1, 1)) [] []
      ⟨#[.scope [], .obj [(c!"a", SVal.plain (.int 1))]], []⟩ (SVal.plain (.obj 1)) =
    .err (1, 2) (Leaf.PropNotFound c!"_") [] ⟨#[.scope [], .obj [(c!"a", SVal.plain (.int 1))]], []⟩ := by rfl

/-- only the shorthand `{_}` discards: nothing is looked up (the source need not have the key), nothing is bound;
    the key `_` is nevertheless taken out of what `..r` collects: `{_, ..r} := {"_": 1, "a": 2}` gives `r = {"a": 2}` -/
example : proj (.obj (.short c!"_" (1, 2) .nil) (1, 1)) ⟨#[.scope [], .obj [(c!"a", SVal.plain (.int 1))]], []⟩
      (SVal.plain (.obj 1)) = some ([], ⟨#[.scope [], .obj [(c!"a", SVal.plain (.int 1))]], []⟩) ∧
    proj (.obj (.short c!"_" (1, 2) (.rest c!"r" (1, 7) .nil)) (1, 1))
      ⟨#[.scope [], .obj [(c!"_", SVal.plain (.int 1)), (c!"a", SVal.plain (.int 2))]], []⟩ (SVal.plain (.obj 1)) =
    some ([(c!"r", SVal.plain (.obj 2), (1, 7))],
      ⟨#[.scope [], .obj [(c!"_", SVal.plain (.int 1)), (c!"a", SVal.plain (.int 2))], .obj [(c!"a", SVal.plain (.int 2))]], []⟩) :=
  ⟨by rfl, by rfl⟩

end Seed.C13
