/-
  C13x — property theorems of C13 about everyday idioms (Lemmas/IdiomsProofs.lean).

  `swap_by_destructuring` / `rotate_by_destructuring`: `[a, b] = [b, a]` (and `[a, b, c] = [c, a, b]`) evaluates the
  right-hand side COMPLETELY into one fresh list and then binds: `a` reads the old `b`, `b` the old `a` (values with
  their sources), every other name of every scope reads as before, one cell is allocated.
-/
import SeedProofs.C13
import SeedProofs.Lemmas.IdiomsProofs
-- audit: Seed.Idioms.swap_by_destructuring Seed.Idioms.rotate_by_destructuring Seed.Idioms.evalExpr_varList
