/-
  C14.lean — calls bind arguments to fresh parameters; `this` follows the access path.

  * arguments: evaluated once each, left to right, before the callee expression; the count rule; errors carry
    both numbers;
  * parameters: declared in a scope cell allocated by the call (address = heap size, so it is no existing cell),
    pushed on the *closure* chain; assigning a parameter writes only that cell (the caller's variables and every
    other cell are unchanged) while writing into a passed container writes the shared cell;
  * provenance (`src`): `.k` / `["k"]` on an object return the stored value with `src := that object`, whatever
    source was stored; variable reads, list-index reads, declarations, arguments, list items, object-literal
    values and `return` carry the value (with its `src`) unchanged; operators and literals give `src = none`;
  * the call binds `this := src` in the parameter scope iff `src ≠ none`; otherwise `this` is whatever the closure
    chain has (an enclosing function's `this`) or undefined.

  The statements are about one step of the evaluator at a time (with the sub-evaluations as hypotheses), which is
  how the code is written; the whole-program reading (a function value moved along any route keeps its source)
  is their composition, exercised end to end by the `this_routes` stream.
-/
import SeedProofs.Lemmas.C13Call
import SeedProofs.Lemmas.C13Bind
import SeedProofs.Lemmas.C14Scope
import SeedProofs.Lemmas.C14This
import SeedProofs.Lemmas.C14ThisPat
import SeedProofs.Lemmas.C11Prog3
import SeedProofs.C11
import SeedProofs.Lemmas.C14Routes3
namespace Seed.C14
open Seed Gen

/-! ## example state -/

def fr2 : FuncRec := ⟨none, [.mk (.Var c!"p") (1, 8)], false, [], [0]⟩

/-- scope 0: `o ↦ object 1`, `xs ↦ list 3`, `g ↦ ⟨func 2, some (obj 1)⟩` (a function value read from `o` earlier);
    object 1 = `{"f": ⟨func 2, some (obj 9)⟩}` (stored with a stale source); func 2 = `fn (p) { }` closed over scope 0;
    list 3 = `[⟨func 2, some (obj 1)⟩]` -/
def σex : State :=
  ⟨#[.scope [(c!"o", SVal.plain (.obj 1), (1, 0)), (c!"xs", SVal.plain (.list 3), (2, 0)),
             (c!"g", ⟨.func 2, some (.obj 1)⟩, (3, 0))],
     .obj [(c!"f", ⟨.func 2, some (.obj 9)⟩)],
     .func fr2,
     .list [⟨.func 2, some (.obj 1)⟩]], []⟩

def eO : Expr := .mk (.Var c!"o") (4, 0)

example : evalExpr 2 σex [0] eO = .ok ⟨.obj 1, none⟩ σex := by with_unfolding_all rfl
example : σex.getObj 1 = some [(c!"f", ⟨.func 2, some (.obj 9)⟩)] := by rfl

/-! ## arguments -/

/-- left to right, each once: the first argument is evaluated in the current state, the remaining ones in the
    state it leaves, and its value is appended before theirs -/
theorem args_left_to_right_once (n : Nat) (σ : State) (sc : List Addr) (e : Expr) (r : List ListItem) (acc : List SVal) :
    evalListItems (n + 1) σ sc (.mk e false :: r) acc =
      (evalExpr n σ sc e).bind fun v σ1 => evalListItems n σ1 sc r (acc ++ [v]) :=
  evalListItems_cons_plain n σ sc e r acc

/-- an argument that fails ends the call: later arguments and the callee are never evaluated -/
theorem args_error_stops {n : Nat} {σ σ1 : State} {sc : List Addr} {e f : Expr} {er : Err} (sp : Bool) (r : List ListItem)
    (loc : Loc) (h : evalExpr n σ sc e = .err er σ1) :
    evalListItems (n + 1) σ sc (.mk e sp :: r) [] = .err er σ1 ∧
    evalCall (n + 2) σ sc f (.mk e sp :: r) loc = .err er σ1 :=
  ⟨evalListItems_cons_err sp r [] h, evalCall_args_err (evalListItems_cons_err sp r [] h)⟩

example : ∃ er, evalExpr 1 σex [0] (.mk (.Var c!"nope") (5, 2)) = .err er σex := ⟨_, by with_unfolding_all rfl⟩

/-- arguments come before the callee expression: the callee is evaluated in the state the arguments leave -/
theorem args_before_callee {n : Nat} {σ σ1 : State} {sc : List Addr} {f : Expr} {args : List ListItem} {loc : Loc}
    {argVals : List SVal} {e : Err} {σ2 : State}
    (hargs : evalListItems n σ sc args [] = .ok argVals σ1) (hf : evalExpr n σ1 sc f = .err e σ2) :
    evalCall (n + 1) σ sc f args loc = .err e σ2 := by
  rw [evalCall, hargs]
  simp only [Res.bind, hf]

example : evalListItems 2 σex [0] [] [] = .ok [] σex ∧
    ∃ er, evalExpr 2 σex [0] (.mk (.Var c!"nope") (5, 2)) = .err er σex := ⟨by with_unfolding_all rfl, _, by with_unfolding_all rfl⟩

/-- the count rule, and the diagnostics carry both numbers -/
theorem arity_spec (numParams got : Nat) :
    (arityOk false numParams got = true ↔ got = numParams) ∧
    (arityOk true numParams got = true ↔ numParams - 1 ≤ got) ∧
    arityErr false numParams got = Leaf.ArgNumMismatch numParams got ∧
    arityErr true numParams got = Leaf.TooFewArgs (numParams - 1) got := by
  simp [arityOk, arityErr, eq_comm]

/-- the call, as one equation: count check at the call position (outside the call frame), then the body in a fresh
    scope on the closure chain -/
theorem call_spec {n : Nat} {σ σ1 σ2 : State} {sc : List Addr} {f : Expr} {args : List ListItem} {loc : Loc}
    {argVals : List SVal} {fv : SVal} {a : Addr} {fr : FuncRec}
    (hargs : evalListItems n σ sc args [] = .ok argVals σ1)
    (hf : evalExpr n σ1 sc f = .ok fv σ2) (hv : fv.v = .func a) (hfr : σ2.getFunc a = some fr) :
    evalCall (n + 1) σ sc f args loc =
      if arityOk fr.collect fr.args.length argVals.length then
        ((evalBlock n (callPlainVals σ2 fr argVals).2 fr.closure
            (callBindings fr (callPlainVals σ2 fr argVals).1 fv.src loc) fr.stmts).mapErr
          (Err.funcCall fr.name loc)).bind finishCall
      else errAt loc (arityErr fr.collect fr.args.length argVals.length) σ2 :=
  evalCall_func hargs hf hv hfr

example : evalListItems 3 σex [0] [.mk (.mk (.Int 7) (6, 2)) false] [] = .ok [SVal.plain (.int 7)] σex ∧
    evalExpr 3 σex [0] (.mk (.Var c!"g") (6, 0)) = .ok ⟨.func 2, some (.obj 1)⟩ σex ∧ σex.getFunc 2 = some fr2 :=
  ⟨by with_unfolding_all rfl, by with_unfolding_all rfl, by rfl⟩

/-! ## parameters are fresh variables of the call -/

/-- the parameters are declared in a scope cell the call allocates — its address is the heap size, so it is none of
    the cells that existed — pushed on the function's *closure* chain (not on the caller's chain) -/
theorem params_fresh (n : Nat) (σ : State) (closure : List Addr) (bindings : List (Expr × SVal)) (stmts : List Stmt) :
    evalBlock (n + 1) σ closure bindings stmts =
      ((declareAll n (σ.alloc (.scope [])).2 (σ.heap.size :: closure) bindings).bind fun _ σ2 =>
        evalStmts n σ2 (σ.heap.size :: closure) stmts) ∧
    (σ.alloc (.scope [])).2.getScope σ.heap.size = some [] ∧
    σ.heap[σ.heap.size]? = none ∧
    (∀ b, b < σ.heap.size → (σ.alloc (.scope [])).2.heap[b]? = σ.heap[b]?) := by
  refine ⟨?_, getScope_alloc_new σ [], Array.getElem?_eq_none (Nat.le_refl _),
    fun b hb => σ.alloc_heap_old _ hb⟩
  rw [evalBlock]; rfl

/-- each parameter is declared with the argument value itself (provenance included) under its own name -/
theorem param_declared {σ : State} {a : Addr} {sc : List Addr} {name : List Char} {m : ScopeMap} (loc : Loc)
    (arg : SVal) (n : Nat)
    (h1 : name ≠ c!"_") (hs : σ.getScope a = some m) (hf : scopeLookup name m = none) :
    declareAll (n + 2) σ (a :: sc) [(.mk (.Var name) loc, arg)] =
      .ok () (σ.set a (.scope ((name, arg, loc) :: m))) :=
  declareAll_single loc arg n h1 hs hf

/-- assigning to a parameter writes the call's own scope cell and nothing else: every other cell of the heap — in
    particular every scope of the caller — is unchanged, so the caller's variables keep their values -/
theorem param_assign_frame {σ : State} {a : Addr} {m : ScopeMap} {name : List Char} {p : SVal × Loc} (closure : List Addr)
    (v : SVal) (hs : σ.getScope a = some m) (hl : scopeLookup name m = some p) :
    ∃ σ', scopeAssign σ (a :: closure) name v = some σ' ∧
      scopeGet σ' (a :: closure) name = some v ∧
      (∀ b, b ≠ a → σ'.heap[b]? = σ.heap[b]?) ∧
      (∀ callerChain k, a ∉ callerChain → scopeGet σ' callerChain k = scopeGet σ callerChain k) := by
  refine ⟨_, scopeAssign_head closure v hs hl, ?_, fun b hb => σ.heap_set_other _ hb,
    fun chain k hc => scopeGet_set_other _ hc k⟩
  exact scopeGet_head_hit closure (getScope_set_same (getScope_lt hs) _) (scopeLookup_setVal_same hl)

example : σex.getScope 0 = some [(c!"o", SVal.plain (.obj 1), (1, 0)), (c!"xs", SVal.plain (.list 3), (2, 0)),
    (c!"g", ⟨.func 2, some (.obj 1)⟩, (3, 0))] ∧
    scopeLookup c!"xs" [(c!"o", SVal.plain (.obj 1), (1, 0)), (c!"xs", SVal.plain (.list 3), (2, 0)),
      (c!"g", ⟨.func 2, some (.obj 1)⟩, (3, 0))] = some (SVal.plain (.list 3), (2, 0)) := ⟨by rfl, by decide⟩

/-- mutating a passed list or object writes the cell the argument denotes: the caller's variable still denotes that
    cell and therefore sees the new contents -/
theorem mutation_shared {σ : State} {b : Addr} {xs : List SVal} (ys : List SVal) (h : σ.getList b = some xs)
    (callerChain : List Addr) (x : List Char) :
    scopeGet (σ.set b (.list ys)) callerChain x = scopeGet σ callerChain x ∧
    (σ.set b (.list ys)).getList b = some ys :=
  ⟨scopeGet_set_list ys h callerChain x, getList_set_same (getList_lt h) ys⟩

theorem mutation_shared_obj {σ : State} {b : Addr} {m : ObjMap} (m' : ObjMap) (h : σ.getObj b = some m)
    (callerChain : List Addr) (x : List Char) :
    scopeGet (σ.set b (.obj m')) callerChain x = scopeGet σ callerChain x ∧
    (σ.set b (.obj m')).getObj b = some m' :=
  ⟨scopeGet_set_obj m' h callerChain x, getObj_set_same (getObj_lt h) m'⟩

example : σex.getList 3 = some [⟨.func 2, some (.obj 1)⟩] := by rfl

/-! ## provenance -/

/-- `e.k` on an object returns the stored value with `src :=` that object — whatever source was stored -/
theorem prop_read_sets_src {n : Nat} {σ σ1 : State} {sc : List Addr} {ex : Expr} {loc : Loc} {name : List Char}
    {s : Option Val} {a : Addr} {m : ObjMap} {v : SVal}
    (h : evalExpr n σ sc ex = .ok ⟨.obj a, s⟩ σ1) (hm : σ1.getObj a = some m) (hk : objGet name m = some v) :
    evalExpr (n + 1) σ sc (.mk (.Prop ex name false) loc) = .ok ⟨v.v, some (.obj a)⟩ σ1 :=
  prop_read_src loc h rfl hm hk

example : objGet c!"f" [(c!"f", (⟨.func 2, some (.obj 9)⟩ : SVal))] = some ⟨.func 2, some (.obj 9)⟩ := by decide

/-- the same through `e["k"]` -/
theorem index_read_sets_src {n : Nat} {σ σ1 : State} {sc : List Addr} {ex : Expr} {loc lk : Loc} {name : List Char}
    {s : Option Val} {a : Addr} {m : ObjMap} {v : SVal}
    (hname : utf8Decode (utf8Encode name) = .ok name)
    (h : evalExpr (n + 2) σ sc ex = .ok ⟨.obj a, s⟩ σ1) (hm : σ1.getObj a = some m) (hk : objGet name m = some v) :
    evalExpr (n + 3) σ sc (.mk (.Index ex (.mk (.Str name none) lk)) loc) = .ok ⟨v.v, some (.obj a)⟩ σ1 := by
  rw [evalExpr, h]
  simp only [Res.bind]
  rw [evalToStr, evalExpr]
  simp only [Res.bind, SVal.plain, hname, hm, hk]

/-- reading a variable returns the stored value, source included -/
theorem src_preserved_var {n : Nat} {σ : State} {sc : List Addr} {x : List Char} {v : SVal} (l : Loc)
    (h : scopeGet σ sc x = some v) : evalExpr (n + 1) σ sc (.mk (.Var x) l) = .ok v σ :=
  evalExpr_var n l h

example : scopeGet σex [0] c!"g" = some ⟨.func 2, some (.obj 1)⟩ := by rfl

/-- reading a list element returns the stored value, source included (the list is *not* attached as source) -/
theorem src_preserved_list_index {n : Nat} {σ σ1 σ2 : State} {sc : List Addr} {ex ix : Expr} {loc : Loc}
    {s : Option Val} {a : Addr} {items : List SVal} {i : Nat} {v : SVal}
    (h : evalExpr n σ sc ex = .ok ⟨.list a, s⟩ σ1) (hi : evalToIndex n σ1 sc ix = .ok i σ2)
    (hl : σ2.getList a = some items) (hv : items[i]? = some v) :
    evalExpr (n + 1) σ sc (.mk (.Index ex ix) loc) = .ok v σ2 :=
  C14R.index_list_returns_stored_item loc h rfl hi hl hv

example : evalExpr 3 σex [0] (.mk (.Var c!"xs") (7, 0)) = .ok ⟨.list 3, none⟩ σex ∧
    evalToIndex 3 σex [0] (.mk (.Int 0) (7, 3)) = .ok 0 σex ∧
    ([⟨.func 2, some (.obj 1)⟩] : List SVal)[0]? = some ⟨.func 2, some (.obj 1)⟩ :=
  ⟨by with_unfolding_all rfl, by with_unfolding_all rfl, rfl⟩

/-- declaration and assignment store the value they are given, source included -/
theorem src_preserved_declare {f : Nat} {σ : State} {a : Addr} {sc : List Addr} {names : List (List Char)} {name : List Char}
    {m : ScopeMap} (loc : Loc) (rhs : SVal)
    (h1 : name ≠ c!"_") (h2 : name ∉ names) (hs : σ.getScope a = some m) (hf : scopeLookup name m = none) :
    bindNextName f σ (a :: sc) names name loc rhs none true =
      .ok (name :: names) (σ.set a (.scope ((name, rhs, loc) :: m))) :=
  bindNextName_declare loc rhs h1 h2 hs hf

theorem src_preserved_assign {f : Nat} {σ : State} {a : Addr} {sc : List Addr} {names : List (List Char)} {name : List Char}
    {m : ScopeMap} {p : SVal × Loc} (loc : Loc) (rhs : SVal)
    (h1 : name ≠ c!"_") (h2 : name ∉ names) (hs : σ.getScope a = some m) (hl : scopeLookup name m = some p) :
    bindNextName f σ (a :: sc) names name loc rhs none false =
      .ok (name :: names) (σ.set a (.scope (scopeSetVal name rhs m))) ∧
    scopeLookup name (scopeSetVal name rhs m) = some (rhs, p.2) := by
  refine ⟨?_, scopeLookup_setVal_same hl⟩
  simp [bindNextName, h1, h2, scopeAssign_head sc rhs hs hl]

/-- argument values reach the parameters unchanged; list items and object-literal values are stored unchanged;
    `return` hands the value back unchanged -/
theorem src_preserved_moves (n : Nat) (σ : State) (sc : List Addr) (e : Expr) (r : List ListItem) (acc : List SVal)
    (fr : FuncRec) (argVals : List SVal) (hc : fr.collect = false) (loc l : Loc) (v : SVal) :
    (callPlainVals σ fr argVals).1 = argVals ∧
    callBindings fr argVals none loc = fr.args.zip argVals ∧
    evalListItems (n + 1) σ sc (.mk e false :: r) acc =
      ((evalExpr n σ sc e).bind fun v σ1 => evalListItems n σ1 sc r (acc ++ [v])) ∧
    evalStmt (n + 1) σ sc (.Return l e) = ((evalExpr n σ sc e).bind fun v σ1 => .ok (.ret v l) σ1) ∧
    finishCall (.ret v l) σ = .ok v σ := by
  refine ⟨by rw [callPlainVals_no_rest argVals hc], rfl, evalListItems_cons_plain n σ sc e r acc, ?_, rfl⟩
  rw [evalStmt]

/-- the result of an operator never has a source … -/
theorem binop_src_none {n : Nat} {σ σ' : State} {sc : List Addr} {op : BinaryOp} {opLoc loc : Loc} {lhs rhs : Expr} {r : SVal}
    (h : evalExpr (n + 1) σ sc (.mk (.BinaryOp op opLoc lhs rhs) loc) = .ok r σ') : r.src = none := by
  rw [evalExpr] at h
  obtain ⟨_, _, _, h⟩ := Res.bind_eq_ok h
  obtain ⟨_, _, _, h⟩ := Res.bind_eq_ok h
  obtain ⟨_, _, _, h⟩ := Res.bind_eq_ok h
  cases h
  rfl

example : evalExpr 2 σex [0] (.mk (.BinaryOp .Sum (8, 2) (.mk (.Int 1) (8, 0)) (.mk (.Int 2) (8, 4))) (8, 0)) =
    .ok (SVal.plain (.int 3)) σex := by with_unfolding_all rfl

/-- … nor has a literal, a fresh list, object or function -/
theorem literal_src_none (n : Nat) (σ : State) (sc : List Addr) (loc : Loc) (b : Bool) (i : Int) (s : List Char)
    (args : List Expr) (c : Bool) (stmts : List Stmt) :
    evalExpr (n + 1) σ sc (.mk .Null loc) = .ok ⟨.null, none⟩ σ ∧
    evalExpr (n + 1) σ sc (.mk (.Bool b) loc) = .ok ⟨.bool b, none⟩ σ ∧
    evalExpr (n + 1) σ sc (.mk (.Int i) loc) = .ok ⟨.int i, none⟩ σ ∧
    evalExpr (n + 1) σ sc (.mk (.Str s none) loc) = .ok ⟨.str (utf8Encode s), none⟩ σ ∧
    evalExpr (n + 1) σ sc (.mk (.Func args c stmts) loc) =
      .ok ⟨.func σ.heap.size, none⟩ (σ.alloc (.func ⟨none, args, c, stmts, sc⟩)).2 := by
  refine ⟨?_, ?_, ?_, ?_, ?_⟩ <;> rw [evalExpr] <;> rfl

/-! ## `this` -/

/-- the call binds `this := src` (after the parameters, in the same fresh scope) iff the callee value has a source -/
theorem this_bound (fr : FuncRec) (plainVals : List SVal) (loc : Loc) (t : Val) :
    callBindings fr plainVals (some t) loc = fr.args.zip plainVals ++ [(Expr.mk (.Var c!"this") loc, SVal.plain t)] ∧
    callBindings fr plainVals none loc = fr.args.zip plainVals :=
  ⟨rfl, rfl⟩

/-- without a source nothing named `this` is declared by the call: inside the body `this` is whatever the closure
    chain has — an enclosing function's `this` — or is undefined -/
theorem this_absent {σ : State} {a : Addr} {m : ScopeMap} (closure : List Addr) (n : Nat) (loc : Loc)
    (hs : σ.getScope a = some m) (hl : scopeLookup c!"this" m = none) :
    scopeGet σ (a :: closure) c!"this" = scopeGet σ closure c!"this" ∧
    (scopeGet σ closure c!"this" = none →
      evalExpr (n + 1) σ (a :: closure) (.mk (.Var c!"this") loc) = errAt loc (Leaf.Undefined c!"this") σ) := by
  have h := head_without_this closure hs hl
  exact ⟨h.1, fun hn => h.2.1 hn n loc⟩

example : scopeLookup c!"this" [(c!"o", SVal.plain (.obj 1), (1, 0))] = none := by decide

/-- with a source, `this` is that object, in the innermost scope, shadowing any `this` of the closure chain -/
theorem this_is_source {σ : State} {a : Addr} {m : ScopeMap} {t : Val} {l : Loc} (closure : List Addr) (n : Nat) (loc : Loc)
    (hs : σ.getScope a = some m) (hl : scopeLookup c!"this" m = some (SVal.plain t, l)) :
    evalExpr (n + 1) σ (a :: closure) (.mk (.Var c!"this") loc) = .ok (SVal.plain t) σ := by
  rw [evalExpr, scopeGet_head_hit closure hs hl]

example : scopeLookup c!"this" [(c!"this", SVal.plain (.obj 1), (1, 0))] = some (SVal.plain (.obj 1), (1, 0)) := by decide

end Seed.C14

/-! # End to end: the pieces composed through the evaluator

  The theorems above are one evaluator step each.  Below they are composed through `evalCall` / `evalStmts` /
  `evalBlock` / `declareAll` into statements about whole calls and small programs: which `evalBlock` instance a call
  reduces to, and (`BodyThis`, Lemmas/C14This.lean) that in the state the body's statements start in the chain
  `fresh parameter scope :: closure` resolves `this` to the stated object.  Fuel is explicit: sub-evaluations are
  hypotheses at fuel `n` (by G1, `evalExpr_fuel_mono`, they hold at every larger fuel), the conclusion is an equation
  at `n + c` whose right-hand side runs the callee's body at the fuel the evaluator really gives it.
-/
-- audit: Seed.bodyThis Seed.declareAll_this_last Seed.declareAll_vars Seed.scopeAssign_get Seed.scopeAssign_hit Seed.scopeAssign_of_get Seed.scopeGet_congr Seed.prop_read_src Seed.index_read_src Seed.declare_var_stmt Seed.assign_var_stmt Seed.func_stmt Seed.evalCall_func_ok Seed.call_stmt_then Seed.getFunc_after_items Seed.getFunc_after_expr Seed.callPlainVals_length_ge Seed.callPlainVals_heap_old
-- audit: Seed.freeAll Seed.freeAll_succ Seed.freeAll_zero Seed.bindNextName_free Seed.scopeAssign_free Seed.applyBinOp_free Seed.callBuiltin_free Seed.opAssignValue_free Seed.declareAll_keeps_free Seed.body_without_this Seed.not_mem_bindingsVars_zip
namespace Seed.C14
open Seed Gen

/-! ## end to end: `this` is the object the function was read from, for this call -/

/-- **`o.name(args)`.**  Arguments first (`σ → σ1`), then `o` (`σ1 → σ2`, an object `a`); if `a`'s property `name` holds
    a user function `fa` — *stored with any source `s`*, e.g. a method borrowed from another object — and the count
    fits, the call is the body of `fa` run with the binding list ending in `this := a`: `this` is the object the
    function was read from for THIS call, not the one it was defined in or stored with. -/
theorem method_call_this {n : Nat} {σ σ1 σ2 : State} {sc : List Addr} {o : Expr} {args : List ListItem}
    {argVals : List SVal} {ov : SVal} {a fa : Addr} {m : ObjMap} {name : List Char} {s : Option Val} {fr : FuncRec}
    (l loc : Loc)
    (hargs : evalListItems (n + 1) σ sc args [] = .ok argVals σ1)
    (ho : evalExpr n σ1 sc o = .ok ov σ2) (hov : ov.v = .obj a)
    (hm : σ2.getObj a = some m) (hk : objGet name m = some ⟨.func fa, s⟩)
    (hfr : σ2.getFunc fa = some fr) (hok : arityOk fr.collect fr.args.length argVals.length = true) :
    evalCall (n + 2) σ sc (.mk (.Prop o name false) l) args loc =
      ((evalBlock (n + 1) (callPlainVals σ2 fr argVals).2 fr.closure
          (callBindings fr (callPlainVals σ2 fr argVals).1 (some (.obj a)) loc) fr.stmts).mapErr
        (Err.funcCall fr.name loc)).bind finishCall ∧
    BodyThis (callPlainVals σ2 fr argVals).2 fr (callPlainVals σ2 fr argVals).1 (some (.obj a)) loc (.obj a) :=
  ⟨evalCall_func_ok loc hargs (prop_read_src l ho hov hm hk) rfl hfr hok, bodyThis _ _ _ _ _⟩

/-- **`o[key](args)`**, for any key expression `ke` that evaluates to the string `name` -/
theorem method_call_this_index {n : Nat} {σ σ1 σ2 σ3 : State} {sc : List Addr} {o ke : Expr} {args : List ListItem}
    {argVals : List SVal} {ov : SVal} {a fa : Addr} {m : ObjMap} {name : List Char} {s : Option Val} {fr : FuncRec}
    (l loc : Loc)
    (hargs : evalListItems (n + 1) σ sc args [] = .ok argVals σ1)
    (ho : evalExpr n σ1 sc o = .ok ov σ2) (hov : ov.v = .obj a)
    (hke : evalToStr n σ2 sc c!"property" ke = .ok name σ3)
    (hm : σ3.getObj a = some m) (hk : objGet name m = some ⟨.func fa, s⟩)
    (hfr : σ3.getFunc fa = some fr) (hok : arityOk fr.collect fr.args.length argVals.length = true) :
    evalCall (n + 2) σ sc (.mk (.Index o ke) l) args loc =
      ((evalBlock (n + 1) (callPlainVals σ3 fr argVals).2 fr.closure
          (callBindings fr (callPlainVals σ3 fr argVals).1 (some (.obj a)) loc) fr.stmts).mapErr
        (Err.funcCall fr.name loc)).bind finishCall ∧
    BodyThis (callPlainVals σ3 fr argVals).2 fr (callPlainVals σ3 fr argVals).1 (some (.obj a)) loc (.obj a) :=
  ⟨evalCall_func_ok loc hargs (index_read_src l ho hov hke hm hk) rfl hfr hok, bodyThis _ _ _ _ _⟩

/-- calling through a variable: the source stored with the variable's value becomes `this` -/
theorem call_var_this {n : Nat} {σ σ1 : State} {sc : List Addr} {h : List Char} {args : List ListItem}
    {argVals : List SVal} {fa : Addr} {t : Val} {fr : FuncRec} (lh loc : Loc)
    (hargs : evalListItems (n + 1) σ sc args [] = .ok argVals σ1)
    (hh : scopeGet σ1 sc h = some ⟨.func fa, some t⟩)
    (hfr : σ1.getFunc fa = some fr) (hok : arityOk fr.collect fr.args.length argVals.length = true) :
    evalCall (n + 2) σ sc (.mk (.Var h) lh) args loc =
      ((evalBlock (n + 1) (callPlainVals σ1 fr argVals).2 fr.closure
          (callBindings fr (callPlainVals σ1 fr argVals).1 (some t) loc) fr.stmts).mapErr
        (Err.funcCall fr.name loc)).bind finishCall ∧
    BodyThis (callPlainVals σ1 fr argVals).2 fr (callPlainVals σ1 fr argVals).1 (some t) loc t :=
  ⟨evalCall_func_ok loc hargs (src_preserved_var lh hh) rfl hfr hok, bodyThis _ _ _ _ _⟩

/-- **`h := o.name; h(args); rest`.**  The call binds `this` to the object `a` that `o` evaluated to at the time of the
    READ (first statement).  Between the read and the call only the argument list runs; whatever it does (reassign
    `o`, replace `o.name`, …), as long as `h` still resolves to the value read (`hstill`, automatic for arguments
    without effects) `this` is `a`. -/
theorem stored_method_keeps_this_var {n : Nat} {σ σ1 σ3 : State} {A0 : Addr} {sc' : List Addr} {o : Expr}
    {args : List ListItem} {argVals : List SVal} {ov : SVal} {a fa : Addr} {m : ObjMap} {ms : ScopeMap}
    {name h : List Char} {s : Option Val} {fr : FuncRec} (lh lp lh2 lc : Loc) (rest : List Stmt)
    (ho : evalExpr n σ (A0 :: sc') o = .ok ov σ1) (hov : ov.v = .obj a)
    (hm : σ1.getObj a = some m) (hk : objGet name m = some ⟨.func fa, s⟩)
    (hh : h ≠ c!"_") (hs : σ1.getScope A0 = some ms) (hfresh : scopeLookup h ms = none)
    (hargs : evalListItems (n + 1) (σ1.set A0 (.scope ((h, ⟨.func fa, some (.obj a)⟩, lh) :: ms))) (A0 :: sc') args [] =
      .ok argVals σ3)
    (hstill : scopeGet σ3 (A0 :: sc') h = some ⟨.func fa, some (.obj a)⟩)
    (hfr : σ3.getFunc fa = some fr) (hok : arityOk fr.collect fr.args.length argVals.length = true) :
    evalStmts (n + 6) σ (A0 :: sc')
        (.Declare (.mk (.Var h) lh) (.mk (.Prop o name false) lp) ::
         .Expr (.mk (.Call (.mk (.Var h) lh2) args) lc) :: rest) =
      ((((evalBlock (n + 1) (callPlainVals σ3 fr argVals).2 fr.closure
            (callBindings fr (callPlainVals σ3 fr argVals).1 (some (.obj a)) lc) fr.stmts).mapErr
          (Err.funcCall fr.name lc)).bind finishCall).bind fun _ σ5 => evalStmts (n + 4) σ5 (A0 :: sc') rest) ∧
    BodyThis (callPlainVals σ3 fr argVals).2 fr (callPlainVals σ3 fr argVals).1 (some (.obj a)) lc (.obj a) := by
  refine ⟨?_, bodyThis _ _ _ _ _⟩
  have hd := declare_var_stmt lh (prop_read_src lp ho hov hm hk) hh hs hfresh
  rw [evalStmts_cons_ok_le _ hd (by omega : n + 2 ≤ n + 5), call_stmt_then,
    (call_var_this lh2 lc hargs hstill hfr hok).1]


/-- the state in which the body of `fn ap(f) { … }` starts when it is called from `σ2` with the one argument `v`:
    a fresh scope cell (address `σ2.heap.size`) holding `f ↦ v` -/
def apEntry (σ2 : State) (f : List Char) (lf : Loc) (v : SVal) : State :=
  (σ2.alloc (.scope [])).2.set σ2.heap.size (.scope [(f, v, lf)])

/-- **`ap(o.name)` with `fn ap(f) { return f(); }`** (`ap`: any plain function value with exactly that shape).  Inside
    `ap` the call `f()` runs the body of `fa` with `this :=` the object `o` evaluated to when the argument was read;
    the result of the whole call is the result of that inner call, its error wrapped in `ap`'s frame. -/
theorem stored_method_keeps_this_arg {n : Nat} {σ σ1 σ2 : State} {sc clo : List Addr} {o g : Expr} {ov : SVal}
    {a fa pa : Addr} {m : ObjMap} {name f : List Char} {s : Option Val} {fr : FuncRec} {apName : Option (List Char)}
    (lf lr lf2 lc2 lp loc : Loc)
    (ho : evalExpr n σ sc o = .ok ov σ1) (hov : ov.v = .obj a)
    (hm : σ1.getObj a = some m) (hk : objGet name m = some ⟨.func fa, s⟩)
    (hg : evalExpr n σ1 sc g = .ok ⟨.func pa, none⟩ σ2)
    (hap : σ2.getFunc pa =
      some ⟨apName, [.mk (.Var f) lf], false, [.Return lr (.mk (.Call (.mk (.Var f) lf2) []) lc2)], clo⟩)
    (hf : f ≠ c!"_") (hfr : σ2.getFunc fa = some fr) (hok : arityOk fr.collect fr.args.length 0 = true) :
    evalCall (n + 6) σ sc g [.mk (.mk (.Prop o name false) lp) false] loc =
      (((evalBlock n (callPlainVals (apEntry σ2 f lf ⟨.func fa, some (.obj a)⟩) fr []).2 fr.closure
            (callBindings fr (callPlainVals (apEntry σ2 f lf ⟨.func fa, some (.obj a)⟩) fr []).1 (some (.obj a)) lc2)
            fr.stmts).mapErr
          (Err.funcCall fr.name lc2)).bind finishCall).mapErr (Err.funcCall apName loc) ∧
    BodyThis (callPlainVals (apEntry σ2 f lf ⟨.func fa, some (.obj a)⟩) fr []).2 fr
      (callPlainVals (apEntry σ2 f lf ⟨.func fa, some (.obj a)⟩) fr []).1 (some (.obj a)) lc2 (.obj a) := by
  obtain ⟨k, rfl⟩ := evalExpr_ok_pos ho
  have hread := prop_read_src lp (evalExpr_fuel_mono ho (by simp) (by omega : k + 1 ≤ k + 4)) hov hm hk
  have h := C14R.ap_call (k := k) lf lr lf2 lc2 loc (evalListItems_single [] hread)
    (evalExpr_fuel_mono hg (by simp) (by omega : k + 1 ≤ k + 6)) hap hf hfr hok
  exact ⟨h.1, h.2.1 _ rfl⟩

/-- the state after `xs := [v]` in a state `σ1` whose innermost scope cell `A0` holds `ms`: a new list cell (address
    `σ1.heap.size`) holding `[v]`, and `xs ↦` that list -/
def listDeclared (σ1 : State) (A0 : Addr) (xs : List Char) (lx : Loc) (ms : ScopeMap) (v : SVal) : State :=
  (σ1.alloc (.list [v])).2.set A0 (.scope ((xs, SVal.plain (.list σ1.heap.size), lx) :: ms))

/-- **`xs := [o.name]; xs[ix](args); rest`.**  The list element carries the source: if after the arguments and the index
    the list built by the first statement (cell `σ1.heap.size`) still holds the value at position `i`, the call binds
    `this` to the object `o` evaluated to at the time of the read. -/
theorem stored_method_keeps_this_list {n : Nat} {σ σ1 σ3 σ4 : State} {A0 : Addr} {sc' : List Addr} {o ix : Expr}
    {args : List ListItem} {argVals : List SVal} {ov : SVal} {a fa : Addr} {m : ObjMap} {ms : ScopeMap}
    {name xs : List Char} {s sx : Option Val} {fr : FuncRec} {i : Nat} {items : List SVal}
    (lx ll lp lx2 li lc : Loc) (rest : List Stmt)
    (ho : evalExpr n σ (A0 :: sc') o = .ok ov σ1) (hov : ov.v = .obj a)
    (hm : σ1.getObj a = some m) (hk : objGet name m = some ⟨.func fa, s⟩)
    (hxs : xs ≠ c!"_") (hs : σ1.getScope A0 = some ms) (hfresh : scopeLookup xs ms = none)
    (hargs : evalListItems (n + 1) (listDeclared σ1 A0 xs lx ms ⟨.func fa, some (.obj a)⟩) (A0 :: sc') args [] =
      .ok argVals σ3)
    (hstill : scopeGet σ3 (A0 :: sc') xs = some ⟨.list σ1.heap.size, sx⟩)
    (hix : evalToIndex n σ3 (A0 :: sc') ix = .ok i σ4)
    (hl : σ4.getList σ1.heap.size = some items) (hi : items[i]? = some ⟨.func fa, some (.obj a)⟩)
    (hfr : σ4.getFunc fa = some fr) (hok : arityOk fr.collect fr.args.length argVals.length = true) :
    evalStmts (n + 6) σ (A0 :: sc')
        (.Declare (.mk (.Var xs) lx) (.mk (.List [.mk (.mk (.Prop o name false) lp) false] false) ll) ::
         .Expr (.mk (.Call (.mk (.Index (.mk (.Var xs) lx2) ix) li) args) lc) :: rest) =
      ((((evalBlock (n + 1) (callPlainVals σ4 fr argVals).2 fr.closure
            (callBindings fr (callPlainVals σ4 fr argVals).1 (some (.obj a)) lc) fr.stmts).mapErr
          (Err.funcCall fr.name lc)).bind finishCall).bind fun _ σ5 => evalStmts (n + 4) σ5 (A0 :: sc') rest) ∧
    BodyThis (callPlainVals σ4 fr argVals).2 fr (callPlainVals σ4 fr argVals).1 (some (.obj a)) lc (.obj a) := by
  refine ⟨?_, bodyThis _ _ _ _ _⟩
  have hd := (C14R.declare_singleton_list lx ll (prop_read_src lp ho hov hm hk) hxs hs hfresh).1
  obtain ⟨k, rfl⟩ := evalExpr_ok_pos ho
  have hcallee := C14R.index_list_returns_stored_item li (evalExpr_var k lx2 hstill) rfl hix hl hi
  unfold listDeclared at hargs
  unfold C14R.listDeclared at hd
  rw [evalStmts_cons_ok_le _ hd (by omega : k + 1 + 4 ≤ k + 1 + 5), call_stmt_then,
    evalCall_func_ok lc hargs hcallee rfl hfr hok]

/-! ## a function value that was never read from an object -/

/-- **A function value with no source** (`src = none`: the value of a `fn` statement's name, `fn_stmt_value_has_no_source`,
    or of a function literal, `literal_src_none`, moved along variables, arguments, list elements) **is called without a
    `this` binding**: the binding list is just parameters × values, declared into the fresh cell on top of the closure
    chain.  So — unless a parameter pattern itself binds the name `this` (`fn f([this]) …` does, see the example) —
    whenever the parameters can be bound, `this` resolves through the closure chain only in the state the body starts
    in: it is an enclosing function's `this`, or `'this' is not defined`.  Parameters may be arbitrary patterns
    (`patVars`: the names a pattern binds; Lemmas/C14ThisPat.lean shows over the whole evaluator that evaluating the
    expressions inside a pattern never declares into the cell). -/
theorem plain_function_has_no_this {n : Nat} {σ σ1 σ2 : State} {sc : List Addr} {f : Expr} {args : List ListItem}
    {argVals : List SVal} {fa : Addr} {fr : FuncRec} (loc : Loc)
    (hargs : evalListItems n σ sc args [] = .ok argVals σ1)
    (hf : evalExpr n σ1 sc f = .ok ⟨.func fa, none⟩ σ2)
    (hfr : σ2.getFunc fa = some fr) (hok : arityOk fr.collect fr.args.length argVals.length = true) :
    evalCall (n + 1) σ sc f args loc =
      ((evalBlock n (callPlainVals σ2 fr argVals).2 fr.closure (fr.args.zip (callPlainVals σ2 fr argVals).1)
          fr.stmts).mapErr (Err.funcCall fr.name loc)).bind finishCall ∧
    (∀ k, evalBlock (k + 1) (callPlainVals σ2 fr argVals).2 fr.closure (fr.args.zip (callPlainVals σ2 fr argVals).1)
        fr.stmts =
      (declareAll k ((callPlainVals σ2 fr argVals).2.alloc (.scope [])).2
          ((callPlainVals σ2 fr argVals).2.heap.size :: fr.closure) (fr.args.zip (callPlainVals σ2 fr argVals).1)).bind
        fun _ σb => evalStmts k σb ((callPlainVals σ2 fr argVals).2.heap.size :: fr.closure) fr.stmts) ∧
    ((∀ p ∈ fr.args, c!"this" ∉ patVars p) → ∀ k σb,
      declareAll k ((callPlainVals σ2 fr argVals).2.alloc (.scope [])).2
          ((callPlainVals σ2 fr argVals).2.heap.size :: fr.closure) (fr.args.zip (callPlainVals σ2 fr argVals).1) =
        .ok () σb →
      scopeGet σb ((callPlainVals σ2 fr argVals).2.heap.size :: fr.closure) c!"this" = scopeGet σb fr.closure c!"this" ∧
      (scopeGet σb fr.closure c!"this" = none → ∀ j l,
        evalExpr (j + 1) σb ((callPlainVals σ2 fr argVals).2.heap.size :: fr.closure) (.mk (.Var c!"this") l) =
          errAt l (Leaf.Undefined c!"this") σb) ∧
      (∀ w, scopeGet σb fr.closure c!"this" = some w → ∀ j l,
        evalExpr (j + 1) σb ((callPlainVals σ2 fr argVals).2.heap.size :: fr.closure) (.mk (.Var c!"this") l) =
          .ok w σb)) :=
  ⟨evalCall_func_ok loc hargs hf rfl hfr hok, fun k => evalBlock_succ k _ _ _ _,
    fun hno _ _ h => body_without_this hno h⟩

/-- the same for the common case of plain parameter names (pairwise different, none `_`, none `this`), where more can
    be said: the parameters can always be bound (at every fuel `≥ number of parameters + 2`), and `this` in the body's
    initial state is what the closure chain had *at the call* (state `σ2`) -/
theorem plain_function_plain_params {σ2 : State} {argVals : List SVal} {fr : FuncRec}
    (hok : arityOk fr.collect fr.args.length argVals.length = true)
    (vars : List (List Char × Loc)) (hvars : fr.args = varExprs vars) (hfreshrow : FreshRow [] [] vars)
    (hnothis : ∀ p ∈ vars, p.1 ≠ c!"this") (hclo : ∀ b ∈ fr.closure, b < σ2.heap.size)
    (k : Nat) (hk : vars.length + 2 ≤ k) :
    ∃ σb,
      evalBlock (k + 1) (callPlainVals σ2 fr argVals).2 fr.closure (fr.args.zip (callPlainVals σ2 fr argVals).1) fr.stmts =
        evalStmts k σb ((callPlainVals σ2 fr argVals).2.heap.size :: fr.closure) fr.stmts ∧
      scopeGet σb ((callPlainVals σ2 fr argVals).2.heap.size :: fr.closure) c!"this" = scopeGet σ2 fr.closure c!"this" ∧
      (scopeGet σ2 fr.closure c!"this" = none → ∀ j l,
        evalExpr (j + 1) σb ((callPlainVals σ2 fr argVals).2.heap.size :: fr.closure) (.mk (.Var c!"this") l) =
          errAt l (Leaf.Undefined c!"this") σb) ∧
      (∀ w, scopeGet σ2 fr.closure c!"this" = some w → ∀ j l,
        evalExpr (j + 1) σb ((callPlainVals σ2 fr argVals).2.heap.size :: fr.closure) (.mk (.Var c!"this") l) =
          .ok w σb) := by
  generalize hσ3 : (callPlainVals σ2 fr argVals).2 = σ3
  generalize hpv : (callPlainVals σ2 fr argVals).1 = pv
  have hlen : vars.length ≤ pv.length := by
    have := callPlainVals_length_ge (σ := σ2) hok
    rw [hpv, hvars] at this
    simpa [varExprs] using this
  obtain ⟨d, rfl⟩ : ∃ d, k = vars.length + 2 + d := ⟨k - (vars.length + 2), by omega⟩
  obtain ⟨σb, mb, hdecl, hsb, _, hother, hheap⟩ :=
    declareAll_vars fr.closure vars (pv.take vars.length) d (getScope_alloc_new σ3 []) hfreshrow (by simp; omega)
  have hzip : fr.args.zip pv = (varExprs vars).zip (pv.take vars.length) := by
    rw [hvars, zip_take_left]; simp [varExprs]
  have hthis : scopeLookup c!"this" mb = none := by rw [hother _ hnothis]; rfl
  have hcl : scopeGet σb fr.closure c!"this" = scopeGet σ2 fr.closure c!"this" := by
    apply scopeGet_congr
    intro b hb
    have hb2 : b < σ2.heap.size := hclo b hb
    have h3 := callPlainVals_heap_old (σ := σ2) (fr := fr) argVals hb2
    rw [hσ3] at h3
    have hb3 : b < σ3.heap.size := Nat.lt_of_lt_of_le hb2 h3.2
    rw [hheap b (Nat.ne_of_lt hb3), σ3.alloc_heap_old _ hb3, h3.1]
  have hbody := head_without_this fr.closure hsb hthis
  rw [hcl] at hbody
  refine ⟨σb, ?_, hbody⟩
  rw [evalBlock_succ, hzip, hdecl]; rfl

/-! ## assignment replaces the value together with its source -/

/-- **`h = o2.name; h(args); rest`** for a defined `h` (`hassign` — it exists whenever `h` resolves, `scopeAssign_of_get` —
    whatever `h` held before, e.g. a method read from another object): afterwards `h` resolves to the function with
    source `a2`, and the call binds `this` to `a2`.  The old source is neither kept nor is the new one dropped. -/
theorem assign_replaces_provenance {n : Nat} {σ σ1 σ2 σ3 : State} {sc : List Addr} {o2 : Expr}
    {args : List ListItem} {argVals : List SVal} {ov : SVal} {a2 fa : Addr} {m2 : ObjMap}
    {name h : List Char} {s : Option Val} {fr : FuncRec} (lh lp lh2 lc : Loc) (rest : List Stmt)
    (ho : evalExpr n σ sc o2 = .ok ov σ1) (hov : ov.v = .obj a2)
    (hm : σ1.getObj a2 = some m2) (hk : objGet name m2 = some ⟨.func fa, s⟩)
    (hh : h ≠ c!"_") (hassign : scopeAssign σ1 sc h ⟨.func fa, some (.obj a2)⟩ = some σ2)
    (hargs : evalListItems (n + 1) σ2 sc args [] = .ok argVals σ3)
    (hstill : scopeGet σ3 sc h = some ⟨.func fa, some (.obj a2)⟩)
    (hfr : σ3.getFunc fa = some fr) (hok : arityOk fr.collect fr.args.length argVals.length = true) :
    scopeGet σ2 sc h = some ⟨.func fa, some (.obj a2)⟩ ∧
    evalStmts (n + 6) σ sc
        (.Assign (.mk (.Var h) lh) (.mk (.Prop o2 name false) lp) ::
         .Expr (.mk (.Call (.mk (.Var h) lh2) args) lc) :: rest) =
      ((((evalBlock (n + 1) (callPlainVals σ3 fr argVals).2 fr.closure
            (callBindings fr (callPlainVals σ3 fr argVals).1 (some (.obj a2)) lc) fr.stmts).mapErr
          (Err.funcCall fr.name lc)).bind finishCall).bind fun _ σ5 => evalStmts (n + 4) σ5 sc rest) ∧
    BodyThis (callPlainVals σ3 fr argVals).2 fr (callPlainVals σ3 fr argVals).1 (some (.obj a2)) lc (.obj a2) := by
  refine ⟨scopeAssign_get hassign, ?_, bodyThis _ _ _ _ _⟩
  have hst : evalStmt (n + 2) σ sc (.Assign (.mk (.Var h) lh) (.mk (.Prop o2 name false) lp)) = .ok .none σ2 := by
    rw [evalStmt, prop_read_src lp ho hov hm hk]
    simp only [Res.bind]
    rw [bindNext_var]
    simp [bindNextName, hh, hassign]
  rw [evalStmts_cons_ok_le _ hst (by omega : n + 2 ≤ n + 5), call_stmt_then,
    (call_var_this lh2 lc hargs hstill hfr hok).1]


/-- **`h := o1.k1; h = o2.k2; h(args); rest`**: `this` is `o2`'s object -/
theorem assign_after_declare_replaces_provenance {n : Nat} {σ σ1 σ3 σ4 σ5 : State} {A0 : Addr} {sc' : List Addr}
    {o1 o2 : Expr} {args : List ListItem} {argVals : List SVal} {ov1 ov2 : SVal} {a1 a2 f1 fa : Addr}
    {m1 m2 : ObjMap} {ms : ScopeMap} {k1 k2 h : List Char} {s1 s2 : Option Val} {fr : FuncRec}
    (lh lp lh' lp' lh2 lc : Loc) (rest : List Stmt)
    (ho1 : evalExpr n σ (A0 :: sc') o1 = .ok ov1 σ1) (hov1 : ov1.v = .obj a1)
    (hm1 : σ1.getObj a1 = some m1) (hk1 : objGet k1 m1 = some ⟨.func f1, s1⟩)
    (hh : h ≠ c!"_") (hs : σ1.getScope A0 = some ms) (hfresh : scopeLookup h ms = none)
    (ho2 : evalExpr n (σ1.set A0 (.scope ((h, ⟨.func f1, some (.obj a1)⟩, lh) :: ms))) (A0 :: sc') o2 = .ok ov2 σ3)
    (hov2 : ov2.v = .obj a2) (hm2 : σ3.getObj a2 = some m2) (hk2 : objGet k2 m2 = some ⟨.func fa, s2⟩)
    (hassign : scopeAssign σ3 (A0 :: sc') h ⟨.func fa, some (.obj a2)⟩ = some σ4)
    (hargs : evalListItems (n + 1) σ4 (A0 :: sc') args [] = .ok argVals σ5)
    (hstill : scopeGet σ5 (A0 :: sc') h = some ⟨.func fa, some (.obj a2)⟩)
    (hfr : σ5.getFunc fa = some fr) (hok : arityOk fr.collect fr.args.length argVals.length = true) :
    evalStmts (n + 7) σ (A0 :: sc')
        (.Declare (.mk (.Var h) lh) (.mk (.Prop o1 k1 false) lp) ::
         .Assign (.mk (.Var h) lh') (.mk (.Prop o2 k2 false) lp') ::
         .Expr (.mk (.Call (.mk (.Var h) lh2) args) lc) :: rest) =
      ((((evalBlock (n + 1) (callPlainVals σ5 fr argVals).2 fr.closure
            (callBindings fr (callPlainVals σ5 fr argVals).1 (some (.obj a2)) lc) fr.stmts).mapErr
          (Err.funcCall fr.name lc)).bind finishCall).bind fun _ σ6 => evalStmts (n + 4) σ6 (A0 :: sc') rest) ∧
    BodyThis (callPlainVals σ5 fr argVals).2 fr (callPlainVals σ5 fr argVals).1 (some (.obj a2)) lc (.obj a2) := by
  refine ⟨?_, bodyThis _ _ _ _ _⟩
  have hd := declare_var_stmt lh (prop_read_src lp ho1 hov1 hm1 hk1) hh hs hfresh
  rw [evalStmts_cons_ok_le _ hd (by omega : n + 2 ≤ n + 6)]
  exact (assign_replaces_provenance lh' lp' lh2 lc rest ho2 hov2 hm2 hk2 hh hassign hargs hstill hfr hok).2.1

/-- `fn x(…) { … }` binds `x` to a function value without a source -/
theorem fn_stmt_value_has_no_source {n : Nat} {σ : State} {a : Addr} {sc : List Addr} {x : List Char} {m : ScopeMap}
    (lx : Loc) (params : List Expr) (collect : Bool) (body : List Stmt)
    (hv : validateArgs (n + 1) params [] = some none) (hx : x ≠ c!"_")
    (hs : σ.getScope a = some m) (hf : scopeLookup x m = none) :
    ∃ σ', evalStmt (n + 2) σ (a :: sc) (.Func x lx params collect body) = .ok .none σ' ∧
      scopeGet σ' (a :: sc) x = some ⟨.func σ.heap.size, none⟩ ∧
      σ'.getFunc σ.heap.size = some ⟨some x, params, collect, body, a :: sc⟩ ∧
      ∀ j l, evalExpr (j + 1) σ' (a :: sc) (.mk (.Var x) l) = .ok ⟨.func σ.heap.size, none⟩ σ' := by
  have hg := scopeGet_declared sc x ⟨.func σ.heap.size, none⟩ lx
    (getScope_alloc_old (.func ⟨some x, params, collect, body, a :: sc⟩) hs)
  refine ⟨_, func_stmt lx params collect body hv hx hs hf, hg, ?_, fun j l => src_preserved_var l hg⟩
  have hne : σ.heap.size ≠ a := Nat.ne_of_gt (getScope_lt hs)
  rw [getFunc_set_other _ hne]
  exact getFunc_eq_some.mpr (σ.alloc_heap_new _)


/-! ## examples for the end-to-end theorems -/

/-- `return this.n;` -/
def getBody : List Stmt :=
  [.Return (1, 28) (.mk (.Prop (.mk (.Var c!"this") (1, 35)) c!"n" false) (1, 39))]
/-- `fn() { return this.n; }`, closed over the global scope -/
def frGet : FuncRec := ⟨none, [], false, getBody, [0]⟩
/-- `fn g() { return this; }` -/
def frG : FuncRec := ⟨some c!"g", [], false, [.Return (3, 9) (.mk (.Var c!"this") (3, 16))], [0]⟩
/-- `fn ap(f) { return f(); }` -/
def frAp : FuncRec :=
  ⟨some c!"ap", [.mk (.Var c!"f") (4, 6)], false,
    [.Return (4, 11) (.mk (.Call (.mk (.Var c!"f") (4, 18)) []) (4, 19))], [0]⟩

/-- scope 0: `a ↦ object 1`, `b ↦ object 3`, `g ↦ func 4`, `ap ↦ func 5`;
    object 1 = `{"get": fn() { return this.n; }, "n": 1}` (the function is cell 2);
    object 3 = `{"get": a.get, "n": 2}` — its `get` is the same function, *stored with source `a`* -/
def ms0 : ScopeMap :=
  [(c!"a", SVal.plain (.obj 1), (1, 0)), (c!"b", SVal.plain (.obj 3), (2, 0)),
   (c!"g", SVal.plain (.func 4), (3, 3)), (c!"ap", SVal.plain (.func 5), (4, 3))]

def σm : State :=
  ⟨#[.scope ms0,
     .obj [(c!"get", ⟨.func 2, none⟩), (c!"n", SVal.plain (.int 1))],
     .func frGet,
     .obj [(c!"get", ⟨.func 2, some (.obj 1)⟩), (c!"n", SVal.plain (.int 2))],
     .func frG,
     .func frAp], []⟩

def eA : Expr := .mk (.Var c!"a") (5, 0)
def eB : Expr := .mk (.Var c!"b") (5, 0)

/-- `b.get()`: `this` is `b` (object 3) although the function was defined in, and is stored with source, `a` -/
example :
    evalCall 4 σm [0] (.mk (.Prop eB c!"get" false) (5, 1)) [] (5, 5) =
      ((evalBlock 3 σm [0] [(.mk (.Var c!"this") (5, 5), SVal.plain (.obj 3))] getBody).mapErr
        (Err.funcCall none (5, 5))).bind finishCall ∧
    BodyThis σm frGet [] (some (.obj 3)) (5, 5) (.obj 3) :=
  method_call_this (argVals := []) (fr := frGet) (5, 1) (5, 5) (by with_unfolding_all rfl) (by with_unfolding_all rfl) rfl
    (by rfl) (by rfl) (by rfl) (by decide)

example : ∃ σ', evalCall 8 σm [0] (.mk (.Prop eB c!"get" false) (5, 1)) [] (5, 5) = .ok ⟨.int 2, some (.obj 3)⟩ σ' :=
  ⟨_, by with_unfolding_all rfl⟩

/-- `b["get"]()` -/
example :
    evalCall 5 σm [0] (.mk (.Index eB (.mk (.Str c!"get" none) (5, 2))) (5, 1)) [] (5, 5) =
      ((evalBlock 4 σm [0] [(.mk (.Var c!"this") (5, 5), SVal.plain (.obj 3))] getBody).mapErr
        (Err.funcCall none (5, 5))).bind finishCall ∧
    BodyThis σm frGet [] (some (.obj 3)) (5, 5) (.obj 3) :=
  method_call_this_index (argVals := []) (fr := frGet) (5, 1) (5, 5) (by with_unfolding_all rfl)
    (by with_unfolding_all rfl) rfl (by with_unfolding_all rfl) (by rfl) (by rfl) (by rfl) (by decide)

/-- the body really gets there: the parameter scope is cell 6, and `this` reads as object 3 -/
example : declareAll 2 (σm.alloc (.scope [])).2 [6, 0] (callBindings frGet [] (some (.obj 3)) (5, 5)) =
    .ok () ((σm.alloc (.scope [])).2.set 6 (.scope [(c!"this", SVal.plain (.obj 3), (5, 5))])) := by
  with_unfolding_all rfl


/-- `h := a.get; h();` — `this` is `a` (object 1), the object read from, at the call two statements later -/
example :
    evalStmts 8 σm [0]
        [.Declare (.mk (.Var c!"h") (6, 0)) (.mk (.Prop eA c!"get" false) (6, 6)),
         .Expr (.mk (.Call (.mk (.Var c!"h") (7, 0)) []) (7, 1))] =
      ((((evalBlock 3 (σm.set 0 (.scope ((c!"h", ⟨.func 2, some (.obj 1)⟩, (6, 0)) :: ms0))) [0]
            [(.mk (.Var c!"this") (7, 1), SVal.plain (.obj 1))] getBody).mapErr
          (Err.funcCall none (7, 1))).bind finishCall).bind fun _ σ5 => evalStmts 6 σ5 [0] []) ∧
    BodyThis (σm.set 0 (.scope ((c!"h", ⟨.func 2, some (.obj 1)⟩, (6, 0)) :: ms0))) frGet [] (some (.obj 1)) (7, 1)
      (.obj 1) :=
  stored_method_keeps_this_var (fr := frGet) (argVals := []) (6, 0) (6, 6) (7, 0) (7, 1) [] (by with_unfolding_all rfl) rfl
    (by rfl) (by rfl) (by decide) (by rfl) (by rfl) (by with_unfolding_all rfl) (by rfl) (by rfl) (by decide)

/-- `ap(b.get)` with `fn ap(f) { return f(); }` — inside `ap`, `f()` runs with `this = b` (object 3) -/
example :
    evalCall 8 σm [0] (.mk (.Var c!"ap") (8, 0)) [.mk (.mk (.Prop eB c!"get" false) (8, 4)) false] (8, 2) =
      (((evalBlock 2 (apEntry σm c!"f" (4, 6) ⟨.func 2, some (.obj 3)⟩) [0]
            [(.mk (.Var c!"this") (4, 19), SVal.plain (.obj 3))] getBody).mapErr
          (Err.funcCall none (4, 19))).bind finishCall).mapErr (Err.funcCall (some c!"ap") (8, 2)) ∧
    BodyThis (apEntry σm c!"f" (4, 6) ⟨.func 2, some (.obj 3)⟩) frGet [] (some (.obj 3)) (4, 19) (.obj 3) :=
  stored_method_keeps_this_arg (fr := frGet) (4, 6) (4, 11) (4, 18) (4, 19) (8, 4) (8, 2) (by with_unfolding_all rfl) rfl
    (by rfl) (by rfl) (by with_unfolding_all rfl) (by rfl) (by decide) (by rfl) (by decide)

/-- `xs := [b.get]; xs[0]();` — the list element carries the source `b` -/
example :
    evalStmts 10 σm [0]
        [.Declare (.mk (.Var c!"xs") (9, 0))
           (.mk (.List [.mk (.mk (.Prop eB c!"get" false) (9, 8)) false] false) (9, 6)),
         .Expr (.mk (.Call (.mk (.Index (.mk (.Var c!"xs") (10, 0)) (.mk (.Int 0) (10, 3))) (10, 2)) []) (10, 5))] =
      ((((evalBlock 5 (listDeclared σm 0 c!"xs" (9, 0) ms0 ⟨.func 2, some (.obj 3)⟩) [0]
            [(.mk (.Var c!"this") (10, 5), SVal.plain (.obj 3))] getBody).mapErr
          (Err.funcCall none (10, 5))).bind finishCall).bind fun _ σ5 => evalStmts 8 σ5 [0] []) ∧
    BodyThis (listDeclared σm 0 c!"xs" (9, 0) ms0 ⟨.func 2, some (.obj 3)⟩) frGet [] (some (.obj 3)) (10, 5) (.obj 3) :=
  stored_method_keeps_this_list (fr := frGet) (argVals := []) (9, 0) (9, 6) (9, 8) (10, 0) (10, 2) (10, 5) []
    (by with_unfolding_all rfl) rfl (by rfl) (by rfl) (by decide) (by rfl) (by rfl) (by with_unfolding_all rfl) (by rfl)
    (by with_unfolding_all rfl) (by rfl) (by rfl) (by rfl) (by decide)

/-- `g()` with `fn g() { return this; }` bound by a `fn` statement: no `this` is declared, the closure chain (the
    global scope) has none, so the body's `this` is undefined -/
example :
    evalCall 3 σm [0] (.mk (.Var c!"g") (11, 0)) [] (11, 1) =
      ((evalBlock 2 σm [0] [] frG.stmts).mapErr (Err.funcCall (some c!"g") (11, 1))).bind finishCall ∧
    ∃ σb, evalBlock 3 σm [0] [] frG.stmts = evalStmts 2 σb [6, 0] frG.stmts ∧
      scopeGet σb [6, 0] c!"this" = none ∧
      evalExpr 1 σb [6, 0] (.mk (.Var c!"this") (3, 16)) = errAt (3, 16) (Leaf.Undefined c!"this") σb := by
  have h := plain_function_has_no_this (n := 2) (σ := σm) (sc := [0]) (f := .mk (.Var c!"g") (11, 0)) (args := [])
    (fr := frG) (11, 1) (by with_unfolding_all rfl) (by with_unfolding_all rfl) (by rfl) (by decide)
  refine ⟨h.1, ?_⟩
  obtain ⟨σb, h1, h2, h3, _⟩ := plain_function_plain_params (σ2 := σm) (argVals := []) (fr := frG) (by decide) [] rfl
    trivial (fun _ hp => nomatch hp) (fun b hb => by simp [frG] at hb; subst hb; decide) 2 (by decide)
  exact ⟨σb, h1, h2.trans (by rfl), h3 (by rfl) 0 (3, 16)⟩

example : ∃ σ', evalCall 8 σm [0] (.mk (.Var c!"g") (11, 0)) [] (11, 1) =
    .err (.funcCall (some c!"g") (11, 1) (Err.at (3, 16) (Leaf.Undefined c!"this"))) σ' :=
  ⟨_, by with_unfolding_all rfl⟩


/-- the parameter pattern `[x, y]` -/
def patXY : Expr := .mk (.List [.mk (.mk (.Var c!"x") (1, 6)) false, .mk (.mk (.Var c!"y") (1, 9)) false] false) (1, 5)
/-- `σm` with one more cell: the list `[1, 2]` (address 6) -/
def σl : State := (σm.alloc (.list [SVal.plain (.int 1), SVal.plain (.int 2)])).2

/-- binding `[x, y]` to the list `[1, 2]` in the fresh cell 7 succeeds, and `this` still resolves through the closure -/
example : ∃ σb, declareAll 6 (σl.alloc (.scope [])).2 [7, 0] ([patXY].zip [SVal.plain (.list 6)]) = .ok () σb ∧
    scopeGet σb [7, 0] c!"this" = scopeGet σb [0] c!"this" ∧ scopeGet σb [7, 0] c!"y" = some (SVal.plain (.int 2)) := by
  have hd : declareAll 6 (σl.alloc (.scope [])).2 [7, 0] ([patXY].zip [SVal.plain (.list 6)]) =
      .ok () ((σl.alloc (.scope [])).2.set 7 (.scope [(c!"y", SVal.plain (.int 2), (1, 9)), (c!"x", SVal.plain (.int 1), (1, 6))])) := by
    with_unfolding_all rfl
  refine ⟨_, hd, ?_, by rfl⟩
  exact (body_without_this (σ3 := σl) (closure := [0]) (params := [patXY]) (pv := [SVal.plain (.list 6)])
    (by intro p hp; simp at hp; subst hp; decide +kernel) hd).1

/-- `h := a.get; h = b.get; h();` — the call binds `this` to `b` (object 3): the source `a` stored by the declaration
    is neither kept nor merely dropped -/
example :
    evalStmts 9 σm [0]
        [.Declare (.mk (.Var c!"h") (6, 0)) (.mk (.Prop eA c!"get" false) (6, 6)),
         .Assign (.mk (.Var c!"h") (7, 0)) (.mk (.Prop eB c!"get" false) (7, 5)),
         .Expr (.mk (.Call (.mk (.Var c!"h") (8, 0)) []) (8, 1))] =
      ((((evalBlock 3 (σm.set 0 (.scope ((c!"h", ⟨.func 2, some (.obj 3)⟩, (6, 0)) :: ms0))) [0]
            [(.mk (.Var c!"this") (8, 1), SVal.plain (.obj 3))] getBody).mapErr
          (Err.funcCall none (8, 1))).bind finishCall).bind fun _ σ6 => evalStmts 6 σ6 [0] []) ∧
    BodyThis (σm.set 0 (.scope ((c!"h", ⟨.func 2, some (.obj 3)⟩, (6, 0)) :: ms0))) frGet [] (some (.obj 3)) (8, 1)
      (.obj 3) :=
  assign_after_declare_replaces_provenance (fr := frGet) (argVals := []) (6, 0) (6, 6) (7, 0) (7, 5) (8, 0) (8, 1) []
    (by with_unfolding_all rfl) rfl (by rfl) (by rfl) (by decide) (by rfl) (by rfl) (by with_unfolding_all rfl) rfl
    (by rfl) (by rfl) (by with_unfolding_all rfl) (by with_unfolding_all rfl) (by rfl) (by rfl) (by decide)

/-! ### the same through the whole pipeline (`run`: lex, parse, evaluate) -/

def progObjs : List Char :=
  c!"a := {\"n\": 1, \"get\": fn() { return this.n; }};\nb := {\"n\": 2, \"get\": a.get};\n"

/-- (1) a borrowed method sees the object it is called on, through `.` and through `[…]` -/
example : (run 100 c!"t.sd" (progObjs ++ c!"print(b.get());\nprint(b[\"get\"]());\nprint(a.get());\n")).out =
    [c!"2", c!"2", c!"1"] := by decide +kernel

/-- (2) a method value keeps the object it was read from — also when the variable it was read through is
    reassigned afterwards — through a variable, a list element and an argument -/
example : (run 100 c!"t.sd" (progObjs ++
    c!"o := a;\nh := o.get;\no = b;\nprint(h());\nxs := [b.get];\nprint(xs[0]());\nfn ap(f) { return f(); }\nprint(ap(b.get));\n")).out =
    [c!"1", c!"2", c!"2"] := by decide +kernel

/-- (3) a plain function has no `this` of its own: undefined at top level, the enclosing method's inside one -/
example : (run 100 c!"t.sd" c!"fn f() { return this; }\nprint(f());\n").stderr =
    c!"t.sd:1:17: in 'f': 'this' is not defined\nStacktrace:\n  t.sd:2:7: in '<root>'\n" := by decide +kernel

example : (run 100 c!"t.sd"
    c!"o := {\"n\": 5, \"m\": fn() { fn inner() { return this.n; }; return inner(); }};\nprint(o.m());\n").out =
    [c!"5"] := by decide +kernel

/-- (3) destructuring parameters make no difference — unless the pattern itself binds the name `this` -/
example : (run 100 c!"t.sd" c!"fn f([x, y]) { return this; }\nprint(f([1, 2]));\n").stderr =
    c!"t.sd:1:23: in 'f': 'this' is not defined\nStacktrace:\n  t.sd:2:7: in '<root>'\n" := by decide +kernel

example : (run 100 c!"t.sd"
    c!"o := {\"n\": 5, \"m\": fn() { fn inner([x, {y}]) { return this.n + x + y; }; return inner([1, {\"y\": 2}]); }};\nprint(o.m());\n").out =
    [c!"8"] := by decide +kernel

example : (run 100 c!"t.sd" c!"fn f([this]) { return this; }\nprint(f([7]));\n").out = [c!"7"] := by decide +kernel

/-- the pattern `[x, {y}]` binds `x` and `y`, not `this` -/
example : c!"this" ∉ patVars (.mk (.List [.mk (.mk (.Var c!"x") (1, 6)) false,
    .mk (.mk (.Object [.Single (.mk (.Var c!"y") (1, 10)) false false]) (1, 9)) false] false) (1, 5)) := by
  decide +kernel

/-- (4) assignment replaces the source together with the value -/
example : (run 100 c!"t.sd" (progObjs ++ c!"h := a.get;\nh = b.get;\nprint(h());\nh = a.get;\nprint(h());\n")).out =
    [c!"2", c!"1"] := by decide +kernel

/-! ### function values through a range assignment -/

/-- the items a list contributes as the right-hand side of `xs[a:b] = ys` are its stored items — each with the source it
    was stored with -/
theorem range_rhs_keeps_sources (σ : State) (b : Addr) : rangeRhs σ (.list b) = σ.getList b := rfl

/-- … and the range assignment stores them unchanged: position `lo + i` of the target holds item `i` of the right-hand
    side, value *and* source (a method read from an object and assigned through a range is later called with that object
    as `this`, like one stored by `xs[i] = o.f`) -/
theorem range_assign_keeps_item (xs ys : List SVal) (lo i : Nat) (h : lo + ys.length ≤ xs.length) (hi : i < ys.length) :
    (listSplice xs lo ys)[lo + i]? = ys[i]? := by
  rw [C11.listSplice_get xs ys lo (lo + i) h, if_neg (by omega), if_pos (by omega)]
  congr 1; omega

/-- (5) a method stored through a range assignment keeps its object -/
example : (run 100 c!"t.sd" (progObjs ++ c!"hs := [0, 0];
hs[0:2] = [b.get, a.get];
print(hs[0]());
print(hs[1]());
")).out =
    [c!"2", c!"1"] := by decide +kernel

end Seed.C14

/-! ### routes a function value can travel (`Lemmas/C14Routes*.lean`)

A function value read from an object keeps that object as `this` on every route through a LIST: `xs[i]` returns the stored item
itself, value and source (`index_list_returns_stored_item`) — also when the list was itself read from an object
(`index_list_through_prop`: in `b.handlers[0]` the list carries `b`, the item does not inherit it), a spread hands the stored
items over unchanged in argument lists and list literals (`spread_keeps_item_src`, `call_spread_args`,
`spread_args_eq_index_args`: `f(x..)` and `f(x[0], …, x[n-1])` evaluate to the same argument values, sources included), a slice
is a fresh list of the stored items (`slice_keeps_item_src`), `for` pairs every index with the stored item and binds the loop
variable to it (`toPairs_list_keeps_items`, `for_item_keeps_src`).  End to end: `stored_method_keeps_this_for` /
`_spread` / `_handlers` (a method read as `a.who`, kept in a list, reached as the `for` item / through a spread argument /
as `b.handlers[0]`, runs with `this = a`), `plain_function_in_handlers_has_no_this`. -/
-- audit: Seed.C14R.index_list_returns_stored_item Seed.C14R.index_list_through_prop Seed.C14R.call_list_item Seed.C14R.call_handlers_item Seed.C14R.spread_keeps_item_src Seed.C14R.list_literal_spread Seed.C14R.call_spread_args Seed.C14R.spread_args_eq_index_args Seed.C14R.slice_keeps_item_src Seed.C14R.toPairs_list_keeps_items Seed.C14R.bindNext_pair Seed.C14R.for_item_keeps_src Seed.C14R.for_item_call
-- audit: Seed.C14R.queue_for_call Seed.C14R.stored_method_keeps_this_for Seed.C14R.queue_spread_call Seed.C14R.stored_method_keeps_this_spread Seed.C14R.queue_handlers_call Seed.C14R.stored_method_keeps_this_handlers Seed.C14R.plain_function_in_handlers_has_no_this
