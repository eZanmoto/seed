/-
  C16 — no implicit conversions: out-of-domain operands are type errors naming the types.

  `allowed` is transcribed from the property statement; the theorems say that `applyBinOp` answers exactly on
  `allowed`, and with the located `InvalidOpTypes` / `InvalidEqOpTypes` diagnostic everywhere else; that the two
  extracted type-name tables agree; and, one evaluator step deep, that every typed context rejects every other kind
  with its specific located diagnostic.
-/
import SeedProofs.Lemmas.C16Kinds
import SeedModel.Run
namespace Seed.C16
open Seed

/-! ## the operator × kind × kind matrix -/

/-- **C16.**  Only the documented operand kinds are ever answered with a value. -/
theorem binop_domain {fuel : Nat} {σ σ' : State} {op : BinaryOp} {loc : Loc} {a b v : Val}
    (h : applyBinOp fuel σ op loc a b = .ok v σ') : allowed op a.kind b.kind = true := by
  by_cases heq : op = .Eq ∨ op = .Ne
  · obtain ⟨_, r, hr⟩ := eq_ok heq h
    rcases heq with rfl | rfl <;> exact eqVal_ok_kinds hr
  · exact domain_noneq (fun h => heq (Or.inl h)) (fun h => heq (Or.inr h)) h

example : applyBinOp 0 State.init .Sum (1, 1) (.str [65]) (.str [66]) = .ok (.str [65, 66]) State.init := rfl

/-- **C16.**  Every other combination of a non-equality operator stops with the diagnostic that carries the operator
    and both operand kinds, in order, at the operator's position — whatever the fuel and the state. -/
theorem binop_reject {op : BinaryOp} {a b : Val} (h : allowed op a.kind b.kind = false)
    (hne1 : op ≠ .Eq) (hne2 : op ≠ .Ne) (fuel : Nat) (σ : State) (loc : Loc) :
    applyBinOp fuel σ op loc a b = .err (invalidOpTypes op loc a b) σ :=
  reject_noneq h hne1 hne2 fuel σ loc

example : allowed .Sum (Val.int 1).kind (Val.str []).kind = false ∧ BinaryOp.Sum ≠ .Eq ∧ BinaryOp.Sum ≠ .Ne := by decide
example : allowed .RefEq (Val.str []).kind (Val.str []).kind = false := by decide
example : allowed .And (Val.int 1).kind (Val.int 0).kind = false := by decide

/-- **C16.**  `==`/`!=` on operands of different kinds, or on two functions, is the error naming both types in order -/
theorem eq_kind_mismatch {op : BinaryOp} (hop : op = .Eq ∨ op = .Ne) {a b : Val}
    (h : allowed op a.kind b.kind = false) (fuel : Nat) (σ : State) (loc : Loc) :
    applyBinOp (fuel + 1) σ op loc a b =
      .err (Err.at loc (Gen.Leaf.InvalidEqOpTypes op (Gen.typeNameDiag a.kind) (Gen.typeNameDiag b.kind) [])) σ := by
  have hm : eqVal (fuel + 1) σ a b = .mismatch [] (Gen.typeNameDiag a.kind) (Gen.typeNameDiag b.kind) := by
    apply eqVal_mismatch
    rcases hop with rfl | rfl <;> exact h
  rcases hop with rfl | rfl <;> simp [applyBinOp, hm]

example : allowed .Eq (Val.int 1).kind (Val.bool true).kind = false := by decide
example : allowed .Ne (Val.func 0).kind (Val.func 0).kind = false := by decide

/-- the shape of the operator diagnostic: `can't apply '<op>' to '<lhs type>' and '<rhs type>'`, left operand first -/
theorem binop_msg (op : BinaryOp) (l r : Kind) :
    (Gen.Leaf.InvalidOpTypes op l r).msg =
      c!"can't apply '" ++ Gen.opSymbol op ++ c!"' to '" ++ Gen.typeNameDiag l ++ c!"' and '" ++ Gen.typeNameDiag r ++ c!"'" := rfl

/-- the same shape for `==`/`!=`, with the optional path suffix -/
theorem eq_msg (op : BinaryOp) (lt rt msg : List Char) :
    (Gen.Leaf.InvalidEqOpTypes op lt rt msg).msg =
      c!"can't apply '" ++ Gen.opSymbol op ++ c!"' to '" ++ lt ++ c!"' and '" ++ rt ++ c!"'" ++ msg := rfl

/-- the operand order in the message is the operand order of the expression (an asymmetric instance) -/
theorem binop_msg_order :
    (Gen.Leaf.InvalidOpTypes .Sum .Int .Str).msg = c!"can't apply '+' to 'int' and 'string'" ∧
    (Gen.Leaf.InvalidOpTypes .Sum .Str .Int).msg = c!"can't apply '+' to 'string' and 'int'" := ⟨rfl, rfl⟩

/-- the fifteen operator symbols are the documented ones, and pairwise distinct -/
theorem op_symbols :
    [BinaryOp.Sum, .Sub, .Mul, .Div, .Mod, .And, .Or, .Eq, .Ne, .Gt, .Gte, .Lt, .Lte, .RefEq, .RefNe].map Gen.opSymbol =
      [c!"+", c!"-", c!"*", c!"/", c!"%", c!"&&", c!"||", c!"==", c!"!=", c!">", c!">=", c!"<", c!"<=", c!"===", c!"!=="] := rfl

theorem op_symbols_injective (o₁ o₂ : BinaryOp) (h : Gen.opSymbol o₁ = Gen.opSymbol o₂) : o₁ = o₂ := by
  let ops := [BinaryOp.Sum, .Sub, .Mul, .Div, .Mod, .And, .Or, .Eq, .Ne, .Gt, .Gte, .Lt, .Lte, .RefEq, .RefNe]
  have all : ∀ o, o ∈ ops := fun o => by cases o <;> decide
  have key : ∀ a ∈ ops, ∀ b ∈ ops, Gen.opSymbol a = Gen.opSymbol b → a = b := by decide +kernel
  exact key _ (all _) _ (all _) h

example : Gen.opSymbol .Lte = Gen.opSymbol .Lte := rfl

/-- no coercion of results either: the kind of the answer is fixed by the operator (and, for `+`, the operands' kind) -/
theorem no_coercion {fuel : Nat} {σ σ' : State} {op : BinaryOp} {loc : Loc} {a b v : Val}
    (h : applyBinOp fuel σ op loc a b = .ok v σ') : v.kind = resultKind op a.kind := by
  by_cases heq : op = .Eq ∨ op = .Ne
  · rw [(eq_ok heq h).1]
    rcases heq with rfl | rfl <;> rfl
  · exact result_kind_noneq (fun h => heq (Or.inl h)) (fun h => heq (Or.inr h)) h

example : applyBinOp 0 State.init .Lt (1, 1) (.int 1) (.int 2) = .ok (.bool true) State.init := rfl

/-! ## type names -/

/-- **C16.**  The names used in diagnostics are the names `->type()` returns (two separately extracted tables) -/
theorem type_names_agree : Gen.typeNameDiag = Gen.typeNameFn := by
  funext k; cases k <;> rfl

/-- and they are the documented ones -/
theorem type_names_documented :
    [Kind.Null, .Bool, .Int, .Str, .List, .Object, .Func, .BuiltinFunc].map Gen.typeNameFn =
      [c!"null", c!"bool", c!"int", c!"string", c!"list", c!"object", c!"func", c!"func"] := rfl

/-- `v->type()` is defined for every kind except null: the namespace exists and holds `type` … -/
theorem type_fn_total (k : Kind) (hk : k ≠ .Null) :
    ∃ ns name, typeNamespace k = some ns ∧ typeFnLookup ns c!"type" Gen.typeFnTable = some (.builtin name .anyType) := by
  cases k
  · exact absurd rfl hk
  all_goals exact ⟨_, _, rfl, rfl⟩

example : Kind.Func ≠ .Null := by decide

/-- … null has no type functions … -/
theorem type_fn_null : typeNamespace .Null = none := rfl

/-- … and calling it returns the type name of the receiver, for any receiver -/
theorem type_fn_value (fuel : Nat) (σ : State) (t : SVal) :
    callBuiltin fuel σ .anyType (some t) [] = .ok (SVal.plain (.str (utf8Encode (Gen.typeNameFn t.v.kind)))) σ := by
  simp [callBuiltin, assertArgs]

/-- `e->type` one evaluator step deep: a located error on null, the `type` builtin bound to the receiver otherwise -/
theorem type_prop_step (n : Nat) (σ σ1 : State) (sc : List Addr) (ex : Expr) (loc : Loc) (src : SVal)
    (h : evalExpr n σ sc ex = .ok src σ1) :
    (src.v.kind = .Null →
      evalExpr (n + 1) σ sc (.mk (.Prop ex c!"type" true) loc) = errAt loc Gen.Leaf.TypeFunctionOnNull σ1) ∧
    (src.v.kind ≠ .Null → ∃ name,
      evalExpr (n + 1) σ sc (.mk (.Prop ex c!"type" true) loc) = .ok ⟨.builtin name .anyType, some src.v⟩ σ1) := by
  constructor
  · intro hk
    simp only [evalExpr, h, Res.bind, hk, typeNamespace, if_true]
  · intro hk
    obtain ⟨ns, name, h1, h2⟩ := type_fn_total src.v.kind hk
    exact ⟨name, by simp only [evalExpr, h, Res.bind, h1, h2, if_true]⟩

example : evalExpr 1 State.init [] (.mk (.Int 3) (1, 1)) = .ok (SVal.plain (.int 3)) State.init ∧
    (SVal.plain (.int 3)).v.kind ≠ .Null := ⟨by simp [evalExpr], by decide⟩

/-! ## typed contexts, one evaluator step deep

Each theorem takes the result of evaluating the sub-expression as a hypothesis and shows what the context does with a
value of the wrong kind: the specific located diagnostic carrying the offending kind, nothing else (no coercion, no
crash).  `example`s exhibit a sub-expression meeting the hypotheses. -/

/-- conditions of `if`/`while` and every other boolean context -/
theorem ctx_bool (n : Nat) (σ σ1 : State) (sc : List Addr) (descr : List Char) (e : Expr) (v : SVal)
    (h : evalExpr n σ sc e = .ok v σ1) :
    (∀ b, v.v = .bool b → evalToBool (n + 1) σ sc descr e = .ok b σ1) ∧
    (v.v.kind ≠ .Bool → evalToBool (n + 1) σ sc descr e = errAt e.loc (Gen.Leaf.IncorrectType descr c!"bool" v.v.kind) σ1) := by
  constructor
  · intro b hb
    simp only [evalToBool, h, Res.bind, hb]
  · intro hk
    simp only [evalToBool, h, Res.bind]
    cases hv : v.v <;> simp_all [Val.kind]

example : evalExpr 1 State.init [] (.mk (.Int 0) (1, 4)) = .ok (SVal.plain (.int 0)) State.init ∧
    (SVal.plain (.int 0)).v.kind ≠ .Bool := ⟨by simp [evalExpr], by decide⟩

/-- range bounds, indices and every other integer context -/
theorem ctx_int (n : Nat) (σ σ1 : State) (sc : List Addr) (descr : List Char) (e : Expr) (v : SVal)
    (h : evalExpr n σ sc e = .ok v σ1) :
    (∀ i, v.v = .int i → evalToInt (n + 1) σ sc descr e = .ok i σ1) ∧
    (v.v.kind ≠ .Int → evalToInt (n + 1) σ sc descr e = errAt e.loc (Gen.Leaf.IncorrectType descr c!"int" v.v.kind) σ1) := by
  constructor
  · intro b hb
    simp only [evalToInt, h, Res.bind, hb]
  · intro hk
    simp only [evalToInt, h, Res.bind]
    cases hv : v.v <;> simp_all [Val.kind]

example : evalExpr 1 State.init [] (.mk (.Bool true) (1, 4)) = .ok (SVal.plain (.bool true)) State.init ∧
    (SVal.plain (.bool true)).v.kind ≠ .Int := ⟨by simp [evalExpr], by decide⟩

/-- an index is an integer context named `index` -/
theorem ctx_index (n : Nat) (σ σ1 : State) (sc : List Addr) (e : Expr) (v : SVal)
    (h : evalExpr n σ sc e = .ok v σ1) (hk : v.v.kind ≠ .Int) :
    evalToIndex (n + 2) σ sc e = errAt e.loc (Gen.Leaf.IncorrectType c!"index" c!"int" v.v.kind) σ1 := by
  have := (ctx_int n σ σ1 sc c!"index" e v h).2 hk
  simp only [evalToIndex, this, errAt, Res.bind]

/-- both operands of `..` are integer contexts named `range start` / `range end` -/
theorem ctx_range (n : Nat) (σ σ1 : State) (sc : List Addr) (a b : Expr) (loc : Loc) (v : SVal)
    (h : evalExpr n σ sc a = .ok v σ1) (hk : v.v.kind ≠ .Int) :
    evalExpr (n + 2) σ sc (.mk (.Range a b) loc) =
      errAt a.loc (Gen.Leaf.IncorrectType c!"range start" c!"int" v.v.kind) σ1 := by
  have := (ctx_int n σ σ1 sc c!"range start" a v h).2 hk
  simp only [evalExpr, this, errAt, Res.bind]

/-- property names and every other string context -/
theorem ctx_str (n : Nat) (σ σ1 : State) (sc : List Addr) (descr : List Char) (e : Expr) (v : SVal)
    (h : evalExpr n σ sc e = .ok v σ1) (hk : v.v.kind ≠ .Str) :
    evalToStr (n + 1) σ sc descr e = errAt e.loc (Gen.Leaf.IncorrectType descr c!"string" v.v.kind) σ1 := by
  simp only [evalToStr, h, Res.bind]
  cases hv : v.v <;> simp_all [Val.kind]

example : evalExpr 1 State.init [] (.mk .Null (2, 4)) = .ok (SVal.plain .null) State.init ∧
    (SVal.plain Val.null).v.kind ≠ .Str := ⟨by simp [evalExpr], by decide⟩

/-- spread inside a list literal needs a list -/
theorem ctx_spread_list (n : Nat) (σ σ1 : State) (sc : List Addr) (e : Expr) (r : List ListItem) (acc : List SVal) (v : SVal)
    (h : evalExpr n σ sc e = .ok v σ1) (hk : v.v.kind ≠ .List) :
    evalListItems (n + 1) σ sc (.mk e true :: r) acc = errAt e.loc (Gen.Leaf.SpreadNonListInList v.v.kind) σ1 := by
  simp only [evalListItems, h, Res.bind]
  cases hv : v.v <;> simp_all [Val.kind]

/-- spread inside an object literal needs an object -/
theorem ctx_spread_object (n : Nat) (σ σ1 : State) (sc : List Addr) (objLoc : Loc) (e : Expr) (r : List PropItem)
    (acc : ObjMap) (v : SVal) (h : evalExpr n σ sc e = .ok v σ1) (hk : v.v.kind ≠ .Object) :
    evalProps (n + 1) σ sc objLoc (.Single e true false :: r) acc =
      errAt e.loc (Gen.Leaf.SpreadNonObjectInObject v.v.kind) σ1 := by
  simp only [evalProps, h, Res.bind]
  cases hv : v.v <;> simp_all [Val.kind]

/-- `e.name` needs an object -/
theorem ctx_prop (n : Nat) (σ σ1 : State) (sc : List Addr) (ex : Expr) (name : List Char) (loc : Loc) (v : SVal)
    (h : evalExpr n σ sc ex = .ok v σ1) (hk : v.v.kind ≠ .Object) :
    evalExpr (n + 1) σ sc (.mk (.Prop ex name false) loc) = errAt loc (Gen.Leaf.PropAccessOnNonObject v.v.kind) σ1 := by
  simp only [evalExpr, h, Res.bind]
  cases hv : v.v <;> simp_all [Val.kind]

/-- the callee must be a function -/
theorem ctx_call (n : Nat) (σ σ1 σ2 : State) (sc : List Addr) (f : Expr) (args : List ListItem) (loc : Loc)
    (argVals : List SVal) (fv : SVal)
    (ha : evalListItems n σ sc args [] = .ok argVals σ1) (hf : evalExpr n σ1 sc f = .ok fv σ2)
    (hk : fv.v.kind ≠ .Func ∧ fv.v.kind ≠ .BuiltinFunc) :
    evalCall (n + 1) σ sc f args loc = errAt loc (Gen.Leaf.CannotCallNonFunc fv.v.kind) σ2 := by
  simp only [evalCall, ha, hf, Res.bind]
  cases hv : fv.v <;> simp_all [Val.kind]

example : evalListItems 1 State.init [] [] [] = .ok [] State.init ∧
    evalExpr 1 State.init [] (.mk (.Int 3) (1, 1)) = .ok (SVal.plain (.int 3)) State.init ∧
    ((SVal.plain (.int 3)).v.kind ≠ .Func ∧ (SVal.plain (.int 3)).v.kind ≠ .BuiltinFunc) :=
  ⟨by simp [evalListItems], by simp [evalExpr], by decide⟩

/-- `for` iterates strings, lists and objects only -/
theorem ctx_for (n : Nat) (σ σ1 : State) (sc : List Addr) (lhs iter : Expr) (stmts : List Stmt) (it : SVal)
    (h : evalExpr n σ sc iter = .ok it σ1)
    (hk : it.v.kind ≠ .Str ∧ it.v.kind ≠ .List ∧ it.v.kind ≠ .Object) :
    evalStmt (n + 1) σ sc (.For lhs iter stmts) = errAt iter.loc Gen.Leaf.ForIterNotIterable σ1 := by
  simp only [evalStmt, h, Res.bind]
  cases hv : it.v <;> simp_all [Val.kind, toPairs]

/-- a list pattern destructures lists only, an object pattern objects only -/
theorem ctx_destructure (n : Nat) (σ : State) (sc : List Addr) (names : List (List Char)) (loc : Loc) (rhs : SVal) (decl : Bool) :
    (∀ items collect, rhs.v.kind ≠ .List →
      bindNext (n + 1) σ sc names (.mk (.List items collect) loc) rhs none decl =
        errAt loc (Gen.Leaf.ListDestructureOnNonList rhs.v.kind) σ) ∧
    (∀ props, rhs.v.kind ≠ .Object →
      bindNext (n + 1) σ sc names (.mk (.Object props) loc) rhs none decl =
        errAt loc (Gen.Leaf.ObjectDestructureOnNonObject rhs.v.kind) σ) := by
  constructor
  · intro items collect hk
    simp only [bindNext]
    cases hv : rhs.v <;> simp_all [Val.kind]
  · intro props hk
    simp only [bindNext]
    cases hv : rhs.v <;> simp_all [Val.kind]

example : (SVal.plain (.str [])).v.kind ≠ .List ∧ (SVal.plain (.list 0)).v.kind ≠ .Object := by decide

/-- an interpolation slot must evaluate to a string -/
theorem ctx_slot (n : Nat) (σ σ1 : State) (sc : List Addr) (s : List Char) (start stop : Nat) (r : List (Nat × Nat))
    (loc : Loc) (last : Nat) (acc : List Char) (ast : Expr) (v : SVal)
    (hp : parseExprTop (sliceChars s (start + 2) (stop - 1)) = .ok ast)
    (h : evalExpr n σ sc ast = .ok v σ1) (hk : v.v.kind ≠ .Str) :
    interpolate (n + 1) σ sc s ((start, stop) :: r) loc last acc =
      .err (.atLoc loc.1 (loc.2 + start + 4) (.leaf (Gen.Leaf.InterpolatedValueNotString v.v.kind))) σ1 := by
  simp only [interpolate, hp, h, Res.mapErr, Res.bind]
  cases hv : v.v <;> simp_all [Val.kind]

/-- the situations of the context theorems occur, through the whole pipeline (lexer, parser, evaluator, renderer) -/
example :
    (run 300 c!"t.sd" c!"print($\"a${1}b\")\n").stderr = c!"t.sd:1:12: interpolated values can only be strings, got 'int'\n" ∧
    (run 300 c!"t.sd" c!"print([1..])\n").stderr = c!"t.sd:1:8: only lists can be spread in lists, got 'int'\n" ∧
    (run 300 c!"t.sd" c!"print({1..})\n").stderr = c!"t.sd:1:8: only objects can be spread in objects, got 'int'\n" ∧
    (run 300 c!"t.sd" c!"for [i, v] in 1 { print(v); }\n").stderr = c!"t.sd:1:15: 'for' iterator must be a 'list', 'object' or 'string'\n" ∧
    (run 300 c!"t.sd" c!"x := 1\nprint(x.a)\n").stderr = c!"t.sd:2:7: properties can only be accessed on objects, got 'int'\n" ∧
    (run 300 c!"t.sd" c!"print(1 .. \"a\")\n").stderr = c!"t.sd:1:12: range end must be 'int', got 'string'\n" ∧
    (run 300 c!"t.sd" c!"print(null->type())\n").stderr = c!"t.sd:1:7: cannot access type function on 'null'\n" ∧
    (run 300 c!"t.sd" c!"print(print->type())\nprint([]->type())\n").out = [c!"func", c!"list"] := by
  decide +kernel

/-- the texts of the context diagnostics name the offending type with the same table -/
theorem ctx_msgs (descr exp : List Char) (k : Kind) :
    (Gen.Leaf.IncorrectType descr exp k).msg = descr ++ c!" must be '" ++ exp ++ c!"', got '" ++ Gen.typeNameDiag k ++ c!"'" ∧
    (Gen.Leaf.CannotCallNonFunc k).msg = c!"can't call '" ++ Gen.typeNameDiag k ++ c!"' as a function" ∧
    (Gen.Leaf.SpreadNonListInList k).msg = c!"only lists can be spread in lists, got '" ++ Gen.typeNameDiag k ++ c!"'" ∧
    (Gen.Leaf.SpreadNonObjectInObject k).msg = c!"only objects can be spread in objects, got '" ++ Gen.typeNameDiag k ++ c!"'" ∧
    (Gen.Leaf.PropAccessOnNonObject k).msg = c!"properties can only be accessed on objects, got '" ++ Gen.typeNameDiag k ++ c!"'" ∧
    (Gen.Leaf.InterpolatedValueNotString k).msg = c!"interpolated values can only be strings, got '" ++ Gen.typeNameDiag k ++ c!"'" :=
  ⟨rfl, rfl, rfl, rfl, rfl, rfl⟩

/-! ## the same domain, read off the source on every run

`Gen.binopArms` / `Gen.binopDelegates` are regenerated by tools/extract.py from `apply_binary_operation` (src/eval/mod.rs):
for every operator the `(Value::K(a), Value::K(b))` arms of its operand match (everything else falls to the
`InvalidOpTypes` default arm; a guard, a one-sided wildcard or any other arm shape is an extraction error).  -/

/-- the arms present in the source are exactly the documented domain … -/
theorem source_arms_are_the_documented_domain :
    ∀ op ∈ [BinaryOp.Sum, .Sub, .Mul, .Div, .Mod, .And, .Or, .Gt, .Gte, .Lt, .Lte],
    ∀ l ∈ [Kind.Null, .Bool, .Int, .Str, .List, .Object, .BuiltinFunc, .Func],
    ∀ r ∈ [Kind.Null, .Bool, .Int, .Str, .List, .Object, .BuiltinFunc, .Func],
      allowed op l r = ((lookupAssoc op Gen.binopArms).getD []).contains (l, r) := by decide +kernel

/-- … every operator is either in that table or handed to `eq` / `ref_eq` (which the C10 theorems cover) … -/
theorem source_operators_partition :
    Gen.binopArms.map Prod.fst = [.Sum, .Sub, .Mul, .Div, .Mod, .And, .Or, .Gt, .Gte, .Lt, .Lte] ∧
    Gen.binopDelegates = [(.Eq, c!"eq"), (.Ne, c!"eq"), (.RefEq, c!"ref_eq"), (.RefNe, c!"ref_eq")] := by decide

/-- … so the model answers with a value exactly where the source has an arm -/
theorem model_domain_is_source_domain {fuel : Nat} {σ σ' : State} {op : BinaryOp} {loc : Loc} {a b v : Val}
    (hop : op ∈ [BinaryOp.Sum, .Sub, .Mul, .Div, .Mod, .And, .Or, .Gt, .Gte, .Lt, .Lte])
    (h : applyBinOp fuel σ op loc a b = .ok v σ') :
    ((lookupAssoc op Gen.binopArms).getD []).contains (a.kind, b.kind) = true := by
  have hd := binop_domain h
  have hk : ∀ k : Kind, k ∈ [Kind.Null, .Bool, .Int, .Str, .List, .Object, .BuiltinFunc, .Func] := by
    intro k; cases k <;> decide
  rw [← source_arms_are_the_documented_domain op hop a.kind (hk _) b.kind (hk _)]
  exact hd

/-- the arms of `eq` and `ref_eq` in the source are the documented domains of `== !=` and `=== !==` (top level; inside
    containers `eq` recurses with the same arms, which is what the C10 theorems are about) -/
theorem source_eq_arms_are_the_documented_domain :
    ∀ l ∈ [Kind.Null, .Bool, .Int, .Str, .List, .Object, .BuiltinFunc, .Func],
    ∀ r ∈ [Kind.Null, .Bool, .Int, .Str, .List, .Object, .BuiltinFunc, .Func],
      allowed .Eq l r = Gen.eqArms.contains (l, r) ∧ allowed .Ne l r = Gen.eqArms.contains (l, r) ∧
      allowed .RefEq l r = Gen.refEqArms.contains (l, r) ∧ allowed .RefNe l r = Gen.refEqArms.contains (l, r) := by decide +kernel

end Seed.C16
