/-
  C16x — property theorems of C16 that are proved on top of C16.lean (Lemmas/C16RangeAssign.lean imports it).

  Range assignment and `===` as typed contexts.
  `range_assign_rhs_kinds`: in `t[a:b] = rhs` with `t` a list, `rhs` is accepted exactly when it is a list or a string; every
  other kind is the located error naming that kind, WHATEVER its size (an object with as many properties as the range is long
  included) and BEFORE the bounds are evaluated (`range_assign_reject_ignores_bounds`); `range_assign_target_kinds`: a target
  that is not a list is rejected first.  `ref_eq_kinds`: `===` / `!==` answer exactly on two lists, two objects, two functions
  and are the type error naming both kinds otherwise (`ref_eq_list_object`).
-/
import SeedProofs.Lemmas.C16RangeAssign
-- audit: Seed.C16R.range_assign_rhs_kinds Seed.C16R.range_assign_rhs_cases Seed.C16R.range_assign_rejects Seed.C16R.range_assign_reject_ignores_bounds Seed.C16R.range_opassign Seed.C16R.range_assign_target_kinds Seed.C16R.ref_eq_kinds Seed.C16R.ref_eq_ok_only_on_domain Seed.C16R.ref_eq_list_object Seed.C16R.ref_eq_source_arms
