/-
  C17 — a failure is one well-formed located diagnostic after the output so far.
-/
import SeedProofs.Lemmas.Located
import SeedProofs.Lemmas.Instances
import SeedProofs.Lemmas.C18EvalPosProg
import SeedProofs.Lemmas.C17LineBound3
-- audit: Seed.progMark_slot_piece Seed.lexAll_slotsIn Seed.parseProg_strs
namespace Seed.C17
open Seed

/-- every context wrapper of `Error` is looked through by the CLI renderer, or is one of the three variants that carry a
    position or a call frame and have an arm of their own (a `decide` fact about the two lists extracted from
    src/eval/error.rs and src/main.rs on every run).  This is what justifies erasing the other wrappers in the model. -/
theorem all_wrappers_peeled :
    Gen.wrapperVariants.all (fun w => Gen.peeledVariants.contains w || Gen.handledVariants.contains w) = true := by
  decide +kernel

/-- the renderer only peels actual wrappers, and the three special arms are wrappers too -/
theorem peeled_are_wrappers :
    (Gen.peeledVariants ++ Gen.handledVariants).all (fun w => Gen.wrapperVariants.contains w) = true := by
  decide +kernel

/-- the variants with an arm of their own are exactly the position / frame carriers the model keeps -/
theorem handled_are_the_carriers :
    Gen.handledVariants.all (fun w => [c!"AtLoc", c!"EvalFuncCallFailed", c!"EvalBuiltinFuncCallFailed"].contains w) = true ∧
    [c!"AtLoc", c!"EvalFuncCallFailed", c!"EvalBuiltinFuncCallFailed"].all (fun w => Gen.handledVariants.contains w) = true := by
  decide +kernel

/-- G5: whatever program is run, with whatever fuel, an evaluation error is located -/
theorem err_located (n : Nat) (stmts : List Stmt) (e : Err) (σ : State) (h : evalProg n stmts = .err e σ) : Located e := by
  have := evalProg_located n stmts
  rw [h] at this
  exact this

/-- number of user-function call frames around the failure -/
def frames : Err → Nat
  | .leaf _ => 0
  | .atLoc _ _ e => frames e
  | .builtinCall _ _ e => frames e
  | .funcCall _ _ e => frames e + 1

/-- the stack trace has exactly one line per active user-function call -/
theorem trace_length (path : List Char) (func : Option (List Char)) (e : Err) :
    (renderErr path func e).2.length = frames e := by
  induction e generalizing func with
  | leaf l => simp [renderErr, frames]
  | atLoc line col e ih => simp only [renderErr, frames]; exact ih _
  | builtinCall name loc e ih => simp only [renderErr, frames]; exact ih _
  | funcCall name loc e ih => simp only [renderErr, frames, List.length_append, List.length_cons, List.length_nil]; rw [ih]

/-- a located error renders as `<line>:<col>:` + (` in '<f>':` when inside a called function) + ` ` + message -/
theorem located_msg_shape (path : List Char) (func : Option (List Char)) (e : Err) (h : Located e) :
    ∃ (l c : Nat) (f' : Option (List Char)) (rest : List Char),
      (renderErr path func e).1 =
        natToChars l ++ c!":" ++ natToChars c ++ c!":" ++
          inFunc f' ++ c!" " ++ rest := by
  induction e generalizing func with
  | leaf l => exact absurd h (by simp [Located])
  | atLoc line col e _ => exact ⟨line, col, func, (renderErr path func e).1, by simp [renderErr]⟩
  | builtinCall name loc e _ =>
    exact ⟨loc.1, loc.2, func, (renderErr path (some (name.getD c!"<unnamed function>")) e).1, by simp [renderErr]⟩
  | funcCall name loc e ih =>
    obtain ⟨l, c, f', rest, hr⟩ := ih (some (name.getD c!"<unnamed function>")) h
    exact ⟨l, c, f', rest, by simp only [renderErr]; exact hr⟩

/-- the last trace line, that of the outermost frame, names `<root>` -/
theorem trace_last_is_root (path : List Char) (name : Option (List Char)) (loc : Loc) (e : Err) :
    (renderErr path none (.funcCall name loc e)).2.getLast? =
      some (path ++ c!":" ++ natToChars loc.1 ++ c!":" ++ natToChars loc.2 ++ c!": in '<root>'") := by
  simp [renderErr]

/-- the whole text written to stderr for a located error: one first line `<path>:<l>:<c>:…`, then the trace -/
theorem stderr_shape (path : List Char) (e : Err) (h : Located e) :
    ∃ (l c : Nat) (f' : Option (List Char)) (rest : List Char),
      evalErrText path e =
        path ++ c!":" ++ (natToChars l ++ c!":" ++ natToChars c ++ c!":" ++
          inFunc f' ++ c!" " ++ rest) ++
        (if (renderErr path none e).2.isEmpty then [] else c!"\nStacktrace:\n  " ++ joinWith c!"\n  " (renderErr path none e).2) ++
        c!"\n" := by
  obtain ⟨l, c, f', rest, hr⟩ := located_msg_shape path none e h
  refine ⟨l, c, f', rest, ?_⟩
  unfold evalErrText
  simp only []
  rw [← hr]

/-- a successful run writes nothing to stderr; a failed one exits with the failure status and keeps the lines printed so far -/
theorem ok_silent (n : Nat) (path src : List Char) (h : (run n path src).status = .success) : (run n path src).stderr = [] := by
  unfold run at *
  split at h <;> try (simp at h)
  split at h <;> simp_all

/-- evaluation errors keep the output of the prints completed before them: the state carried by the error is the one
    whose output is reported -/
theorem failed_keeps_output (n : Nat) (path src : List Char) (stmts : List Stmt) (e : Err) (σ : State)
    (hp : parseProg src = .ok stmts) (he : evalProg n stmts = .err e σ) :
    run n path src = ⟨σ.out.reverse, .failed, evalErrText path e⟩ := by
  unfold run
  simp only [hp, he]

/-- G3 instance: the output of a statement list extends the output it started from (nothing is ever retracted),
    whether it completes, fails or crashes -/
theorem out_only_grows (n : Nat) (σ : State) (sc : List Addr) (ss : List Stmt) :
    Res.Rel OutGrows σ (evalStmts n σ sc ss) :=
  (relAll outGrows_good n).evalStmts σ σ sc ss (outGrows_good.refl σ)

/-- non-vacuity: a concrete located error with one call frame, and its rendering -/
example : Located (.funcCall (some c!"f") (4, 1) (Err.at (2, 14) (Gen.Leaf.Undefined c!"x"))) := trivial
example : frames (.funcCall (some c!"f") (4, 1) (Err.at (2, 14) (Gen.Leaf.Undefined c!"x"))) = 1 := rfl

/-! ### the positions of a run-time diagnostic lie in the source (Lemmas/C18EvalPos*.lean; C18 `eval_uses_node_pos`) -/

-- audit: Seed.evalPosAll Seed.evalProg_pos Seed.eval_uses_node_pos Seed.progMark_line_ge_one Seed.TokStart.line Seed.Err.allPos_iff

/-- **`diag_line_ge_one`.**  a source that parses and fails at run time: every position in the error — the `line:col`
    of every `atLoc` node, the call position of every call frame, at any depth, interpolation slots included — has
    line ≥ 1 (a position in the leaf's payload has line ≥ 1 or is the `0:0` of the built-in `print`) -/
theorem diag_line_ge_one {src : List Char} {stmts : List Stmt} {n : Nat} {e : Err} {σ : State}
    (hp : parseProg src = .ok stmts) (h : evalProg n stmts = .err e σ) : e.AllPos (fun l => 1 ≤ l.1) :=
  Seed.diag_line_ge_one hp h

/-- **every position of every runtime diagnostic is a line of the source**, for every program — interpolation slots
    included.  A slot's text is parsed on its own at run time and positions inside it are relative to that text, but the
    lexer copies slot characters verbatim (no escape processing inside `${…}`), so every slot text that can ever be parsed,
    at any nesting depth, is a contiguous piece of the source (`progMark_slot_piece`) and has no more line breaks than it;
    the decoded literal around it may have more (escapes `\n`), which is why the bound is on the slot text and not on the
    literal. -/
theorem diag_line_in_source {src : List Char} {stmts : List Stmt} {n : Nat} {e : Err} {σ : State}
    (hp : parseProg src = .ok stmts) (h : evalProg n stmts = .err e σ) :
    e.AllPos (fun l => 1 ≤ l.1 ∧ l.1 ≤ 1 + src.count '\n') :=
  Seed.diag_line_in_source hp h

/-- the special case of programs without interpolation slots -/
theorem diag_line_in_source_partial {src : List Char} {stmts : List Stmt} {n : Nat} {e : Err} {σ : State}
    (hp : parseProg src = .ok stmts) (_hns : NoSlots stmts) (h : evalProg n stmts = .err e σ) :
    e.AllPos (fun l => 1 ≤ l.1 ∧ l.1 ≤ 1 + src.count '\n') :=
  diag_line_in_source hp h

/-- non-vacuity with nested slots and escaped line feeds: a one-line source whose decoded literal has line feeds the
    source lacks still reports line 1 -/
example : ∃ stmts e σ, parseProg c!"x := 1;\nprint($\"a\\n\\n${\n\nx + y}\");" = .ok stmts ∧
    evalProg 60 stmts = .err e σ ∧ e.headPos = some (2, 14) ∧ ¬ NoSlots stmts := by
  obtain ⟨e, σ, he, hp⟩ := errOf_map (n := 60) (stmts := progOf c!"x := 1;\nprint($\"a\\n\\n${\n\nx + y}\");")
    (f := Err.headPos) (x := some (2, 14)) (by decide +kernel)
  exact ⟨_, e, σ, parseProg_progOf (by decide +kernel), he, hp, by decide +kernel⟩

/-- a located error has a first position, and the message starts with it -/
theorem located_head_pos (path : List Char) (func : Option (List Char)) (e : Err) (h : Located e) :
    ∃ (l : Loc) (f' : Option (List Char)) (rest : List Char), e.headPos = some l ∧
      (renderErr path func e).1 = natToChars l.1 ++ c!":" ++ natToChars l.2 ++ c!":" ++ inFunc f' ++ c!" " ++ rest := by
  induction e generalizing func with
  | leaf l => exact absurd h (by simp [Located])
  | atLoc line col e _ => exact ⟨(line, col), func, (renderErr path func e).1, rfl, by simp [renderErr]⟩
  | builtinCall name loc e _ =>
    exact ⟨loc, func, (renderErr path (some (name.getD c!"<unnamed function>")) e).1, rfl, by simp [renderErr]⟩
  | funcCall name loc e ih =>
    obtain ⟨l, f', rest, hl, hr⟩ := ih (some (name.getD c!"<unnamed function>")) h
    exact ⟨l, f', rest, hl, by simp only [renderErr]; exact hr⟩

/-- the diagnostic line of a failed run: `<path>:<l>:<c>:…` with `l ≥ 1` -/
theorem stderr_line_ge_one (path : List Char) {src : List Char} {stmts : List Stmt} {n : Nat} {e : Err} {σ : State}
    (hp : parseProg src = .ok stmts) (h : evalProg n stmts = .err e σ) :
    ∃ (l c : Nat) (f' : Option (List Char)) (rest : List Char), 1 ≤ l ∧
      (renderErr path none e).1 = natToChars l ++ c!":" ++ natToChars c ++ c!":" ++ inFunc f' ++ c!" " ++ rest := by
  obtain ⟨l, f', rest, hl, hr⟩ := located_head_pos path none e (err_located n stmts e σ h)
  exact ⟨l.1, l.2, f', rest, (Seed.diag_line_ge_one hp h).headPos hl, hr⟩

/-- … and `l` is a line of the source, whatever the program (slots included) -/
theorem stderr_line_in_source (path : List Char) {src : List Char} {stmts : List Stmt} {n : Nat} {e : Err} {σ : State}
    (hp : parseProg src = .ok stmts) (h : evalProg n stmts = .err e σ) :
    ∃ (l c : Nat) (f' : Option (List Char)) (rest : List Char), 1 ≤ l ∧ l ≤ 1 + src.count '\n' ∧
      (renderErr path none e).1 = natToChars l ++ c!":" ++ natToChars c ++ c!":" ++ inFunc f' ++ c!" " ++ rest := by
  obtain ⟨l, f', rest, hl, hr⟩ := located_head_pos path none e (err_located n stmts e σ h)
  have hb := Seed.diag_head_line_in_source hp h hl
  exact ⟨l.1, l.2, f', rest, hb.1, hb.2, hr⟩

/-- non-vacuity: a failure inside a called function (its body comes out of a heap cell); both positions are on lines
    1 … 4 of the four-line source -/
example : ∃ stmts e σ, parseProg c!"fn f(a) {\n    return a + x;\n}\nf(1);\n" = .ok stmts ∧ NoSlots stmts ∧
    evalProg 40 stmts = .err e σ ∧ e.positions = [(4, 1), (2, 16)] := by
  obtain ⟨e, σ, he, hp⟩ := errOf_map (n := 40) (stmts := progOf c!"fn f(a) {\n    return a + x;\n}\nf(1);\n")
    (f := Err.positions) (x := [(4, 1), (2, 16)]) (by decide +kernel)
  exact ⟨_, e, σ, parseProg_progOf (by decide +kernel), by decide +kernel, he, hp⟩

example : (run 40 c!"p.sd" c!"fn f(a) {\n    return a + x;\n}\nf(1);\n").stderr =
    c!"p.sd:2:16: in 'f': 'x' is not defined\nStacktrace:\n  p.sd:4:1: in '<root>'\n" := by decide +kernel

end Seed.C17
