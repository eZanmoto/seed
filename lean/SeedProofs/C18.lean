/-
  C18.lean — the positions the lexer reports are the positions `posOf` of the right characters.

  `posOf src i` (Lemmas/Scan.lean) is the scanner-independent specification: line = 1 + number of
  newlines in `src[0..i]`, column = number of characters after the last newline in `src[0..i]`.
-/
import SeedProofs.Lemmas.Scan
import SeedProofs.Lemmas.C18NodePosSrc
import SeedProofs.Lemmas.C18EvalPosProg
import SeedProofs.Lemmas.C18Attrib3
namespace Seed.C18

-- audit: Seed.node_pos Seed.node_pos_expr Seed.node_pos_src Seed.locOK_is_posOf Seed.posAll Seed.parseExpr_node_pos Seed.parseStmts_node_pos
open Seed

/-! ### token positions -/

/-- one step: the token's start is the position of the first non-skipped character, at offset `i`;
    the scanner ends at offset `j > i` -/
theorem nextToken_start_is_posOf {src : List Char} {k : Nat} {sp : Span} {s' : Scanner}
    (h : nextToken ((Scanner.new src).advance k) = .tok sp s') :
    ∃ i j c, k ≤ i ∧ i < j ∧ j ≤ src.length ∧
      ((Scanner.new src).advance k).skipWs = (Scanner.new src).advance i ∧
      src[i]? = some c ∧ sp.start = posOf src i ∧ s' = (Scanner.new src).advance j := by
  obtain ⟨i, j, h1, h2, h3, h4, h5, h6, h7, _⟩ := nextToken_tok_reach h
  refine ⟨i, j, src[i], h1, h2, h4, h5, List.getElem?_eq_getElem h3, ?_, h7⟩
  rw [h6, scan_pos]

/-- every span of the raw token stream starts at `posOf src i`, where `i` is the offset of the
    token's first character: the scanner before the token, with whitespace and comments skipped,
    is exactly `(Scanner.new src).advance i` -/
theorem token_start_is_posOf (src : List Char) (n k : Nat) (sp : Span)
    (h : sp ∈ (lexRaw n ((Scanner.new src).advance k)).1) :
    ∃ k' i j c, k ≤ k' ∧ k' ≤ i ∧ i < j ∧ j ≤ src.length ∧
      nextToken ((Scanner.new src).advance k') = .tok sp ((Scanner.new src).advance j) ∧
      ((Scanner.new src).advance k').skipWs = (Scanner.new src).advance i ∧
      src[i]? = some c ∧ sp.start = posOf src i := by
  obtain ⟨k', s', hk', hn⟩ := lexRaw_mem_reach src n k sp h
  obtain ⟨i, j, c, h1, h2, h3, h4, h5, h6, h7⟩ := nextToken_start_is_posOf hn
  subst h7
  exact ⟨k', i, j, c, hk', h1, h2, h3, hn, h4, h5, h6⟩

/-- every span of the raw token stream stops at the position of the token's last character
    (offset `j - 1` when the scanner ends at offset `j`) — except when the character following the
    token is a newline: then the reported end is that newline's own position `(line + 1, 0)` -/
theorem token_stop_is_posOf (src : List Char) (n k : Nat) (sp : Span)
    (h : sp ∈ (lexRaw n ((Scanner.new src).advance k)).1) :
    ∃ k' j, k ≤ k' ∧ k' < j ∧ j ≤ src.length ∧
      nextToken ((Scanner.new src).advance k') = .tok sp ((Scanner.new src).advance j) ∧
      sp.stop = if src[j]? = some '\n' then posOf src j else posOf src (j - 1) := by
  obtain ⟨k', s', hk', hn⟩ := lexRaw_mem_reach src n k sp h
  obtain ⟨i, j, h1, h2, h3, h4, h5, h6, h7, h8⟩ := nextToken_tok_reach hn
  subst h7
  refine ⟨k', j, hk', by omega, h4, hn, ?_⟩
  rw [h8, endLoc_reach src j (by omega) h4]

/-! ### error positions -/

/-- `Unexpected loc c`: `c` is the first character of the would-be token, at offset `i`, and
    `loc` is its position -/
theorem lex_error_pos {src : List Char} {k : Nat} {loc : Loc} {c : Char}
    (h : nextToken ((Scanner.new src).advance k) = .err (LexError.Unexpected loc c)) :
    ∃ i, k ≤ i ∧ ((Scanner.new src).advance k).skipWs = (Scanner.new src).advance i ∧
      src[i]? = some c ∧ loc = posOf src i := by
  obtain ⟨i, c', h1, h2, h3, h4 | ⟨_, h4⟩ | ⟨h4, _⟩⟩ := nextToken_err_reach h
  · injection h4 with hl hc; subst hl hc; exact ⟨i, h1, h2, h3, rfl⟩
  · cases h4
  · cases h4

/-- `IntOverflow loc raw`: `loc` is the position of the literal's first digit, at offset `i`, and
    `raw` is the maximal run of digits and underscores starting there -/
theorem int_overflow_pos {src : List Char} {k : Nat} {loc : Loc} {raw : List Char}
    (h : nextToken ((Scanner.new src).advance k) = .err (LexError.IntOverflow loc raw)) :
    ∃ i d, k ≤ i ∧ ((Scanner.new src).advance k).skipWs = (Scanner.new src).advance i ∧
      src[i]? = some d ∧ isAsciiDigit d = true ∧ loc = posOf src i ∧
      raw = (src.drop i).takeWhile isIntChar := by
  obtain ⟨i, c', h1, h2, h3, h4 | ⟨hd, h4⟩ | ⟨h4, _⟩⟩ := nextToken_err_reach h
  · cases h4
  · injection h4 with hl hr; subst hl hr; exact ⟨i, c', h1, h2, h3, hd, rfl, rfl⟩
  · cases h4

/-- all string-literal errors at once: the error's location is `posOf src i'` where `src[i']` is
    the offending character, strictly inside the literal that starts at offset `i` -/
theorem str_error_pos {src : List Char} {k : Nat} {e : LexError} (he : e.isStr = true)
    (h : nextToken ((Scanner.new src).advance k) = .err e) :
    ∃ i i' ch, k ≤ i ∧ i < i' ∧
      ((Scanner.new src).advance k).skipWs = (Scanner.new src).advance i ∧
      src[i']? = some ch ∧ e.offender = some ch ∧ e.loc = posOf src i' := by
  obtain ⟨i, c', h1, h2, h3, h4 | ⟨_, h4⟩ | ⟨_, i', ch, h5, h6, h7, h8⟩⟩ := nextToken_err_reach h
  · subst h4; cases he
  · subst h4; cases he
  · exact ⟨i, i', ch, h1, h5, h2, h6, h8, h7⟩

theorem unescaped_dollar_pos {src : List Char} {k : Nat} {loc : Loc}
    (h : nextToken ((Scanner.new src).advance k) = .err (LexError.UnescapedDollar loc)) :
    ∃ i i', k ≤ i ∧ i < i' ∧ ((Scanner.new src).advance k).skipWs = (Scanner.new src).advance i ∧
      src[i']? = some '$' ∧ loc = posOf src i' := by
  obtain ⟨i, i', ch, h1, h2, h3, h4, h5, h6⟩ := str_error_pos rfl h
  injection h5 with h5; subst h5
  exact ⟨i, i', h1, h2, h3, h4, h6⟩

theorem invalid_escape_char_pos {src : List Char} {k : Nat} {loc : Loc} {c : Char}
    (h : nextToken ((Scanner.new src).advance k) = .err (LexError.InvalidEscapeChar loc c)) :
    ∃ i i', k ≤ i ∧ i < i' ∧ ((Scanner.new src).advance k).skipWs = (Scanner.new src).advance i ∧
      src[i']? = some c ∧ loc = posOf src i' := by
  obtain ⟨i, i', ch, h1, h2, h3, h4, h5, h6⟩ := str_error_pos rfl h
  injection h5 with h5; subst h5
  exact ⟨i, i', h1, h2, h3, h4, h6⟩

theorem invalid_hex_char_pos {src : List Char} {k : Nat} {loc : Loc} {c : Char}
    (h : nextToken ((Scanner.new src).advance k) = .err (LexError.InvalidHexChar loc c)) :
    ∃ i i', k ≤ i ∧ i < i' ∧ ((Scanner.new src).advance k).skipWs = (Scanner.new src).advance i ∧
      src[i']? = some c ∧ loc = posOf src i' := by
  obtain ⟨i, i', ch, h1, h2, h3, h4, h5, h6⟩ := str_error_pos rfl h
  injection h5 with h5; subst h5
  exact ⟨i, i', h1, h2, h3, h4, h6⟩

theorem invalid_interpolation_start_pos {src : List Char} {k : Nat} {loc : Loc} {c : Char}
    (h : nextToken ((Scanner.new src).advance k) = .err (LexError.InvalidInterpolationStart loc c)) :
    ∃ i i', k ≤ i ∧ i < i' ∧ ((Scanner.new src).advance k).skipWs = (Scanner.new src).advance i ∧
      src[i']? = some c ∧ loc = posOf src i' := by
  obtain ⟨i, i', ch, h1, h2, h3, h4, h5, h6⟩ := str_error_pos rfl h
  injection h5 with h5; subst h5
  exact ⟨i, i', h1, h2, h3, h4, h6⟩

/-- the error that ends the token stream of a whole source: it points at an existing character of
    the source, namely the offending one if the error names a character -/
theorem lexAll_error_pos (src : List Char) (e : LexError) (h : (lexAll src).2 = some e) :
    ∃ i, i < src.length ∧ e.loc = posOf src i ∧ ∀ c, e.offender = some c → src[i]? = some c := by
  have h' : (lexRaw (src.length + 1) ((Scanner.new src).advance 0)).2 = some e := h
  obtain ⟨k', _, hn⟩ := lexRaw_err_reach src _ 0 e h'
  have hlt : ∀ {i : Nat} {c : Char}, src[i]? = some c → i < src.length := by
    intro i c hi
    rcases Nat.lt_or_ge i src.length with hlt | hge
    · exact hlt
    · rw [List.getElem?_eq_none hge] at hi; cases hi
  obtain ⟨i, c', h1, h2, h3, h4 | ⟨_, h4⟩ | ⟨_, i', ch, h5, h6, h7, h8⟩⟩ := nextToken_err_reach hn
  · subst h4
    refine ⟨i, hlt h3, rfl, ?_⟩
    intro c hc; injection hc with hc; subst hc; exact h3
  · subst h4
    exact ⟨i, hlt h3, rfl, fun c hc => by cases hc⟩
  · refine ⟨i', hlt h6, h7, ?_⟩
    intro c hc; rw [h8] at hc; injection hc with hc; subst hc; exact h6

/-- the error that ends a raw token stream is produced by `nextToken` on a reachable scanner, so the
    per-error theorems above apply to it -/
theorem lexRaw_error_from_nextToken (src : List Char) (n k : Nat) (e : LexError)
    (h : (lexRaw n ((Scanner.new src).advance k)).2 = some e) :
    ∃ k', k ≤ k' ∧ nextToken ((Scanner.new src).advance k') = .err e :=
  lexRaw_err_reach src n k e h

/-! ### `posOf` itself -/

/-- `posOf` treats every character other than '\n' identically: tabs, multi-byte characters,
    anything — each is one column -/
theorem posOf_tab_multibyte_one (f : Char → Char) (hf : ∀ c, f c = '\n' ↔ c = '\n')
    (src : List Char) (k : Nat) : posOf (src.map f) k = posOf src k := by
  have hcount : ∀ l : List Char, (l.map f).count '\n' = l.count '\n' := by
    intro l
    induction l with
    | nil => rfl
    | cons c r ih =>
      simp only [List.map_cons, List.count_cons, ih, beq_iff_eq]
      by_cases hc : c = '\n'
      · subst hc
        have := (hf '\n').mpr rfl
        simp [this]
      · have : f c ≠ '\n' := fun h => hc ((hf c).mp h)
        simp [hc, this]
  have htw : ∀ l : List Char, ((l.map f).takeWhile (· ≠ '\n')).length = (l.takeWhile (· ≠ '\n')).length := by
    intro l
    induction l with
    | nil => rfl
    | cons c r ih =>
      simp only [List.map_cons, List.takeWhile_cons]
      by_cases hc : c = '\n'
      · subst hc
        have := (hf '\n').mpr rfl
        simp [this]
      · have : f c ≠ '\n' := fun h => hc ((hf c).mp h)
        simpa [hc, this] using ih
  cases src with
  | nil => rfl
  | cons c r =>
    simp only [List.map_cons, posOf, lineOf, colOf]
    rw [← List.map_cons, ← List.map_take, hcount, ← List.map_reverse, htw]

/-- a position depends only on the text up to and including that offset -/
theorem pos_shift (p r r' : List Char) (k : Nat) (hk : k < p.length) :
    posOf (p ++ r) k = posOf (p ++ r') k := by
  cases p with
  | nil => simp at hk
  | cons c p =>
    simp only [List.cons_append, posOf]
    rw [← List.cons_append, ← List.cons_append,
      List.take_append_of_le_length (by simp at hk ⊢; omega),
      List.take_append_of_le_length (by simp at hk ⊢; omega)]

/-- additive shift: in `p ++ t`, the position of offset `j` of `t` is determined by the line count
    and last-line length of `p` and by `t.take (j + 1)`:
    line = (line at the end of `p`) + newlines in `t[0..j]`;
    column = characters after the last newline of `t[0..j]` if there is one, otherwise the length
    of the last line of `p` plus `j + 1` -/
theorem pos_shift_add (p t : List Char) (j : Nat) (ht : t ≠ []) :
    posOf (p ++ t) (p.length + j) =
      (lineOf p + (t.take (j + 1)).count '\n',
       if '\n' ∈ t.take (j + 1) then colOf (t.take (j + 1)) else colOf p + (t.take (j + 1)).length) := by
  have hne : p ++ t ≠ [] := by simp [ht]
  rw [posOf_of_ne_nil hne]
  have : (p ++ t).take (p.length + j + 1) = p ++ t.take (j + 1) := by
    rw [Nat.add_assoc, List.take_length_add_append]
  rw [this, lineOf_append]
  split
  · next hm => rw [colOf_append_of_mem _ _ hm]
  · next hm => rw [colOf_append_of_not_mem _ _ hm]

/-- the same, relative to the positions of `t` on its own: lines shift by the number of newlines of
    `p`; columns are unchanged after the first newline of `t`, and shift by the length of the last
    line of `p` before it -/
theorem pos_shift_rel (p t : List Char) (j : Nat) (ht : t ≠ []) :
    posOf (p ++ t) (p.length + j) =
      (p.count '\n' + (posOf t j).1,
       if '\n' ∈ t.take (j + 1) then (posOf t j).2 else colOf p + (posOf t j).2) := by
  rw [pos_shift_add p t j ht, posOf_of_ne_nil ht]
  simp only [lineOf]
  congr 1
  · omega
  · split
    · rfl
    · next hm => rw [colOf_of_not_mem _ hm]

/-! ### run-time diagnostics: every position is a position stored in the program, hence a token start of the source

  Lemmas/C18EvalPosDefs.lean (marks of a tree, `Err.LocsIn`, the heap invariant `PosInv`), C18EvalPosPrim.lean (operators,
  builtins, `bindNextName`, `validateArgs`), C18EvalPos.lean (the 23-function fuel induction `evalPosAll`),
  C18EvalPosProg.lean (`evalProg`, closure under run-time slot parsing, the link to `node_pos`).

  `e.AllPos S` (`Err.allPos_iff`): the `line:col` of every `atLoc` node and the call position of every call frame of `e`
  satisfy `S`; a position inside the leaf's payload (AlreadyInScope / DupParamName cite the earlier declaration)
  satisfies `S` or is `(0,0)`, where the built-in `print` is declared (see the examples at the end).

  Interpolation slots are parsed when the literal is evaluated (`interpolate`), with positions relative to the slot
  text, and the position attached to the slot is computed from the literal's column and the slot's offset: neither is a
  position stored in the tree, and in general neither is a source position (`diag_pos_is_source_pos_fails_with_slots`;
  known findings K2/K4).  So the statements come in two forms: for programs without slots (`NoSlots`, decidable), and
  for all programs with the slot-derived positions as a separate, explicitly described set. -/

-- audit: Seed.evalPosAll Seed.evalProg_pos Seed.evalProg_inv Seed.progMark_slotClosed Seed.progMark_noSlots Seed.parseProg_marks Seed.parseExprTop_marks Seed.locOK_tokStart Seed.Err.allPos_iff Seed.validateArgs_pos Seed.bindNextName_pos Seed.callBuiltin_pos Seed.applyBinOp_pos Seed.TokStart.line

/-- **`eval_uses_node_pos`.**  every position in an error returned by `evalProg n stmts` — at any depth of call frames,
    so also those of code that was stored in a function cell of the heap and called later — is a mark of the program
    (`ProgMark`): a position stored in the tree `stmts`, or the position `interpolate` attaches to a slot of a reachable
    interpolated literal (`slotPos`), or a position stored in the expression such a slot parses to at run time -/
theorem eval_uses_node_pos {n : Nat} {stmts : List Stmt} {e : Err} {σ : State} (h : evalProg n stmts = .err e σ) :
    e.AllPos (fun l => ProgMark stmts (.loc l)) :=
  Seed.eval_uses_node_pos h

/-- full statement: `evalProg n stmts = .err e σ → e.AllPos (· ∈ Stmt.locsL stmts)`.  It is false when a slot is
    evaluated (`eval_uses_node_pos_fails_with_slots`); proved for programs without interpolation slots: every position in
    the error is one of the positions stored in the tree (`Stmt.locsL`: the `loc` of every expression node, `opLoc`,
    `nameLoc`, the positions of `break` / `continue` / `return`, at any depth, function bodies included) -/
theorem eval_uses_node_pos_partial {n : Nat} {stmts : List Stmt} {e : Err} {σ : State} (hns : NoSlots stmts)
    (h : evalProg n stmts = .err e σ) : e.AllPos (· ∈ Stmt.locsL stmts) :=
  Seed.eval_uses_node_pos_partial hns h

/-- full statement: `parseProg src = .ok stmts → evalProg n stmts = .err e σ → e.AllPos (TokStart src)`.  It is false
    (`diag_pos_is_source_pos_fails_with_slots`); proved here for programs without interpolation slots:
    every position in the error is `posOf src i` for an offset `i < src.length` that is the first character of a token
    (`TokStart`: the token is in the token stream, `nextToken` returns it from an offset `k' ≤ i`, and the whitespace and
    comments from `k'` end at `i`) -/
theorem diag_pos_is_source_pos_partial {src : List Char} {stmts : List Stmt} {n : Nat} {e : Err} {σ : State}
    (hp : parseProg src = .ok stmts) (hns : NoSlots stmts) (h : evalProg n stmts = .err e σ) : e.AllPos (TokStart src) :=
  Seed.diag_pos_is_source_pos_partial hp hns h

/-- for every program: a position in the error is the first character of a token of the source, or slot-derived: the
    `slotPos` of a slot of a reachable interpolated literal, or a token start *of that slot's text* -/
theorem diag_pos_source_or_slot {src : List Char} {stmts : List Stmt} {n : Nat} {e : Err} {σ : State}
    (hp : parseProg src = .ok stmts) (h : evalProg n stmts = .err e σ) :
    e.AllPos (fun l => TokStart src l ∨ SlotDerived stmts l) :=
  Seed.diag_pos_source_or_slot hp h

/-- the position the diagnostic line starts with is one of them -/
theorem diag_head_pos_is_source_pos {src : List Char} {stmts : List Stmt} {n : Nat} {e : Err} {σ : State} {l : Loc}
    (hp : parseProg src = .ok stmts) (hns : NoSlots stmts) (h : evalProg n stmts = .err e σ) (hl : e.headPos = some l) :
    ∃ i, i < src.length ∧ l = posOf src i :=
  ((Seed.diag_pos_is_source_pos_partial hp hns h).headPos hl).is_posOf

/-- a failure inside a called function: the body of `f` is evaluated out of a function cell of the heap -/
def exCall : List Char := c!"fn f(a) {\n    return a + x;\n}\nf(1);\n"

/-- the run of `exCall`, evaluated once: it parses, has no slots, and fails with the positions `4:1` (the call frame) and
    `2:16` (the undefined `x`) -/
theorem exCall_run : parsesOk exCall = true ∧ NoSlots (progOf exCall) ∧
    (errOf 40 (progOf exCall)).map Err.positions = some [(4, 1), (2, 16)] := by decide +kernel

/-- the hypotheses are satisfiable: the call frame's position `4:1` and the position `2:16` of the undefined `x` -/
example : ∃ stmts e σ, parseProg exCall = .ok stmts ∧ NoSlots stmts ∧ evalProg 40 stmts = .err e σ ∧
    e.positions = [(4, 1), (2, 16)] := by
  obtain ⟨e, σ, he, hp⟩ := errOf_map exCall_run.2.2
  exact ⟨_, e, σ, parseProg_progOf exCall_run.1, exCall_run.2.1, he, hp⟩

/-- … and what the theorem gives for them -/
example : TokStart exCall (4, 1) ∧ TokStart exCall (2, 16) := by
  obtain ⟨e, σ, he, hp⟩ := errOf_map exCall_run.2.2
  have := (Err.allPos_iff.mp (diag_pos_is_source_pos_partial (parseProg_progOf exCall_run.1) exCall_run.2.1 he)).1
  rw [hp] at this
  exact ⟨this _ (by simp), this _ (by simp)⟩

/-- a slot with leading blanks: the diagnostic is `2:15: 1:3: 'x' is not defined` — column 15 of line 2 is the blank
    after `${` -/
def exSlot : List Char := c!"y := 1;\n   print($\"a${  x}\");\n"

/-- the run of `exSlot`, evaluated once: it parses and fails with the positions `2:15`, `1:3`; `2:15` is neither the
    start of a token of `exSlot` nor a position stored in its tree -/
theorem exSlot_run : parsesOk exSlot = true ∧
    (errOf 40 (progOf exSlot)).map Err.positions = some [(2, 15), (1, 3)] ∧
    (lexAll exSlot).1.all (fun sp => sp.start != (2, 15)) = true ∧ (2, 15) ∉ Stmt.locsL (progOf exSlot) := by
  decide +kernel

/-- the statement without `NoSlots` is false: `2:15` is not the start of any token of `exSlot` -/
theorem diag_pos_is_source_pos_fails_with_slots :
    ∃ src stmts n e σ, parseProg src = .ok stmts ∧ evalProg n stmts = .err e σ ∧ ¬ e.AllPos (TokStart src) := by
  obtain ⟨e, σ, he, hp⟩ := errOf_map exSlot_run.2.1
  refine ⟨exSlot, _, 40, e, σ, parseProg_progOf exSlot_run.1, he, fun hall => ?_⟩
  have := (Err.allPos_iff.mp hall).1 (2, 15) (by rw [hp]; simp)
  exact not_locOK_of_all exSlot_run.2.2.1 this.locOK

/-- … and `2:15` is not a position stored in the tree either -/
theorem eval_uses_node_pos_fails_with_slots :
    ∃ stmts n e σ, evalProg n stmts = .err e σ ∧ ¬ e.AllPos (· ∈ Stmt.locsL stmts) := by
  obtain ⟨e, σ, he, hp⟩ := errOf_map exSlot_run.2.1
  exact ⟨_, 40, e, σ, he, fun hall => exSlot_run.2.2.2 ((Err.allPos_iff.mp hall).1 (2, 15) (by rw [hp]; simp))⟩

/-- the `(0,0)` exception is real: redeclaring `print` cites the position the built-in binding was declared at -/
example : ∃ e σ, evalProg 40 (progOf c!"print := 1;") = .err e σ ∧ e.positions = [(1, 1)] ∧ e.payloadLocs = [(0, 0)] := by
  obtain ⟨e, σ, he, hp⟩ := errOf_map (n := 40) (stmts := progOf c!"print := 1;")
    (f := fun e => (e.positions, e.payloadLocs)) (x := ([(1, 1)], [(0, 0)])) (by decide +kernel)
  exact ⟨e, σ, he, congrArg Prod.fst hp, congrArg Prod.snd hp⟩

/-- a payload position that is a tree position: the earlier parameter cited by DupParamName -/
example : ∃ e σ, evalProg 40 (progOf c!"fn g(a, a) { }\n") = .err e σ ∧ e.positions = [(1, 9)] ∧ e.payloadLocs = [(1, 6)] := by
  obtain ⟨e, σ, he, hp⟩ := errOf_map (n := 40) (stmts := progOf c!"fn g(a, a) { }\n")
    (f := fun e => (e.positions, e.payloadLocs)) (x := ([(1, 9)], [(1, 6)])) (by decide +kernel)
  exact ⟨e, σ, he, congrArg Prod.fst hp, congrArg Prod.snd hp⟩

/-! ### `posOf` against the statement's own counting (known finding K7)

`posOf` is the scanner's convention.  The statement counts "lines from 1 and columns from 1 within the line": the
character at offset `k` is on line `1 + (number of line breaks before it)` at column `1 + (number of characters
between the last line break before it and itself)`.  The two agree on every character except a line break. -/

/-- the position of the character at offset `k` in the statement's own terms -/
def truePos (src : List Char) (k : Nat) : Nat × Nat := (lineOf (src.take k), colOf (src.take k) + 1)

theorem take_succ_of_get {src : List Char} {k : Nat} {c : Char} (h : src[k]? = some c) :
    src.take (k + 1) = src.take k ++ [c] := by
  rw [List.take_add_one, h]; rfl

/-- every character other than a line break is reported where the statement says it is -/
theorem posOf_eq_truePos {src : List Char} {k : Nat} {c : Char} (h : src[k]? = some c) (hc : c ≠ '\n') :
    posOf src k = truePos src k := by
  cases src with
  | nil => simp at h
  | cons a l =>
    show (lineOf ((a :: l).take (k + 1)), colOf ((a :: l).take (k + 1))) = _
    rw [take_succ_of_get h, lineOf_snoc, colOf_snoc, if_neg hc, if_neg hc]; rfl

/-- K7: a line break is reported on the following line at column 0 — a position that does not exist — instead of at the end
    of its own line -/
theorem posOf_line_break {src : List Char} {k : Nat} (h : src[k]? = some '\n') :
    posOf src k = ((truePos src k).1 + 1, 0) := by
  cases src with
  | nil => simp at h
  | cons a l =>
    show (lineOf ((a :: l).take (k + 1)), colOf ((a :: l).take (k + 1))) = _
    rw [take_succ_of_get h, lineOf_snoc, colOf_snoc, if_pos rfl, if_pos rfl]; rfl

/-- hence: the position of a lexical error is the offending character's own line and column, counted from 1, unless that
    character is a line break (K7) -/
theorem lexAll_error_true_pos (src : List Char) (e : LexError) (h : (lexAll src).2 = some e) (c : Char)
    (hc : e.offender = some c) (hnl : c ≠ '\n') :
    ∃ i, i < src.length ∧ src[i]? = some c ∧ e.loc = truePos src i := by
  obtain ⟨i, hi, hl, ho⟩ := lexAll_error_pos src e h
  exact ⟨i, hi, ho c hc, by rw [hl, posOf_eq_truePos (ho c hc) hnl]⟩

/-- K7 is real: the line break after `\\x` is at 1:11 and is reported at 2:0 -/
example : (lexAll c!"s := \"ab\\x\n9\"\n").2.map (fun e => (e.loc, e.offender)) = some ((2, 0), some '\n') ∧
    truePos c!"s := \"ab\\x\n9\"\n" 10 = (1, 11) := by
  decide +kernel

end Seed.C18

/-! ### which node's position each diagnostic carries (`Lemmas/C18Attrib*.lean`)

`eval_uses_node_pos` says that every position of a runtime diagnostic is SOME stored position; these theorems say WHICH.
In the evaluator: a failing binary operation reports at the OPERATOR's position whatever its operands are
(`binop_fail_at_opLoc`; in `a op1 b op2 c` a failing first operator reports at its own token and a failing second one at its
own: `chain_inner_fails`, `chain_outer_fails`); op-assignment on a variable, element, key or property reports at the
op-assignment token (`opAssign_*_fail_at_opLoc`); an undefined name, a call of a non-function, an arity mismatch, an index
out of bounds, a missing property report at that node; a negative or non-int index at the INDEX EXPRESSION; a `break` /
`continue` leaving a called function and any jump at top level at the KEYWORD (`break_escaping_call_at_keyword`, …,
`top_level_*_at_keyword`), not at the call; a `for` over a non-iterable at the iterable; a non-bool condition at the
condition; a non-int range bound at that bound.  On source text: `node_kw` / `kw_pos_src` (one more induction over the 22
parser functions) — every stored operator, op-assignment and keyword position is the start of THAT token, and the source text
there starts with its spelling (`TokIs.text`) — give `binop_fail_at_operator_text`, `chain_*_at_operator_text`,
`top_level_*_at_keyword_text`, `break_escaping_call_at_keyword_text` (for functions declared by a `fn` statement of the
program: `func_body_sub`; for arbitrary function cells the body must be code of the program, a hypothesis).  Slots are out of
scope, as for `node_pos`. -/
-- audit: Seed.C18A.applyBinOp_err_at Seed.C18A.binop_fail_at_opLoc Seed.C18A.binop_lhs_err Seed.C18A.binop_rhs_err Seed.C18A.chain_inner_fails Seed.C18A.chain_outer_fails Seed.C18A.opAssign_var_fail_at_opLoc Seed.C18A.opAssign_index_fail_at_opLoc Seed.C18A.opAssign_objIndex_fail_at_opLoc Seed.C18A.opAssign_prop_fail_at_opLoc Seed.C18A.undefined_var_at_loc Seed.C18A.call_non_func_at_loc Seed.C18A.call_arity_mismatch_at_loc Seed.C18A.index_list_oob_at_loc Seed.C18A.prop_missing_at_loc Seed.C18A.index_list_negative_at_index_expr_loc Seed.C18A.index_list_non_int_at_index_expr_loc
-- audit: Seed.C18A.call_body_escape Seed.C18A.break_escaping_call_at_keyword Seed.C18A.continue_escaping_call_at_keyword Seed.C18A.prog_escape Seed.C18A.top_level_break_at_keyword Seed.C18A.top_level_continue_at_keyword Seed.C18A.top_level_return_at_keyword Seed.C18A.for_non_iterable_at_iter_loc Seed.C18A.while_non_bool_cond_at_cond_loc Seed.C18A.if_non_bool_cond_at_cond_loc Seed.C18A.range_end_non_int_at_end_loc Seed.C18A.range_start_non_int_at_start_loc
-- audit: Seed.C18A.kwAll Seed.C18A.node_kw Seed.C18A.kw_pos_src Seed.C18A.binop_opLoc_is_operator_token Seed.C18A.opAssign_opLoc_is_opassign_token Seed.C18A.nextToken_text Seed.C18A.TokIs.text Seed.C18A.escAll Seed.C18A.stmts_escape_from_list Seed.C18A.binop_fail_at_operator_text Seed.C18A.chain_inner_fails_at_operator_text Seed.C18A.chain_outer_fails_at_operator_text Seed.C18A.opAssign_index_fail_at_operator_text Seed.C18A.top_level_break_at_keyword_text Seed.C18A.top_level_continue_at_keyword_text Seed.C18A.top_level_return_at_keyword_text Seed.C18A.break_escaping_call_at_keyword_text Seed.C18A.continue_escaping_call_at_keyword_text Seed.C18A.func_body_sub
