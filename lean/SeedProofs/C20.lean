/-
  C20 — names must be declared once per scope before use; `_` never binds; only bindable targets.

  Certain part: the name binder `bindNextName` (where `:=`, destructuring, `fn name`, parameters, `for` targets
  and `this` all end), reading a variable, the non-bindable arms of `bindNext` and `validateArgs`.
  Invariant part: no scope cell ever holds `_` — proved for the binder and `applyBinOp`, and lifted through the
  whole evaluator (`noUnderscore_good`, `underscore_never`).
-/
import SeedProofs.Lemmas.C20Bind
import SeedProofs.Lemmas.Frame2
import SeedProofs.Lemmas.C14This
import SeedProofs.Lemmas.C18EvalPosProg
namespace Seed.C20
open Seed ScopeL BindL

def sv (n : Int) : SVal := SVal.plain (.int n)
/-- scope 0 = globals `{x ↦ 1 declared at 1:0}`, scope 1 = an empty inner block -/
def σ₀ : State := ⟨#[.scope [(c!"x", sv 1, (1, 0))], .scope []], []⟩

/-! ### use before declaration -/

/-- reading a name that no scope of the chain holds is `Undefined` at the name; the state is unchanged -/
theorem read_undeclared (n : Nat) (σ : State) (sc : List Addr) (x : List Char) (l : Loc) (h : scopeGet σ sc x = none) :
    evalExpr (n + 1) σ sc (.mk (.Var x) l) = errAt l (Gen.Leaf.Undefined x) σ := by
  rw [evalExpr]; simp only [h]

example : scopeGet σ₀ [1, 0] c!"y" = none := by decide

/-- … and a declared name reads as the stored value -/
theorem read_declared (n : Nat) (σ : State) (sc : List Addr) (x : List Char) (l : Loc) (v : SVal) (h : scopeGet σ sc x = some v) :
    evalExpr (n + 1) σ sc (.mk (.Var x) l) = .ok v σ := evalExpr_var n l h

example : scopeGet σ₀ [1, 0] c!"x" = some (sv 1) := by decide

/-- `x = e` on an undeclared name: `Undefined` at the name, nothing is created -/
theorem assign_undeclared (fuel : Nat) (σ : State) (sc : List Addr) (names : List (List Char)) (x : List Char) (loc : Loc)
    (rhs : SVal) (hx : x ≠ c!"_") (hn : names.contains x = false) (h : scopeGet σ sc x = none) :
    bindNextName fuel σ sc names x loc rhs none false = errAt loc (Gen.Leaf.Undefined x) σ := by
  unfold bindNextName
  simp only [hx, hn, if_false, Bool.false_eq_true, (scopeAssign_none_iff σ sc x rhs).mpr h]

/-- `x op= e` on an undeclared name: `Undefined` at the name, the operation is not even attempted and nothing
    is created -/
theorem opassign_undeclared (fuel : Nat) (σ : State) (sc : List Addr) (names : List (List Char)) (x : List Char) (loc : Loc)
    (rhs : SVal) (o : BinaryOp) (ol : Loc) (hx : x ≠ c!"_") (hn : names.contains x = false) (h : scopeGet σ sc x = none) :
    bindNextName fuel σ sc names x loc rhs (some (o, ol)) false = errAt loc (Gen.Leaf.Undefined x) σ := by
  unfold bindNextName
  simp only [hx, hn, if_false, Bool.false_eq_true, h]

example : c!"y" ≠ c!"_" ∧ ([] : List (List Char)).contains c!"y" = false := by decide

/-- the statement forms: the right-hand side is evaluated first, then the error is raised at the name -/
theorem assign_stmt_undeclared (n : Nat) (σ σ1 : State) (sc : List Addr) (x : List Char) (l : Loc) (rhs : Expr) (v : SVal)
    (hx : x ≠ c!"_") (hr : evalExpr (n + 1) σ sc rhs = .ok v σ1) (h : scopeGet σ1 sc x = none) :
    evalStmt (n + 2) σ sc (.Assign (.mk (.Var x) l) rhs) = .err (Err.at l (Gen.Leaf.Undefined x)) σ1 := by
  rw [evalStmt]; simp only [hr, Res.bind]
  rw [bindNext]
  rw [assign_undeclared n σ1 sc [] x l v hx rfl h]; rfl

theorem opassign_stmt_undeclared (n : Nat) (σ σ1 : State) (sc : List Addr) (x : List Char) (l : Loc) (rhs : Expr) (v : SVal)
    (o : BinaryOp) (ol : Loc)
    (hx : x ≠ c!"_") (hr : evalExpr (n + 1) σ sc rhs = .ok v σ1) (h : scopeGet σ1 sc x = none) :
    evalStmt (n + 2) σ sc (.OpAssign (.mk (.Var x) l) o ol rhs) = .err (Err.at l (Gen.Leaf.Undefined x)) σ1 := by
  rw [evalStmt]; simp only [hr, Res.bind]
  rw [bindNext]
  rw [opassign_undeclared n σ1 sc [] x l v o ol hx rfl h]; rfl

example : evalExpr 1 σ₀ [1, 0] (.mk (.Int 5) (2, 4)) = .ok (sv 5) σ₀ := by rw [evalExpr]; rfl
example : evalStmt 2 σ₀ [1, 0] (.Assign (.mk (.Var c!"y") (2, 0)) (.mk (.Int 5) (2, 4))) =
    .err (Err.at (2, 0) (Gen.Leaf.Undefined c!"y")) σ₀ :=
  assign_stmt_undeclared 0 σ₀ σ₀ [1, 0] c!"y" (2, 0) _ (sv 5) (by decide) (by rw [evalExpr]; rfl) (by decide)

/-! ### declaring -/

/-- declaring a name the *innermost* scope already has: `AlreadyInScope` at the new name, citing the position
    of the earlier declaration; the state is unchanged -/
theorem declare_twice (fuel : Nat) (σ : State) (top : Addr) (sc : List Addr) (names : List (List Char)) (x : List Char)
    (loc prev : Loc) (rhs w : SVal) (m : ScopeMap) (hx : x ≠ c!"_") (hn : names.contains x = false)
    (hm : σ.getScope top = some m) (hl : scopeLookup x m = some (w, prev)) :
    bindNextName fuel σ (top :: sc) names x loc rhs none true = errAt loc (Gen.Leaf.AlreadyInScope x prev.1 prev.2) σ := by
  unfold bindNextName
  simp only [hx, hn, if_false, Bool.false_eq_true, if_true, scopeDeclare_cons, hm, hl]

example : σ₀.getScope 0 = some [(c!"x", sv 1, (1, 0))] ∧ scopeLookup c!"x" [(c!"x", sv 1, (1, 0))] = some (sv 1, (1, 0)) := by
  decide
example : bindNextName 0 σ₀ [0] [] c!"x" (4, 0) (sv 2) none true = errAt (4, 0) (Gen.Leaf.AlreadyInScope c!"x" 1 0) σ₀ :=
  declare_twice 0 σ₀ 0 [] [] c!"x" (4, 0) (1, 0) (sv 2) (sv 1) [(c!"x", sv 1, (1, 0))] (by decide) rfl (by decide) (by decide)

/-- the same name in an inner scope is allowed, whatever the outer scopes hold: the declaration goes into the
    innermost scope cell with its position -/
theorem declare_inner_ok (fuel : Nat) (σ : State) (top : Addr) (sc : List Addr) (names : List (List Char)) (x : List Char)
    (loc : Loc) (rhs : SVal) (m : ScopeMap) (hx : x ≠ c!"_") (hn : names.contains x = false)
    (hm : σ.getScope top = some m) (hl : scopeLookup x m = none) :
    bindNextName fuel σ (top :: sc) names x loc rhs none true = .ok (x :: names) (σ.set top (.scope ((x, rhs, loc) :: m))) := by
  unfold bindNextName
  simp only [hx, hn, if_false, Bool.false_eq_true, if_true, scopeDeclare_cons, hm, hl]

/-- `x` is global in `σ₀`; declaring `x` again in the inner block (scope 1) succeeds and shadows -/
example : bindNextName 0 σ₀ [1, 0] [] c!"x" (4, 4) (sv 2) none true = .ok [c!"x"] (σ₀.set 1 (.scope [(c!"x", sv 2, (4, 4))])) :=
  declare_inner_ok 0 σ₀ 1 [0] [] c!"x" (4, 4) (sv 2) [] (by decide) rfl (by decide) (by decide)

/-- a name may appear once per pattern -/
theorem twice_in_pattern (fuel : Nat) (σ : State) (sc : List Addr) (names : List (List Char)) (x : List Char) (loc : Loc)
    (rhs : SVal) (op : Option (BinaryOp × Loc)) (decl : Bool) (hx : x ≠ c!"_") (hn : names.contains x = true) :
    bindNextName fuel σ sc names x loc rhs op decl = errAt loc (Gen.Leaf.AlreadyInBinding x) σ := by
  unfold bindNextName
  simp only [hx, hn, if_false, if_true]

example : c!"a" ≠ c!"_" ∧ [c!"a"].contains c!"a" = true := by decide

/-! ### every declaring form reaches `bindNextName … decl := true` on the chain whose head is the current scope -/

theorem entry_declare (n : Nat) (σ : State) (sc : List Addr) (x : List Char) (l : Loc) (rhs : Expr) :
    evalStmt (n + 2) σ sc (.Declare (.mk (.Var x) l) rhs) =
      (evalExpr (n + 1) σ sc rhs).bind fun v σ1 =>
        (bindNextName n σ1 sc [] x l v none true).bind fun _ σ2 => .ok .none σ2 := by
  rw [evalStmt]; congr 1; funext v σ1; rw [bindNext]

theorem entry_fn (n : Nat) (σ : State) (sc : List Addr) (name : List Char) (nl : Loc) (args : List Expr) (c : Bool)
    (ss : List Stmt) (hv : validateArgs n args [] = some none) :
    evalStmt (n + 1) σ sc (.Func name nl args c ss) =
      (bindNextName n (σ.alloc (.func ⟨some name, args, c, ss, sc⟩)).2 sc [] name nl (SVal.plain (.func σ.heap.size)) none true).bind
        fun _ σ2 => .ok .none σ2 := by
  rw [evalStmt]; simp only [validateArgsRes, hv, Res.bind]; rfl

example : validateArgs 3 [] [] = some none := rfl

/-- parameters, `this` and `for` targets: the bindings handed to `evalBlock` are declared one by one in the fresh
    scope (`C04.block_fresh_scope`) -/
theorem entry_binding (n : Nat) (σ : State) (sc : List Addr) (p : List Char) (l : Loc) (v : SVal) (r : List (Expr × SVal)) :
    declareAll (n + 2) σ sc ((.mk (.Var p) l, v) :: r) =
      (bindNextName n σ sc [] p l v none true).bind fun _ σ1 => declareAll (n + 1) σ1 sc r := by
  rw [declareAll, bindNext]

/-- list patterns hand every item to `bindNext` with the same declaration flag and the names seen so far -/
theorem entry_list_pattern (n : Nat) (σ : State) (sc : List Addr) (names : List (List Char)) (e : Expr) (r : List ListItem)
    (lhsLoc : Loc) (b : Addr) (decl : Bool) (i lhsLen : Nat) (items : List SVal) (v : SVal)
    (hb : σ.getList b = some items) (hi : items[i]? = some v) :
    bindList (n + 1) σ sc names (.mk e false :: r) false lhsLoc b decl i lhsLen =
      (bindNext n σ sc names e v none decl).bind fun names' σ1 => bindList n σ1 sc names' r false lhsLoc b decl (i + 1) lhsLen := by
  rw [bindList]; simp only [hb, hi, Bool.false_eq_true, if_false, Bool.false_and]

example : (State.mk #[.list [sv 1, sv 2]] []).getList 0 = some [sv 1, sv 2] ∧ [sv 1, sv 2][1]? = some (sv 2) := by decide

/-- object patterns: shorthand `{a}` and pairs `{"k": target}` both end in `bindNext` via `bindObjectProp` -/
theorem entry_object_prop (n : Nat) (σ : State) (sc : List Addr) (names : List (List Char)) (lhs : Expr) (b : Addr)
    (pname : List Char) (ploc : Loc) (decl : Bool) (m : ObjMap) (v : SVal)
    (hp : pname ≠ c!"_") (hb : σ.getObj b = some m) (hv : objGet pname m = some v) :
    bindObjectProp (n + 1) σ sc names lhs b pname ploc decl = bindNext n σ sc names lhs v none decl := by
  rw [bindObjectProp]; simp only [hb, hv]

example : (State.mk #[.obj [(c!"k", sv 1)]] []).getObj 0 = some [(c!"k", sv 1)] ∧ objGet c!"k" [(c!"k", sv 1)] = some (sv 1) := by
  decide

/-! ### `_` -/

/-- `_` as a target is the identity on the state and on the names of the pattern, in every mode
    (declaration, assignment, op-assignment): it can be repeated freely -/
theorem underscore_noop (fuel : Nat) (σ : State) (sc : List Addr) (names : List (List Char)) (loc : Loc) (rhs : SVal)
    (op : Option (BinaryOp × Loc)) (decl : Bool) :
    bindNextName fuel σ sc names c!"_" loc rhs op decl = .ok names σ := by
  unfold bindNextName; simp only [if_true]

/-- the shorthand `{_}` in an object pattern binds nothing (the property need not even exist): the pattern goes on with
    the next item -/
theorem underscore_shorthand_noop (n : Nat) (σ : State) (sc : List Addr) (names : List (List Char)) (l : Loc) (r : List PropItem)
    (b : Addr) (decl : Bool) (i total : Nat) (rem : List (List Char)) :
    bindObject (n + 1) σ sc names (.Single (.mk (.Var c!"_") l) false false :: r) b decl i total rem =
      bindObject n σ sc names r b decl (i + 1) total (rem.filter fun k => k ≠ c!"_") := by
  rw [bindObject]
  simp only [Bool.false_eq_true, if_false, Expr.raw, if_true]

/-- … while a pair whose KEY is `"_"` is a property like any other: it is looked up (and missing is an error)
    (the pinned tree skipped it: defect D10) -/
theorem underscore_key_is_a_key (n : Nat) (σ : State) (sc : List Addr) (names : List (List Char)) (lhs : Expr) (b : Addr)
    (m : ObjMap) (ploc : Loc) (decl : Bool) (hb : σ.getObj b = some m) :
    bindObjectProp (n + 1) σ sc names lhs b c!"_" ploc decl =
      (match objGet c!"_" m with
       | none => errAt ploc (Gen.Leaf.PropNotFound c!"_") σ
       | some v => bindNext n σ sc names lhs v none decl) := by
  rw [bindObjectProp]; simp only [hb]; rfl

/-- the binder preserves "no scope cell holds `_`", for every name, mode and outcome -/
theorem bindNextName_keeps_noUnderscore (fuel : Nat) (σ σ' : State) (sc : List Addr) (names names' : List (List Char))
    (x : List Char) (loc : Loc) (rhs : SVal) (op : Option (BinaryOp × Loc)) (decl : Bool)
    (hi : NoUnderscore σ) (h : bindNextName fuel σ sc names x loc rhs op decl = .ok names' σ') : NoUnderscore σ' := by
  unfold bindNextName at h
  by_cases hx : x = c!"_"
  · rw [if_pos hx] at h; cases h; exact hi
  rw [if_neg hx] at h
  have hne : c!"_" ≠ x := fun e => hx e.symm
  -- an assignment into a state that satisfies the invariant keeps it
  have store : ∀ {σ1 σ2 : State} {v : SVal}, NoUnderscore σ1 → scopeAssign σ1 sc x v = some σ2 → NoUnderscore σ2 := by
    intro σ1 σ2 v h1 ha
    obtain ⟨pre, a, post, m, w, l, _, _, hm, _, rfl⟩ := scopeAssign_some_iff.mp ha
    exact noUnderscore_set h1 a _ (fun m' e => by cases e; rw [lookup_setVal_other hne]; exact h1 a m hm)
  split at h
  · cases h
  split at h
  · -- a declaration: the new entry is `x`, which is not `_`
    split at h
    · cases h
    · split at h <;> cases h
      rename_i σ2 hd
      cases sc with
      | nil => cases hd
      | cons top r =>
        obtain ⟨m, hm, _, rfl⟩ := scopeDeclare_ok_iff.mp hd
        exact noUnderscore_set hi top _ (fun m' e => by cases e; rw [lookup_cons_other hne]; exact hi top m hm)
  · -- an assignment, into `σ` or into the state the operator leaves
    split at h
    · dsimp only at h
      split at h <;> cases h
      exact store hi ‹_›
    · split at h
      · cases h
      · obtain ⟨v, σ1, hb, h⟩ := Res.bind_eq_ok h
        dsimp only at h
        split at h <;> cases h
        exact store (applyBinOp_noUnderscore hi hb) ‹_›

example : NoUnderscore σ₀ :=
  noUnderscore_alloc (noUnderscore_alloc noUnderscore_init (.scope [(c!"x", sv 1, (1, 0))]) (fun m e => by cases e; decide))
    (.scope []) (fun m e => by cases e; rfl)

/-- `_` never becomes readable: in a state where no scope cell holds `_` — the initial state is one, and the binder
    (through which every declaration passes) and `applyBinOp` keep it so — reading `_` is `Undefined`.

    That every state a program reaches has this property is `underscore_never` / `underscore_never_prog` below (the lift of
    `bindNextName_keeps_noUnderscore` through the 23 functions of the evaluator: all other writes are `alloc`/`set` of
    list, object, function and *empty* scope cells, see `noUnderscore_alloc`/`_set`). -/
theorem underscore_never_partial (n : Nat) (σ : State) (sc : List Addr) (l : Loc) (hi : NoUnderscore σ) :
    evalExpr (n + 1) σ sc (.mk (.Var c!"_") l) = errAt l (Gen.Leaf.Undefined c!"_") σ :=
  read_undeclared n σ sc c!"_" l (scopeGet_underscore hi sc)

/-- declaring with `_` then reading `_`: still undefined -/
theorem underscore_after_binding (fuel n : Nat) (σ : State) (sc : List Addr) (names : List (List Char)) (loc l : Loc) (rhs : SVal)
    (decl : Bool) (hi : NoUnderscore σ) :
    (bindNextName fuel σ sc names c!"_" loc rhs none decl).bind (fun _ σ1 => evalExpr (n + 1) σ1 sc (.mk (.Var c!"_") l)) =
      errAt l (Gen.Leaf.Undefined c!"_") σ := by
  rw [underscore_noop]; exact underscore_never_partial n σ sc l hi

/-- the initial state and the fresh scopes pushed by blocks satisfy the invariant -/
theorem noUnderscore_fresh_scope (σ : State) (hi : NoUnderscore σ) : NoUnderscore (σ.alloc (.scope [])).2 :=
  noUnderscore_alloc hi _ (fun m e => by cases e; rfl)

/-! ### only bindable targets -/

/-- literals, operations, ranges, function literals and calls in a binding position (declaration, assignment,
    op-assignment; top level or nested in a pattern — `bindNext` is the common entry) are rejected with
    `InvalidBindTarget` naming the kind, at the target's position, with the state unchanged -/
theorem nonbindable (n : Nat) (σ : State) (sc : List Addr) (names : List (List Char)) (raw : RawExpr) (loc : Loc) (rhs : SVal)
    (op : Option (BinaryOp × Loc)) (decl : Bool) (d : List Char) (hd : invalidBindDescr raw = some d)
    (h1 : ∀ e i, raw ≠ .Index e i) (h2 : ∀ e a b, raw ≠ .RangeIndex e a b) (h3 : ∀ e p t, raw ≠ .Prop e p t) :
    bindNext (n + 1) σ sc names (.mk raw loc) rhs op decl = errAt loc (Gen.Leaf.InvalidBindTarget d) σ := by
  cases raw <;> first
    | (cases hd; done)
    | exact absurd rfl (h1 _ _)
    | exact absurd rfl (h2 _ _ _)
    | exact absurd rfl (h3 _ _ _)
    | (rw [bindNext.eq_def]; simp only [hd])

/-- the covered kinds and the text each is reported with -/
theorem nonbindable_kinds (a b : Expr) (o : BinaryOp) (ol : Loc) (s : List Char) (sl : Option (List (Nat × Nat))) (i : Int)
    (bo : Bool) (ps : List Expr) (c : Bool) (ss : List Stmt) (f : Expr) (args : List ListItem) :
    invalidBindDescr .Null = some c!"`null`" ∧
    invalidBindDescr (.Bool bo) = some c!"a boolean literal" ∧
    invalidBindDescr (.Int i) = some c!"an integer literal" ∧
    invalidBindDescr (.Str s sl) = some c!"a string literal" ∧
    invalidBindDescr (.BinaryOp o ol a b) = some c!"a binary operation" ∧
    invalidBindDescr (.Range a b) = some c!"a range operation" ∧
    invalidBindDescr (.Func ps c ss) = some c!"an anonymous function" ∧
    invalidBindDescr (.Call f args) = some c!"a function call" :=
  ⟨rfl, rfl, rfl, rfl, rfl, rfl, rfl, rfl⟩

example : bindNext 1 σ₀ [0] [] (.mk (.Int 3) (2, 0)) (sv 1) none true =
    errAt (2, 0) (Gen.Leaf.InvalidBindTarget c!"an integer literal") σ₀ :=
  nonbindable 0 σ₀ [0] [] (.Int 3) (2, 0) (sv 1) none true _ rfl (fun _ _ h => by cases h) (fun _ _ _ h => by cases h)
    (fun _ _ _ h => by cases h)

/-- a type property (`x->name`) is not assignable -/
theorem type_prop_not_assignable (n : Nat) (σ : State) (sc : List Addr) (names : List (List Char)) (e : Expr) (p : List Char)
    (loc : Loc) (rhs : SVal) (op : Option (BinaryOp × Loc)) (decl : Bool) :
    bindNext (n + 1) σ sc names (.mk (.Prop e p true) loc) rhs op decl = errAt loc Gen.Leaf.AssignToTypeProp σ := by
  rw [bindNext]; simp only [if_true]

/-- parameters of `fn name(…)`: a non-bindable parameter (here also index / range / property targets) is
    rejected when the function statement is executed, before the function exists -/
theorem nonbindable_param (n : Nat) (raw : RawExpr) (loc : Loc) (q : List Expr) (seen : List (List Char × Loc)) (d : List Char)
    (hd : invalidBindDescr raw = some d) :
    validateArgs (n + 1) (.mk raw loc :: q) seen = some (some (Err.at loc (Gen.Leaf.InvalidBindTarget d))) := by
  cases raw <;> first | (cases hd; done) | (rw [validateArgs.eq_def]; simp only [hd])

theorem nonbindable_param_stmt (n : Nat) (σ : State) (sc : List Addr) (name : List Char) (nl : Loc) (raw : RawExpr) (loc : Loc)
    (q : List Expr) (c : Bool) (ss : List Stmt) (d : List Char) (hd : invalidBindDescr raw = some d) :
    evalStmt (n + 2) σ sc (.Func name nl (.mk raw loc :: q) c ss) = .err (Err.at loc (Gen.Leaf.InvalidBindTarget d)) σ := by
  rw [evalStmt]; simp only [validateArgsRes, nonbindable_param n raw loc q [] d hd, Res.bind]

example : invalidBindDescr (.Int 1) = some c!"an integer literal" := rfl

/-- a parameter name may appear once -/
theorem dup_param (n : Nat) (x : List Char) (loc l0 : Loc) (q : List Expr) (seen : List (List Char × Loc))
    (hx : x ≠ c!"_") (hs : lookupAssoc x seen = some l0) :
    validateArgs (n + 1) (.mk (.Var x) loc :: q) seen = some (some (Err.at loc (Gen.Leaf.DupParamName x l0.1 l0.2))) := by
  rw [validateArgs]; simp only [hx, if_false, hs]

example : lookupAssoc c!"p" [(c!"p", ((1, 5) : Loc))] = some (1, 5) := by decide


/-! ### `_` never becomes readable: the invariant lifted through the whole evaluator -/

/-- "if no scope cell held `_` before, none holds it after" is preserved by every way the evaluator changes the state -/
theorem noUnderscore_good : GoodRelC (fun σ σ' => NoUnderscore σ → NoUnderscore σ') where
  refl := fun _ h => h
  trans := fun h1 h2 h => h2 (h1 h)
  allocList := fun σ xs h => noUnderscore_alloc h _ (fun m e => by cases e)
  allocObj := fun σ m h => noUnderscore_alloc h _ (fun m e => by cases e)
  allocFunc := fun σ f h => noUnderscore_alloc h _ (fun m e => by cases e)
  allocScope := fun σ h => noUnderscore_alloc h _ (fun m e => by cases e; rfl)
  print := fun σ l h a m hm => h a m hm
  setList := fun σ a ys h => noUnderscore_set h a _ (fun m e => by cases e)
  setObj := fun σ a m' h => noUnderscore_set h a _ (fun m e => by cases e)
  bindName := fun n σ σ' sc names names' name loc rhs op decl hb h =>
    bindNextName_keeps_noUnderscore n σ σ' sc names names' name loc rhs op decl h hb

/-- whatever statements are executed, successfully, from a state where no scope holds `_`, none holds it afterwards -/
theorem noUnderscore_preserved (n : Nat) (σ σ' : State) (sc : List Addr) (ss : List Stmt) (esc : Escape)
    (hi : NoUnderscore σ) (h : evalStmts n σ sc ss = .ok esc σ') : NoUnderscore σ' := by
  have := (relOkAll noUnderscore_good n).evalStmts σ σ sc ss (fun h => h)
  rw [h] at this
  exact this hi

/-- the same for a block with bindings (a call body with its parameters, a loop iteration with its target) -/
theorem noUnderscore_preserved_block (n : Nat) (σ σ' : State) (sc : List Addr) (bs : List (Expr × SVal)) (ss : List Stmt)
    (esc : Escape) (hi : NoUnderscore σ) (h : evalBlock n σ sc bs ss = .ok esc σ') : NoUnderscore σ' := by
  have := (relOkAll noUnderscore_good n).evalBlock σ σ sc bs ss (fun h => h)
  rw [h] at this
  exact this hi

/-- **`_` never becomes readable.**  After any statements whatsoever have run (declarations, destructurings, loops, calls …
    with `_` as a target anywhere), reading `_` is still the error `'_' is not defined`, in every scope chain. -/
theorem underscore_never (n m : Nat) (σ σ' : State) (sc sc' : List Addr) (ss : List Stmt) (esc : Escape) (l : Loc)
    (hi : NoUnderscore σ) (h : evalStmts n σ sc ss = .ok esc σ') :
    evalExpr (m + 1) σ' sc' (.mk (.Var c!"_") l) = errAt l (Gen.Leaf.Undefined c!"_") σ' :=
  underscore_never_partial m σ' sc' l (noUnderscore_preserved n σ σ' sc ss esc hi h)

/-- for whole programs: the state a program ends in (and every state in between, by the lemmas above) has no `_` -/
theorem underscore_never_prog (n : Nat) (stmts : List Stmt) (σ : State) (h : evalProg n stmts = .ok () σ) : NoUnderscore σ := by
  unfold evalProg at h
  obtain ⟨esc, σ1, hb, h⟩ := Res.bind_eq_ok h
  have h1 := noUnderscore_preserved_block n State.init σ1 [] _ stmts esc noUnderscore_init hb
  cases esc <;> cases h
  exact h1

/-! ## the same kinds, read off the source on every run

`Gen.bindRejects` / `Gen.paramRejects` are regenerated by tools/extract.py from the `RawExpr::K… => new_invalid_bind_error("…")`
arms of the binder (`bind_next`) and of the parameter validator (`validate_args`). -/

/-- the source variant name of an expression kind -/
def kindName : RawExpr → List Char
  | .Null => c!"Null" | .Bool _ => c!"Bool" | .Int _ => c!"Int" | .Str _ _ => c!"Str" | .Var _ => c!"Var"
  | .BinaryOp _ _ _ _ => c!"BinaryOp" | .List _ _ => c!"List" | .Index _ _ => c!"Index" | .RangeIndex _ _ _ => c!"RangeIndex"
  | .Range _ _ => c!"Range" | .Object _ => c!"Object" | .Prop _ _ _ => c!"Prop" | .Func _ _ _ => c!"Func" | .Call _ _ => c!"Call"

/-- the parameter validator of the source rejects exactly the kinds the model's `invalidBindDescr` rejects, with the same
    descriptions -/
theorem param_rejects_match_source (raw : RawExpr) : invalidBindDescr raw = lookupAssoc (kindName raw) Gen.paramRejects := by
  cases raw <;> rfl

/-- the binder of the source rejects those kinds except the three targets (element, range, property) that only a
    parameter list refuses; so exactly variables, element / range / property targets and list / object patterns can be bound -/
theorem bind_rejects_match_source (raw : RawExpr) :
    lookupAssoc (kindName raw) Gen.bindRejects =
      (match raw with
       | .Index _ _ => none | .RangeIndex _ _ _ => none | .Prop _ _ _ => none
       | r => invalidBindDescr r) := by
  cases raw <;> rfl

theorem bindable_kinds_as_documented :
    Gen.bindRejects.map Prod.fst = [c!"Null", c!"Bool", c!"Int", c!"Str", c!"BinaryOp", c!"Range", c!"Func", c!"Call"] ∧
    Gen.paramRejects.map Prod.fst =
      [c!"Index", c!"RangeIndex", c!"Prop", c!"Null", c!"Bool", c!"Int", c!"Str", c!"BinaryOp", c!"Range", c!"Func", c!"Call"] := by
  decide +kernel

/-! ### the implicit `this` -/

/-- the implicit `this` of a call is a declaration of the call's own scope — the scope cell that holds the parameters and
    the body's top-level declarations — made at the position of the call: once the bindings of a call whose callee was read
    from an object are in place, declaring `this` again at the top level of the body is `AlreadyInScope`, citing the call;
    nothing is changed -/
theorem body_cannot_redeclare_this {k : Nat} {σ3 σb : State} {fr : FuncRec} {pv : List SVal} {t : Val} {loc : Loc}
    (hb : declareAll k (σ3.alloc (.scope [])).2 (σ3.heap.size :: fr.closure) (callBindings fr pv (some t) loc) = .ok () σb)
    (fuel : Nat) (l2 : Loc) (rhs : SVal) :
    bindNextName fuel σb (σ3.heap.size :: fr.closure) [] c!"this" l2 rhs none true =
      errAt l2 (Gen.Leaf.AlreadyInScope c!"this" loc.1 loc.2) σb := by
  obtain ⟨m, hs, hl⟩ := declareAll_this_last (bs := fr.args.zip pv) hb
  exact declare_twice fuel σb _ _ [] c!"this" l2 loc rhs (SVal.plain t) m (by decide) rfl hs hl

/-- … while a scope opened inside the body may declare `this` (it shadows the receiver there) -/
theorem inner_scope_may_declare_this (fuel : Nat) (σ : State) (inner : Addr) (sc : List Addr) (l2 : Loc) (rhs : SVal) (m : ScopeMap)
    (hm : σ.getScope inner = some m) (hl : scopeLookup c!"this" m = none) :
    bindNextName fuel σ (inner :: sc) [] c!"this" l2 rhs none true =
      .ok [c!"this"] (σ.set inner (.scope ((c!"this", rhs, l2) :: m))) :=
  declare_inner_ok fuel σ inner sc [] c!"this" l2 rhs m (by decide) rfl hm hl

/-- the hypotheses are met by a real call: `this := 1` at 1:19 in a method called at 1:34 fails at 1:19 inside the call made at
    1:34, and the declaration it cites is the call's -/
example : ∃ e σ, evalProg 60 (progOf c!"o := {\"f\": fn() { this := 1; }}; o.f();") = .err e σ ∧
    e.positions = [(1, 34), (1, 19)] ∧ e.payloadLocs = [(1, 34)] := by
  obtain ⟨e, σ, he, hp⟩ := errOf_map (n := 60) (stmts := progOf c!"o := {\"f\": fn() { this := 1; }}; o.f();")
    (f := fun e => (e.positions, e.payloadLocs)) (x := ([(1, 34), (1, 19)], [(1, 34)])) (by decide +kernel)
  exact ⟨e, σ, he, congrArg Prod.fst hp, congrArg Prod.snd hp⟩

end Seed.C20
