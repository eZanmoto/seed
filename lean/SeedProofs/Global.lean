/-
  Global.lean — theorems about the whole evaluator, for the property files and the lemma files that reason about whole runs.
  G1 (fuel independence) in its user-facing forms.
-/
import SeedProofs.Lemmas.EvalMono
import SeedProofs.Lemmas.EvalStep
import SeedModel.Run
namespace Seed

theorem Res.Le.of_step {α} (f : Nat → Res α) (h : ∀ n, Res.Le (f n) (f (n + 1))) {m n : Nat} (hmn : m ≤ n) :
    Res.Le (f m) (f n) := by
  induction hmn with
  | refl => exact Res.Le.refl _
  | step _ ih => exact Res.Le.trans ih (h _)

theorem fuel_stable {α} {f : Nat → Res α} (hmono : ∀ k, Res.Le (f k) (f (k + 1))) {n m : Nat} {r : Res α}
    (h : f n = r) (hr : r ≠ .timeout) (hnm : n ≤ m) : f m = r := by
  rcases Res.Le.of_step f hmono hnm with h' | h'
  · exact absurd (h ▸ h') hr
  · exact h' ▸ h

/-- G1 for statement lists: a result other than a time-out is the result at every larger fuel -/
theorem evalStmts_fuel_mono {n m : Nat} {σ : State} {sc : List Addr} {ss : List Stmt} {r : Res Escape}
    (h : evalStmts n σ sc ss = r) (hr : r ≠ .timeout) (hnm : n ≤ m) : evalStmts m σ sc ss = r :=
  fuel_stable (f := fun k => evalStmts k σ sc ss) (fun k => (monoAll k).evalStmts σ sc ss) h hr hnm

theorem evalStmt_fuel_mono {n m : Nat} {σ : State} {sc : List Addr} {st : Stmt} {r : Res Escape}
    (h : evalStmt n σ sc st = r) (hr : r ≠ .timeout) (hnm : n ≤ m) : evalStmt m σ sc st = r :=
  fuel_stable (f := fun k => evalStmt k σ sc st) (fun k => (monoAll k).evalStmt σ sc st) h hr hnm

theorem evalStmts_cons_ok_le {n m : Nat} {σ σ1 : State} {sc : List Addr} {st : Stmt} (r : List Stmt)
    (h : evalStmt n σ sc st = .ok .none σ1) (hnm : n ≤ m) : evalStmts (m + 1) σ sc (st :: r) = evalStmts m σ1 sc r :=
  evalStmts_cons_ok r (evalStmt_fuel_mono h nofun hnm)

theorem evalExpr_fuel_mono {n m : Nat} {σ : State} {sc : List Addr} {e : Expr} {r : Res SVal}
    (h : evalExpr n σ sc e = r) (hr : r ≠ .timeout) (hnm : n ≤ m) : evalExpr m σ sc e = r :=
  fuel_stable (f := fun k => evalExpr k σ sc e) (fun k => (monoAll k).evalExpr σ sc e) h hr hnm

theorem evalBlock_fuel_mono {n m : Nat} {σ : State} {sc : List Addr} {bs : List (Expr × SVal)} {ss : List Stmt}
    {r : Res Escape} (h : evalBlock n σ sc bs ss = r) (hr : r ≠ .timeout) (hnm : n ≤ m) :
    evalBlock m σ sc bs ss = r :=
  fuel_stable (f := fun k => evalBlock k σ sc bs ss) (fun k => (monoAll k).evalBlock σ sc bs ss) h hr hnm

theorem evalProg_Le (stmts : List Stmt) {n m : Nat} (hnm : n ≤ m) : Res.Le (evalProg n stmts) (evalProg m stmts) := by
  unfold evalProg
  apply Res.Le.bind
  · exact Res.Le.of_step (fun k => evalBlock k State.init [] _ stmts) (fun k => (monoAll k).evalBlock _ _ _ _) hnm
  · intro _ _; exact Res.Le.refl _

/-- G1 for whole runs: if a run with fuel `n` does not time out, every run with more fuel has the same outcome -/
theorem run_fuel_independent (path src : List Char) {n m : Nat} (hnm : n ≤ m)
    (h : (run n path src).status ≠ .timeout) : run m path src = run n path src := by
  unfold run at *
  cases hp : parseProg src with
  | timeout => simp [hp] at h
  | err e => rfl
  | ok stmts =>
    simp only [hp] at h ⊢
    rcases evalProg_Le stmts hnm with h' | h'
    · rw [h'] at h; simp at h
    · rw [h']

end Seed
