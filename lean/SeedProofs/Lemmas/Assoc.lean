/-
  Assoc.lean — `lookupAssoc`, the lookup in the generated tables: what it finds is a row of the table.
-/
import SeedModel.Base
namespace Seed

theorem lookupAssoc_mem {α β} [DecidableEq α] {k : α} {v : β} : ∀ {l : List (α × β)}, lookupAssoc k l = some v → (k, v) ∈ l
  | [], h => by cases h
  | (k', v') :: r, h => by
    unfold lookupAssoc at h
    split at h
    · cases h; rename_i hk; subst hk; exact List.mem_cons_self
    · exact List.mem_cons_of_mem _ (lookupAssoc_mem h)

end Seed
