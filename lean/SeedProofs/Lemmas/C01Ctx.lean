/-
  C01Ctx.lean — one-hole statement contexts whose hole takes a statement LIST, and the congruence lemmas (one per
  construct) behind `C01.stmt_ctx_congr` (same result at every fuel) and `C01.stmt_ctx_congr_upto` (same result up to
  fuel).
-/
import SeedProofs.Lemmas.C07Loops
namespace Seed.C01
open Seed Seed.C07

/-- a statement list with one hole: in a sequence, in a bare block, in the body of any branch of an `if` chain (taken or
    not) or its `else`, in the body of a `while` or of a `for`.  (Bodies of function literals / `fn` statements are not
    included: there the list is stored in the heap, so that the two sides run in different states.) -/
inductive SCtx where
  | hole
  | seq (pre : List Stmt) (c : SCtx) (post : List Stmt)
  | block (c : SCtx)
  | ifBranch (before : List Branch) (cond : Expr) (c : SCtx) (later : List Branch) (els : Option (List Stmt))
  | ifElse (branches : List Branch) (c : SCtx)
  | whileBody (cond : Expr) (c : SCtx)
  | forBody (lhs iter : Expr) (c : SCtx)

def SCtx.plug : SCtx → List Stmt → List Stmt
  | .hole, s => s
  | .seq pre c post, s => pre ++ c.plug s ++ post
  | .block c, s => [.Block (c.plug s)]
  | .ifBranch before cond c later els, s => [.If (before ++ .mk cond (c.plug s) :: later) els]
  | .ifElse bs c, s => [.If bs (some (c.plug s))]
  | .whileBody cond c, s => [.While cond (c.plug s)]
  | .forBody lhs iter c, s => [.For lhs iter (c.plug s)]

theorem stmt_zero (σ : State) (sc : List Addr) (st : Stmt) : evalStmt 0 σ sc st = .timeout := by
  unfold evalStmt; rfl

def forEnterK (sc : List Addr) (lhs iter : Expr) (b : List Stmt) (it : SVal) (σ1 : State) (m : Nat) : Res Escape :=
  match toPairs σ1 it.v with
  | none => crashHeap σ1
  | some none => errAt iter.loc Gen.Leaf.ForIterNotIterable σ1
  | some (some pairs) => evalFor m σ1 sc lhs pairs b

theorem stmt_for (n : Nat) (σ : State) (sc : List Addr) (lhs iter : Expr) (b : List Stmt) :
    evalStmt (n + 1) σ sc (.For lhs iter b) = (evalExpr n σ sc iter).bind fun it σ1 => forEnterK sc lhs iter b it σ1 n :=
  evalStmt_for n σ sc lhs iter b

theorem block_zero (σ : State) (sc : List Addr) (bs : List (Expr × SVal)) (b : List Stmt) :
    evalBlock 0 σ sc bs b = .timeout := by unfold evalBlock; rfl

theorem if_zero (σ : State) (sc : List Addr) (bs : List Branch) (els : Option (List Stmt)) :
    evalIf 0 σ sc bs els = .timeout := by unfold evalIf; rfl
theorem while_zero (σ : State) (sc : List Addr) (c : Expr) (b : List Stmt) : evalWhile 0 σ sc c b = .timeout := by
  unfold evalWhile; rfl
theorem for_zero (σ : State) (sc : List Addr) (lhs : Expr) (ps : List (SVal × SVal)) (b : List Stmt) :
    evalFor 0 σ sc lhs ps b = .timeout := by unfold evalFor; rfl

/-- G6, exact in the fuel: `x ++ post` is `x`, then — if `x` did not escape — `post` with the fuel left after the
    `x.length` statements of `x` -/
theorem stmts_append_exact (n : Nat) (σ : State) (sc : List Addr) (x post : List Stmt) :
    evalStmts n σ sc (x ++ post) =
      (evalStmts n σ sc x).bind fun esc σ' =>
        match esc with
        | .none => evalStmts (n - x.length) σ' sc post
        | other => .ok other σ' := by
  induction x generalizing n σ with
  | nil =>
    cases n with
    | zero => simp [evalStmts_zero, Res.bind]
    | succ n => simp [evalStmts_nil, Res.bind]
  | cons st x ih =>
    cases n with
    | zero => simp [evalStmts_zero, Res.bind]
    | succ n =>
      rw [List.cons_append, evalStmts_cons, evalStmts_cons]
      cases hst : evalStmt n σ sc st with
      | timeout => rfl
      | err e σ1 => rfl
      | crash w σ1 => rfl
      | ok esc σ1 =>
        cases esc with
        | none =>
          simp only [Res.bind]
          rw [ih n σ1]
          simp [Res.bind]
        | brk l => rfl
        | cont l => rfl
        | ret v l => rfl

def ExactEq (s t : List Stmt) : Prop := ∀ n σ sc, evalStmts n σ sc s = evalStmts n σ sc t

section exact
variable {x y : List Stmt}

theorem exact_prefix (h : ExactEq x y) (pre : List Stmt) : ExactEq (pre ++ x) (pre ++ y) := by
  induction pre with
  | nil => exact h
  | cons st pre ih =>
    intro n σ sc
    cases n with
    | zero => simp [evalStmts_zero]
    | succ n =>
      simp only [List.cons_append, evalStmts_cons]
      congr 1
      funext esc σ1
      cases esc <;> simp [ih n σ1 sc]

theorem exact_suffix (h : ExactEq x y) (hlen : x.length = y.length) (post : List Stmt) : ExactEq (x ++ post) (y ++ post) := by
  intro n σ sc
  rw [stmts_append_exact, stmts_append_exact, h n σ sc, hlen]

/-- a list of one statement, given what one unfolding of `evalStmt` makes of the statement on either side -/
theorem exact_stmt {a b : Stmt} {f g : Nat → State → List Addr → Res Escape}
    (ha : ∀ n σ sc, evalStmt (n + 1) σ sc a = f n σ sc) (hb : ∀ n σ sc, evalStmt (n + 1) σ sc b = g n σ sc)
    (h : ∀ n σ sc, f n σ sc = g n σ sc) : ExactEq [a] [b] := by
  intro n σ sc
  cases n with
  | zero => simp [evalStmts_zero]
  | succ n =>
    rw [evalStmts_cons, evalStmts_cons]
    cases n with
    | zero => rw [stmt_zero, stmt_zero]
    | succ n => rw [ha, hb, h]

theorem exact_block (h : ExactEq x y) (n : Nat) (σ : State) (sc : List Addr) (bs : List (Expr × SVal)) :
    evalBlock n σ sc bs x = evalBlock n σ sc bs y := by
  cases n with
  | zero => simp [block_zero]
  | succ n =>
    rw [block_scope, block_scope]
    congr 1
    funext _ σ2
    exact h n σ2 _

theorem exact_if_branch (h : ExactEq x y) (before : List Branch) (cond : Expr) (later : List Branch) (els : Option (List Stmt))
    (n : Nat) (σ : State) (sc : List Addr) :
    evalIf n σ sc (before ++ .mk cond x :: later) els = evalIf n σ sc (before ++ .mk cond y :: later) els := by
  induction before generalizing n σ with
  | nil =>
    cases n with
    | zero => simp [if_zero]
    | succ n =>
      simp only [List.nil_append, evalIf_cons]
      congr 1
      funext b σ1
      cases b <;> simp [exact_block h]
  | cons br before ih =>
    cases n with
    | zero => simp [if_zero]
    | succ n =>
      obtain ⟨c, body⟩ := br
      simp only [List.cons_append, evalIf_cons]
      congr 1
      funext b σ1
      cases b <;> simp [ih n σ1]

theorem exact_if_else (h : ExactEq x y) (bs : List Branch) (n : Nat) (σ : State) (sc : List Addr) :
    evalIf n σ sc bs (some x) = evalIf n σ sc bs (some y) := by
  induction bs generalizing n σ with
  | nil =>
    cases n with
    | zero => simp [if_zero]
    | succ n => rw [evalIf_else, evalIf_else, exact_block h]
  | cons br bs ih =>
    cases n with
    | zero => simp [if_zero]
    | succ n =>
      obtain ⟨c, body⟩ := br
      simp only [evalIf_cons]
      congr 1
      funext b σ1
      cases b <;> simp [ih n σ1]

theorem exact_while (h : ExactEq x y) (cond : Expr) (n : Nat) (σ : State) (sc : List Addr) :
    evalWhile n σ sc cond x = evalWhile n σ sc cond y := by
  induction n generalizing σ with
  | zero => simp [while_zero]
  | succ n ih =>
    rw [evalWhile_succ, evalWhile_succ]
    congr 1
    funext b σ1
    cases b
    · rfl
    · simp only [Bool.not_true, Bool.false_eq_true, if_false]
      rw [exact_block h]
      congr 1
      funext esc σ2
      cases esc <;> simp [ih σ2]

theorem exact_for (h : ExactEq x y) (lhs : Expr) (n : Nat) (σ : State) (sc : List Addr) (ps : List (SVal × SVal)) :
    evalFor n σ sc lhs ps x = evalFor n σ sc lhs ps y := by
  induction n generalizing σ ps with
  | zero => simp [for_zero]
  | succ n ih =>
    cases ps with
    | nil => simp [evalFor_nil]
    | cons kv r =>
      obtain ⟨k, v⟩ := kv
      rw [evalFor_cons, evalFor_cons, exact_block h]
      congr 1
      funext esc σ2
      cases esc <;> simp [ih σ2 r]

theorem exact_for_enter (h : ExactEq x y) (lhs iter : Expr) (n : Nat) (σ : State) (sc : List Addr) :
    ((evalExpr n σ sc iter).bind fun it σ1 => forEnterK sc lhs iter x it σ1 n) =
      (evalExpr n σ sc iter).bind fun it σ1 => forEnterK sc lhs iter y it σ1 n := by
  congr 1
  funext it σ1
  unfold forEnterK
  split <;> first | rfl | exact exact_for h lhs n σ1 sc _

end exact

theorem SCtx.plug_length (K : SCtx) {s t : List Stmt} (h : s.length = t.length) : (K.plug s).length = (K.plug t).length := by
  induction K with
  | hole => exact h
  | seq pre c post ih => simp [SCtx.plug, ih]
  | block c _ => rfl
  | ifBranch _ _ _ _ _ _ => rfl
  | ifElse _ _ _ => rfl
  | whileBody _ _ _ => rfl
  | forBody _ _ _ _ => rfl

/-- the statements put in the hole are at the top level of the result (not inside a block, branch or loop) -/
def SCtx.flat : SCtx → Bool
  | .hole => true
  | .seq _ c _ => c.flat
  | _ => false

/-- in the statement list where the hole's statements land, nothing follows them -/
def SCtx.HoleLast : SCtx → Prop
  | .hole => True
  | .seq _ c post => c.HoleLast ∧ (c.flat = true → post = [])
  | .block c => c.HoleLast
  | .ifBranch _ _ c _ _ => c.HoleLast
  | .ifElse _ c => c.HoleLast
  | .whileBody _ c => c.HoleLast
  | .forBody _ _ c => c.HoleLast

theorem SCtx.plug_length_of_not_flat (K : SCtx) (s t : List Stmt) (h : K.flat = false) : (K.plug s).length = (K.plug t).length := by
  induction K with
  | hole => simp [SCtx.flat] at h
  | seq pre c post ih => simp [SCtx.plug, ih h]
  | block c _ => rfl
  | ifBranch _ _ _ _ _ _ => rfl
  | ifElse _ _ _ => rfl
  | whileBody _ _ _ => rfl
  | forBody _ _ _ _ => rfl

/-- congruence, same result at every fuel, under the weakest side condition: equal lengths, or no statement after the
    hole in its own list -/
theorem exact_ctx_gen (K : SCtx) {s t : List Stmt} (h : ExactEq s t) (hok : s.length = t.length ∨ K.HoleLast) :
    ExactEq (K.plug s) (K.plug t) := by
  induction K with
  | hole => exact h
  | seq pre c post ih =>
    simp only [SCtx.plug, List.append_assoc]
    refine exact_prefix ?_ pre
    rcases hok with hlen | ⟨hc, hpost⟩
    · exact exact_suffix (ih (Or.inl hlen)) (c.plug_length hlen) post
    · cases hf : c.flat with
      | true => rw [hpost hf]; simpa using ih (Or.inr hc)
      | false => exact exact_suffix (ih (Or.inr hc)) (c.plug_length_of_not_flat s t hf) post
  | block c ih => exact exact_stmt (evalStmt_block · · · _) (evalStmt_block · · · _) (exact_block (ih hok) · · · [])
  | ifBranch before cond c later els ih =>
    exact exact_stmt (evalStmt_if · · · _ _) (evalStmt_if · · · _ _) (exact_if_branch (ih hok) before cond later els)
  | ifElse bs c ih => exact exact_stmt (evalStmt_if · · · _ _) (evalStmt_if · · · _ _) (exact_if_else (ih hok) bs)
  | whileBody cond c ih => exact exact_stmt (evalStmt_while · · · _ _) (evalStmt_while · · · _ _) (exact_while (ih hok) cond)
  | forBody lhs iter c ih =>
    exact exact_stmt (stmt_for · · · _ _ _) (stmt_for · · · _ _ _) (exact_for_enter (ih hok) lhs iter)

/-- congruence for every context, same result at every fuel, for lists of the same length (needed for a hole followed
    by further statements: `exact_suffix`; see `C01.exact_not_congruent_in_general`) -/
theorem exact_ctx (K : SCtx) {s t : List Stmt} (h : ExactEq s t) (hlen : s.length = t.length) : ExactEq (K.plug s) (K.plug t) :=
  exact_ctx_gen K h (.inl hlen)

def Mono {α} (f : Nat → Res α) : Prop := ∀ k, Res.Le (f k) (f (k + 1))

/-- the step of all the proofs below: if `g` reaches the result `r` and, for the value of `r`, `k'` reaches the result of
    the continuation `k`, then "`g` then `k'`", at one common fuel, reaches "`r` then `k`" -/
theorem reaches_bind {α β} {r : Res α} {k : α → State → Res β} {g : Nat → Res α} {k' : α → State → Nat → Res β}
    (hg : Mono g) (hk' : ∀ a σ, Mono (k' a σ)) (hne : r.bind k ≠ .timeout)
    (h1 : r ≠ .timeout → ∃ m, g m = r)
    (h2 : ∀ a σ, r = .ok a σ → k a σ ≠ .timeout → ∃ m, k' a σ m = k a σ) :
    ∃ m, (g m).bind (fun a σ => k' a σ m) = r.bind k := by
  cases r with
  | timeout => exact absurd rfl hne
  | ok a σ =>
    obtain ⟨m1, hm1⟩ := h1 (by simp)
    obtain ⟨m2, hm2⟩ := h2 a σ rfl hne
    refine ⟨max m1 m2, ?_⟩
    rw [fuel_stable hg hm1 (by simp) (Nat.le_max_left m1 m2)]
    exact fuel_stable (hk' a σ) hm2 hne (Nat.le_max_right m1 m2)
  | err e σ =>
    obtain ⟨m1, hm1⟩ := h1 (by simp)
    exact ⟨m1, by rw [hm1]; rfl⟩
  | crash w σ =>
    obtain ⟨m1, hm1⟩ := h1 (by simp)
    exact ⟨m1, by rw [hm1]; rfl⟩

def Refines (s t : List Stmt) : Prop :=
  ∀ n σ sc, evalStmts n σ sc s ≠ .timeout → ∃ m, evalStmts m σ sc t = evalStmts n σ sc s

/-- `s` and `t` have the same outcome in every state and scope chain: observational equivalence of statement lists -/
def UptoEq (s t : List Stmt) : Prop := ∀ σ sc, FuelEq (fun n => evalStmts n σ sc s) (fun n => evalStmts n σ sc t)

theorem uptoEq_iff {s t : List Stmt} : UptoEq s t ↔ Refines s t ∧ Refines t s := by
  constructor
  · intro h
    exact ⟨fun n σ sc hne => (h σ sc _ hne).1 ⟨n, rfl⟩, fun n σ sc hne => (h σ sc _ hne).2 ⟨n, rfl⟩⟩
  · rintro ⟨h1, h2⟩ σ sc r hr
    constructor
    · rintro ⟨n, rfl⟩; exact h1 n σ sc hr
    · rintro ⟨n, rfl⟩; exact h2 n σ sc hr

theorem ExactEq.uptoEq {s t : List Stmt} (h : ExactEq s t) : UptoEq s t :=
  uptoEq_iff.2 ⟨fun n σ sc _ => ⟨n, (h n σ sc).symm⟩, fun n σ sc _ => ⟨n, h n σ sc⟩⟩

section upto
variable {x y : List Stmt}

theorem mono_stmts (σ : State) (sc : List Addr) (ss : List Stmt) : Mono fun m => evalStmts m σ sc ss :=
  fun k => (monoAll k).evalStmts σ sc ss

theorem mono_stmts_k (sc : List Addr) (ss : List Stmt) (esc : Escape) (σ1 : State) :
    Mono fun m => (match esc with | .none => evalStmts m σ1 sc ss | other => .ok other σ1 : Res Escape) := by
  intro k; cases esc <;> first | exact (monoAll k).evalStmts _ _ _ | exact Res.Le.refl _

theorem ref_prefix (h : Refines x y) (pre : List Stmt) : Refines (pre ++ x) (pre ++ y) := by
  induction pre with
  | nil => exact h
  | cons st pre ih =>
    intro n σ sc
    cases n with
    | zero => intro hne; exact absurd (evalStmts_zero _ _ _) hne
    | succ n =>
      simp only [List.cons_append, evalStmts_cons]
      intro hne
      obtain ⟨m, hm⟩ := reaches_bind (g := fun m => evalStmt m σ sc st)
        (k' := fun esc σ1 m => match esc with | .none => evalStmts m σ1 sc (pre ++ y) | other => .ok other σ1)
        (fun k => (monoAll k).evalStmt σ sc st) (fun esc σ1 => mono_stmts_k sc _ esc σ1) hne (fun _ => ⟨n, rfl⟩)
        (fun esc σ1 _ hk => by
          cases esc with
          | none => exact ih n σ1 sc hk
          | brk l => exact ⟨0, rfl⟩
          | cont l => exact ⟨0, rfl⟩
          | ret v l => exact ⟨0, rfl⟩)
      exact ⟨m + 1, by rw [evalStmts_cons]; exact hm⟩

theorem ref_suffix (h : Refines x y) (post : List Stmt) : Refines (x ++ post) (y ++ post) := by
  intro n σ sc
  rw [stmts_append_exact]
  intro hne
  obtain ⟨m, hm⟩ := reaches_bind (g := fun m => evalStmts m σ sc y)
    (k' := fun esc σ1 m => match esc with | .none => evalStmts (m - y.length) σ1 sc post | other => .ok other σ1)
    (mono_stmts σ sc y)
    (fun esc σ1 k => by
      cases esc with
      | none => exact Res.Le.of_step (fun j => evalStmts j σ1 sc post) (mono_stmts σ1 sc post) (by omega)
      | brk l => exact Res.Le.refl _
      | cont l => exact Res.Le.refl _
      | ret v l => exact Res.Le.refl _)
    hne (fun hr => h n σ sc hr)
    (fun esc σ1 _ hk => by
      cases esc with
      | none => exact ⟨n - x.length + y.length, by simp⟩
      | brk l => exact ⟨0, rfl⟩
      | cont l => exact ⟨0, rfl⟩
      | ret v l => exact ⟨0, rfl⟩)
  exact ⟨m, by rw [stmts_append_exact]; exact hm⟩

theorem ref_stmt {a b : Stmt} {f g : Nat → State → List Addr → Res Escape}
    (ha : ∀ n σ sc, evalStmt (n + 1) σ sc a = f n σ sc) (hb : ∀ n σ sc, evalStmt (n + 1) σ sc b = g n σ sc)
    (h : ∀ n σ sc, f n σ sc ≠ .timeout → ∃ m, g m σ sc = f n σ sc) : Refines [a] [b] := by
  have hab : ∀ n σ sc, evalStmt n σ sc a ≠ .timeout → ∃ m, evalStmt m σ sc b = evalStmt n σ sc a := by
    intro n σ sc
    cases n with
    | zero => intro hne; exact absurd (stmt_zero _ _ _) hne
    | succ n =>
      rw [ha]
      intro hne
      obtain ⟨m, hm⟩ := h n σ sc hne
      exact ⟨m + 1, by rw [hb]; exact hm⟩
  intro n σ sc
  cases n with
  | zero => intro hne; exact absurd (evalStmts_zero _ _ _) hne
  | succ n =>
    rw [evalStmts_cons]
    intro hne
    obtain ⟨m, hm⟩ := reaches_bind (g := fun m => evalStmt m σ sc b)
      (k' := fun esc σ1 m => match esc with | .none => evalStmts m σ1 sc [] | other => .ok other σ1)
      (fun k => (monoAll k).evalStmt σ sc b) (fun esc σ1 => mono_stmts_k sc _ esc σ1) hne (fun hr => hab n σ sc hr)
      (fun esc σ1 _ hk => by
        cases esc with
        | none => exact ⟨n, rfl⟩
        | brk l => exact ⟨0, rfl⟩
        | cont l => exact ⟨0, rfl⟩
        | ret v l => exact ⟨0, rfl⟩)
    exact ⟨m + 1, by rw [evalStmts_cons]; exact hm⟩

theorem ref_block (h : Refines x y) (n : Nat) (σ : State) (sc : List Addr) (bs : List (Expr × SVal)) :
    evalBlock n σ sc bs x ≠ .timeout → ∃ m, evalBlock m σ sc bs y = evalBlock n σ sc bs x := by
  cases n with
  | zero => intro hne; exact absurd (block_zero _ _ _ _) hne
  | succ n =>
    rw [block_scope]
    intro hne
    obtain ⟨m, hm⟩ := reaches_bind (g := fun m => declareAll m (σ.alloc (.scope [])).2 ((σ.alloc (.scope [])).1 :: sc) bs)
      (k' := fun _ σ2 m => evalStmts m σ2 ((σ.alloc (.scope [])).1 :: sc) y)
      (fun k => (monoAll k).declareAll _ _ _) (fun _ σ2 => mono_stmts σ2 _ y) hne (fun _ => ⟨n, rfl⟩)
      (fun _ σ2 _ hk => h n σ2 _ hk)
    exact ⟨m + 1, by rw [block_scope]; exact hm⟩

theorem mono_block (σ : State) (sc : List Addr) (bs : List (Expr × SVal)) (b : List Stmt) : Mono fun m => evalBlock m σ sc bs b :=
  fun k => (monoAll k).evalBlock σ sc bs b

theorem mono_if_k (sc : List Addr) (body : List Stmt) (r : List Branch) (els : Option (List Stmt)) (b : Bool) (σ1 : State) :
    Mono fun m => if b then evalBlock m σ1 sc [] body else evalIf m σ1 sc r els := by
  intro k; cases b
  · exact (monoAll k).evalIf _ _ _ _
  · exact (monoAll k).evalBlock _ _ _ _

theorem ref_if_branch (h : Refines x y) (before : List Branch) (cond : Expr) (later : List Branch) (els : Option (List Stmt))
    (n : Nat) (σ : State) (sc : List Addr) :
    evalIf n σ sc (before ++ .mk cond x :: later) els ≠ .timeout →
      ∃ m, evalIf m σ sc (before ++ .mk cond y :: later) els = evalIf n σ sc (before ++ .mk cond x :: later) els := by
  induction before generalizing n σ with
  | nil =>
    cases n with
    | zero => intro hne; exact absurd (if_zero _ _ _ _) hne
    | succ n =>
      simp only [List.nil_append, evalIf_cons]
      intro hne
      obtain ⟨m, hm⟩ := reaches_bind (g := fun m => evalToBool m σ sc c!"condition" cond)
        (k' := fun b σ1 m => if b then evalBlock m σ1 sc [] y else evalIf m σ1 sc later els)
        (fun k => (monoAll k).evalToBool _ _ _ _) (fun b σ1 => mono_if_k sc y later els b σ1) hne (fun _ => ⟨n, rfl⟩)
        (fun b σ1 _ hk => by
          cases b with
          | false => exact ⟨n, rfl⟩
          | true => exact ref_block h n σ1 sc [] hk)
      exact ⟨m + 1, by rw [evalIf_cons]; exact hm⟩
  | cons br before ih =>
    cases n with
    | zero => intro hne; exact absurd (if_zero _ _ _ _) hne
    | succ n =>
      obtain ⟨c, body⟩ := br
      simp only [List.cons_append, evalIf_cons]
      intro hne
      obtain ⟨m, hm⟩ := reaches_bind (g := fun m => evalToBool m σ sc c!"condition" c)
        (k' := fun b σ1 m => if b then evalBlock m σ1 sc [] body else evalIf m σ1 sc (before ++ .mk cond y :: later) els)
        (fun k => (monoAll k).evalToBool _ _ _ _) (fun b σ1 => mono_if_k sc body _ els b σ1) hne (fun _ => ⟨n, rfl⟩)
        (fun b σ1 _ hk => by
          cases b with
          | false => exact ih n σ1 hk
          | true => exact ⟨n, rfl⟩)
      exact ⟨m + 1, by rw [evalIf_cons]; exact hm⟩

theorem ref_if_else (h : Refines x y) (bs : List Branch) (n : Nat) (σ : State) (sc : List Addr) :
    evalIf n σ sc bs (some x) ≠ .timeout → ∃ m, evalIf m σ sc bs (some y) = evalIf n σ sc bs (some x) := by
  induction bs generalizing n σ with
  | nil =>
    cases n with
    | zero => intro hne; exact absurd (if_zero _ _ _ _) hne
    | succ n =>
      rw [evalIf_else]
      intro hne
      obtain ⟨m, hm⟩ := ref_block h n σ sc [] hne
      exact ⟨m + 1, by rw [evalIf_else]; exact hm⟩
  | cons br bs ih =>
    cases n with
    | zero => intro hne; exact absurd (if_zero _ _ _ _) hne
    | succ n =>
      obtain ⟨c, body⟩ := br
      simp only [evalIf_cons]
      intro hne
      obtain ⟨m, hm⟩ := reaches_bind (g := fun m => evalToBool m σ sc c!"condition" c)
        (k' := fun b σ1 m => if b then evalBlock m σ1 sc [] body else evalIf m σ1 sc bs (some y))
        (fun k => (monoAll k).evalToBool _ _ _ _) (fun b σ1 => mono_if_k sc body _ _ b σ1) hne (fun _ => ⟨n, rfl⟩)
        (fun b σ1 _ hk => by
          cases b with
          | false => exact ih n σ1 hk
          | true => exact ⟨n, rfl⟩)
      exact ⟨m + 1, by rw [evalIf_cons]; exact hm⟩

def whileK (sc : List Addr) (cond : Expr) (b : List Stmt) (esc : Escape) (σ2 : State) (m : Nat) : Res Escape :=
  match esc with
  | .none => evalWhile m σ2 sc cond b
  | .brk _ => .ok .none σ2
  | .cont _ => evalWhile m σ2 sc cond b
  | .ret v l => .ok (.ret v l) σ2

theorem mono_whileK (sc : List Addr) (cond : Expr) (b : List Stmt) (esc : Escape) (σ2 : State) : Mono (whileK sc cond b esc σ2) := by
  intro k; cases esc <;> first | exact (monoAll k).evalWhile _ _ _ _ | exact Res.Le.refl _

theorem while_succ' (n : Nat) (σ : State) (sc : List Addr) (cond : Expr) (stmts : List Stmt) :
    evalWhile (n + 1) σ sc cond stmts =
      (evalToBool n σ sc c!"condition" cond).bind fun b σ1 =>
        if !b then .ok .none σ1 else (evalBlock n σ1 sc [] stmts).bind fun esc σ2 => whileK sc cond stmts esc σ2 n := by
  rw [evalWhile_succ]; rfl

theorem ref_while (h : Refines x y) (cond : Expr) (n : Nat) (σ : State) (sc : List Addr) :
    evalWhile n σ sc cond x ≠ .timeout → ∃ m, evalWhile m σ sc cond y = evalWhile n σ sc cond x := by
  induction n generalizing σ with
  | zero => intro hne; exact absurd (while_zero _ _ _ _) hne
  | succ n ih =>
    rw [while_succ']
    intro hne
    obtain ⟨m, hm⟩ := reaches_bind (g := fun m => evalToBool m σ sc c!"condition" cond)
      (k' := fun b σ1 m => if !b then .ok .none σ1 else (evalBlock m σ1 sc [] y).bind fun esc σ2 => whileK sc cond y esc σ2 m)
      (fun k => (monoAll k).evalToBool _ _ _ _)
      (fun b σ1 k => by
        cases b
        · exact Res.Le.refl _
        · exact Res.Le.bind ((monoAll k).evalBlock _ _ _ _) (fun esc σ2 => mono_whileK sc cond y esc σ2 k))
      hne (fun _ => ⟨n, rfl⟩)
      (fun b σ1 _ hk => by
        cases b with
        | false => exact ⟨0, rfl⟩
        | true =>
          exact reaches_bind (g := fun m => evalBlock m σ1 sc [] y) (k' := fun esc σ2 m => whileK sc cond y esc σ2 m)
            (mono_block _ _ _ _) (fun esc σ2 => mono_whileK sc cond y esc σ2) hk (fun hr => ref_block h n σ1 sc [] hr)
            (fun esc σ2 _ hk2 => by
              cases esc with
              | none => exact ih σ2 hk2
              | brk l => exact ⟨0, rfl⟩
              | cont l => exact ih σ2 hk2
              | ret v l => exact ⟨0, rfl⟩))
    exact ⟨m + 1, by rw [while_succ']; exact hm⟩

def forK (sc : List Addr) (lhs : Expr) (r : List (SVal × SVal)) (b : List Stmt) (esc : Escape) (σ2 : State) (m : Nat) : Res Escape :=
  match esc with
  | .none => evalFor m σ2 sc lhs r b
  | .brk _ => .ok .none σ2
  | .cont _ => evalFor m σ2 sc lhs r b
  | .ret v l => .ok (.ret v l) σ2

theorem mono_forK (sc : List Addr) (lhs : Expr) (r : List (SVal × SVal)) (b : List Stmt) (esc : Escape) (σ2 : State) :
    Mono (forK sc lhs r b esc σ2) := by
  intro k; cases esc <;> first | exact (monoAll k).evalFor _ _ _ _ _ | exact Res.Le.refl _

theorem for_cons'' (n : Nat) (σ : State) (sc : List Addr) (lhs : Expr) (k v : SVal) (r : List (SVal × SVal)) (stmts : List Stmt) :
    evalFor (n + 1) σ sc lhs ((k, v) :: r) stmts =
      (evalBlock n (σ.alloc (.list [k, v])).2 sc [(lhs, SVal.plain (.list (σ.alloc (.list [k, v])).1))] stmts).bind fun esc σ2 =>
        forK sc lhs r stmts esc σ2 n := by
  rw [evalFor_cons]; rfl

theorem ref_for (h : Refines x y) (lhs : Expr) (n : Nat) (σ : State) (sc : List Addr) (ps : List (SVal × SVal)) :
    evalFor n σ sc lhs ps x ≠ .timeout → ∃ m, evalFor m σ sc lhs ps y = evalFor n σ sc lhs ps x := by
  induction n generalizing σ ps with
  | zero => intro hne; exact absurd (for_zero _ _ _ _ _) hne
  | succ n ih =>
    cases ps with
    | nil => intro _; exact ⟨1, by rw [evalFor_nil, evalFor_nil]⟩
    | cons kv r =>
      obtain ⟨k, v⟩ := kv
      rw [for_cons'']
      intro hne
      obtain ⟨m, hm⟩ := reaches_bind
        (g := fun m => evalBlock m (σ.alloc (.list [k, v])).2 sc [(lhs, SVal.plain (.list (σ.alloc (.list [k, v])).1))] y)
        (k' := fun esc σ2 m => forK sc lhs r y esc σ2 m)
        (mono_block _ _ _ _) (fun esc σ2 => mono_forK sc lhs r y esc σ2) hne (fun hr => ref_block h n _ sc _ hr)
        (fun esc σ2 _ hk2 => by
          cases esc with
          | none => exact ih σ2 r hk2
          | brk l => exact ⟨0, rfl⟩
          | cont l => exact ih σ2 r hk2
          | ret v l => exact ⟨0, rfl⟩)
      exact ⟨m + 1, by rw [for_cons'']; exact hm⟩

theorem ref_for_enter (h : Refines x y) (lhs iter : Expr) (n : Nat) (σ : State) (sc : List Addr)
    (hne : ((evalExpr n σ sc iter).bind fun it σ1 => forEnterK sc lhs iter x it σ1 n) ≠ .timeout) :
    ∃ m, ((evalExpr m σ sc iter).bind fun it σ1 => forEnterK sc lhs iter y it σ1 m) =
      (evalExpr n σ sc iter).bind fun it σ1 => forEnterK sc lhs iter x it σ1 n :=
  reaches_bind (g := fun m => evalExpr m σ sc iter) (k' := fun it σ1 m => forEnterK sc lhs iter y it σ1 m)
    (fun k => (monoAll k).evalExpr _ _ _)
    (fun it σ1 k => by
      unfold forEnterK
      split <;> first | exact Res.Le.refl _ | exact (monoAll k).evalFor _ _ _ _ _)
    hne (fun _ => ⟨n, rfl⟩)
    (fun it σ1 _ hk => by
      unfold forEnterK at hk ⊢
      split at hk <;> first | exact ⟨0, rfl⟩ | exact ref_for h lhs n σ1 sc _ hk)

end upto

theorem refines_ctx (K : SCtx) {s t : List Stmt} (h : Refines s t) : Refines (K.plug s) (K.plug t) := by
  induction K with
  | hole => exact h
  | seq pre c post ih =>
    simp only [SCtx.plug, List.append_assoc]
    exact ref_prefix (ref_suffix ih post) pre
  | block c ih => exact ref_stmt (evalStmt_block · · · _) (evalStmt_block · · · _) (ref_block ih · · · [])
  | ifBranch before cond c later els ih =>
    exact ref_stmt (evalStmt_if · · · _ _) (evalStmt_if · · · _ _) (ref_if_branch ih before cond later els)
  | ifElse bs c ih => exact ref_stmt (evalStmt_if · · · _ _) (evalStmt_if · · · _ _) (ref_if_else ih bs)
  | whileBody cond c ih => exact ref_stmt (evalStmt_while · · · _ _) (evalStmt_while · · · _ _) (ref_while ih cond)
  | forBody lhs iter c ih => exact ref_stmt (stmt_for · · · _ _ _) (stmt_for · · · _ _ _) (ref_for_enter ih lhs iter)

theorem uptoEq_ctx (K : SCtx) {s t : List Stmt} (h : UptoEq s t) : UptoEq (K.plug s) (K.plug t) :=
  uptoEq_iff.2 ⟨refines_ctx K (uptoEq_iff.1 h).1, refines_ctx K (uptoEq_iff.1 h).2⟩

end Seed.C01
