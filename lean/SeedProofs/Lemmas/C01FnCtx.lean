/-
  C01FnCtx.lean — congruence through FUNCTION BODIES, part 1: definitions and the state layer.

  `C01Ctx.lean` proves that statement lists that are equivalent up to fuel are interchangeable in every context made of
  sequences, blocks, `if` / `while` / `for` bodies.  A hole in the body of a function (`fn f() { □ }`, `fn() { □ }`)
  is different: the body is stored in the heap when the `fn` is evaluated, so the two programs run in DIFFERENT states
  and the results cannot be equal — they are equal up to the bodies of the stored functions.  This file sets up the
  two-run simulation:

  * `RStmts`, `RExpr`, … : "the same syntax, except that at any number of statement-list positions (at any depth, also
    inside function literals and `fn` statements) the left program has `x` where the right one has `y`, with
    `Refines x y`" (`x`, `y` may differ from hole to hole).  Every syntactic position is covered, patterns included
    (parameter lists, the left-hand sides of `:=`, `=`, `op=` and of `for`).
  * `wb β σ` : the state `σ` with the code (parameter patterns and body) of the function cell at address `a` replaced by
    `β a`; `Good β σ` : every replaced code is related (`RExprs` / `RStmts`) to the original.  ("The two heaps are
    identical except for related function bodies" is `σ₂ = wb β σ₁ ∧ Good β σ₁`: same addresses, same sizes, same
    lists / objects / scopes / output.)
  * `Ev r g` : the left run has result `r`; if that is not a time-out, the right run `g` (a function of the fuel) yields,
    from some fuel on, the result `wbRes β' r` for some `β'` with `Good β' …` — the same value / error, in a state that
    is again identical up to related function bodies.  Its congruence rules (`Ev.bind`, …) need no monotonicity side
    conditions.
  * the primitives (`==`, rendering, binary operations, builtins, scope walks, the name binder) do not look at function
    bodies: they commute with `wb β` at the same fuel.
-/
import SeedProofs.Lemmas.C01Ctx
import SeedProofs.Lemmas.C04EquivDefs
namespace Seed.C01
open Seed Seed.C07 Seed.ScopeL
open Seed.Eqv (allocS alloc_pair)

mutual
inductive RRaw : RawExpr → RawExpr → Prop
  | null : RRaw .Null .Null
  | bool (b : Bool) : RRaw (.Bool b) (.Bool b)
  | int (n : Int) : RRaw (.Int n) (.Int n)
  | str (s : List Char) (sl : Option (List (Nat × Nat))) : RRaw (.Str s sl) (.Str s sl)
  | var (x : List Char) : RRaw (.Var x) (.Var x)
  | binop (op : BinaryOp) (l : Loc) {a a' b b' : Expr} : RExpr a a' → RExpr b b' →
      RRaw (.BinaryOp op l a b) (.BinaryOp op l a' b')
  | list {is is' : List ListItem} (c : Bool) : RItems is is' → RRaw (.List is c) (.List is' c)
  | index {e e' i i' : Expr} : RExpr e e' → RExpr i i' → RRaw (.Index e i) (.Index e' i')
  | rangeIndex {e e' : Expr} {a a' b b' : Option Expr} : RExpr e e' → ROpt a a' → ROpt b b' →
      RRaw (.RangeIndex e a b) (.RangeIndex e' a' b')
  | range {a a' b b' : Expr} : RExpr a a' → RExpr b b' → RRaw (.Range a b) (.Range a' b')
  | object {ps ps' : List PropItem} : RProps ps ps' → RRaw (.Object ps) (.Object ps')
  | prop {e e' : Expr} (n : List Char) (t : Bool) : RExpr e e' → RRaw (.Prop e n t) (.Prop e' n t)
  | func {args args' : List Expr} (c : Bool) {ss ss' : List Stmt} : RExprs args args' → RStmts ss ss' →
      RRaw (.Func args c ss) (.Func args' c ss')
  | call {f f' : Expr} {as as' : List ListItem} : RExpr f f' → RItems as as' → RRaw (.Call f as) (.Call f' as')
inductive RExpr : Expr → Expr → Prop
  | mk {r r' : RawExpr} (l : Loc) : RRaw r r' → RExpr (.mk r l) (.mk r' l)
inductive RExprs : List Expr → List Expr → Prop
  | nil : RExprs [] []
  | cons {e e' : Expr} {r r' : List Expr} : RExpr e e' → RExprs r r' → RExprs (e :: r) (e' :: r')
inductive ROpt : Option Expr → Option Expr → Prop
  | none : ROpt none none
  | some {e e' : Expr} : RExpr e e' → ROpt (some e) (some e')
inductive RItems : List ListItem → List ListItem → Prop
  | nil : RItems [] []
  | cons {e e' : Expr} (s : Bool) {r r' : List ListItem} : RExpr e e' → RItems r r' → RItems (.mk e s :: r) (.mk e' s :: r')
inductive RProps : List PropItem → List PropItem → Prop
  | nil : RProps [] []
  | pair {n n' v v' : Expr} {r r' : List PropItem} : RExpr n n' → RExpr v v' → RProps r r' →
      RProps (.Pair n v :: r) (.Pair n' v' :: r')
  | single {e e' : Expr} (s c : Bool) {r r' : List PropItem} : RExpr e e' → RProps r r' →
      RProps (.Single e s c :: r) (.Single e' s c :: r')
inductive RStmt : Stmt → Stmt → Prop
  | block {b b' : List Stmt} : RStmts b b' → RStmt (.Block b) (.Block b')
  | expr {e e' : Expr} : RExpr e e' → RStmt (.Expr e) (.Expr e')
  | declare {l l' r r' : Expr} : RExpr l l' → RExpr r r' → RStmt (.Declare l r) (.Declare l' r')
  | assign {l l' r r' : Expr} : RExpr l l' → RExpr r r' → RStmt (.Assign l r) (.Assign l' r')
  | opAssign (op : BinaryOp) (ol : Loc) {l l' r r' : Expr} : RExpr l l' → RExpr r r' →
      RStmt (.OpAssign l op ol r) (.OpAssign l' op ol r')
  | ifs {bs bs' : List Branch} {els els' : Option (List Stmt)} : RBranches bs bs' → ROptStmts els els' →
      RStmt (.If bs els) (.If bs' els')
  | whileS {c c' : Expr} {ss ss' : List Stmt} : RExpr c c' → RStmts ss ss' → RStmt (.While c ss) (.While c' ss')
  | forS {l l' i i' : Expr} {ss ss' : List Stmt} : RExpr l l' → RExpr i i' → RStmts ss ss' →
      RStmt (.For l i ss) (.For l' i' ss')
  | brk (l : Loc) : RStmt (.Break l) (.Break l)
  | cont (l : Loc) : RStmt (.Continue l) (.Continue l)
  | func (name : List Char) (nl : Loc) {args args' : List Expr} (c : Bool) {ss ss' : List Stmt} : RExprs args args' →
      RStmts ss ss' → RStmt (.Func name nl args c ss) (.Func name nl args' c ss')
  | ret (l : Loc) {e e' : Expr} : RExpr e e' → RStmt (.Return l e) (.Return l e')
/-- statement lists: related statement by statement, or — the hole — any `x`, `y` with `Refines x y` -/
inductive RStmts : List Stmt → List Stmt → Prop
  | nil : RStmts [] []
  | cons {s s' : Stmt} {r r' : List Stmt} : RStmt s s' → RStmts r r' → RStmts (s :: r) (s' :: r')
  | hole {x y : List Stmt} : Refines x y → RStmts x y
inductive ROptStmts : Option (List Stmt) → Option (List Stmt) → Prop
  | none : ROptStmts none none
  | some {ss ss' : List Stmt} : RStmts ss ss' → ROptStmts (some ss) (some ss')
inductive RBranches : List Branch → List Branch → Prop
  | nil : RBranches [] []
  | cons {c c' : Expr} {ss ss' : List Stmt} {r r' : List Branch} : RExpr c c' → RStmts ss ss' → RBranches r r' →
      RBranches (.mk c ss :: r) (.mk c' ss' :: r')
end

mutual
theorem RRaw.refl : (r : RawExpr) → RRaw r r
  | .Null => .null
  | .Bool b => .bool b
  | .Int n => .int n
  | .Str s sl => .str s sl
  | .Var x => .var x
  | .BinaryOp op l a b => .binop op l (RExpr.refl a) (RExpr.refl b)
  | .List is c => .list c (RItems.refl is)
  | .Index e i => .index (RExpr.refl e) (RExpr.refl i)
  | .RangeIndex e a b => .rangeIndex (RExpr.refl e) (ROpt.refl a) (ROpt.refl b)
  | .Range a b => .range (RExpr.refl a) (RExpr.refl b)
  | .Object ps => .object (RProps.refl ps)
  | .Prop e n t => .prop n t (RExpr.refl e)
  | .Func args c ss => .func c (RExprs.refl args) (RStmts.refl ss)
  | .Call f as => .call (RExpr.refl f) (RItems.refl as)
theorem RExpr.refl : (e : Expr) → RExpr e e
  | .mk r l => .mk l (RRaw.refl r)
theorem RExprs.refl : (l : List Expr) → RExprs l l
  | [] => .nil
  | e :: r => .cons (RExpr.refl e) (RExprs.refl r)
theorem ROpt.refl : (e : Option Expr) → ROpt e e
  | none => .none
  | some e => .some (RExpr.refl e)
theorem RItems.refl : (l : List ListItem) → RItems l l
  | [] => .nil
  | .mk e s :: r => .cons s (RExpr.refl e) (RItems.refl r)
theorem RProps.refl : (l : List PropItem) → RProps l l
  | [] => .nil
  | .Pair n v :: r => .pair (RExpr.refl n) (RExpr.refl v) (RProps.refl r)
  | .Single e s c :: r => .single s c (RExpr.refl e) (RProps.refl r)
theorem RStmt.refl : (s : Stmt) → RStmt s s
  | .Block b => .block (RStmts.refl b)
  | .Expr e => .expr (RExpr.refl e)
  | .Declare l r => .declare (RExpr.refl l) (RExpr.refl r)
  | .Assign l r => .assign (RExpr.refl l) (RExpr.refl r)
  | .OpAssign l op ol r => .opAssign op ol (RExpr.refl l) (RExpr.refl r)
  | .If bs els => .ifs (RBranches.refl bs) (ROptStmts.refl els)
  | .While c ss => .whileS (RExpr.refl c) (RStmts.refl ss)
  | .For l i ss => .forS (RExpr.refl l) (RExpr.refl i) (RStmts.refl ss)
  | .Break l => .brk l
  | .Continue l => .cont l
  | .Func name nl args c ss => .func name nl c (RExprs.refl args) (RStmts.refl ss)
  | .Return l e => .ret l (RExpr.refl e)
theorem RStmts.refl : (l : List Stmt) → RStmts l l
  | [] => .nil
  | s :: r => .cons (RStmt.refl s) (RStmts.refl r)
theorem ROptStmts.refl : (e : Option (List Stmt)) → ROptStmts e e
  | none => .none
  | some ss => .some (RStmts.refl ss)
theorem RBranches.refl : (l : List Branch) → RBranches l l
  | [] => .nil
  | .mk c ss :: r => .cons (RExpr.refl c) (RStmts.refl ss) (RBranches.refl r)
end

attribute [refl] RExpr.refl ROpt.refl RItems.refl RProps.refl RStmts.refl

abbrev Code := List Expr × List Stmt
abbrev Repl := Addr → Code

def setCode (c : Code) (fr : FuncRec) : FuncRec := ⟨fr.name, c.1, fr.collect, c.2, fr.closure⟩

def wbCell (β : Repl) (a : Addr) : Cell → Cell
  | .func fr => .func (setCode (β a) fr)
  | .list xs => .list xs
  | .obj m => .obj m
  | .scope m => .scope m

def wb (β : Repl) (σ : State) : State := ⟨σ.heap.mapIdx (wbCell β), σ.out⟩

def Good (β : Repl) (σ : State) : Prop :=
  ∀ a fr, σ.getFunc a = some fr → RExprs fr.args (β a).1 ∧ RStmts fr.stmts (β a).2

def wbRes {α} (β : Repl) : Res α → Res α
  | .ok a σ => .ok a (wb β σ)
  | .err e σ => .err e (wb β σ)
  | .crash w σ => .crash w (wb β σ)
  | .timeout => .timeout

def GoodRes {α} (β : Repl) : Res α → Prop
  | .ok _ σ => Good β σ
  | _ => True

@[simp] theorem size_wb (β : Repl) (σ : State) : (wb β σ).heap.size = σ.heap.size := by simp [wb]
@[simp] theorem out_wb (β : Repl) (σ : State) : (wb β σ).out = σ.out := rfl

theorem heap_wb (β : Repl) (σ : State) (a : Addr) : (wb β σ).heap[a]? = (σ.heap[a]?).map (wbCell β a) := by
  simp [wb]

@[simp] theorem getList_wb (β : Repl) (σ : State) (a : Addr) : (wb β σ).getList a = σ.getList a := by
  unfold State.getList; rw [heap_wb]
  cases σ.heap[a]? with
  | none => rfl
  | some c => cases c <;> rfl

@[simp] theorem getObj_wb (β : Repl) (σ : State) (a : Addr) : (wb β σ).getObj a = σ.getObj a := by
  unfold State.getObj; rw [heap_wb]
  cases σ.heap[a]? with
  | none => rfl
  | some c => cases c <;> rfl

@[simp] theorem getScope_wb (β : Repl) (σ : State) (a : Addr) : (wb β σ).getScope a = σ.getScope a := by
  unfold State.getScope; rw [heap_wb]
  cases σ.heap[a]? with
  | none => rfl
  | some c => cases c <;> rfl

theorem getFunc_wb (β : Repl) (σ : State) (a : Addr) : (wb β σ).getFunc a = (σ.getFunc a).map (setCode (β a)) := by
  unfold State.getFunc; rw [heap_wb]
  cases σ.heap[a]? with
  | none => rfl
  | some c => cases c <;> rfl

theorem allocS_wb (β : Repl) (σ : State) (c : Cell) :
    allocS (wb β σ) (wbCell β σ.heap.size c) = wb β (allocS σ c) := by
  simp [allocS, State.alloc, wb, Array.mapIdx_push]

@[simp] theorem allocS_wb_list (β : Repl) (σ : State) (xs : List SVal) :
    allocS (wb β σ) (.list xs) = wb β (allocS σ (.list xs)) := allocS_wb β σ (.list xs)
@[simp] theorem allocS_wb_obj (β : Repl) (σ : State) (m : ObjMap) :
    allocS (wb β σ) (.obj m) = wb β (allocS σ (.obj m)) := allocS_wb β σ (.obj m)
@[simp] theorem allocS_wb_scope (β : Repl) (σ : State) (m : ScopeMap) :
    allocS (wb β σ) (.scope m) = wb β (allocS σ (.scope m)) := allocS_wb β σ (.scope m)

theorem set_wb (β : Repl) (σ : State) (a : Addr) (c : Cell) :
    (wb β σ).set a (wbCell β a c) = wb β (σ.set a c) := by
  simp [State.set, wb, Array.mapIdx_setIfInBounds]

@[simp] theorem set_wb_list (β : Repl) (σ : State) (a : Addr) (xs : List SVal) :
    (wb β σ).set a (.list xs) = wb β (σ.set a (.list xs)) := set_wb β σ a (.list xs)
@[simp] theorem set_wb_obj (β : Repl) (σ : State) (a : Addr) (m : ObjMap) :
    (wb β σ).set a (.obj m) = wb β (σ.set a (.obj m)) := set_wb β σ a (.obj m)
@[simp] theorem set_wb_scope (β : Repl) (σ : State) (a : Addr) (m : ScopeMap) :
    (wb β σ).set a (.scope m) = wb β (σ.set a (.scope m)) := set_wb β σ a (.scope m)

@[simp] theorem print_wb (β : Repl) (σ : State) (l : List Char) : (wb β σ).print l = wb β (σ.print l) := rfl

def upd (β : Repl) (k : Addr) (b : Code) : Repl := fun a => if a = k then b else β a

/-- allocating a function cell: the new address gets its own replacement body -/
theorem allocS_wb_func (β : Repl) (σ : State) (fr : FuncRec) (b : Code) :
    allocS (wb β σ) (.func (setCode b fr)) = wb (upd β σ.heap.size b) (allocS σ (.func fr)) := by
  have h1 : σ.heap.mapIdx (wbCell (upd β σ.heap.size b)) = σ.heap.mapIdx (wbCell β) := by
    apply Array.ext_getElem?
    intro i
    simp only [Array.getElem?_mapIdx]
    cases hi : σ.heap[i]? with
    | none => rfl
    | some c =>
      have hlt : i < σ.heap.size := (Array.getElem?_eq_some_iff.mp hi).1
      have hne : i ≠ σ.heap.size := Nat.ne_of_lt hlt
      cases c <;> simp [wbCell, upd, hne]
  simp only [allocS, State.alloc, wb, Array.mapIdx_push, h1]
  simp [wbCell, upd]

theorem good_init (β : Repl) : Good β State.init := FuncsAll.init

theorem good_allocS_list {β : Repl} {σ : State} (xs : List SVal) (h : Good β σ) : Good β (allocS σ (.list xs)) :=
  FuncsAll.alloc h _ (fun _ e => by cases e)
theorem good_allocS_obj {β : Repl} {σ : State} (m : ObjMap) (h : Good β σ) : Good β (allocS σ (.obj m)) :=
  FuncsAll.alloc h _ (fun _ e => by cases e)
theorem good_allocS_scope {β : Repl} {σ : State} (m : ScopeMap) (h : Good β σ) : Good β (allocS σ (.scope m)) :=
  FuncsAll.alloc h _ (fun _ e => by cases e)

/-- the old function cells keep their replacement code, the new one gets `b` -/
theorem good_allocS_func {β : Repl} {σ : State} (fr : FuncRec) {b : Code} (h : Good β σ)
    (hargs : RExprs fr.args b.1) (hb : RStmts fr.stmts b.2) : Good (upd β σ.heap.size b) (allocS σ (.func fr)) := by
  have hold : Good (upd β σ.heap.size b) σ :=
    FuncsAll.mono h (fun a _ hlt hq => by simpa [upd, Nat.ne_of_lt hlt] using hq)
  exact FuncsAll.alloc hold _ (fun _ e => by cases e; simpa [upd] using And.intro hargs hb)

theorem good_set_list {β : Repl} {σ : State} (a : Addr) (xs : List SVal) (h : Good β σ) : Good β (σ.set a (.list xs)) :=
  FuncsAll.set h a _ (fun _ e => by cases e)
theorem good_set_obj {β : Repl} {σ : State} (a : Addr) (m : ObjMap) (h : Good β σ) : Good β (σ.set a (.obj m)) :=
  FuncsAll.set h a _ (fun _ e => by cases e)
theorem good_set_scope {β : Repl} {σ : State} (a : Addr) (m : ScopeMap) (h : Good β σ) : Good β (σ.set a (.scope m)) :=
  FuncsAll.set h a _ (fun _ e => by cases e)
theorem good_print {β : Repl} {σ : State} (l : List Char) (h : Good β σ) : Good β (σ.print l) := h

/-- `r` is the result of the left run; unless it is a time-out, the right run `g` yields from some fuel on the same
    result in a state that differs only in (related) function bodies -/
def Ev {α} (r : Res α) (g : Nat → Res α) : Prop :=
  r ≠ .timeout → ∃ β, GoodRes β r ∧ ∃ m₀, ∀ m, m₀ ≤ m → g m = wbRes β r

namespace Ev
variable {α γ : Type}

theorem timeout {g : Nat → Res α} : Ev (.timeout : Res α) g := fun h => absurd rfl h

theorem of_eq {β : Repl} {r : Res α} {g : Nat → Res α} (h : ∀ m, g m = wbRes β r) (hg : GoodRes β r) : Ev r g :=
  fun _ => ⟨β, hg, 0, fun m _ => h m⟩

theorem ok {β : Repl} {a : α} {σ : State} (hg : Good β σ) : Ev (.ok a σ) (fun _ => .ok a (wb β σ)) :=
  of_eq (β := β) (fun _ => rfl) hg

theorem of_exact {β : Repl} {f : Nat → State → Res α} {σ : State} (n : Nat)
    (hmono : ∀ k, Res.Le (f k σ) (f (k + 1) σ)) (heq : ∀ m, f m (wb β σ) = wbRes β (f m σ))
    (hg : ∀ m, GoodRes β (f m σ)) : Ev (f n σ) (fun m => f m (wb β σ)) := by
  intro hne
  refine ⟨β, hg n, n, fun m hm => ?_⟩
  show f m (wb β σ) = _
  rw [heq m, fuel_stable (f := fun k => f k σ) hmono rfl hne hm]

theorem shift {r : Res α} {g : Nat → Res α} (h : Ev r (fun m => g (m + 1))) : Ev r g := by
  intro hne
  obtain ⟨β, hg, m₀, hm⟩ := h hne
  refine ⟨β, hg, m₀ + 1, fun m hmm => ?_⟩
  obtain ⟨k, rfl⟩ : ∃ k, m = k + 1 := ⟨m - 1, by omega⟩
  exact hm k (by omega)

theorem bind {r : Res α} {g : Nat → Res α} {k : α → State → Res γ} {k' : Nat → α → State → Res γ}
    (h : Ev r g) (hk : ∀ β a σ, Good β σ → Ev (k a σ) (fun m => k' m a (wb β σ))) :
    Ev (r.bind k) (fun m => (g m).bind (k' m)) := by
  intro hne
  cases r with
  | timeout => exact absurd rfl hne
  | ok a σ =>
    obtain ⟨β, hg, m₀, hm⟩ := h (by intro h; cases h)
    obtain ⟨β', hg', m₁, hm'⟩ := hk β a σ hg hne
    refine ⟨β', hg', max m₀ m₁, fun m hmm => ?_⟩
    show (g m).bind (k' m) = _
    rw [hm m (by omega)]
    exact hm' m (by omega)
  | err e σ =>
    obtain ⟨β, _, m₀, hm⟩ := h (by intro h; cases h)
    exact ⟨β, trivial, m₀, fun m hmm => by dsimp only; rw [hm m hmm]; rfl⟩
  | crash w σ =>
    obtain ⟨β, _, m₀, hm⟩ := h (by intro h; cases h)
    exact ⟨β, trivial, m₀, fun m hmm => by dsimp only; rw [hm m hmm]; rfl⟩

theorem map {r : Res α} {g : Nat → Res α} (f : α → γ) (h : Ev r g) : Ev (r.map f) (fun m => (g m).map f) := by
  intro hne
  cases r with
  | timeout => exact absurd rfl hne
  | ok a σ =>
    obtain ⟨β, hg, m₀, hm⟩ := h (by intro h; cases h)
    exact ⟨β, hg, m₀, fun m hmm => by dsimp only; rw [hm m hmm]; rfl⟩
  | err e σ =>
    obtain ⟨β, _, m₀, hm⟩ := h (by intro h; cases h)
    exact ⟨β, trivial, m₀, fun m hmm => by dsimp only; rw [hm m hmm]; rfl⟩
  | crash w σ =>
    obtain ⟨β, _, m₀, hm⟩ := h (by intro h; cases h)
    exact ⟨β, trivial, m₀, fun m hmm => by dsimp only; rw [hm m hmm]; rfl⟩

theorem mapErr {r : Res α} {g : Nat → Res α} (f : Err → Err) (h : Ev r g) : Ev (r.mapErr f) (fun m => (g m).mapErr f) := by
  intro hne
  cases r with
  | timeout => exact absurd rfl hne
  | ok a σ =>
    obtain ⟨β, hg, m₀, hm⟩ := h (by intro h; cases h)
    exact ⟨β, hg, m₀, fun m hmm => by dsimp only; rw [hm m hmm]; rfl⟩
  | err e σ =>
    obtain ⟨β, _, m₀, hm⟩ := h (by intro h; cases h)
    exact ⟨β, trivial, m₀, fun m hmm => by dsimp only; rw [hm m hmm]; rfl⟩
  | crash w σ =>
    obtain ⟨β, _, m₀, hm⟩ := h (by intro h; cases h)
    exact ⟨β, trivial, m₀, fun m hmm => by dsimp only; rw [hm m hmm]; rfl⟩

theorem ite {c : Prop} [Decidable c] {a b : Res α} {a' b' : Nat → Res α} (ht : c → Ev a a') (he : ¬c → Ev b b') :
    Ev (if c then a else b) (fun m => if c then a' m else b' m) := by
  by_cases h : c
  · simp only [if_pos h]; exact ht h
  · simp only [if_neg h]; exact he h

end Ev

@[simp] theorem eqVal_wb (β : Repl) (n : Nat) (σ : State) (a b : Val) : eqVal n (wb β σ) a b = eqVal n σ a b :=
  (eq_map (getList_wb β) (getObj_wb β) n).1 σ a b

@[simp] theorem render_wb (β : Repl) (n : Nat) (σ : State) (held : List Addr) (v : Val) :
    render n (wb β σ) held v = render n σ held v :=
  (render_map (getList_wb β) (getObj_wb β) (getFunc_wb β) (fun _ _ => rfl) n).1 σ held v

@[simp] theorem toPairs_wb (β : Repl) (σ : State) (v : Val) : toPairs (wb β σ) v = toPairs σ v :=
  toPairs_map (getList_wb β) (getObj_wb β) σ v

def Comm {α} (β : Repl) (r' r : Res α) : Prop := r' = wbRes β r ∧ GoodRes β r

theorem Comm.of_eq {α} {β : Repl} {r' r : Res α} (h : r' = wbRes β r) (hg : GoodRes β r) : Comm β r' r := ⟨h, hg⟩

theorem Comm.ite {α} {β : Repl} {c : Prop} [Decidable c] {a' b' a b : Res α} (h1 : Comm β a' a) (h2 : Comm β b' b) :
    Comm β (if c then a' else b') (if c then a else b) := by
  split <;> assumption

theorem arith_comm {β : Repl} (op : BinaryOp) (loc : Loc) (a b : Int) {σ : State} (hg : Good β σ) :
    Comm β (arith op loc a b (wb β σ)) (arith op loc a b σ) := by
  unfold arith
  dsimp only
  split <;> (repeat' with_reducible apply Comm.ite) <;> first | exact Comm.of_eq rfl hg | exact Comm.of_eq rfl trivial

theorem applyBinOp_comm {β : Repl} (n : Nat) (op : BinaryOp) (loc : Loc) (a b : Val) {σ : State} (hg : Good β σ) :
    Comm β (applyBinOp n (wb β σ) op loc a b) (applyBinOp n σ op loc a b) := by
  unfold applyBinOp
  cases op <;> simp only [eqVal_wb, getList_wb, alloc_pair, allocS_wb_list, size_wb] <;> (repeat' split) <;>
    first
      | exact arith_comm _ _ _ _ hg
      | exact Comm.of_eq rfl (by first | exact hg | trivial | exact good_allocS_list _ hg)

theorem callBuiltin_comm {β : Repl} (n : Nat) (f : BuiltinId) (this : Option SVal) (args : List SVal) {σ : State}
    (hg : Good β σ) : Comm β (callBuiltin n (wb β σ) f this args) (callBuiltin n σ f this args) := by
  unfold callBuiltin
  cases f <;> simp only [render_wb, print_wb] <;> (repeat' split) <;>
    exact Comm.of_eq rfl (by first | exact hg | trivial | exact good_print _ hg)

theorem opAssignValue_comm {β : Repl} (n : Nat) (cur rhs : SVal) (op : Option (BinaryOp × Loc)) {σ : State}
    (hg : Good β σ) : Comm β (opAssignValue n (wb β σ) cur rhs op) (opAssignValue n σ cur rhs op) := by
  unfold opAssignValue
  split
  · exact Comm.of_eq rfl hg
  · obtain ⟨h1, h2⟩ := applyBinOp_comm n ‹BinaryOp› ‹Loc› cur.v rhs.v hg
    rw [h1]
    cases hr : applyBinOp n σ ‹BinaryOp› ‹Loc› cur.v rhs.v <;> rw [hr] at h2 <;>
      exact Comm.of_eq rfl (by first | exact h2 | trivial)

/-! ### parameter validation looks only at the shape of the patterns -/

theorem RExprs.length_eq : ∀ {a a' : List Expr}, RExprs a a' → a'.length = a.length := by
  intro a
  induction a with
  | nil => intro a' h; cases h; rfl
  | cons e r ih => intro a' h; cases h with | cons he hr => simp [ih hr]

theorem RExprs.append : ∀ {a a' b b' : List Expr}, RExprs a a' → RExprs b b' → RExprs (a ++ b) (a' ++ b') := by
  intro a
  induction a with
  | nil => intro a' b b' h1 h2; cases h1; exact h2
  | cons e r ih => intro a' b b' h1 h2; cases h1 with | cons he hr => exact .cons he (ih hr h2)

theorem RExprs.reverse : ∀ {a a' : List Expr}, RExprs a a' → RExprs a.reverse a'.reverse := by
  intro a
  induction a with
  | nil => intro a' h; cases h; exact .nil
  | cons e r ih =>
    intro a' h
    cases h with
    | cons he hr =>
      simp only [List.reverse_cons]
      exact RExprs.append (ih hr) (.cons he .nil)

def QRel : Except Err (List Expr) → Except Err (List Expr) → Prop
  | .error e, .error e' => e = e'
  | .ok m, .ok m' => RExprs m m'
  | _, _ => False

theorem propsToQueue_rel (loc : Loc) : ∀ {ps ps' : List PropItem}, RProps ps ps' → ∀ {acc acc' : List Expr}, RExprs acc acc' →
    QRel (propsToQueue loc ps acc) (propsToQueue loc ps' acc') := by
  intro ps
  induction ps with
  | nil => intro ps' h acc acc' ha; cases h; simp only [propsToQueue, QRel]; exact ha.reverse
  | cons p r ih =>
    intro ps' h acc acc' ha
    cases h with
    | pair hn hv hr => simp only [propsToQueue]; exact ih hr (.cons hv ha)
    | single s c he hr =>
      simp only [propsToQueue]
      cases s with
      | true => simp [QRel]
      | false => simp only [Bool.false_eq_true, if_false]; exact ih hr (.cons he ha)

theorem itemsToQueue_rel (loc : Loc) : ∀ {is is' : List ListItem}, RItems is is' → ∀ {acc acc' : List Expr}, RExprs acc acc' →
    QRel (itemsToQueue loc is acc) (itemsToQueue loc is' acc') := by
  intro is
  induction is with
  | nil => intro is' h acc acc' ha; cases h; simp only [itemsToQueue, QRel]; exact ha.reverse
  | cons p r ih =>
    intro is' h acc acc' ha
    cases h with
    | cons s he hr =>
      simp only [itemsToQueue]
      cases s with
      | true => simp [QRel]
      | false => simp only [Bool.false_eq_true, if_false]; exact ih hr (.cons he ha)

theorem validateArgs_rel (n : Nat) : ∀ {q q' : List Expr} (names : List (List Char × Loc)), RExprs q q' →
    validateArgs n q' names = validateArgs n q names := by
  induction n with
  | zero => intro q q' names _; unfold validateArgs; rfl
  | succ n ih =>
    intro q q' names h
    cases h with
    | nil => rfl
    | cons he hr =>
      cases he with
      | mk loc hraw =>
        cases hraw with
        | var x =>
          unfold validateArgs
          dsimp only []
          split
          · rfl
          · split
            · rfl
            · exact ih _ hr
        | object hps =>
          rename_i ps ps'
          unfold validateArgs
          dsimp only []
          have := propsToQueue_rel loc hps .nil
          cases h1 : propsToQueue loc ps [] <;> cases h2 : propsToQueue loc ps' [] <;> rw [h1, h2] at this <;>
            simp only [QRel] at this
          · rw [this]
          · exact ih _ (RExprs.append hr this)
        | list c his =>
          rename_i is is'
          unfold validateArgs
          dsimp only []
          have := itemsToQueue_rel loc his .nil
          cases h1 : itemsToQueue loc is [] <;> cases h2 : itemsToQueue loc is' [] <;> rw [h1, h2] at this <;>
            simp only [QRel] at this
          · rw [this]
          · exact ih _ (RExprs.append hr this)
        | _ => unfold validateArgs; rfl

theorem validateArgsRes_comm {β : Repl} (n : Nat) {args args' : List Expr} (ha : RExprs args args') {σ : State} (hg : Good β σ) :
    Comm β (validateArgsRes n args' (wb β σ)) (validateArgsRes n args σ) := by
  unfold validateArgsRes
  rw [validateArgs_rel n [] ha]
  repeat' split
  all_goals exact Comm.of_eq rfl (by first | exact hg | trivial)

@[simp] theorem scopeGet_wb (β : Repl) (σ : State) (sc : List Addr) (k : List Char) :
    scopeGet (wb β σ) sc k = scopeGet σ sc k := by
  induction sc with
  | nil => rfl
  | cons a r ih => simp only [scopeGet, getScope_wb, ih]

theorem scopeAssign_wb (β : Repl) (σ : State) (sc : List Addr) (k : List Char) (v : SVal) :
    scopeAssign (wb β σ) sc k v = (scopeAssign σ sc k v).map (wb β) := by
  induction sc with
  | nil => rfl
  | cons a r ih =>
    simp only [scopeAssign, getScope_wb, ih]
    cases σ.getScope a with
    | none => rfl
    | some m =>
      simp only []
      cases scopeLookup k m <;> simp [set_wb_scope]

theorem good_scopeAssign {β : Repl} {σ σ' : State} {sc : List Addr} {k : List Char} {v : SVal} (hg : Good β σ)
    (h : scopeAssign σ sc k v = some σ') : Good β σ' :=
  FuncsAll.scopeAssign hg h

theorem bindNextName_comm {β : Repl} (n : Nat) (sc : List Addr) (names : List (List Char)) (name : List Char) (loc : Loc)
    (rhs : SVal) (op : Option (BinaryOp × Loc)) (decl : Bool) {σ : State} (hg : Good β σ) :
    Comm β (bindNextName n (wb β σ) sc names name loc rhs op decl) (bindNextName n σ sc names name loc rhs op decl) := by
  have hstore : ∀ (v : SVal) (σ1 : State), Good β σ1 →
      Comm β (match scopeAssign (wb β σ1) sc name v with
          | some σ2 => Res.ok (name :: names) σ2
          | none => errAt loc (Gen.Leaf.Undefined name) (wb β σ1))
        (match scopeAssign σ1 sc name v with
          | some σ2 => Res.ok (name :: names) σ2
          | none => errAt loc (Gen.Leaf.Undefined name) σ1) := by
    intro v σ1 hg1
    rw [scopeAssign_wb]
    cases hs : scopeAssign σ1 sc name v with
    | none => exact Comm.of_eq rfl trivial
    | some σ2 => exact Comm.of_eq rfl (good_scopeAssign hg1 hs)
  unfold bindNextName
  split
  · exact Comm.of_eq rfl hg
  · split
    · exact Comm.of_eq rfl trivial
    · cases decl with
      | true =>
        simp only [if_true]
        cases op with
        | some o => exact Comm.of_eq rfl trivial
        | none =>
          simp only []
          unfold scopeDeclare
          cases sc with
          | nil => exact Comm.of_eq rfl trivial
          | cons a r =>
            simp only [getScope_wb]
            cases σ.getScope a with
            | none => exact Comm.of_eq rfl trivial
            | some m =>
              simp only []
              cases scopeLookup name m with
              | some p => exact Comm.of_eq rfl trivial
              | none => simp only [set_wb_scope]; exact Comm.of_eq rfl (good_set_scope _ _ hg)
      | false =>
        simp only [Bool.false_eq_true, if_false]
        cases op with
        | none => exact hstore rhs σ hg
        | some o =>
          obtain ⟨ob, ol⟩ := o
          simp only [scopeGet_wb]
          cases scopeGet σ sc name with
          | none => exact Comm.of_eq rfl trivial
          | some cur =>
            simp only []
            obtain ⟨h1, h2⟩ := applyBinOp_comm n ob ol cur.v rhs.v hg
            rw [h1]
            cases hr : applyBinOp n σ ob ol cur.v rhs.v with
            | ok v σ1 => rw [hr] at h2; exact hstore (SVal.plain v) σ1 h2
            | err e σ1 => exact Comm.of_eq rfl trivial
            | crash w σ1 => exact Comm.of_eq rfl trivial
            | timeout => exact Comm.of_eq rfl trivial

theorem Ev.of_comm {α} {β : Repl} {f : Nat → State → Res α} {σ : State} (n : Nat)
    (hmono : ∀ k, Res.Le (f k σ) (f (k + 1) σ)) (h : ∀ m, Comm β (f m (wb β σ)) (f m σ)) :
    Ev (f n σ) (fun m => f m (wb β σ)) :=
  Ev.of_exact n hmono (fun m => (h m).1) (fun m => (h m).2)

theorem applyBinOp_ev {β : Repl} (n : Nat) (op : BinaryOp) (loc : Loc) (a b : Val) {σ : State} (hg : Good β σ) :
    Ev (applyBinOp n σ op loc a b) (fun m => applyBinOp m (wb β σ) op loc a b) :=
  Ev.of_comm (f := fun k s => applyBinOp k s op loc a b) n (fun k => applyBinOp_mono k σ op loc a b)
    (fun m => applyBinOp_comm m op loc a b hg)

theorem callBuiltin_ev {β : Repl} (n : Nat) (f : BuiltinId) (this : Option SVal) (args : List SVal) {σ : State}
    (hg : Good β σ) : Ev (callBuiltin n σ f this args) (fun m => callBuiltin m (wb β σ) f this args) :=
  Ev.of_comm (f := fun k s => callBuiltin k s f this args) n (fun k => callBuiltin_mono k σ f this args)
    (fun m => callBuiltin_comm m f this args hg)

theorem opAssignValue_ev {β : Repl} (n : Nat) (cur rhs : SVal) (op : Option (BinaryOp × Loc)) {σ : State}
    (hg : Good β σ) : Ev (opAssignValue n σ cur rhs op) (fun m => opAssignValue m (wb β σ) cur rhs op) :=
  Ev.of_comm (f := fun k s => opAssignValue k s cur rhs op) n (fun k => opAssignValue_mono k σ cur rhs op)
    (fun m => opAssignValue_comm m cur rhs op hg)

theorem validateArgsRes_ev {β : Repl} (n : Nat) {args args' : List Expr} (ha : RExprs args args') {σ : State} (hg : Good β σ) :
    Ev (validateArgsRes n args σ) (fun m => validateArgsRes m args' (wb β σ)) := by
  intro hne
  refine ⟨β, (validateArgsRes_comm n ha hg).2, n, fun m hm => ?_⟩
  show validateArgsRes m args' (wb β σ) = _
  rw [(validateArgsRes_comm m ha hg).1,
    fuel_stable (f := fun k => validateArgsRes k args σ) (fun k => validateArgsRes_mono k args σ) rfl hne hm]

theorem bindNextName_ev {β : Repl} (n : Nat) (sc : List Addr) (names : List (List Char)) (name : List Char) (loc : Loc)
    (rhs : SVal) (op : Option (BinaryOp × Loc)) (decl : Bool) {σ : State} (hg : Good β σ) :
    Ev (bindNextName n σ sc names name loc rhs op decl) (fun m => bindNextName m (wb β σ) sc names name loc rhs op decl) :=
  Ev.of_comm (f := fun k s => bindNextName k s sc names name loc rhs op decl) n
    (fun k => bindNextName_mono k σ sc names name loc rhs op decl)
    (fun m => bindNextName_comm m sc names name loc rhs op decl hg)

/-! ### bindings (`evalBlock`, `declareAll`): related patterns, the same values -/

inductive RBinds : List (Expr × SVal) → List (Expr × SVal) → Prop
  | nil : RBinds [] []
  | cons {e e' : Expr} (v : SVal) {r r' : List (Expr × SVal)} : RExpr e e' → RBinds r r' → RBinds ((e, v) :: r) ((e', v) :: r')

@[refl] theorem RBinds.refl : (l : List (Expr × SVal)) → RBinds l l
  | [] => .nil
  | (e, v) :: r => .cons v (RExpr.refl e) (RBinds.refl r)

theorem RBinds.zip : ∀ {es es' : List Expr}, RExprs es es' → ∀ (vs : List SVal), RBinds (es.zip vs) (es'.zip vs) := by
  intro es
  induction es with
  | nil => intro es' h vs; cases h; exact .nil
  | cons e r ih =>
    intro es' h vs
    cases h with
    | cons he hr =>
      cases vs with
      | nil => exact .nil
      | cons v vs => exact .cons v he (ih hr vs)

theorem RBinds.append : ∀ {a a' b b' : List (Expr × SVal)}, RBinds a a' → RBinds b b' → RBinds (a ++ b) (a' ++ b') := by
  intro a
  induction a with
  | nil => intro a' b b' h1 h2; cases h1; exact h2
  | cons e r ih => intro a' b b' h1 h2; cases h1 with | cons v he hr => exact .cons v he (ih hr h2)

end Seed.C01
