/-
  C01FnCtx2.lean — congruence through function bodies, part 2: the two-run simulation for all 23 functions of the
  evaluator, by induction on the fuel of the left run (`SimAll n`, `simAll`).
-/
import SeedProofs.Lemmas.C01FnCtx
namespace Seed.C01
open Seed Seed.C07
open Seed.Eqv (allocS alloc_pair)

structure SimAll (n : Nat) : Prop where
  evalExpr : ∀ β σ sc e e', Good β σ → RExpr e e' → Ev (evalExpr n σ sc e) (fun m => evalExpr m (wb β σ) sc e')
  evalOptIndex : ∀ β σ sc e e', Good β σ → ROpt e e' → Ev (evalOptIndex n σ sc e) (fun m => evalOptIndex m (wb β σ) sc e')
  evalListItems : ∀ β σ sc items items' acc, Good β σ → RItems items items' →
    Ev (evalListItems n σ sc items acc) (fun m => evalListItems m (wb β σ) sc items' acc)
  evalProps : ∀ β σ sc l props props' acc, Good β σ → RProps props props' →
    Ev (evalProps n σ sc l props acc) (fun m => evalProps m (wb β σ) sc l props' acc)
  evalCall : ∀ β σ sc f f' args args' loc, Good β σ → RExpr f f' → RItems args args' →
    Ev (evalCall n σ sc f args loc) (fun m => evalCall m (wb β σ) sc f' args' loc)
  evalToStr : ∀ β σ sc d e e', Good β σ → RExpr e e' → Ev (evalToStr n σ sc d e) (fun m => evalToStr m (wb β σ) sc d e')
  evalToBool : ∀ β σ sc d e e', Good β σ → RExpr e e' → Ev (evalToBool n σ sc d e) (fun m => evalToBool m (wb β σ) sc d e')
  evalToInt : ∀ β σ sc d e e', Good β σ → RExpr e e' → Ev (evalToInt n σ sc d e) (fun m => evalToInt m (wb β σ) sc d e')
  evalToIndex : ∀ β σ sc e e', Good β σ → RExpr e e' → Ev (evalToIndex n σ sc e) (fun m => evalToIndex m (wb β σ) sc e')
  interpolate : ∀ β σ sc s slots loc last acc, Good β σ →
    Ev (interpolate n σ sc s slots loc last acc) (fun m => interpolate m (wb β σ) sc s slots loc last acc)
  evalBlock : ∀ β σ sc bs bs' stmts stmts', Good β σ → RBinds bs bs' → RStmts stmts stmts' →
    Ev (evalBlock n σ sc bs stmts) (fun m => evalBlock m (wb β σ) sc bs' stmts')
  declareAll : ∀ β σ sc bs bs', Good β σ → RBinds bs bs' → Ev (declareAll n σ sc bs) (fun m => declareAll m (wb β σ) sc bs')
  evalStmts : ∀ β σ sc stmts stmts', Good β σ → RStmts stmts stmts' →
    Ev (evalStmts n σ sc stmts) (fun m => evalStmts m (wb β σ) sc stmts')
  evalStmt : ∀ β σ sc st st', Good β σ → RStmt st st' → Ev (evalStmt n σ sc st) (fun m => evalStmt m (wb β σ) sc st')
  evalIf : ∀ β σ sc bs bs' els els', Good β σ → RBranches bs bs' → ROptStmts els els' →
    Ev (evalIf n σ sc bs els) (fun m => evalIf m (wb β σ) sc bs' els')
  evalWhile : ∀ β σ sc c c' stmts stmts', Good β σ → RExpr c c' → RStmts stmts stmts' →
    Ev (evalWhile n σ sc c stmts) (fun m => evalWhile m (wb β σ) sc c' stmts')
  evalFor : ∀ β σ sc lhs lhs' pairs stmts stmts', Good β σ → RExpr lhs lhs' → RStmts stmts stmts' →
    Ev (evalFor n σ sc lhs pairs stmts) (fun m => evalFor m (wb β σ) sc lhs' pairs stmts')
  bindNext : ∀ β σ sc names lhs lhs' rhs op decl, Good β σ → RExpr lhs lhs' →
    Ev (bindNext n σ sc names lhs rhs op decl) (fun m => bindNext m (wb β σ) sc names lhs' rhs op decl)
  bindProp : ∀ β σ a name loc rhs op names vi, Good β σ →
    Ev (bindProp n σ a name loc rhs op names vi) (fun m => bindProp m (wb β σ) a name loc rhs op names vi)
  bindRangeIndex : ∀ β σ sc a start start' stop stop' loc rhsItems names, Good β σ → ROpt start start' → ROpt stop stop' →
    Ev (bindRangeIndex n σ sc a start stop loc rhsItems names)
      (fun m => bindRangeIndex m (wb β σ) sc a start' stop' loc rhsItems names)
  bindList : ∀ β σ sc names items items' collect lhsLoc b decl i lhsLen, Good β σ → RItems items items' →
    Ev (bindList n σ sc names items collect lhsLoc b decl i lhsLen)
      (fun m => bindList m (wb β σ) sc names items' collect lhsLoc b decl i lhsLen)
  bindObject : ∀ β σ sc names props props' b decl i total remaining, Good β σ → RProps props props' →
    Ev (bindObject n σ sc names props b decl i total remaining)
      (fun m => bindObject m (wb β σ) sc names props' b decl i total remaining)
  bindObjectProp : ∀ β σ sc names lhs lhs' b pname ploc decl, Good β σ → RExpr lhs lhs' →
    Ev (bindObjectProp n σ sc names lhs b pname ploc decl) (fun m => bindObjectProp m (wb β σ) sc names lhs' b pname ploc decl)

theorem RItems.length_eq : ∀ {a a' : List ListItem}, RItems a a' → a'.length = a.length := by
  intro a
  induction a with
  | nil => intro a' h; cases h; rfl
  | cons e r ih => intro a' h; cases h with | cons s he hr => simp [ih hr]

theorem RProps.length_eq : ∀ {a a' : List PropItem}, RProps a a' → a'.length = a.length := by
  intro a
  induction a with
  | nil => intro a' h; cases h; rfl
  | cons e r ih =>
    intro a' h
    cases h with
    | pair hn hv hr => simp [ih hr]
    | single s c he hr => simp [ih hr]

theorem mk_push (σ : State) (c : Cell) : (⟨σ.heap.push c, σ.out⟩ : State) = allocS σ c := rfl

/-- side goals of the leaves: a good state, or a piece of the relation on the code -/
macro "ev_side" : tactic =>
  `(tactic| with_reducible first
    | assumption
    | rfl
    | (apply good_allocS_list; assumption)
    | (apply good_allocS_obj; assumption)
    | (apply good_allocS_scope; assumption)
    | (apply good_set_list; assumption)
    | (apply good_set_obj; assumption)
    | (refine RBinds.cons _ ?_ RBinds.nil; assumption)
    | (apply RBinds.zip; assumption)
    | (refine RBinds.append (RBinds.zip ?_ _) (RBinds.refl _); assumption))

/-- the reads and writes of the right run in terms of the left state; projections and conditions on constructors reduced
    (`ls`: further rewrite rules) -/
macro "wb_simp " "[" ls:Lean.Parser.Tactic.simpLemma,* "]" : tactic =>
  `(tactic| simp only [getList_wb, getObj_wb, getScope_wb, scopeGet_wb, size_wb, alloc_pair, allocS_wb_list, allocS_wb_obj,
      allocS_wb_scope, set_wb_list, set_wb_obj, toPairs_wb, mk_push, Expr.raw, Expr.loc, Bool.false_eq_true, ↓reduceIte, $ls,*])

/-- walks the two bodies in step.  Binds, conditionals and case splits come first: they fail at once where they do not
    apply (`Ev.ite` before `split`, which is slow on conditions that are comparisons).  Then the leaves: a result that
    runs nothing, or one of the calls `ts` (recursive calls by the induction hypothesis, primitives by their `_ev` lemma). -/
macro "ev_auto " "[" ts:term,* "]" : tactic =>
  `(tactic| repeat' first
    | with_reducible apply Ev.bind
    | (intro _ _ _ _; try wb_simp [])
    | (with_reducible refine Ev.map _ ?_)
    | (with_reducible refine Ev.mapErr _ ?_)
    | (with_reducible apply Ev.ite <;> intro _)
    | split
    | (refine Ev.of_eq (fun _ => rfl) ?_; first | exact trivial | (show Good _ _; ev_side))
    $[| (with_reducible apply $ts <;> ev_side)]*)

/-- one step of the right run's fuel, both bodies of `f` unfolded (the matches on constructors reduced), then the walk -/
macro "ev_walk " f:ident " [" ls:Lean.Parser.Tactic.simpLemma,* "]" " [" ts:term,* "]" : tactic =>
  `(tactic| (apply Ev.shift; unfold $f; (try wb_simp [$ls,*]); ev_auto [$ts,*]))

theorem simAll_zero : SimAll 0 := by
  constructor <;> intros
  · unfold evalExpr; exact Ev.timeout
  · unfold evalOptIndex; exact Ev.timeout
  · unfold evalListItems; exact Ev.timeout
  · unfold evalProps; exact Ev.timeout
  · unfold evalCall; exact Ev.timeout
  · unfold evalToStr; exact Ev.timeout
  · unfold evalToBool; exact Ev.timeout
  · unfold evalToInt; exact Ev.timeout
  · unfold evalToIndex; exact Ev.timeout
  · unfold interpolate; exact Ev.timeout
  · unfold evalBlock; exact Ev.timeout
  · unfold declareAll; exact Ev.timeout
  · unfold evalStmts; exact Ev.timeout
  · unfold evalStmt; exact Ev.timeout
  · unfold evalIf; exact Ev.timeout
  · unfold evalWhile; exact Ev.timeout
  · unfold evalFor; exact Ev.timeout
  · unfold bindNext; exact Ev.timeout
  · unfold bindProp; exact Ev.timeout
  · unfold bindRangeIndex; exact Ev.timeout
  · unfold bindList; exact Ev.timeout
  · unfold bindObject; exact Ev.timeout
  · unfold bindObjectProp; exact Ev.timeout

theorem wbRes_ne_timeout {α} (β : Repl) {r : Res α} (h : r ≠ .timeout) : wbRes β r ≠ .timeout := by
  cases r <;> first | exact absurd rfl h | (intro h'; cases h')

theorem evalStmts_cons_succ (n : Nat) (ih : SimAll n) (β : Repl) (σ : State) (sc : List Addr) (st st' : Stmt)
    (r r' : List Stmt) (hg : Good β σ) (hs : RStmt st st') (hr : RStmts r r') :
    Ev (evalStmts (n + 1) σ sc (st :: r)) (fun m => evalStmts m (wb β σ) sc (st' :: r')) := by
  ev_walk evalStmts [] [ih.evalStmt, ih.evalStmts]

theorem evalStmts_refl_succ (n : Nat) (ih : SimAll n) (β : Repl) (σ : State) (sc : List Addr) (ss : List Stmt)
    (hg : Good β σ) : Ev (evalStmts (n + 1) σ sc ss) (fun m => evalStmts m (wb β σ) sc ss) := by
  cases ss with
  | nil => ev_walk evalStmts [] []
  | cons st r => exact evalStmts_cons_succ n ih β σ sc st st r r hg (RStmt.refl st) (RStmts.refl r)

/-- the hole: the left run of `x` is matched by the right run of `x` (same code, states identical up to function
    bodies), which — in that one state — `y` refines -/
theorem evalStmts_succ (n : Nat) (ih : SimAll n) (β : Repl) (σ : State) (sc : List Addr) (ss ss' : List Stmt)
    (hg : Good β σ) (hr : RStmts ss ss') : Ev (evalStmts (n + 1) σ sc ss) (fun m => evalStmts m (wb β σ) sc ss') := by
  cases hr with
  | nil => ev_walk evalStmts [] []
  | cons hs hrest => exact evalStmts_cons_succ n ih β σ sc _ _ _ _ hg hs hrest
  | hole hxy =>
    intro hne
    obtain ⟨β', hg', m₀, hm⟩ := evalStmts_refl_succ n ih β σ sc ss hg hne
    have h0 : evalStmts m₀ (wb β σ) sc ss = wbRes β' (evalStmts (n + 1) σ sc ss) := hm m₀ (Nat.le_refl _)
    have hne' : evalStmts m₀ (wb β σ) sc ss ≠ .timeout := by rw [h0]; exact wbRes_ne_timeout β' hne
    obtain ⟨m₁, hm₁⟩ := hxy m₀ (wb β σ) sc hne'
    refine ⟨β', hg', m₁, fun m hmm => ?_⟩
    show evalStmts m (wb β σ) sc ss' = _
    rw [← h0, ← hm₁]
    exact fuel_stable (mono_stmts _ _ _) rfl (by rw [hm₁]; exact hne') hmm

theorem evalCall_succ (n : Nat) (ih : SimAll n) (β : Repl) (σ : State) (sc : List Addr) (f f' : Expr)
    (args args' : List ListItem) (loc : Loc) (hg : Good β σ) (hf : RExpr f f') (ha : RItems args args') :
    Ev (evalCall (n + 1) σ sc f args loc) (fun m => evalCall m (wb β σ) sc f' args' loc) := by
  apply Ev.shift
  unfold evalCall
  apply Ev.bind (ih.evalListItems β σ sc args args' [] hg ha)
  intro β1 argVals σ1 hg1
  apply Ev.bind (ih.evalExpr β1 σ1 sc f f' hg1 hf)
  intro β2 fv σ2 hg2
  dsimp only []
  cases hv : fv.v with
  | builtin name bid =>
    simp only []
    exact Ev.mapErr _ (callBuiltin_ev n _ _ _ hg2)
  | func a =>
    simp only [getFunc_wb]
    cases hfr : σ2.getFunc a with
    | none => exact Ev.of_eq (fun _ => rfl) trivial
    | some fr =>
      obtain ⟨hargs, hbody⟩ := hg2 a fr hfr
      have hlen : (β2 a).1.length = fr.args.length := hargs.length_eq
      simp only [Option.map, setCode, hlen]
      apply Ev.ite <;> intro _
      · exact Ev.of_eq (fun _ => rfl) trivial
      apply Ev.ite <;> intro _
      · exact Ev.of_eq (fun _ => rfl) trivial
      cases hc : fr.collect with
      | true =>
        simp only [if_true, alloc_pair, size_wb, allocS_wb_list]
        cases hs : fv.src <;> ev_auto [ih.evalBlock]
      | false =>
        simp only [Bool.false_eq_true, if_false]
        cases hs : fv.src <;> ev_auto [ih.evalBlock]
  | _ => exact Ev.of_eq (fun _ => rfl) trivial

theorem simAll_succ (n : Nat) (ih : SimAll n) : SimAll (n + 1) where
  evalExpr := by
    intro β σ sc e e' hg hr
    cases hr with
    | mk loc hraw =>
      cases hraw with
      | func c hargs hss =>
        rename_i args args' ss ss'
        apply Ev.shift
        unfold evalExpr
        show Ev (Res.ok (SVal.plain (.func σ.heap.size)) (allocS σ (.func ⟨none, args, c, ss, sc⟩)))
          (fun _ => Res.ok (SVal.plain (.func (wb β σ).heap.size))
            (allocS (wb β σ) (.func (setCode (args', ss') ⟨none, args, c, ss, sc⟩))))
        simp only [allocS_wb_func, size_wb]
        exact Ev.ok (good_allocS_func _ hg hargs hss)
      | str s sl => cases sl <;> ev_walk evalExpr [] [ih.interpolate]
      | _ =>
        ev_walk evalExpr [] [ih.evalExpr, ih.evalToIndex, ih.evalToStr, ih.evalOptIndex, ih.evalToInt, ih.evalListItems,
          ih.evalProps, ih.evalCall, applyBinOp_ev]
  evalOptIndex := by
    intro β σ sc e e' hg hr
    cases hr <;> ev_walk evalOptIndex [] [ih.evalToIndex]
  evalListItems := by
    intro β σ sc items items' acc hg hr
    cases hr with
    | nil => ev_walk evalListItems [] []
    | cons s he hrest =>
      have he' := he
      cases he'
      ev_walk evalListItems [] [ih.evalExpr, ih.evalListItems]
  evalProps := by
    intro β σ sc l props props' acc hg hr
    cases hr with
    | nil => ev_walk evalProps [] []
    | pair hn hv hrest => ev_walk evalProps [] [ih.evalToStr, ih.evalExpr, ih.evalProps]
    | single s c he hrest =>
      have he' := he
      cases he' with
      | mk el hraw =>
        cases c
        · cases s
          · cases hraw <;> ev_walk evalProps [] [ih.evalProps]
          · ev_walk evalProps [] [ih.evalExpr, ih.evalProps]
        · ev_walk evalProps [] []
  evalCall := evalCall_succ n ih
  evalToStr := by
    intro β σ sc d e e' hg hr
    have hr' := hr
    cases hr'
    ev_walk evalToStr [] [ih.evalExpr]
  evalToBool := by
    intro β σ sc d e e' hg hr
    have hr' := hr
    cases hr'
    ev_walk evalToBool [] [ih.evalExpr]
  evalToInt := by
    intro β σ sc d e e' hg hr
    have hr' := hr
    cases hr'
    ev_walk evalToInt [] [ih.evalExpr]
  evalToIndex := by
    intro β σ sc e e' hg hr
    have hr' := hr
    cases hr'
    ev_walk evalToIndex [] [ih.evalToInt]
  interpolate := by
    intro β σ sc s slots loc last acc hg
    cases slots with
    | nil => ev_walk interpolate [] []
    | cons p r =>
      obtain ⟨start, stop⟩ := p
      ev_walk interpolate [] [ih.evalExpr, ih.interpolate, Ev.timeout]
  evalBlock := by
    intro β σ sc bs bs' stmts stmts' hg hb hr
    ev_walk evalBlock [] [ih.declareAll, ih.evalStmts]
  declareAll := by
    intro β σ sc bs bs' hg hb
    cases hb <;> ev_walk declareAll [] [ih.bindNext, ih.declareAll]
  evalStmts := evalStmts_succ n ih
  evalStmt := by
    intro β σ sc st st' hg hr
    cases hr with
    | func name nl c hargs hss =>
      rename_i args args' ss ss'
      apply Ev.shift
      unfold evalStmt
      dsimp only []
      apply Ev.bind (validateArgsRes_ev n hargs hg)
      intro β0 _ σ0 hg0
      show Ev ((bindNextName n (allocS σ0 (.func ⟨some name, args, c, ss, sc⟩)) sc [] name nl (SVal.plain (.func σ0.heap.size)) none
            true).bind fun _ σ2 => Res.ok Escape.none σ2)
        (fun m => (bindNextName m (allocS (wb β0 σ0) (.func (setCode (args', ss') ⟨some name, args, c, ss, sc⟩))) sc [] name nl
            (SVal.plain (.func (wb β0 σ0).heap.size)) none true).bind fun _ σ2 => Res.ok Escape.none σ2)
      simp only [allocS_wb_func, size_wb]
      apply Ev.bind (bindNextName_ev n sc [] name nl _ none true (good_allocS_func _ hg0 hargs hss))
      intro _ _ σ2 hg2
      exact Ev.ok hg2
    | forS hl hi hss =>
      have hi' := hi
      cases hi'
      ev_walk evalStmt [] [ih.evalExpr, ih.evalFor]
    | _ => ev_walk evalStmt [] [ih.evalExpr, ih.bindNext, ih.evalBlock, ih.evalIf, ih.evalWhile]
  evalIf := by
    intro β σ sc bs bs' els els' hg hb he
    cases hb with
    | nil => cases he <;> ev_walk evalIf [] [ih.evalBlock]
    | cons hc hss hrest => ev_walk evalIf [] [ih.evalToBool, ih.evalBlock, ih.evalIf]
  evalWhile := by
    intro β σ sc c c' stmts stmts' hg hc hr
    ev_walk evalWhile [] [ih.evalToBool, ih.evalBlock, ih.evalWhile]
  evalFor := by
    intro β σ sc lhs lhs' pairs stmts stmts' hg hl hr
    cases pairs with
    | nil => ev_walk evalFor [] []
    | cons p r =>
      obtain ⟨k, v⟩ := p
      ev_walk evalFor [] [ih.evalBlock, ih.evalFor]
  bindNext := by
    intro β σ sc names lhs lhs' rhs op decl hg hl
    cases hl with
    | mk loc hraw =>
      cases hraw with
      | list c his =>
        have hlen := his.length_eq
        ev_walk bindNext [hlen] [ih.bindList]
      | object hps =>
        have hlen := hps.length_eq
        ev_walk bindNext [hlen] [ih.bindObject]
      | _ =>
        ev_walk bindNext [invalidBindDescr] [ih.evalExpr, ih.evalToIndex, ih.evalToStr, ih.bindProp, ih.bindRangeIndex, bindNextName_ev,
          opAssignValue_ev]
  bindProp := by
    intro β σ a name loc rhs op names vi hg
    ev_walk bindProp [] [opAssignValue_ev]
  bindRangeIndex := by
    intro β σ sc a start start' stop stop' loc rhsItems names hg h1 h2
    ev_walk bindRangeIndex [] [ih.evalOptIndex]
  bindList := by
    intro β σ sc names items items' collect lhsLoc b decl i lhsLen hg hr
    cases hr <;> ev_walk bindList [] [ih.bindNext, ih.bindList]
  bindObject := by
    intro β σ sc names props props' b decl i total remaining hg hr
    cases hr with
    | nil => ev_walk bindObject [] []
    | pair hn hv hrest =>
      have hn' := hn
      cases hn'
      ev_walk bindObject [] [ih.evalToStr, ih.bindObjectProp, ih.bindObject]
    | single s c he hrest =>
      have he' := he
      cases he' with
      | mk el hraw =>
        cases s
        · cases hraw <;> ev_walk bindObject [] [ih.bindObject, ih.bindObjectProp, bindNextName_ev]
        · ev_walk bindObject [] []
  bindObjectProp := by
    intro β σ sc names lhs lhs' b pname ploc decl hg hl
    ev_walk bindObjectProp [] [ih.bindNext]

theorem simAll (n : Nat) : SimAll n := by
  induction n with
  | zero => exact simAll_zero
  | succ n ih => exact simAll_succ n ih

end Seed.C01
