/-
  C01FnCtx3.lean — congruence through function bodies, part 3: the theorems.

  * `stmts_sim`, `prog_sim`, `prog_outcome_refines` : the simulation read off for two programs related by `RStmts`.  The
    only hypothesis about the `x`, `y` at a hole is plain refinement IN ONE STATE (`Refines`, the hypothesis of
    `C01.stmt_ctx_refines`): no simulation hypothesis about related states is needed — the left run of `x` is first
    matched by the right run of the SAME `x`, and only then, inside the right state, `x` is replaced by `y`
    (`evalStmts_succ`).
  * `FCtx` / `ECtx` : one-hole contexts, `SCtx` extended with function bodies: the body of a `fn` statement, and every
    statement that contains an expression that contains (at any expression position, to any depth) a function literal
    whose body contains the hole.  `fn_ctx_refines`, `fn_ctx_congr_upto`, `fn_ctx_run`.
  * nothing is left out: patterns (parameter lists, the left-hand sides of `:=`, `=`, `op=` and of `for`) may contain the
    hole too (a function literal can occur there inside an index expression or a computed key, as in
    `xs[(fn() { □ })()] = 1`); `validateArgs` only looks at the shape of the parameter patterns (`validateArgs_rel`).
-/
import SeedProofs.Lemmas.C01FnCtx2
namespace Seed.C01
open Seed Seed.ScopeL

/-- **Simulation for statement lists.**  `ss`, `ss'` related; the right state is the left state up to related function
    bodies.  Whatever the left run yields (not a time-out), the right run yields from some fuel on, up to related
    function bodies. -/
theorem stmts_sim {ss ss' : List Stmt} (h : RStmts ss ss') {β : Repl} {σ : State} (hg : Good β σ) (sc : List Addr)
    (n : Nat) (hne : evalStmts n σ sc ss ≠ .timeout) :
    ∃ β' m₀, GoodRes β' (evalStmts n σ sc ss) ∧ ∀ m, m₀ ≤ m → evalStmts m (wb β σ) sc ss' = wbRes β' (evalStmts n σ sc ss) := by
  obtain ⟨β', hg', m₀, hm⟩ := (simAll n).evalStmts β σ sc ss ss' hg h hne
  exact ⟨β', m₀, hg', hm⟩

def bodies (σ : State) (a : Addr) : Code :=
  match σ.getFunc a with
  | some fr => (fr.args, fr.stmts)
  | none => ([], [])

theorem wb_bodies (σ : State) : wb (bodies σ) σ = σ := by
  have h : σ.heap.mapIdx (wbCell (bodies σ)) = σ.heap := by
    apply Array.ext_getElem?
    intro i
    rw [Array.getElem?_mapIdx]
    cases hi : σ.heap[i]? with
    | none => rfl
    | some c =>
      cases c with
      | func fr =>
        have : σ.getFunc i = some fr := getFunc_heap.mpr hi
        simp [wbCell, bodies, this, setCode]
      | list xs => rfl
      | obj m => rfl
      | scope m => rfl
  unfold wb
  rw [h]

theorem good_bodies (σ : State) : Good (bodies σ) σ := by
  intro a fr h
  simp only [bodies, h]
  exact ⟨RExprs.refl _, RStmts.refl _⟩

/-- the same, started in ONE state: the generalisation of `C01.stmt_ctx_refines` to related programs -/
theorem stmts_sim_same {ss ss' : List Stmt} (h : RStmts ss ss') (n : Nat) (σ : State) (sc : List Addr)
    (hne : evalStmts n σ sc ss ≠ .timeout) :
    ∃ β' m, GoodRes β' (evalStmts n σ sc ss) ∧ evalStmts m σ sc ss' = wbRes β' (evalStmts n σ sc ss) := by
  obtain ⟨β', m₀, hg', hm⟩ := stmts_sim h (good_bodies σ) sc n hne
  refine ⟨β', m₀, hg', ?_⟩
  have := hm m₀ (Nat.le_refl _)
  rwa [wb_bodies] at this

def progK (esc : Escape) (σ : State) : Res Unit :=
  match esc with
  | .none => .ok () σ
  | .brk l => errAt l Gen.Leaf.BreakOutsideLoop σ
  | .cont l => errAt l Gen.Leaf.ContinueOutsideLoop σ
  | .ret _ l => errAt l Gen.Leaf.ReturnOutsideFunction σ

def printB : Expr × SVal := (.mk (.Var c!"print") (0, 0), SVal.plain (.builtin c!"print" .print))

theorem evalProg_eq (n : Nat) (p : List Stmt) : evalProg n p = (evalBlock n State.init [] [printB] p).bind progK := rfl

theorem wb_init (β : Repl) : wb β State.init = State.init := by
  simp [wb, State.init]

theorem prog_ev {p p' : List Stmt} (h : RStmts p p') (n : Nat) : Ev (evalProg n p) (fun m => evalProg m p') := by
  have hb := (simAll n).evalBlock (fun _ => ([], [])) State.init [] [printB] [printB] p p' (good_init _) (RBinds.refl _) h
  rw [wb_init] at hb
  have := Ev.bind (k := progK) (k' := fun _ => progK) hb (by
    intro β esc σ hg
    cases esc <;> exact Ev.of_eq (β := β) (fun _ => rfl) (by first | exact hg | trivial))
  exact this

/-- **Simulation for whole programs.**  If `p'` is `p` with some statement lists `x` (anywhere, also inside function
    bodies) replaced by lists `y` that refine them, then whatever `p` does, `p'` does, up to related function bodies in
    the final heap. -/
theorem prog_sim {p p' : List Stmt} (h : RStmts p p') (n : Nat) (hne : evalProg n p ≠ .timeout) :
    ∃ β' m₀, ∀ m, m₀ ≤ m → evalProg m p' = wbRes β' (evalProg n p) := by
  obtain ⟨β', _, m₀, hm⟩ := prog_ev h n hne
  exact ⟨β', m₀, hm⟩

/-- the observable outcome of an evaluation result, as `run` computes it -/
def outcomeOf (path : List Char) : Res Unit → Outcome
  | .ok _ σ => ⟨σ.out.reverse, .success, []⟩
  | .err e σ => ⟨σ.out.reverse, .failed, evalErrText path e⟩
  | .crash w σ => ⟨σ.out.reverse, .crashed, w⟩
  | .timeout => ⟨[], .timeout, []⟩

/-- the outcome (printed lines, exit status, text on stderr) of running the parsed program `p` -/
def progOutcome (fuel : Nat) (path : List Char) (p : List Stmt) : Outcome := outcomeOf path (evalProg fuel p)

theorem run_eq_progOutcome (fuel : Nat) (path src : List Char) (p : List Stmt) (h : parseProg src = .ok p) :
    run fuel path src = progOutcome fuel path p := by
  unfold run progOutcome
  rw [h]
  dsimp only []
  cases evalProg fuel p <;> rfl

theorem outcomeOf_wbRes (path : List Char) (β : Repl) (r : Res Unit) : outcomeOf path (wbRes β r) = outcomeOf path r := by
  cases r <;> rfl

theorem outcome_timeout_iff (path : List Char) (r : Res Unit) : (outcomeOf path r).status = .timeout ↔ r = .timeout := by
  cases r <;> simp [outcomeOf]

/-- **Refinement of outcomes.**  Related programs: every outcome of `p` (exit status, printed lines, text on stderr)
    other than running out of fuel is an outcome of `p'`. -/
theorem prog_outcome_refines {p p' : List Stmt} (h : RStmts p p') (path : List Char) (n : Nat)
    (hne : (progOutcome n path p).status ≠ .timeout) : ∃ m, progOutcome m path p' = progOutcome n path p := by
  have hne' : evalProg n p ≠ .timeout := fun he => hne ((outcome_timeout_iff path _).2 he)
  obtain ⟨β', m₀, hm⟩ := prog_sim h n hne'
  refine ⟨m₀, ?_⟩
  unfold progOutcome
  rw [hm m₀ (Nat.le_refl _), outcomeOf_wbRes]

/-- two programs have the same outcomes: every outcome other than a time-out that one reaches (at some fuel) the other
    reaches too (`FuelEq` for whole programs) -/
def OutcomeEq (p p' : List Stmt) : Prop :=
  ∀ path o, o.status ≠ .timeout → ((∃ n, progOutcome n path p = o) ↔ (∃ n, progOutcome n path p' = o))

theorem outcomeEq_of_rel {p p' : List Stmt} (h1 : RStmts p p') (h2 : RStmts p' p) : OutcomeEq p p' := by
  intro path o ho
  constructor
  · rintro ⟨n, rfl⟩
    exact prog_outcome_refines h1 path n ho
  · rintro ⟨n, rfl⟩
    exact prog_outcome_refines h2 path n ho

theorem RStmts.suffix (post : List Stmt) : ∀ {x y : List Stmt}, RStmts x y → RStmts (x ++ post) (y ++ post) := by
  intro x
  induction x with
  | nil =>
    intro y h
    cases h with
    | nil => exact RStmts.refl _
    | hole hxy => exact .hole (ref_suffix hxy post)
  | cons s r ih =>
    intro y h
    cases h with
    | cons hs hr => exact .cons hs (ih hr)
    | hole hxy => exact .hole (ref_suffix hxy post)

theorem RStmts.prefix (pre : List Stmt) {x y : List Stmt} (h : RStmts x y) : RStmts (pre ++ x) (pre ++ y) := by
  induction pre with
  | nil => exact h
  | cons s r ih => exact .cons (RStmt.refl s) ih

theorem RBranches.mid {c c' : Expr} {x y : List Stmt} (hc : RExpr c c') (h : RStmts x y) (before later : List Branch) :
    RBranches (before ++ .mk c x :: later) (before ++ .mk c' y :: later) := by
  induction before with
  | nil => exact .cons hc h (RBranches.refl later)
  | cons b r ih =>
    obtain ⟨bc, bss⟩ := b
    exact .cons (RExpr.refl bc) (RStmts.refl bss) ih

theorem RItems.mid {e e' : Expr} (he : RExpr e e') (s : Bool) (before after : List ListItem) :
    RItems (before ++ .mk e s :: after) (before ++ .mk e' s :: after) := by
  induction before with
  | nil => exact .cons s he (RItems.refl after)
  | cons b r ih =>
    obtain ⟨be, bs⟩ := b
    exact .cons bs (RExpr.refl be) ih

theorem RExprs.mid {e e' : Expr} (he : RExpr e e') (before after : List Expr) :
    RExprs (before ++ e :: after) (before ++ e' :: after) := by
  induction before with
  | nil => exact .cons he (RExprs.refl after)
  | cons b r ih => exact .cons (RExpr.refl b) ih

theorem RProps.mid {p p' : PropItem} (before after : List PropItem)
    (h : ∀ {r r' : List PropItem}, RProps r r' → RProps (p :: r) (p' :: r')) :
    RProps (before ++ p :: after) (before ++ p' :: after) := by
  induction before with
  | nil => exact h (RProps.refl after)
  | cons b r ih =>
    cases b with
    | Pair n v => exact .pair (RExpr.refl n) (RExpr.refl v) ih
    | Single e s c => exact .single s c (RExpr.refl e) ih

mutual
/-- a statement list with one hole (for a statement list): the contexts of `SCtx`, the body of a `fn` statement, and
    the statements that contain an expression context -/
inductive FCtx where
  | hole
  | seq (pre : List Stmt) (c : FCtx) (post : List Stmt)
  | block (c : FCtx)
  | ifBranch (before : List Branch) (cond : Expr) (c : FCtx) (later : List Branch) (els : Option (List Stmt))
  | ifElse (branches : List Branch) (c : FCtx)
  | whileBody (cond : Expr) (c : FCtx)
  | forBody (lhs iter : Expr) (c : FCtx)
  /-- `fn name(args) { □ }` -/
  | fnBody (name : List Char) (nameLoc : Loc) (args : List Expr) (collect : Bool) (c : FCtx)
  /-- `e;` -/
  | exprStmt (e : ECtx)
  /-- `lhs := e;` -/
  | declare (lhs : Expr) (e : ECtx)
  /-- `lhs = e;` -/
  | assign (lhs : Expr) (e : ECtx)
  /-- `lhs op= e;` -/
  | opAssign (lhs : Expr) (op : BinaryOp) (opLoc : Loc) (e : ECtx)
  /-- `return e;` -/
  | ret (loc : Loc) (e : ECtx)
  /-- `p := rhs;` with the hole in the pattern `p` (likewise `=`, `op=`, `for p in …`) -/
  | declareLhs (e : ECtx) (rhs : Expr)
  | assignLhs (e : ECtx) (rhs : Expr)
  | opAssignLhs (e : ECtx) (op : BinaryOp) (opLoc : Loc) (rhs : Expr)
  | forLhs (e : ECtx) (iter : Expr) (body : List Stmt)
  /-- `fn name(…, p, …) { body }` with the hole in the parameter pattern `p` -/
  | fnArg (name : List Char) (nameLoc : Loc) (before : List Expr) (e : ECtx) (after : List Expr) (collect : Bool) (body : List Stmt)
  /-- `if … else if e { body } …` -/
  | ifCond (before : List Branch) (e : ECtx) (body : List Stmt) (later : List Branch) (els : Option (List Stmt))
  /-- `while e { body }` -/
  | whileCond (e : ECtx) (body : List Stmt)
  /-- `for lhs in e { body }` -/
  | forIter (lhs : Expr) (e : ECtx) (body : List Stmt)
/-- an expression with one hole for a statement list; the hole is inside the body of a function literal -/
inductive ECtx where
  /-- `fn(args) { □ }` -/
  | fn (args : List Expr) (collect : Bool) (c : FCtx) (loc : Loc)
  /-- `fn(…, p, …) { body }` with the hole in the parameter pattern `p` -/
  | fnArg (before : List Expr) (e : ECtx) (after : List Expr) (collect : Bool) (body : List Stmt) (loc : Loc)
  | binL (op : BinaryOp) (opLoc : Loc) (e : ECtx) (rhs : Expr) (loc : Loc)
  | binR (op : BinaryOp) (opLoc : Loc) (lhs : Expr) (e : ECtx) (loc : Loc)
  | listItem (before : List ListItem) (e : ECtx) (spread : Bool) (after : List ListItem) (collect : Bool) (loc : Loc)
  | indexE (e : ECtx) (i : Expr) (loc : Loc)
  | indexI (x : Expr) (e : ECtx) (loc : Loc)
  | rangeIndexE (e : ECtx) (start stop : Option Expr) (loc : Loc)
  | rangeIndexStart (x : Expr) (e : ECtx) (stop : Option Expr) (loc : Loc)
  | rangeIndexStop (x : Expr) (start : Option Expr) (e : ECtx) (loc : Loc)
  | rangeStart (e : ECtx) (stop : Expr) (loc : Loc)
  | rangeStop (start : Expr) (e : ECtx) (loc : Loc)
  | objKey (before : List PropItem) (e : ECtx) (value : Expr) (after : List PropItem) (loc : Loc)
  | objVal (before : List PropItem) (key : Expr) (e : ECtx) (after : List PropItem) (loc : Loc)
  | objSingle (before : List PropItem) (e : ECtx) (spread collect : Bool) (after : List PropItem) (loc : Loc)
  | prop (e : ECtx) (name : List Char) (typeProp : Bool) (loc : Loc)
  | callee (e : ECtx) (args : List ListItem) (loc : Loc)
  | callArg (f : Expr) (before : List ListItem) (e : ECtx) (spread : Bool) (after : List ListItem) (loc : Loc)
end

mutual
def FCtx.plug : FCtx → List Stmt → List Stmt
  | .hole, s => s
  | .seq pre c post, s => pre ++ c.plug s ++ post
  | .block c, s => [.Block (c.plug s)]
  | .ifBranch before cond c later els, s => [.If (before ++ .mk cond (c.plug s) :: later) els]
  | .ifElse bs c, s => [.If bs (some (c.plug s))]
  | .whileBody cond c, s => [.While cond (c.plug s)]
  | .forBody lhs iter c, s => [.For lhs iter (c.plug s)]
  | .fnBody name nl args collect c, s => [.Func name nl args collect (c.plug s)]
  | .exprStmt e, s => [.Expr (e.plug s)]
  | .declare lhs e, s => [.Declare lhs (e.plug s)]
  | .assign lhs e, s => [.Assign lhs (e.plug s)]
  | .opAssign lhs op ol e, s => [.OpAssign lhs op ol (e.plug s)]
  | .ret l e, s => [.Return l (e.plug s)]
  | .declareLhs e rhs, s => [.Declare (e.plug s) rhs]
  | .assignLhs e rhs, s => [.Assign (e.plug s) rhs]
  | .opAssignLhs e op ol rhs, s => [.OpAssign (e.plug s) op ol rhs]
  | .forLhs e iter body, s => [.For (e.plug s) iter body]
  | .fnArg name nl before e after collect body, s => [.Func name nl (before ++ e.plug s :: after) collect body]
  | .ifCond before e body later els, s => [.If (before ++ .mk (e.plug s) body :: later) els]
  | .whileCond e body, s => [.While (e.plug s) body]
  | .forIter lhs e body, s => [.For lhs (e.plug s) body]
def ECtx.plug : ECtx → List Stmt → Expr
  | .fn args collect c loc, s => .mk (.Func args collect (c.plug s)) loc
  | .fnArg before e after collect body loc, s => .mk (.Func (before ++ e.plug s :: after) collect body) loc
  | .binL op ol e rhs loc, s => .mk (.BinaryOp op ol (e.plug s) rhs) loc
  | .binR op ol lhs e loc, s => .mk (.BinaryOp op ol lhs (e.plug s)) loc
  | .listItem before e spread after collect loc, s => .mk (.List (before ++ .mk (e.plug s) spread :: after) collect) loc
  | .indexE e i loc, s => .mk (.Index (e.plug s) i) loc
  | .indexI x e loc, s => .mk (.Index x (e.plug s)) loc
  | .rangeIndexE e start stop loc, s => .mk (.RangeIndex (e.plug s) start stop) loc
  | .rangeIndexStart x e stop loc, s => .mk (.RangeIndex x (some (e.plug s)) stop) loc
  | .rangeIndexStop x start e loc, s => .mk (.RangeIndex x start (some (e.plug s))) loc
  | .rangeStart e stop loc, s => .mk (.Range (e.plug s) stop) loc
  | .rangeStop start e loc, s => .mk (.Range start (e.plug s)) loc
  | .objKey before e value after loc, s => .mk (.Object (before ++ .Pair (e.plug s) value :: after)) loc
  | .objVal before key e after loc, s => .mk (.Object (before ++ .Pair key (e.plug s) :: after)) loc
  | .objSingle before e spread collect after loc, s => .mk (.Object (before ++ .Single (e.plug s) spread collect :: after)) loc
  | .prop e name tp loc, s => .mk (.Prop (e.plug s) name tp) loc
  | .callee e args loc, s => .mk (.Call (e.plug s) args) loc
  | .callArg f before e spread after loc, s => .mk (.Call f (before ++ .mk (e.plug s) spread :: after)) loc
end

/-- every context of `C01Ctx.lean` is one of these -/
def SCtx.toFCtx : SCtx → FCtx
  | .hole => .hole
  | .seq pre c post => .seq pre c.toFCtx post
  | .block c => .block c.toFCtx
  | .ifBranch before cond c later els => .ifBranch before cond c.toFCtx later els
  | .ifElse bs c => .ifElse bs c.toFCtx
  | .whileBody cond c => .whileBody cond c.toFCtx
  | .forBody lhs iter c => .forBody lhs iter c.toFCtx

theorem SCtx.toFCtx_plug (K : SCtx) (s : List Stmt) : K.toFCtx.plug s = K.plug s := by
  induction K with
  | hole => rfl
  | seq pre c post ih => simp [SCtx.toFCtx, FCtx.plug, SCtx.plug, ih]
  | block c ih => simp [SCtx.toFCtx, FCtx.plug, SCtx.plug, ih]
  | ifBranch before cond c later els ih => simp [SCtx.toFCtx, FCtx.plug, SCtx.plug, ih]
  | ifElse bs c ih => simp [SCtx.toFCtx, FCtx.plug, SCtx.plug, ih]
  | whileBody cond c ih => simp [SCtx.toFCtx, FCtx.plug, SCtx.plug, ih]
  | forBody lhs iter c ih => simp [SCtx.toFCtx, FCtx.plug, SCtx.plug, ih]

mutual
/-- plugging refinement-related lists into one context gives related programs -/
theorem FCtx.plug_rel {s t : List Stmt} (h : Refines s t) : (K : FCtx) → RStmts (K.plug s) (K.plug t)
  | .hole => .hole h
  | .seq pre c post => by
    simp only [FCtx.plug, List.append_assoc]
    exact RStmts.prefix pre (RStmts.suffix post (FCtx.plug_rel h c))
  | .block c => .cons (.block (FCtx.plug_rel h c)) .nil
  | .ifBranch before cond c later els =>
    .cons (.ifs (RBranches.mid (RExpr.refl cond) (FCtx.plug_rel h c) before later) (ROptStmts.refl els)) .nil
  | .ifElse bs c => .cons (.ifs (RBranches.refl bs) (.some (FCtx.plug_rel h c))) .nil
  | .whileBody cond c => .cons (.whileS (RExpr.refl cond) (FCtx.plug_rel h c)) .nil
  | .forBody lhs iter c => .cons (.forS (RExpr.refl lhs) (RExpr.refl iter) (FCtx.plug_rel h c)) .nil
  | .fnBody name nl args collect c => .cons (.func name nl collect (RExprs.refl args) (FCtx.plug_rel h c)) .nil
  | .exprStmt e => .cons (.expr (ECtx.plug_rel h e)) .nil
  | .declare lhs e => .cons (.declare (RExpr.refl lhs) (ECtx.plug_rel h e)) .nil
  | .assign lhs e => .cons (.assign (RExpr.refl lhs) (ECtx.plug_rel h e)) .nil
  | .opAssign lhs op ol e => .cons (.opAssign op ol (RExpr.refl lhs) (ECtx.plug_rel h e)) .nil
  | .declareLhs e rhs => .cons (.declare (ECtx.plug_rel h e) (RExpr.refl rhs)) .nil
  | .assignLhs e rhs => .cons (.assign (ECtx.plug_rel h e) (RExpr.refl rhs)) .nil
  | .opAssignLhs e op ol rhs => .cons (.opAssign op ol (ECtx.plug_rel h e) (RExpr.refl rhs)) .nil
  | .forLhs e iter body => .cons (.forS (ECtx.plug_rel h e) (RExpr.refl iter) (RStmts.refl body)) .nil
  | .fnArg name nl before e after collect body =>
    .cons (.func name nl collect (RExprs.mid (ECtx.plug_rel h e) before after) (RStmts.refl body)) .nil
  | .ret l e => .cons (.ret l (ECtx.plug_rel h e)) .nil
  | .ifCond before e body later els =>
    .cons (.ifs (RBranches.mid (ECtx.plug_rel h e) (RStmts.refl body) before later) (ROptStmts.refl els)) .nil
  | .whileCond e body => .cons (.whileS (ECtx.plug_rel h e) (RStmts.refl body)) .nil
  | .forIter lhs e body => .cons (.forS (RExpr.refl lhs) (ECtx.plug_rel h e) (RStmts.refl body)) .nil
theorem ECtx.plug_rel {s t : List Stmt} (h : Refines s t) : (E : ECtx) → RExpr (E.plug s) (E.plug t)
  | .fn args collect c loc => .mk loc (.func collect (RExprs.refl args) (FCtx.plug_rel h c))
  | .fnArg before e after collect body loc =>
    .mk loc (.func collect (RExprs.mid (ECtx.plug_rel h e) before after) (RStmts.refl body))
  | .binL op ol e rhs loc => .mk loc (.binop op ol (ECtx.plug_rel h e) (RExpr.refl rhs))
  | .binR op ol lhs e loc => .mk loc (.binop op ol (RExpr.refl lhs) (ECtx.plug_rel h e))
  | .listItem before e spread after collect loc => .mk loc (.list collect (RItems.mid (ECtx.plug_rel h e) spread before after))
  | .indexE e i loc => .mk loc (.index (ECtx.plug_rel h e) (RExpr.refl i))
  | .indexI x e loc => .mk loc (.index (RExpr.refl x) (ECtx.plug_rel h e))
  | .rangeIndexE e start stop loc => .mk loc (.rangeIndex (ECtx.plug_rel h e) (ROpt.refl start) (ROpt.refl stop))
  | .rangeIndexStart x e stop loc => .mk loc (.rangeIndex (RExpr.refl x) (.some (ECtx.plug_rel h e)) (ROpt.refl stop))
  | .rangeIndexStop x start e loc => .mk loc (.rangeIndex (RExpr.refl x) (ROpt.refl start) (.some (ECtx.plug_rel h e)))
  | .rangeStart e stop loc => .mk loc (.range (ECtx.plug_rel h e) (RExpr.refl stop))
  | .rangeStop start e loc => .mk loc (.range (RExpr.refl start) (ECtx.plug_rel h e))
  | .objKey before e value after loc =>
    .mk loc (.object (RProps.mid before after (fun hr => .pair (ECtx.plug_rel h e) (RExpr.refl value) hr)))
  | .objVal before key e after loc =>
    .mk loc (.object (RProps.mid before after (fun hr => .pair (RExpr.refl key) (ECtx.plug_rel h e) hr)))
  | .objSingle before e spread collect after loc =>
    .mk loc (.object (RProps.mid before after (fun hr => .single spread collect (ECtx.plug_rel h e) hr)))
  | .prop e name tp loc => .mk loc (.prop name tp (ECtx.plug_rel h e))
  | .callee e args loc => .mk loc (.call (ECtx.plug_rel h e) (RItems.refl args))
  | .callArg f before e spread after loc => .mk loc (.call (RExpr.refl f) (RItems.mid (ECtx.plug_rel h e) spread before after))
end

/-- **Refinement is preserved by every context, function bodies included** (statement level, one state): whatever
    `K[s]` yields, `K[t]` yields at some fuel, up to related function bodies in the resulting heap.  For a context
    without function bodies (`SCtx`) this is `C01.stmt_ctx_refines` (there the resulting states are equal). -/
theorem fn_ctx_refines_stmts (K : FCtx) {s t : List Stmt} (h : Refines s t) (n : Nat) (σ : State) (sc : List Addr)
    (hne : evalStmts n σ sc (K.plug s) ≠ .timeout) :
    ∃ β' m, GoodRes β' (evalStmts n σ sc (K.plug s)) ∧ evalStmts m σ sc (K.plug t) = wbRes β' (evalStmts n σ sc (K.plug s)) :=
  stmts_sim_same (K.plug_rel h) n σ sc hne

/-- the same between two states that already differ in related function bodies (e.g. because `K[s]` / `K[t]` ran before) -/
theorem fn_ctx_refines_stmts_rel (K : FCtx) {s t : List Stmt} (h : Refines s t) {β : Repl} {σ : State} (hg : Good β σ)
    (sc : List Addr) (n : Nat) (hne : evalStmts n σ sc (K.plug s) ≠ .timeout) :
    ∃ β' m₀, GoodRes β' (evalStmts n σ sc (K.plug s)) ∧
      ∀ m, m₀ ≤ m → evalStmts m (wb β σ) sc (K.plug t) = wbRes β' (evalStmts n σ sc (K.plug s)) :=
  stmts_sim (K.plug_rel h) hg sc n hne

/-- **Refinement of whole programs, function bodies included**: every outcome of the program `K[s]` (exit status,
    printed lines, text on stderr), other than running out of fuel, is an outcome of `K[t]` -/
theorem fn_ctx_refines (K : FCtx) {s t : List Stmt} (h : Refines s t) (path : List Char) (n : Nat)
    (hne : (progOutcome n path (K.plug s)).status ≠ .timeout) :
    ∃ m, progOutcome m path (K.plug t) = progOutcome n path (K.plug s) :=
  prog_outcome_refines (K.plug_rel h) path n hne

/-- **Observational congruence up to fuel, function bodies included.**  If `s` and `t` are equivalent up to fuel in
    every state and scope chain (the hypothesis of `C01.stmt_ctx_congr_upto`), the programs `K[s]` and `K[t]` have the
    same outcomes, for every context `K` — sequences, blocks, `if` / `while` / `for` bodies, bodies of `fn` statements
    and of function literals at any expression position, nested to any depth. -/
theorem fn_ctx_congr_upto (K : FCtx) {s t : List Stmt} (h : UptoEq s t) : OutcomeEq (K.plug s) (K.plug t) :=
  outcomeEq_of_rel (K.plug_rel (uptoEq_iff.1 h).1) (K.plug_rel (uptoEq_iff.1 h).2)

/-- the same for `run` (source text in, exit status / stdout / stderr out): two scripts whose parse trees are `K[s]` and
    `K[t]` have the same outcomes -/
theorem fn_ctx_run (K : FCtx) {s t : List Stmt} (h : UptoEq s t) (path src src' : List Char)
    (hs : parseProg src = .ok (K.plug s)) (hs' : parseProg src' = .ok (K.plug t)) (o : Outcome) (ho : o.status ≠ .timeout) :
    (∃ n, run n path src = o) ↔ (∃ n, run n path src' = o) := by
  have := fn_ctx_congr_upto K h path o ho
  simpa only [run_eq_progOutcome _ path src _ hs, run_eq_progOutcome _ path src' _ hs'] using this

end Seed.C01
