/-
  C01FnCtx4.lean — congruence through function bodies, part 4: concrete instances (non-vacuity), and the concrete
  counterexample showing that the conclusion cannot be "equal results": the two final heaps differ in a stored body.
-/
import SeedProofs.Lemmas.C01FnCtx3
namespace Seed.C01
open Seed Seed.C07

def ttAt (l : Loc) : Expr := .mk (.Bool true) l

/-- the statement `true;` is equivalent to no statement at all, up to fuel, in every state and scope chain (an instance
    of the hypothesis `UptoEq s t`; the two lists have different lengths and need different fuel) -/
theorem true_skip_upto (l : Loc) : UptoEq [.Expr (ttAt l)] [] := by
  intro σ sc
  refine FuelEq.of_shift (fun k => (monoAll k).evalStmts _ _ _) (fun k => (monoAll k).evalStmts _ _ _) 2 fun m hm => ?_
  obtain ⟨k, rfl⟩ : ∃ k, m = k + 2 := ⟨m - 2, by omega⟩
  have hs : evalStmt (k + 2) σ sc (.Expr (ttAt l)) = .ok .none σ := by unfold evalStmt; unfold evalExpr; rfl
  show evalStmts (k + 2 + 1) σ sc [.Expr (ttAt l)] = evalStmts (k + 2) σ sc []
  rw [evalStmts_cons, hs]; rfl

/-- the front end in two steps: the token stream, then the parser on it.  For a longer text, checking
    `parseProg src = .ok p` by unfolding alone is slow: the lexer's output stays an unevaluated term, and the elaborator
    runs the lexer again whenever the parser looks at a token; the token stream is therefore checked separately (by
    kernel evaluation) and written out. -/
theorem parseProg_of_tokens {src : List Char} {ts rest : List Span} {p : List Stmt} (hl : lexAll src = (ts, none))
    (hp : parseStmts (parseFuel ts) false [] ts = .ok p rest) : parseProg src = .ok p := by
  unfold parseProg
  rw [hl]
  simp only [hp]

/-! ### example 1: the hole in the body of a `fn` statement

    fn f() {            fn f() {
     true;
     print(1);           print(1);
    }                   }
    f();                f();
-/

def print1 : Stmt := .Expr (.mk (.Call (.mk (.Var c!"print") (3, 2)) [.mk (.mk (.Int 1) (3, 8)) false]) (3, 2))
def callF : Stmt := .Expr (.mk (.Call (.mk (.Var c!"f") (5, 1)) []) (5, 1))

/-- `fn f() { □ print(1); }  f();` -/
def K1 : FCtx := .seq [] (.fnBody c!"f" (1, 4) [] false (.seq [] .hole [print1])) [callF]

def src1 : List Char := c!"fn f() {\n true;\n print(1);\n}\nf();\n"
def src1' : List Char := c!"fn f() {\n      \n print(1);\n}\nf();\n"

theorem parse1 : parseProg src1 = .ok (K1.plug [.Expr (ttAt (2, 2))]) := by rfl
theorem parse1' : parseProg src1' = .ok (K1.plug []) := by rfl

/-- the two scripts have the same outcomes (instance of `fn_ctx_run`) -/
example (path : List Char) (o : Outcome) (ho : o.status ≠ .timeout) :
    (∃ n, run n path src1 = o) ↔ (∃ n, run n path src1' = o) :=
  fn_ctx_run K1 (true_skip_upto (2, 2)) path src1 src1' parse1 parse1' o ho

/-- … and that outcome is reached: both print `1` and succeed (the hypotheses of the theorem are not vacuous) -/
example : (run 60 c!"t.sd" src1).out = [c!"1"] ∧ (run 60 c!"t.sd" src1).status = .success := by decide +kernel
example : (run 60 c!"t.sd" src1').out = [c!"1"] ∧ (run 60 c!"t.sd" src1').status = .success := by decide +kernel

def bodyLenAt (a : Addr) : Res Unit → Option Nat
  | .ok _ σ => (σ.getFunc a).map fun fr => fr.stmts.length
  | _ => none

theorem bodyLen1 : bodyLenAt 1 (evalProg 60 (K1.plug [.Expr (ttAt (2, 2))])) = some 2 := by decide +kernel
theorem bodyLen1' : bodyLenAt 1 (evalProg 60 (K1.plug [])) = some 1 := by decide +kernel

/-- **why the conclusion is "up to function bodies"**: the two runs end in different heaps (the cell of `f` holds two
    statements in one and one statement in the other), so `stmt_ctx_congr_upto` (equal results) is FALSE for a context
    with a function-body hole -/
theorem results_differ_in_a_body : evalProg 60 (K1.plug [.Expr (ttAt (2, 2))]) ≠ evalProg 60 (K1.plug []) := by
  intro h
  have := congrArg (bodyLenAt 1) h
  rw [bodyLen1, bodyLen1'] at this
  cases this

/-- hence `UptoEq` itself is not preserved by `K1` — only the equivalence up to function bodies is -/
theorem uptoEq_not_preserved_by_fn_bodies : ¬ UptoEq (K1.plug [.Expr (ttAt (2, 2))]) (K1.plug []) := by
  intro h
  have hb : ∀ (r : Res Escape), (∃ σ, r = .ok .none σ ∧ (σ.getFunc 1).map (fun fr => fr.stmts.length) = some 2) → r ≠ .timeout := by
    rintro r ⟨σ, rfl, _⟩ hh; cases hh
  -- run the two lists in the scope that `evalProg` sets up
  let σ0 : State := (State.init.alloc (.scope [(c!"print", SVal.plain (.builtin c!"print" .print), (0, 0))])).2
  have h1 : ∃ σ, evalStmts 50 σ0 [0] (K1.plug [.Expr (ttAt (2, 2))]) = .ok .none σ ∧
      (σ.getFunc 1).map (fun fr => fr.stmts.length) = some 2 := ⟨_, by with_unfolding_all rfl, by with_unfolding_all rfl⟩
  obtain ⟨σ, hσ, hlen⟩ := h1
  obtain ⟨m, hm⟩ := (h σ0 [0] _ (hb _ ⟨σ, rfl, hlen⟩)).1 ⟨50, hσ⟩
  have h2 : ∃ σ', evalStmts 50 σ0 [0] (K1.plug []) = .ok .none σ' ∧
      (σ'.getFunc 1).map (fun fr => fr.stmts.length) = some 1 := ⟨_, by with_unfolding_all rfl, by with_unfolding_all rfl⟩
  obtain ⟨σ', hσ', hlen'⟩ := h2
  have hm' : evalStmts (max m 50) σ0 [0] (K1.plug []) = .ok .none σ :=
    fuel_stable (mono_stmts _ _ _) hm (by intro hh; cases hh) (Nat.le_max_left _ _)
  have hm'' : evalStmts (max m 50) σ0 [0] (K1.plug []) = .ok .none σ' :=
    fuel_stable (mono_stmts _ _ _) hσ' (by intro hh; cases hh) (Nat.le_max_right _ _)
  rw [hm'] at hm''
  cases hm''
  rw [hlen] at hlen'
  cases hlen'

/-! ### example 2: the hole in a function literal stored in an object (a method), called through a property access

    o := {"m": fn(x) { true; return x; }};        o := {"m": fn(x) {       return x; }};
    print(o.m(7));                                 print(o.m(7));
-/

def retX : Stmt := .Return (1, 26) (.mk (.Var c!"x") (1, 33))
def printOm : Stmt :=
  .Expr (.mk (.Call (.mk (.Var c!"print") (2, 1))
    [.mk (.mk (.Call (.mk (.Prop (.mk (.Var c!"o") (2, 7)) c!"m" false) (2, 7)) [.mk (.mk (.Int 7) (2, 11)) false]) (2, 7)) false]) (2, 1))

/-- `o := {"m": fn(x) { □ return x; }};  print(o.m(7));` -/
def K2 : FCtx :=
  .seq [] (.declare (.mk (.Var c!"o") (1, 1))
      (.objVal [] (.mk (.Str c!"m" none) (1, 7)) (.fn [.mk (.Var c!"x") (1, 15)] false (.seq [] .hole [retX]) (1, 12)) [] (1, 6)))
    [printOm]

def src2 : List Char := c!"o := {\"m\": fn(x) { true; return x; }};\nprint(o.m(7));\n"
def src2' : List Char := c!"o := {\"m\": fn(x) {       return x; }};\nprint(o.m(7));\n"

/-- the tokens of `src2` (with `true`, `;` for `hole`) and of `src2'` (with nothing: blanks leave no token and the
    other positions are the same) -/
def toks2 (hole : List Span) : List Span :=
  [⟨(1, 1), .Ident c!"o", (1, 1)⟩, ⟨(1, 3), .ColonEquals, (1, 4)⟩, ⟨(1, 6), .BraceOpen, (1, 6)⟩,
    ⟨(1, 7), .StrLiteral c!"m", (1, 9)⟩, ⟨(1, 10), .Colon, (1, 10)⟩, ⟨(1, 12), .Fn, (1, 13)⟩, ⟨(1, 14), .ParenOpen, (1, 14)⟩,
    ⟨(1, 15), .Ident c!"x", (1, 15)⟩, ⟨(1, 16), .ParenClose, (1, 16)⟩, ⟨(1, 18), .BraceOpen, (1, 18)⟩] ++ hole ++
  [⟨(1, 26), .Return, (1, 31)⟩, ⟨(1, 33), .Ident c!"x", (1, 33)⟩, ⟨(1, 34), .StmtEnd, (1, 34)⟩, ⟨(1, 36), .BraceClose, (1, 36)⟩,
    ⟨(1, 37), .BraceClose, (1, 37)⟩, ⟨(1, 38), .StmtEnd, (2, 0)⟩, ⟨(2, 1), .Ident c!"print", (2, 5)⟩, ⟨(2, 6), .ParenOpen, (2, 6)⟩,
    ⟨(2, 7), .Ident c!"o", (2, 7)⟩, ⟨(2, 8), .Dot, (2, 8)⟩, ⟨(2, 9), .Ident c!"m", (2, 9)⟩, ⟨(2, 10), .ParenOpen, (2, 10)⟩,
    ⟨(2, 11), .IntLiteral 7, (2, 11)⟩, ⟨(2, 12), .ParenClose, (2, 12)⟩, ⟨(2, 13), .ParenClose, (2, 13)⟩, ⟨(2, 14), .StmtEnd, (3, 0)⟩]

theorem lex2 : lexAll src2 = (toks2 [⟨(1, 20), .True, (1, 23)⟩, ⟨(1, 24), .StmtEnd, (1, 24)⟩], none) := by decide +kernel
theorem lex2' : lexAll src2' = (toks2 [], none) := by decide +kernel

theorem parse2 : parseProg src2 = .ok (K2.plug [.Expr (ttAt (1, 20))]) := parseProg_of_tokens lex2 rfl
theorem parse2' : parseProg src2' = .ok (K2.plug []) := parseProg_of_tokens lex2' rfl

example (path : List Char) (o : Outcome) (ho : o.status ≠ .timeout) :
    (∃ n, run n path src2 = o) ↔ (∃ n, run n path src2' = o) :=
  fn_ctx_run K2 (true_skip_upto (1, 20)) path src2 src2' parse2 parse2' o ho

example : (run 60 c!"t.sd" src2).out = [c!"7"] ∧ (run 60 c!"t.sd" src2).status = .success := by decide +kernel
example : (run 60 c!"t.sd" src2').out = [c!"7"] ∧ (run 60 c!"t.sd" src2').status = .success := by decide +kernel

/-! ### example 3: several holes at once (the relation `RStmts` is not limited to one-hole contexts)

    fn f() { true; print(1); }  true; f();      ⊒      fn f() { print(1); }  f();
-/

example (path : List Char) (n : Nat)
    (hne : (progOutcome n path [.Func c!"f" (1, 4) [] false [.Expr (ttAt (2, 2)), print1], .Expr (ttAt (4, 1)), callF]).status ≠ .timeout) :
    ∃ m, progOutcome m path [.Func c!"f" (1, 4) [] false [print1], callF] =
      progOutcome n path [.Func c!"f" (1, 4) [] false [.Expr (ttAt (2, 2)), print1], .Expr (ttAt (4, 1)), callF] :=
  prog_outcome_refines
    (.cons (.func c!"f" (1, 4) false .nil (RStmts.suffix [print1] (.hole (uptoEq_iff.1 (true_skip_upto (2, 2))).1)))
      (RStmts.suffix [callF] (.hole (uptoEq_iff.1 (true_skip_upto (4, 1))).1)))
    path n hne

/-! ### example 4: the hole inside a PATTERN (the index expression of an assignment target)

    xs := [0];                                      xs := [0];
    xs[(fn() { true; return 0; })()] = 5;           xs[(fn() {       return 0; })()] = 5;
    print(xs[0]);                                   print(xs[0]);
-/

def declXs : Stmt := .Declare (.mk (.Var c!"xs") (1, 1)) (.mk (.List [.mk (.mk (.Int 0) (1, 8)) false] false) (1, 7))
def printXs0 : Stmt :=
  .Expr (.mk (.Call (.mk (.Var c!"print") (3, 1))
    [.mk (.mk (.Index (.mk (.Var c!"xs") (3, 7)) (.mk (.Int 0) (3, 10))) (3, 7)) false]) (3, 1))

/-- `xs := [0];  xs[(fn() { □ return 0; })()] = 5;  print(xs[0]);` -/
def K4 : FCtx :=
  .seq [declXs]
    (.assignLhs (.indexI (.mk (.Var c!"xs") (2, 1))
        (.callee (.fn [] false (.seq [] .hole [.Return (2, 18) (.mk (.Int 0) (2, 25))]) (2, 4)) [] (2, 4)) (2, 1))
      (.mk (.Int 5) (2, 36)))
    [printXs0]

def src4 : List Char := c!"xs := [0];\nxs[(fn() { true; return 0; })()] = 5;\nprint(xs[0]);\n"
def src4' : List Char := c!"xs := [0];\nxs[(fn() {       return 0; })()] = 5;\nprint(xs[0]);\n"

def toks4 (hole : List Span) : List Span :=
  [⟨(1, 1), .Ident c!"xs", (1, 2)⟩, ⟨(1, 4), .ColonEquals, (1, 5)⟩, ⟨(1, 7), .BracketOpen, (1, 7)⟩, ⟨(1, 8), .IntLiteral 0, (1, 8)⟩,
    ⟨(1, 9), .BracketClose, (1, 9)⟩, ⟨(1, 10), .StmtEnd, (2, 0)⟩, ⟨(2, 1), .Ident c!"xs", (2, 2)⟩, ⟨(2, 3), .BracketOpen, (2, 3)⟩,
    ⟨(2, 4), .ParenOpen, (2, 4)⟩, ⟨(2, 5), .Fn, (2, 6)⟩, ⟨(2, 7), .ParenOpen, (2, 7)⟩, ⟨(2, 8), .ParenClose, (2, 8)⟩,
    ⟨(2, 10), .BraceOpen, (2, 10)⟩] ++ hole ++
  [⟨(2, 18), .Return, (2, 23)⟩, ⟨(2, 25), .IntLiteral 0, (2, 25)⟩, ⟨(2, 26), .StmtEnd, (2, 26)⟩, ⟨(2, 28), .BraceClose, (2, 28)⟩,
    ⟨(2, 29), .ParenClose, (2, 29)⟩, ⟨(2, 30), .ParenOpen, (2, 30)⟩, ⟨(2, 31), .ParenClose, (2, 31)⟩, ⟨(2, 32), .BracketClose, (2, 32)⟩,
    ⟨(2, 34), .Equals, (2, 34)⟩, ⟨(2, 36), .IntLiteral 5, (2, 36)⟩, ⟨(2, 37), .StmtEnd, (3, 0)⟩, ⟨(3, 1), .Ident c!"print", (3, 5)⟩,
    ⟨(3, 6), .ParenOpen, (3, 6)⟩, ⟨(3, 7), .Ident c!"xs", (3, 8)⟩, ⟨(3, 9), .BracketOpen, (3, 9)⟩, ⟨(3, 10), .IntLiteral 0, (3, 10)⟩,
    ⟨(3, 11), .BracketClose, (3, 11)⟩, ⟨(3, 12), .ParenClose, (3, 12)⟩, ⟨(3, 13), .StmtEnd, (4, 0)⟩]

theorem lex4 : lexAll src4 = (toks4 [⟨(2, 12), .True, (2, 15)⟩, ⟨(2, 16), .StmtEnd, (2, 16)⟩], none) := by decide +kernel
theorem lex4' : lexAll src4' = (toks4 [], none) := by decide +kernel

theorem parse4 : parseProg src4 = .ok (K4.plug [.Expr (ttAt (2, 12))]) := parseProg_of_tokens lex4 rfl
theorem parse4' : parseProg src4' = .ok (K4.plug []) := parseProg_of_tokens lex4' rfl

example (path : List Char) (o : Outcome) (ho : o.status ≠ .timeout) :
    (∃ n, run n path src4 = o) ↔ (∃ n, run n path src4' = o) :=
  fn_ctx_run K4 (true_skip_upto (2, 12)) path src4 src4' parse4 parse4' o ho

example : (run 80 c!"t.sd" src4).out = [c!"5"] ∧ (run 80 c!"t.sd" src4).status = .success := by decide +kernel
example : (run 80 c!"t.sd" src4').out = [c!"5"] ∧ (run 80 c!"t.sd" src4').status = .success := by decide +kernel

end Seed.C01
