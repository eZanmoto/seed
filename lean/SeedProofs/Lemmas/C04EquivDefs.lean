/-
  Lemmas/C04EquivDefs.lean — consistent renaming of variables: the action of a renaming `π` on syntax, on states
  (same addresses: scope cells get their keys renamed, function cells their stored parameter patterns and bodies), on
  errors (the name a diagnostic mentions) and on results; the syntactic side condition `ok…` (names that double as
  object keys or as the printed name of a function are fixed by `π`; interpolation slots, which are parsed at run time
  from the text of the literal, satisfy a predicate `P` supplied by the user); the invariant `Good` ("every function
  cell holds `ok` code"); the simulation relation `Sim` and its congruence rules.
-/
import SeedProofs.Lemmas.C04Rename
import SeedProofs.Lemmas.StateMap
namespace Seed
namespace Eqv
open ScopeL

variable (π : List Char → List Char)

/-! ### the action on syntax: every `Var` name and every `fn` statement name is renamed -/

mutual
def rRaw : RawExpr → RawExpr
  | .Null => .Null
  | .Bool b => .Bool b
  | .Int n => .Int n
  | .Str s sl => .Str s sl
  | .Var n => .Var (π n)
  | .BinaryOp op l a b => .BinaryOp op l (rExpr a) (rExpr b)
  | .List items c => .List (rItems items) c
  | .Index e i => .Index (rExpr e) (rExpr i)
  | .RangeIndex e a b => .RangeIndex (rExpr e) (rOpt a) (rOpt b)
  | .Range a b => .Range (rExpr a) (rExpr b)
  | .Object ps => .Object (rProps ps)
  | .Prop e n t => .Prop (rExpr e) n t
  | .Func args c ss => .Func (rExprs args) c (rStmts ss)
  | .Call f args => .Call (rExpr f) (rItems args)
def rExpr : Expr → Expr
  | .mk r l => .mk (rRaw r) l
def rOpt : Option Expr → Option Expr
  | none => none
  | some e => some (rExpr e)
def rExprs : List Expr → List Expr
  | [] => []
  | e :: r => rExpr e :: rExprs r
def rItem : ListItem → ListItem
  | .mk e s => .mk (rExpr e) s
def rItems : List ListItem → List ListItem
  | [] => []
  | i :: r => rItem i :: rItems r
def rProp : PropItem → PropItem
  | .Pair n v => .Pair (rExpr n) (rExpr v)
  | .Single e s c => .Single (rExpr e) s c
def rProps : List PropItem → List PropItem
  | [] => []
  | p :: r => rProp p :: rProps r
def rStmt : Stmt → Stmt
  | .Block b => .Block (rStmts b)
  | .Expr e => .Expr (rExpr e)
  | .Declare l r => .Declare (rExpr l) (rExpr r)
  | .Assign l r => .Assign (rExpr l) (rExpr r)
  | .OpAssign l op ol r => .OpAssign (rExpr l) op ol (rExpr r)
  | .If bs els => .If (rBranches bs) (rOptStmts els)
  | .While c ss => .While (rExpr c) (rStmts ss)
  | .For l i ss => .For (rExpr l) (rExpr i) (rStmts ss)
  | .Break l => .Break l
  | .Continue l => .Continue l
  | .Func name nl args c ss => .Func (π name) nl (rExprs args) c (rStmts ss)
  | .Return l e => .Return l (rExpr e)
def rStmts : List Stmt → List Stmt
  | [] => []
  | s :: r => rStmt s :: rStmts r
def rOptStmts : Option (List Stmt) → Option (List Stmt)
  | none => none
  | some ss => some (rStmts ss)
def rBranch : Branch → Branch
  | .mk c ss => .mk (rExpr c) (rStmts ss)
def rBranches : List Branch → List Branch
  | [] => []
  | b :: r => rBranch b :: rBranches r
end

def rBinds (bs : List (Expr × SVal)) : List (Expr × SVal) := bs.map fun b => (rExpr π b.1, b.2)

def FixVar (e : Expr) : Prop := ∀ a, e.raw = .Var a → π a = a

variable (P : Expr → Prop)

def SlotsP (s : List Char) (slots : List (Nat × Nat)) : Prop :=
  ∀ p, p ∈ slots → ∀ ast, parseExprTop (sliceChars s (p.1 + 2) (p.2 - 1)) = .ok ast → P ast

mutual
def okRaw : RawExpr → Prop
  | .Null => True
  | .Bool _ => True
  | .Int _ => True
  | .Str _ none => True
  | .Str s (some slots) => SlotsP P s slots
  | .Var _ => True
  | .BinaryOp _ _ a b => okExpr a ∧ okExpr b
  | .List items _ => okItems items
  | .Index e i => okExpr e ∧ okExpr i
  | .RangeIndex e a b => okExpr e ∧ okOpt a ∧ okOpt b
  | .Range a b => okExpr a ∧ okExpr b
  | .Object ps => okProps ps
  | .Prop e _ _ => okExpr e
  | .Func args _ ss => okExprs args ∧ okStmts ss
  | .Call f args => okExpr f ∧ okItems args
def okExpr : Expr → Prop
  | .mk r _ => okRaw r
def okOpt : Option Expr → Prop
  | none => True
  | some e => okExpr e
def okExprs : List Expr → Prop
  | [] => True
  | e :: r => okExpr e ∧ okExprs r
def okItem : ListItem → Prop
  | .mk e _ => okExpr e
def okItems : List ListItem → Prop
  | [] => True
  | i :: r => okItem i ∧ okItems r
/-- object shorthand `{a}` (expression or pattern) uses the variable's name as the key: `π` must fix it -/
def okProp : PropItem → Prop
  | .Pair n v => okExpr n ∧ okExpr v
  | .Single e s c => okExpr e ∧ (s = false → c = false → FixVar π e)
def okProps : List PropItem → Prop
  | [] => True
  | p :: r => okProp p ∧ okProps r
/-- the name of a `fn` statement is shown by `print` and by stack traces: `π` must fix it -/
def okStmt : Stmt → Prop
  | .Block b => okStmts b
  | .Expr e => okExpr e
  | .Declare l r => okExpr l ∧ okExpr r
  | .Assign l r => okExpr l ∧ okExpr r
  | .OpAssign l _ _ r => okExpr l ∧ okExpr r
  | .If bs els => okBranches bs ∧ okOptStmts els
  | .While c ss => okExpr c ∧ okStmts ss
  | .For l i ss => okExpr l ∧ okExpr i ∧ okStmts ss
  | .Break _ => True
  | .Continue _ => True
  | .Func name _ args _ ss => π name = name ∧ okExprs args ∧ okStmts ss
  | .Return _ e => okExpr e
def okStmts : List Stmt → Prop
  | [] => True
  | s :: r => okStmt s ∧ okStmts r
def okOptStmts : Option (List Stmt) → Prop
  | none => True
  | some ss => okStmts ss
def okBranch : Branch → Prop
  | .mk c ss => okExpr c ∧ okStmts ss
def okBranches : List Branch → Prop
  | [] => True
  | b :: r => okBranch b ∧ okBranches r
end

def okBinds (bs : List (Expr × SVal)) : Prop := ∀ b, b ∈ bs → okExpr π P b.1

def rFr (fr : FuncRec) : FuncRec := ⟨fr.name, rExprs π fr.args, fr.collect, rStmts π fr.stmts, fr.closure⟩

def rCell : Cell → Cell
  | .scope m => .scope (Ren.map π m)
  | .func f => .func (rFr π f)
  | .list xs => .list xs
  | .obj m => .obj m

def rSt (σ : State) : State := ⟨σ.heap.map (rCell π), σ.out⟩

/-- the diagnostics that mention a variable name -/
def rLeaf : Gen.Leaf → Gen.Leaf
  | .Undefined n => .Undefined (π n)
  | .AlreadyInBinding n => .AlreadyInBinding (π n)
  | .AlreadyInScope n l c => .AlreadyInScope (π n) l c
  | .DupParamName n l c => .DupParamName (π n) l c
  | l => l

def rErr : Err → Err
  | .leaf l => .leaf (rLeaf π l)
  | .atLoc l c e => .atLoc l c (rErr e)
  | .funcCall n cl e => .funcCall n cl (rErr e)
  | .builtinCall n cl e => .builtinCall n cl (rErr e)

def rRes {α} (fa : α → α) : Res α → Res α
  | .ok a σ => .ok (fa a) (rSt π σ)
  | .err e σ => .err (rErr π e) (rSt π σ)
  | .crash w σ => .crash w (rSt π σ)
  | .timeout => .timeout

def Good (σ : State) : Prop := ∀ a fr, σ.getFunc a = some fr → okExprs π P fr.args ∧ okStmts π P fr.stmts

def GoodRes {α} : Res α → Prop
  | .ok _ σ => Good π P σ
  | _ => True

/-- `r'` (the run of the renamed program from the renamed state) is the renaming of `r`, and `r` ends in a good state -/
def Sim {α} (fa : α → α) (r' r : Res α) : Prop := r' = rRes π fa r ∧ GoodRes π P r

@[simp] theorem size_rSt (σ : State) : (rSt π σ).heap.size = σ.heap.size := by simp [rSt]
@[simp] theorem out_rSt (σ : State) : (rSt π σ).out = σ.out := rfl

theorem heap_rSt (σ : State) (a : Addr) : (rSt π σ).heap[a]? = (σ.heap[a]?).map (rCell π) := by
  simp [rSt]

@[simp] theorem getList_rSt (σ : State) (a : Addr) : (rSt π σ).getList a = σ.getList a := by
  unfold State.getList; rw [heap_rSt]
  cases σ.heap[a]? with
  | none => rfl
  | some c => cases c <;> rfl

@[simp] theorem getObj_rSt (σ : State) (a : Addr) : (rSt π σ).getObj a = σ.getObj a := by
  unfold State.getObj; rw [heap_rSt]
  cases σ.heap[a]? with
  | none => rfl
  | some c => cases c <;> rfl

theorem getScope_rSt (σ : State) (a : Addr) : (rSt π σ).getScope a = (σ.getScope a).map (Ren.map π) := by
  unfold State.getScope; rw [heap_rSt]
  cases σ.heap[a]? with
  | none => rfl
  | some c => cases c <;> rfl

theorem getFunc_rSt (σ : State) (a : Addr) : (rSt π σ).getFunc a = (σ.getFunc a).map (rFr π) := by
  unfold State.getFunc; rw [heap_rSt]
  cases σ.heap[a]? with
  | none => rfl
  | some c => cases c <;> rfl

/-- the state after an allocation (so that `σ.alloc c` is the explicit pair `(σ.heap.size, allocS σ c)`) -/
def allocS (σ : State) (c : Cell) : State := (σ.alloc c).2

theorem alloc_pair (σ : State) (c : Cell) : σ.alloc c = (σ.heap.size, allocS σ c) := rfl

theorem allocS_rSt (σ : State) (c : Cell) : allocS (rSt π σ) (rCell π c) = rSt π (allocS σ c) := by
  simp [allocS, State.alloc, rSt]

@[simp] theorem allocS_rSt_list (σ : State) (xs : List SVal) : allocS (rSt π σ) (.list xs) = rSt π (allocS σ (.list xs)) :=
  allocS_rSt π σ (.list xs)
@[simp] theorem allocS_rSt_obj (σ : State) (m : ObjMap) : allocS (rSt π σ) (.obj m) = rSt π (allocS σ (.obj m)) :=
  allocS_rSt π σ (.obj m)
@[simp] theorem allocS_rSt_scope (σ : State) : allocS (rSt π σ) (.scope []) = rSt π (allocS σ (.scope [])) :=
  allocS_rSt π σ (.scope [])
theorem allocS_rSt_func (σ : State) (fr : FuncRec) : allocS (rSt π σ) (.func (rFr π fr)) = rSt π (allocS σ (.func fr)) :=
  allocS_rSt π σ (.func fr)

theorem set_rSt (σ : State) (a : Addr) (c : Cell) : (rSt π σ).set a (rCell π c) = rSt π (σ.set a c) := by
  simp [State.set, rSt, Array.map_setIfInBounds]

@[simp] theorem set_rSt_list (σ : State) (a : Addr) (xs : List SVal) : (rSt π σ).set a (.list xs) = rSt π (σ.set a (.list xs)) :=
  set_rSt π σ a (.list xs)
@[simp] theorem set_rSt_obj (σ : State) (a : Addr) (m : ObjMap) : (rSt π σ).set a (.obj m) = rSt π (σ.set a (.obj m)) :=
  set_rSt π σ a (.obj m)
theorem set_rSt_scope (σ : State) (a : Addr) (m : ScopeMap) :
    (rSt π σ).set a (.scope (Ren.map π m)) = rSt π (σ.set a (.scope m)) :=
  set_rSt π σ a (.scope m)

@[simp] theorem print_rSt (σ : State) (l : List Char) : (rSt π σ).print l = rSt π (σ.print l) := rfl

variable {π P}

theorem good_init : Good π P State.init := FuncsAll.init

theorem good_allocS_list {σ : State} (xs : List SVal) (h : Good π P σ) : Good π P (allocS σ (.list xs)) :=
  FuncsAll.alloc h _ (fun _ e => by cases e)
theorem good_allocS_obj {σ : State} (m : ObjMap) (h : Good π P σ) : Good π P (allocS σ (.obj m)) :=
  FuncsAll.alloc h _ (fun _ e => by cases e)
theorem good_allocS_scope {σ : State} (m : ScopeMap) (h : Good π P σ) : Good π P (allocS σ (.scope m)) :=
  FuncsAll.alloc h _ (fun _ e => by cases e)
theorem good_allocS_func {σ : State} (fr : FuncRec) (h : Good π P σ) (h1 : okExprs π P fr.args) (h2 : okStmts π P fr.stmts) :
    Good π P (allocS σ (.func fr)) :=
  FuncsAll.alloc h _ (fun _ e => by cases e; exact ⟨h1, h2⟩)

theorem good_set_list {σ : State} (a : Addr) (xs : List SVal) (h : Good π P σ) : Good π P (σ.set a (.list xs)) :=
  FuncsAll.set h a _ (fun _ e => by cases e)
theorem good_set_obj {σ : State} (a : Addr) (m : ObjMap) (h : Good π P σ) : Good π P (σ.set a (.obj m)) :=
  FuncsAll.set h a _ (fun _ e => by cases e)
theorem good_set_scope {σ : State} (a : Addr) (m : ScopeMap) (h : Good π P σ) : Good π P (σ.set a (.scope m)) :=
  FuncsAll.set h a _ (fun _ e => by cases e)
theorem good_print {σ : State} (l : List Char) (h : Good π P σ) : Good π P (σ.print l) := h

namespace Sim
variable {α β : Type} {fa : α → α} {fb : β → β}

theorem of_eq {r' r : Res α} (h : r' = rRes π fa r) (g : GoodRes π P r) : Sim π P fa r' r := ⟨h, g⟩

theorem timeout : Sim π P fa (.timeout : Res α) .timeout := ⟨rfl, trivial⟩

theorem ok {a : α} {σ : State} (g : Good π P σ) : Sim π P fa (.ok (fa a) (rSt π σ)) (.ok a σ) := ⟨rfl, g⟩

theorem bind {r' r : Res α} {g' g : α → State → Res β} (h : Sim π P fa r' r)
    (hg : ∀ a σ1, Good π P σ1 → Sim π P fb (g' (fa a) (rSt π σ1)) (g a σ1)) :
    Sim π P fb (r'.bind g') (r.bind g) := by
  obtain ⟨h1, h2⟩ := h
  subst h1
  cases r with
  | ok a σ1 => exact hg a σ1 h2
  | err e σ1 => exact ⟨rfl, trivial⟩
  | crash w σ1 => exact ⟨rfl, trivial⟩
  | timeout => exact ⟨rfl, trivial⟩

/-- `bind` for a computation whose result is not renamed: no `id` is left in the continuation -/
theorem bind_id {r' r : Res α} {g' g : α → State → Res β} (h : Sim π P id r' r)
    (hg : ∀ a σ1, Good π P σ1 → Sim π P fb (g' a (rSt π σ1)) (g a σ1)) : Sim π P fb (r'.bind g') (r.bind g) :=
  bind h hg

theorem map {r' r : Res α} {f : α → β} (h : Sim π P fa r' r) (hf : ∀ a, f (fa a) = fb (f a)) :
    Sim π P fb (r'.map f) (r.map f) := by
  obtain ⟨h1, h2⟩ := h
  subst h1
  cases r with
  | ok a σ1 => exact ⟨by simp [Res.map, rRes, hf], h2⟩
  | err e σ1 => exact ⟨rfl, trivial⟩
  | crash w σ1 => exact ⟨rfl, trivial⟩
  | timeout => exact ⟨rfl, trivial⟩

theorem mapErr {r' r : Res α} {f : Err → Err} (h : Sim π P fa r' r) (hf : ∀ e, f (rErr π e) = rErr π (f e)) :
    Sim π P fa (r'.mapErr f) (r.mapErr f) := by
  obtain ⟨h1, h2⟩ := h
  subst h1
  cases r with
  | ok a σ1 => exact ⟨rfl, h2⟩
  | err e σ1 => exact ⟨by simp [Res.mapErr, rRes, hf], trivial⟩
  | crash w σ1 => exact ⟨rfl, trivial⟩
  | timeout => exact ⟨rfl, trivial⟩

theorem errAt {loc : Loc} {l : Gen.Leaf} {σ : State} (h : rLeaf π l = l := by rfl) :
    Sim π P fa (errAt loc l (rSt π σ)) (errAt loc l σ) :=
  ⟨by simp only [Seed.errAt, Err.at, rRes, rErr, h], trivial⟩

theorem crashHeap {σ : State} : Sim π P fa (crashHeap (rSt π σ)) (crashHeap σ) := ⟨rfl, trivial⟩

theorem ite {c : Prop} [Decidable c] {a' b' a b : Res α} (h1 : Sim π P fa a' a) (h2 : Sim π P fa b' b) :
    Sim π P fa (if c then a' else b') (if c then a else b) := by
  split <;> assumption

end Sim

end Eqv
end Seed
