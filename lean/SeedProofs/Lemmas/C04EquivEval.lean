/-
  Lemmas/C04EquivEval.lean — consistent renaming commutes with every function of the evaluator.

  `EqAll π P n`: one field per evaluator function, "running the renamed code from the renamed state is the renaming
  of the run" (`Sim`), under the side condition `ok…` on the code and `Good` on the state.
  Hand-written steps are exactly the places where a *name* is used: variable read, object shorthand, the name binder,
  `fn` (allocation of a function cell), calls (parameter patterns and bodies come out of the heap, `this`), and
  interpolation slots (parsed at run time: `P`).
-/
import SeedProofs.Lemmas.C04EquivPrim
namespace Seed
namespace Eqv

variable {π : List Char → List Char} {P : Expr → Prop}

@[simp] theorem loc_rExpr (e : Expr) : (rExpr π e).loc = e.loc := by cases e; rfl
@[simp] theorem raw_rExpr (e : Expr) : (rExpr π e).raw = rRaw π e.raw := by cases e; rfl
@[simp] theorem length_rExprs (l : List Expr) : (rExprs π l).length = l.length := by simp [rExprs_eq_map]
@[simp] theorem length_rItems (l : List ListItem) : (rItems π l).length = l.length := by
  induction l with
  | nil => rfl
  | cons a r ih => exact congrArg (· + 1) ih
@[simp] theorem length_rProps (l : List PropItem) : (rProps π l).length = l.length := by
  induction l with
  | nil => rfl
  | cons a r ih => exact congrArg (· + 1) ih

theorem ok_var {x : List Char} {l : Loc} : okExpr π P (.mk (.Var x) l) := trivial

theorem okBinds_nil : okBinds π P [] := fun _ h => by cases h
theorem okBinds_cons {b : Expr × SVal} {r : List (Expr × SVal)} (h1 : okExpr π P b.1) (h2 : okBinds π P r) : okBinds π P (b :: r) := by
  intro x hx
  rcases List.mem_cons.mp hx with rfl | hx
  · exact h1
  · exact h2 x hx
theorem okBinds_head {b : Expr × SVal} {r : List (Expr × SVal)} (h : okBinds π P (b :: r)) : okExpr π P b.1 :=
  h b List.mem_cons_self
theorem okBinds_tail {b : Expr × SVal} {r : List (Expr × SVal)} (h : okBinds π P (b :: r)) : okBinds π P r :=
  fun x hx => h x (List.mem_cons_of_mem _ hx)
theorem okBinds_append {a b : List (Expr × SVal)} (h1 : okBinds π P a) (h2 : okBinds π P b) : okBinds π P (a ++ b) := by
  intro x hx
  rcases List.mem_append.mp hx with h | h
  · exact h1 x h
  · exact h2 x h
theorem okBinds_zip {es : List Expr} (vs : List SVal) (h : okExprs π P es) : okBinds π P (es.zip vs) := by
  induction es generalizing vs with
  | nil => exact okBinds_nil
  | cons e r ih =>
    cases vs with
    | nil => exact okBinds_nil
    | cons v vs => exact okBinds_cons h.1 (ih vs h.2)

theorem okBinds_this {bs : List (Expr × SVal)} (h : okBinds π P bs) (loc : Loc) (t : Val) :
    okBinds π P (bs ++ [(Expr.mk (.Var c!"this") loc, SVal.plain t)]) :=
  okBinds_append h (okBinds_cons (b := (Expr.mk (.Var c!"this") loc, SVal.plain t)) ok_var okBinds_nil)

theorem rBinds_zip (es : List Expr) (vs : List SVal) : (rExprs π es).zip vs = rBinds π (es.zip vs) := by
  induction es generalizing vs with
  | nil => rfl
  | cons e r ih =>
    cases vs with
    | nil => rfl
    | cons v vs => exact congrArg ((rExpr π e, v) :: ·) (ih vs)
theorem rBinds_append (a b : List (Expr × SVal)) : rBinds π (a ++ b) = rBinds π a ++ rBinds π b := by
  simp [rBinds]

theorem rBinds_var {x : List Char} (hx : π x = x) (l : Loc) (v : SVal) :
    rBinds π [(.mk (.Var x) l, v)] = [(.mk (.Var x) l, v)] := by
  show [(Expr.mk (.Var (π x)) l, v)] = _
  rw [hx]

theorem slotsP_tail {s : List Char} {p : Nat × Nat} {r : List (Nat × Nat)} (h : SlotsP P s (p :: r)) : SlotsP P s r :=
  fun q hq => h q (List.mem_cons_of_mem _ hq)

theorem mk_push (σ : State) (c : Cell) : (⟨σ.heap.push c, σ.out⟩ : State) = allocS σ c := rfl

structure EqAll (π : List Char → List Char) (P : Expr → Prop) (n : Nat) : Prop where
  evalExpr : ∀ σ sc e, Good π P σ → okExpr π P e → Sim π P id (evalExpr n (rSt π σ) sc (rExpr π e)) (evalExpr n σ sc e)
  evalOptIndex : ∀ σ sc e, Good π P σ → okOpt π P e → Sim π P id (evalOptIndex n (rSt π σ) sc (rOpt π e)) (evalOptIndex n σ sc e)
  evalListItems : ∀ σ sc items acc, Good π P σ → okItems π P items →
    Sim π P id (evalListItems n (rSt π σ) sc (rItems π items) acc) (evalListItems n σ sc items acc)
  evalProps : ∀ σ sc l props acc, Good π P σ → okProps π P props →
    Sim π P id (evalProps n (rSt π σ) sc l (rProps π props) acc) (evalProps n σ sc l props acc)
  evalCall : ∀ σ sc f args loc, Good π P σ → okExpr π P f → okItems π P args →
    Sim π P id (evalCall n (rSt π σ) sc (rExpr π f) (rItems π args) loc) (evalCall n σ sc f args loc)
  evalToStr : ∀ σ sc d e, Good π P σ → okExpr π P e → Sim π P id (evalToStr n (rSt π σ) sc d (rExpr π e)) (evalToStr n σ sc d e)
  evalToBool : ∀ σ sc d e, Good π P σ → okExpr π P e → Sim π P id (evalToBool n (rSt π σ) sc d (rExpr π e)) (evalToBool n σ sc d e)
  evalToInt : ∀ σ sc d e, Good π P σ → okExpr π P e → Sim π P id (evalToInt n (rSt π σ) sc d (rExpr π e)) (evalToInt n σ sc d e)
  evalToIndex : ∀ σ sc e, Good π P σ → okExpr π P e → Sim π P id (evalToIndex n (rSt π σ) sc (rExpr π e)) (evalToIndex n σ sc e)
  interpolate : ∀ σ sc s slots loc last acc, Good π P σ → SlotsP P s slots →
    Sim π P id (interpolate n (rSt π σ) sc s slots loc last acc) (interpolate n σ sc s slots loc last acc)
  evalBlock : ∀ σ sc bs stmts, Good π P σ → okBinds π P bs → okStmts π P stmts →
    Sim π P id (evalBlock n (rSt π σ) sc (rBinds π bs) (rStmts π stmts)) (evalBlock n σ sc bs stmts)
  declareAll : ∀ σ sc bs, Good π P σ → okBinds π P bs → Sim π P id (declareAll n (rSt π σ) sc (rBinds π bs)) (declareAll n σ sc bs)
  evalStmts : ∀ σ sc stmts, Good π P σ → okStmts π P stmts → Sim π P id (evalStmts n (rSt π σ) sc (rStmts π stmts)) (evalStmts n σ sc stmts)
  evalStmt : ∀ σ sc st, Good π P σ → okStmt π P st → Sim π P id (evalStmt n (rSt π σ) sc (rStmt π st)) (evalStmt n σ sc st)
  evalIf : ∀ σ sc bs els, Good π P σ → okBranches π P bs → okOptStmts π P els →
    Sim π P id (evalIf n (rSt π σ) sc (rBranches π bs) (rOptStmts π els)) (evalIf n σ sc bs els)
  evalWhile : ∀ σ sc c stmts, Good π P σ → okExpr π P c → okStmts π P stmts →
    Sim π P id (evalWhile n (rSt π σ) sc (rExpr π c) (rStmts π stmts)) (evalWhile n σ sc c stmts)
  evalFor : ∀ σ sc lhs pairs stmts, Good π P σ → okExpr π P lhs → okStmts π P stmts →
    Sim π P id (evalFor n (rSt π σ) sc (rExpr π lhs) pairs (rStmts π stmts)) (evalFor n σ sc lhs pairs stmts)
  bindNext : ∀ σ sc names lhs rhs op decl, Good π P σ → okExpr π P lhs →
    Sim π P (List.map π) (bindNext n (rSt π σ) sc (names.map π) (rExpr π lhs) rhs op decl) (bindNext n σ sc names lhs rhs op decl)
  bindProp : ∀ σ a name loc rhs op names vi, Good π P σ →
    Sim π P (List.map π) (bindProp n (rSt π σ) a name loc rhs op (names.map π) vi) (bindProp n σ a name loc rhs op names vi)
  bindRangeIndex : ∀ σ sc a start stop loc rhsItems names, Good π P σ → okOpt π P start → okOpt π P stop →
    Sim π P (List.map π) (bindRangeIndex n (rSt π σ) sc a (rOpt π start) (rOpt π stop) loc rhsItems (names.map π))
      (bindRangeIndex n σ sc a start stop loc rhsItems names)
  bindList : ∀ σ sc names items collect lhsLoc b decl i lhsLen, Good π P σ → okItems π P items →
    Sim π P (List.map π) (bindList n (rSt π σ) sc (names.map π) (rItems π items) collect lhsLoc b decl i lhsLen)
      (bindList n σ sc names items collect lhsLoc b decl i lhsLen)
  bindObject : ∀ σ sc names props b decl i total remaining, Good π P σ → okProps π P props →
    Sim π P (List.map π) (bindObject n (rSt π σ) sc (names.map π) (rProps π props) b decl i total remaining)
      (bindObject n σ sc names props b decl i total remaining)
  bindObjectProp : ∀ σ sc names lhs b pname ploc decl, Good π P σ → okExpr π P lhs →
    Sim π P (List.map π) (bindObjectProp n (rSt π σ) sc (names.map π) (rExpr π lhs) b pname ploc decl)
      (bindObjectProp n σ sc names lhs b pname ploc decl)

theorem EqAll.evalBlock0 {n : Nat} (ih : EqAll π P n) (σ : State) (sc : List Addr) (stmts : List Stmt) (hg : Good π P σ)
    (hs : okStmts π P stmts) : Sim π P id (Seed.evalBlock n (rSt π σ) sc [] (rStmts π stmts)) (Seed.evalBlock n σ sc [] stmts) :=
  ih.evalBlock σ sc [] stmts hg okBinds_nil hs

theorem EqAll.bindNext0 {n : Nat} (ih : EqAll π P n) (σ : State) (sc : List Addr) (lhs : Expr) (rhs : SVal)
    (op : Option (BinaryOp × Loc)) (decl : Bool) (hg : Good π P σ) (hs : okExpr π P lhs) :
    Sim π P (List.map π) (Seed.bindNext n (rSt π σ) sc [] (rExpr π lhs) rhs op decl) (Seed.bindNext n σ sc [] lhs rhs op decl) :=
  ih.bindNext σ sc [] lhs rhs op decl hg hs

/-! ### the walk

  After `unfold f` both sides are the same program text, the left one over the renamed state and code.  `eq_auto` walks
  it: a `bind` is peeled with `Sim.bind_id` / `Sim.bind` (its first computation is a call: `eq_call`), the reads and
  writes of the renamed state in the continuation are normalised (`eq_norm`), an `if` or `match` is split, a leaf is
  closed by `eq_leaf`.  Every alternative is matched `with_reducible`, i.e. syntactically, so that one that does not
  apply fails at once instead of unfolding the evaluator. -/

/-- side goals of a call or leaf: an assumption (a good state, a piece of the side condition), or a good state with one
    more list / object / scope cell written or allocated -/
macro "eq_good" : tactic =>
  `(tactic| with_reducible first
    | assumption
    | exact good_allocS_list _ ‹_›
    | exact good_set_list _ _ ‹_›
    | exact good_allocS_obj _ ‹_›
    | exact good_set_obj _ _ ‹_›
    | exact good_allocS_scope _ ‹_›)

macro "eq_call " "[" ls:term,* "]" : tactic =>
  `(tactic| (with_reducible first $[| apply $ls]*) <;> eq_good)

/-- a leaf: a diagnostic without a name in it, a heap crash, a result in a good state, a call, or anything else whose
    final state is not used again (`timeout`, the other crashes) -/
macro "eq_leaf " "[" ls:term,* "]" : tactic =>
  `(tactic| first
    | ((with_reducible refine Sim.errAt ?_); rfl)
    | with_reducible exact Sim.crashHeap
    | (refine Sim.ok ?_; eq_good)
    | eq_call [$ls,*]
    | exact Sim.of_eq rfl trivial)

macro "eq_norm" : tactic =>
  `(tactic| simp only [getList_rSt, getObj_rSt, size_rSt, alloc_pair, allocS_rSt_list, allocS_rSt_obj, allocS_rSt_scope,
      set_rSt_list, set_rSt_obj, toPairs_rSt, loc_rExpr, length_rExprs, length_rItems, length_rProps, invalidBindDescr])

macro "eq_auto " "[" ls:term,* "]" : tactic =>
  `(tactic| ((try eq_norm); repeat' first
    | ((with_reducible apply Sim.bind_id); eq_call [$ls,*]; intro _ _ _; try eq_norm)
    | ((with_reducible apply Sim.bind); eq_call [$ls,*]; intro _ _ _; try eq_norm)
    | with_reducible apply Sim.ite
    | split
    | eq_leaf [$ls,*]))

macro "split_ands" : tactic => `(tactic| repeat (cases ‹_ ∧ _›))

theorem eqAll_zero : EqAll π P 0 := by
  constructor <;> intros
  · unfold evalExpr; exact Sim.timeout
  · unfold evalOptIndex; exact Sim.timeout
  · unfold evalListItems; exact Sim.timeout
  · unfold evalProps; exact Sim.timeout
  · unfold evalCall; exact Sim.timeout
  · unfold evalToStr; exact Sim.timeout
  · unfold evalToBool; exact Sim.timeout
  · unfold evalToInt; exact Sim.timeout
  · unfold evalToIndex; exact Sim.timeout
  · unfold interpolate; exact Sim.timeout
  · unfold evalBlock; exact Sim.timeout
  · unfold declareAll; exact Sim.timeout
  · unfold evalStmts; exact Sim.timeout
  · unfold evalStmt; exact Sim.timeout
  · unfold evalIf; exact Sim.timeout
  · unfold evalWhile; exact Sim.timeout
  · unfold evalFor; exact Sim.timeout
  · unfold bindNext; exact Sim.timeout
  · unfold bindProp; exact Sim.timeout
  · unfold bindRangeIndex; exact Sim.timeout
  · unfold bindList; exact Sim.timeout
  · unfold bindObject; exact Sim.timeout
  · unfold bindObjectProp; exact Sim.timeout

section
variable (hπ : ∀ a b, π a = π b → a = b) (hu : ∀ a, π a = c!"_" ↔ a = c!"_") (hthis : π c!"this" = c!"this")
  (hP : ∀ ast, P ast → rExpr π ast = ast ∧ okExpr π P ast)
include hπ hu hthis hP

/-- The induction step.  In each case the renamed constructor (`rExpr π ⟨.Index a b, l⟩`, `rStmts π (s :: r)`, …) and the
    side condition on it are computed by `whnf`; the walk is given the calls the function makes. -/
theorem eqAll_succ (n : Nat) (ih : EqAll π P n) : EqAll π P (n + 1) where
  evalExpr σ sc e hg hok := by
    unfold evalExpr
    obtain ⟨raw, loc⟩ := e
    cases raw
    all_goals conv in rExpr π _ => whnf; arg 1; whnf
    case Var name =>
      simp only [scopeGet_rSt π hπ]
      cases scopeGet σ sc name
      · exact Sim.of_eq rfl trivial
      · exact Sim.ok hg
    case Func args c ss =>
      simp only [alloc_pair, size_rSt]
      exact Sim.of_eq (congrArg _ (allocS_rSt_func π σ ⟨none, args, c, ss, sc⟩)) (good_allocS_func _ hg hok.1 hok.2)
    case Str s sl =>
      cases sl
      · exact Sim.ok hg
      · exact Sim.bind (ih.interpolate σ sc s _ loc 0 [] hg hok) (fun _ _ h => Sim.ok h)
    all_goals
      conv at hok => whnf
      split_ands
      eq_auto [ih.evalExpr, ih.evalToIndex, ih.evalToStr, ih.evalOptIndex, ih.evalToInt, ih.evalListItems, ih.evalProps,
        ih.evalCall, applyBinOp_sim]
  evalOptIndex σ sc e hg hok := by
    unfold evalOptIndex
    cases e with
    | none => exact Sim.ok hg
    | some e => exact Sim.map (ih.evalToIndex σ sc e hg hok) (fun _ => rfl)
  evalListItems σ sc items acc hg hok := by
    unfold evalListItems
    rcases items with _ | ⟨⟨e, spread⟩, r⟩
    · exact Sim.ok hg
    · obtain ⟨(he : okExpr π P e), hr⟩ := hok
      conv in rItems π _ => whnf; arg 1; whnf
      eq_auto [ih.evalExpr, ih.evalListItems]
  evalProps σ sc l props acc hg hok := by
    unfold evalProps
    rcases props with _ | ⟨p, r⟩
    · exact Sim.ok hg
    · obtain ⟨hp, hr⟩ := hok
      cases p
      all_goals conv in rProps π _ => whnf; arg 1; whnf
      case Pair nameE value =>
        obtain ⟨h1, h2⟩ := hp
        eq_auto [ih.evalToStr, ih.evalExpr, ih.evalProps]
      case Single e spread collect =>
        obtain ⟨he, hfix⟩ := hp
        cases collect
        case true => exact Sim.errAt
        cases spread <;> simp only [Bool.false_eq_true, if_false, if_true, loc_rExpr, raw_rExpr]
        case true => eq_auto [ih.evalExpr, ih.evalProps]
        -- shorthand `{x}`: the variable name is the key, and `π` fixes it
        obtain ⟨raw, el⟩ := e
        cases raw
        all_goals conv in rRaw π _ => whnf
        case Var name =>
          have hn : π name = name := hfix rfl rfl name rfl
          have hs := scopeGet_rSt π hπ σ sc name
          rw [hn] at hs
          simp only [Expr.raw, Expr.loc, hn, hs]
          cases scopeGet σ sc name with
          | none => exact Sim.of_eq (by simp only [errAt, Err.at, rRes, rErr, rLeaf, hn]) trivial
          | some v => exact ih.evalProps σ sc l r _ hg hr
        all_goals exact Sim.errAt
  evalCall σ sc f args loc hg hf ha := by
    unfold evalCall
    refine Sim.bind_id (ih.evalListItems σ sc args [] hg ha) ?_
    intro argVals σ1 hg1
    refine Sim.bind_id (ih.evalExpr σ1 sc f hg1 hf) ?_
    intro fv σ2 hg2
    cases fv.v
    case builtin name bid => exact Sim.mapErr (callBuiltin_sim n _ _ _ hg2) (fun _ => rfl)
    case func a =>
      -- the callee's parameter patterns and body come out of the heap, renamed; `this` is fixed by `π`
      simp only [getFunc_rSt]
      cases hfr : σ2.getFunc a with
      | none => exact Sim.crashHeap
      | some fr =>
        obtain ⟨hfa, hfs⟩ := hg2 a fr hfr
        have hthis' (t : Val) (bs : List (Expr × SVal)) : rBinds π bs ++ [(Expr.mk (.Var c!"this") loc, SVal.plain t)] =
            rBinds π (bs ++ [(Expr.mk (.Var c!"this") loc, SVal.plain t)]) := by
          rw [rBinds_append, rBinds_var hthis]
        simp only [Option.map, rFr, length_rExprs]
        refine Sim.ite Sim.errAt (Sim.ite Sim.errAt ?_)
        cases fr.collect <;> cases fv.src <;>
          simp only [Bool.false_eq_true, if_false, if_true, alloc_pair, size_rSt, allocS_rSt_list, rBinds_zip, hthis']
        all_goals
          refine Sim.bind_id (Sim.mapErr (ih.evalBlock _ fr.closure _ fr.stmts (by eq_good)
            (by first | exact okBinds_zip _ hfa | exact okBinds_this (okBinds_zip _ hfa) _ _) hfs) (fun _ => rfl)) ?_
          intro _ _ _
          eq_auto []
    all_goals exact Sim.errAt
  evalToStr σ sc d e hg hok := by unfold evalToStr; eq_auto [ih.evalExpr]
  evalToBool σ sc d e hg hok := by unfold evalToBool; eq_auto [ih.evalExpr]
  evalToInt σ sc d e hg hok := by unfold evalToInt; eq_auto [ih.evalExpr]
  evalToIndex σ sc e hg hok := by unfold evalToIndex; eq_auto [ih.evalToInt]
  interpolate σ sc s slots loc last acc hg hok := by
    unfold interpolate
    rcases slots with _ | ⟨⟨start, stop⟩, r⟩
    · exact Sim.ok hg
    · have hr := slotsP_tail hok
      dsimp only []
      -- the slot is parsed at run time: `P` holds of it, so renaming leaves it alone
      cases hp : parseExprTop (sliceChars s (start + 2) (stop - 1)) with
      | timeout => exact Sim.timeout
      | err e => exact Sim.of_eq rfl trivial
      | ok ast =>
        obtain ⟨hfix, hoka⟩ := hP ast (hok (start, stop) List.mem_cons_self ast hp)
        have hs := ih.evalExpr σ sc ast hg hoka
        rw [hfix] at hs
        refine Sim.bind_id (Sim.mapErr hs (fun _ => rfl)) ?_
        intro _ _ _
        eq_auto [ih.interpolate]
  evalBlock σ sc bs stmts hg hb hok := by unfold evalBlock; eq_auto [ih.declareAll, ih.evalStmts]
  declareAll σ sc bs hg hb := by
    unfold declareAll
    rcases bs with _ | ⟨⟨lhs, rhs⟩, r⟩
    · exact Sim.ok hg
    · exact Sim.bind (ih.bindNext0 σ sc lhs rhs none true hg (okBinds_head hb))
        (fun _ σ1 hg1 => ih.declareAll σ1 sc r hg1 (okBinds_tail hb))
  evalStmts σ sc stmts hg hok := by
    unfold evalStmts
    rcases stmts with _ | ⟨st, r⟩
    · exact Sim.ok hg
    · obtain ⟨hs, hr⟩ := hok
      conv in rStmts π _ => whnf
      eq_auto [ih.evalStmt, ih.evalStmts]
  evalStmt σ sc st hg hok := by
    unfold evalStmt
    cases st
    all_goals conv in rStmt π _ => whnf
    case Func name nl args c ss =>
      -- the function cell holds the renamed parameters and body; its name is fixed by `π`
      obtain ⟨hn, ha, hs⟩ := hok
      refine Sim.bind_id (validateArgsRes_sim hπ hu n args hg) ?_
      intro _ σ0 hg0
      have hb := bindNextName_sim hπ hu n sc [] name nl (SVal.plain (.func σ0.heap.size)) none true
        (good_allocS_func ⟨some name, args, c, ss, sc⟩ hg0 ha hs)
      rw [← allocS_rSt_func, hn] at hb
      simp only [alloc_pair, size_rSt, hn]
      exact Sim.bind hb (fun _ σ2 hg2 => Sim.ok hg2)
    all_goals
      conv at hok => whnf
      split_ands
      eq_auto [ih.evalExpr, ih.bindNext0, ih.evalBlock0, ih.evalIf, ih.evalWhile, ih.evalFor]
  evalIf σ sc bs els hg hb he := by
    unfold evalIf
    rcases bs with _ | ⟨⟨c, ss⟩, r⟩
    · cases els with
      | none => exact Sim.ok hg
      | some ss => exact ih.evalBlock0 σ sc ss hg he
    · obtain ⟨⟨hc, hss⟩, hr⟩ := hb
      conv in rBranches π _ => whnf; arg 1; whnf
      eq_auto [ih.evalToBool, ih.evalBlock0, ih.evalIf]
  evalWhile σ sc c stmts hg hc hok := by unfold evalWhile; eq_auto [ih.evalToBool, ih.evalBlock0, ih.evalWhile]
  evalFor σ sc lhs pairs stmts hg hl hok := by
    unfold evalFor
    rcases pairs with _ | ⟨⟨k, v⟩, r⟩
    · exact Sim.ok hg
    · eq_norm
      refine Sim.bind_id (ih.evalBlock _ sc [(lhs, SVal.plain (.list σ.heap.size))] stmts (good_allocS_list _ hg)
        (okBinds_cons hl okBinds_nil) hok) ?_
      intro _ _ _
      eq_auto [ih.evalFor]
  bindNext σ sc names lhs rhs op decl hg hok := by
    unfold bindNext
    obtain ⟨raw, loc⟩ := lhs
    cases raw
    all_goals conv in rExpr π _ => whnf; arg 1; whnf
    case Var name => exact bindNextName_sim hπ hu n sc names name loc rhs op decl hg
    all_goals
      conv at hok => whnf
      split_ands
      eq_auto [ih.evalExpr, ih.evalToIndex, ih.evalToStr, opAssignValue_sim, ih.bindProp, ih.bindRangeIndex, ih.bindObject,
        ih.bindList]
  bindProp σ a name loc rhs op names vi hg := by unfold bindProp; eq_auto [opAssignValue_sim]
  bindRangeIndex σ sc a start stop loc rhsItems names hg h1 h2 := by unfold bindRangeIndex; eq_auto [ih.evalOptIndex]
  bindList σ sc names items collect lhsLoc b decl i lhsLen hg hok := by
    unfold bindList
    rcases items with _ | ⟨⟨e, spread⟩, r⟩
    · exact Sim.ok hg
    · obtain ⟨(he : okExpr π P e), hr⟩ := hok
      conv in rItems π _ => whnf; arg 1; whnf
      eq_auto [ih.bindNext, ih.bindList]
  bindObject σ sc names props b decl i total remaining hg hok := by
    unfold bindObject
    rcases props with _ | ⟨p, r⟩
    · exact Sim.ok hg
    · obtain ⟨hp, hr⟩ := hok
      cases p
      all_goals conv in rProps π _ => whnf; arg 1; whnf
      case Pair nameE newLhs =>
        obtain ⟨h1, h2⟩ := hp
        eq_auto [ih.evalToStr, ih.bindObjectProp, ih.bindObject]
      case Single e spread collect =>
        obtain ⟨he, hfix⟩ := hp
        cases spread <;> simp only [Bool.false_eq_true, if_false, if_true, loc_rExpr, raw_rExpr]
        case true => exact Sim.errAt
        obtain ⟨raw, el⟩ := e
        cases raw
        all_goals conv in rRaw π _ => whnf
        case Var pname =>
          cases collect <;> simp only [Bool.false_eq_true, if_false, if_true, Expr.raw, Expr.loc]
          case true =>
            -- `{..rest}`: the variable is bound like any other name
            refine Sim.ite Sim.errAt ?_
            eq_norm
            cases σ.getObj b with
            | none => exact Sim.crashHeap
            | some m =>
              exact Sim.bind (bindNextName_sim hπ hu n sc names pname el _ none decl (good_allocS_obj _ hg))
                (fun names' σ2 hg2 => ih.bindObject σ2 sc names' r b decl i total remaining hg2 hr)
          case false =>
            -- shorthand `{x}`: the variable name is the key, and `π` fixes it
            have hn : π pname = pname := hfix rfl rfl pname rfl
            have hs := ih.bindObjectProp σ sc names (.mk (.Var pname) el) b pname el decl hg ok_var
            rw [hn]
            exact Sim.ite (ih.bindObject σ sc names r b decl (i + 1) total _ hg hr)
              (Sim.bind hs (fun names' σ1 hg1 => ih.bindObject σ1 sc names' r b decl (i + 1) total _ hg1 hr))
        all_goals exact Sim.errAt
  bindObjectProp σ sc names lhs b pname ploc decl hg hok := by unfold bindObjectProp; eq_auto [ih.bindNext]

theorem eqAll (n : Nat) : EqAll π P n := by
  induction n with
  | zero => exact eqAll_zero
  | succ n ih => exact eqAll_succ hπ hu hthis hP n ih

theorem evalProg_ren (hprint : π c!"print" = c!"print") (n : Nat) (stmts : List Stmt) (hok : okStmts π P stmts) :
    evalProg n (rStmts π stmts) = rRes π id (evalProg n stmts) := by
  have hb := (eqAll hπ hu hthis hP n).evalBlock State.init [] [(Expr.mk (.Var c!"print") (0, 0), SVal.plain (.builtin c!"print" .print))]
    stmts good_init (okBinds_cons (b := (Expr.mk (.Var c!"print") (0, 0), SVal.plain (.builtin c!"print" .print))) ok_var okBinds_nil) hok
  have h0 : rSt π State.init = State.init := by simp [rSt, State.init]
  rw [h0, rBinds_var hprint] at hb
  refine (Sim.bind_id hb ?_).1
  intro esc σ1 hg1
  cases esc
  · exact Sim.ok hg1
  all_goals exact Sim.errAt
end
end Eqv
end Seed
