/-
  Lemmas/C04EquivPrim.lean — the primitives under a renaming: `==`, rendering, binary operations, builtins,
  iteration pairs and parameter validation do not depend on scope cells or on function bodies; the scope walks and the
  name binder are equivariant.
-/
import SeedProofs.Lemmas.C04EquivDefs
namespace Seed
namespace Eqv
open ScopeL

variable (π : List Char → List Char)

/-! ### `==` and rendering read only list / object cells and function names -/

@[simp] theorem eqVal_rSt (n : Nat) (σ : State) (a b : Val) : eqVal n (rSt π σ) a b = eqVal n σ a b :=
  (eq_map (getList_rSt π) (getObj_rSt π) n).1 σ a b

@[simp] theorem render_rSt (n : Nat) (σ : State) (held : List Addr) (v : Val) : render n (rSt π σ) held v = render n σ held v :=
  (render_map (getList_rSt π) (getObj_rSt π) (getFunc_rSt π) (fun _ _ => rfl) n).1 σ held v

@[simp] theorem toPairs_rSt (σ : State) (v : Val) : toPairs (rSt π σ) v = toPairs σ v :=
  toPairs_map (getList_rSt π) (getObj_rSt π) σ v

variable {π} {P : Expr → Prop}

theorem arith_sim (op : BinaryOp) (loc : Loc) (a b : Int) {σ : State} (hg : Good π P σ) :
    Sim π P id (arith op loc a b (rSt π σ)) (arith op loc a b σ) := by
  unfold arith
  dsimp only
  split <;> (repeat' with_reducible apply Sim.ite) <;> first | exact Sim.ok hg | exact Sim.of_eq rfl trivial

theorem applyBinOp_sim (n : Nat) (op : BinaryOp) (loc : Loc) (a b : Val) {σ : State} (hg : Good π P σ) :
    Sim π P id (applyBinOp n (rSt π σ) op loc a b) (applyBinOp n σ op loc a b) := by
  unfold applyBinOp
  simp only [eqVal_rSt, getList_rSt, alloc_pair, allocS_rSt_list, size_rSt]
  repeat' split
  all_goals first
    | with_reducible exact arith_sim _ _ _ _ hg
    | exact Sim.of_eq rfl trivial
    | exact Sim.ok hg
    | exact Sim.ok (good_allocS_list _ hg)

theorem render_err_fixed (n : Nat) :
    (∀ σ held v l, render n σ held v = .err l → rLeaf π l = l) ∧
    (∀ σ held items l, renderItems n σ held items = .err l → rLeaf π l = l) ∧
    (∀ σ held props l, renderProps n σ held props = .err l → rLeaf π l = l) := by
  induction n with
  | zero =>
    refine ⟨?_, ?_, ?_⟩ <;> intros <;> rename_i h
    · unfold render at h; cases h
    · unfold renderItems at h; cases h
    · unfold renderProps at h; cases h
  | succ n ih =>
    obtain ⟨ihV, ihI, ihP⟩ := ih
    refine ⟨?_, ?_, ?_⟩
    · intro σ held v l h
      unfold render at h
      simp only [] at h
      repeat' split at h
      all_goals first
        | (cases h; done)
        | (cases h; rfl)
        | (rename_i h2; exact ihI _ _ _ _ (by rw [h] at h2; exact h2))
        | (rename_i h2; exact ihP _ _ _ _ (by rw [h] at h2; exact h2))
        | (rename_i h2 _; exact ihI _ _ _ _ (by rw [h] at h2; exact h2))
        | (rename_i h2 _; exact ihP _ _ _ _ (by rw [h] at h2; exact h2))
        | (exact ihI _ _ _ _ h)
        | (exact ihP _ _ _ _ h)
    · intro σ held items l h
      unfold renderItems at h
      repeat' split at h
      all_goals first
        | (cases h; done)
        | (exact ihV _ _ _ _ h)
        | (exact ihI _ _ _ _ h)
        | (rename_i h2; exact ihV _ _ _ _ (h ▸ h2))
        | (rename_i h2; exact ihI _ _ _ _ (h ▸ h2))
        | (rename_i h2 _; exact ihV _ _ _ _ (h ▸ h2))
        | (rename_i h2 _; exact ihI _ _ _ _ (h ▸ h2))
    · intro σ held props l h
      unfold renderProps at h
      repeat' split at h
      all_goals first
        | (cases h; done)
        | (exact ihV _ _ _ _ h)
        | (exact ihP _ _ _ _ h)
        | (rename_i h2; exact ihV _ _ _ _ (h ▸ h2))
        | (rename_i h2; exact ihP _ _ _ _ (h ▸ h2))
        | (rename_i h2 _; exact ihV _ _ _ _ (h ▸ h2))
        | (rename_i h2 _; exact ihP _ _ _ _ (h ▸ h2))

theorem assertArgs_fixed {name : List Char} {e g : Nat} {l : Gen.Leaf} (h : assertArgs name e g = some l) : rLeaf π l = l := by
  unfold assertArgs at h
  split at h
  · cases h
  · cases h; rfl

theorem sim_err_fixed {α : Type} {fa : α → α} {l : Gen.Leaf} {σ : State} (h : rLeaf π l = l) :
    Sim π P fa (.err (.leaf l) (rSt π σ)) (.err (.leaf l) σ) :=
  Sim.of_eq (by simp only [rRes, rErr, h]) trivial

theorem callBuiltin_sim (n : Nat) (f : BuiltinId) (this : Option SVal) (args : List SVal) {σ : State} (hg : Good π P σ) :
    Sim π P id (callBuiltin n (rSt π σ) f this args) (callBuiltin n σ f this args) := by
  unfold callBuiltin
  cases f <;> simp only [render_rSt, print_rSt] <;> (repeat' split) <;>
    first
      | exact sim_err_fixed (assertArgs_fixed (by assumption))
      | exact sim_err_fixed ((render_err_fixed n).1 _ _ _ _ (by assumption))
      | exact Sim.of_eq rfl (by first | exact hg | trivial | exact good_print _ hg)

theorem opAssignValue_sim (n : Nat) (cur rhs : SVal) (op : Option (BinaryOp × Loc)) {σ : State} (hg : Good π P σ) :
    Sim π P id (opAssignValue n (rSt π σ) cur rhs op) (opAssignValue n σ cur rhs op) := by
  unfold opAssignValue
  split
  · exact Sim.of_eq rfl hg
  · exact Sim.map (applyBinOp_sim n _ _ _ _ hg) (fun _ => rfl)

variable (π)

theorem rExprs_eq_map (l : List Expr) : rExprs π l = l.map (rExpr π) := by
  induction l with
  | nil => rfl
  | cons e r ih => exact congrArg (rExpr π e :: ·) ih

theorem rExprs_append (a b : List Expr) : rExprs π (a ++ b) = rExprs π a ++ rExprs π b := by
  simp [rExprs_eq_map]

theorem rExprs_reverse (a : List Expr) : rExprs π a.reverse = (rExprs π a).reverse := by
  simp [rExprs_eq_map]

theorem invalidBindDescr_rRaw (r : RawExpr) : invalidBindDescr (rRaw π r) = invalidBindDescr r := by
  cases r <;> rfl

def rQ : Except Err (List Expr) → Except Err (List Expr)
  | .ok l => .ok (rExprs π l)
  | .error e => .error (rErr π e)

theorem propsToQueue_ren (loc : Loc) (ps : List PropItem) (acc : List Expr) :
    propsToQueue loc (rProps π ps) (rExprs π acc) = rQ π (propsToQueue loc ps acc) := by
  induction ps generalizing acc with
  | nil => exact congrArg Except.ok (rExprs_reverse π acc).symm
  | cons p r ih =>
    cases p with
    | Pair n v => exact ih (v :: acc)
    | Single e s c =>
      cases s
      · exact ih (e :: acc)
      · rfl

theorem itemsToQueue_ren (loc : Loc) (items : List ListItem) (acc : List Expr) :
    itemsToQueue loc (rItems π items) (rExprs π acc) = rQ π (itemsToQueue loc items acc) := by
  induction items generalizing acc with
  | nil => exact congrArg Except.ok (rExprs_reverse π acc).symm
  | cons p r ih =>
    obtain ⟨e, s⟩ := p
    cases s
    · exact ih (e :: acc)
    · rfl

def rSeen (names : List (List Char × Loc)) : List (List Char × Loc) := names.map fun p => (π p.1, p.2)

theorem lookupAssoc_ren (hπ : ∀ a b, π a = π b → a = b) (x : List Char) (names : List (List Char × Loc)) :
    lookupAssoc (π x) (rSeen π names) = lookupAssoc x names := by
  induction names with
  | nil => rfl
  | cons p r ih =>
    obtain ⟨k, l⟩ := p
    simp only [rSeen, List.map_cons, lookupAssoc]
    by_cases h : x = k
    · subst h; simp
    · have h' : π x ≠ π k := fun e => h (hπ _ _ e)
      simp only [h, h', if_false]
      exact ih

theorem validateArgs_ren (hπ : ∀ a b, π a = π b → a = b) (hu : ∀ a, π a = c!"_" ↔ a = c!"_") (n : Nat) :
    ∀ (q : List Expr) (names : List (List Char × Loc)),
      validateArgs n (rExprs π q) (rSeen π names) = (validateArgs n q names).map (Option.map (rErr π)) := by
  induction n with
  | zero => intro q names; rfl
  | succ n ih =>
    intro q names
    rcases q with _ | ⟨⟨raw, loc⟩, q⟩
    · rfl
    cases raw with
    | Var name =>
      show (if π name = c!"_" then _ else _) = Option.map _ (if name = c!"_" then _ else _)
      by_cases hx : name = c!"_"
      · rw [if_pos hx, if_pos ((hu name).mpr hx)]; rfl
      · rw [if_neg hx, if_neg (fun e => hx ((hu name).mp e)), lookupAssoc_ren π hπ]
        cases lookupAssoc name names with
        | some p => rfl
        | none => exact ih q ((name, loc) :: names)
    | Object ps =>
      show (match propsToQueue loc (rProps π ps) (rExprs π []) with | .error e => _ | .ok more => _) = _
      rw [propsToQueue_ren]
      cases hq : propsToQueue loc ps [] with
      | error e => simp only [validateArgs, hq, rQ]; rfl
      | ok more => simp only [validateArgs, hq, rQ, ← rExprs_append]; exact ih _ _
    | List items c =>
      show (match itemsToQueue loc (rItems π items) (rExprs π []) with | .error e => _ | .ok more => _) = _
      rw [itemsToQueue_ren]
      cases hq : itemsToQueue loc items [] with
      | error e => simp only [validateArgs, hq, rQ]; rfl
      | ok more => simp only [validateArgs, hq, rQ, ← rExprs_append]; exact ih _ _
    | _ => rfl

variable {π}

theorem validateArgsRes_sim (hπ : ∀ a b, π a = π b → a = b) (hu : ∀ a, π a = c!"_" ↔ a = c!"_") (n : Nat) (args : List Expr)
    {σ : State} (hg : Good π P σ) :
    Sim π P id (validateArgsRes n (rExprs π args) (rSt π σ)) (validateArgsRes n args σ) := by
  unfold validateArgsRes
  have := validateArgs_ren π hπ hu n args []
  simp only [rSeen, List.map_nil] at this
  rw [this]
  cases validateArgs n args [] with
  | none => exact Sim.timeout
  | some o =>
    cases o with
    | none => exact Sim.of_eq rfl hg
    | some e => exact Sim.of_eq rfl trivial

variable (π)

theorem scopeGet_rSt (hπ : ∀ a b, π a = π b → a = b) (σ : State) (sc : List Addr) (x : List Char) :
    scopeGet (rSt π σ) sc (π x) = scopeGet σ sc x :=
  Ren.scopeGet_map π (getScope_rSt π) hπ σ sc x

theorem scopeAssign_rSt (hπ : ∀ a b, π a = π b → a = b) (σ : State) (sc : List Addr) (x : List Char) (v : SVal) :
    scopeAssign (rSt π σ) sc (π x) v = (scopeAssign σ sc x v).map (rSt π) :=
  Ren.scopeAssign_map π (getScope_rSt π) (set_rSt_scope π) hπ σ sc x v

theorem scopeDeclare_rSt (hπ : ∀ a b, π a = π b → a = b) (σ : State) (sc : List Addr) (x : List Char) (loc : Loc) (v : SVal) :
    scopeDeclare (rSt π σ) sc (π x) loc v =
      match scopeDeclare σ sc x loc v with
      | .ok σ' => .ok (rSt π σ')
      | .dup p => .dup p
      | .bad => .bad :=
  Ren.scopeDeclare_map π (getScope_rSt π) (set_rSt_scope π) hπ σ sc x loc v

variable {π}

theorem good_scopeAssign {σ σ' : State} {sc : List Addr} {x : List Char} {v : SVal} (hg : Good π P σ)
    (h : scopeAssign σ sc x v = some σ') : Good π P σ' :=
  FuncsAll.scopeAssign hg h

theorem good_scopeDeclare {σ σ' : State} {sc : List Addr} {x : List Char} {loc : Loc} {v : SVal} (hg : Good π P σ)
    (h : scopeDeclare σ sc x loc v = .ok σ') : Good π P σ' :=
  FuncsAll.scopeDeclare hg h

theorem bindNextName_sim (hπ : ∀ a b, π a = π b → a = b) (hu : ∀ a, π a = c!"_" ↔ a = c!"_")
    (n : Nat) (sc : List Addr) (names : List (List Char)) (x : List Char) (loc : Loc) (rhs : SVal)
    (op : Option (BinaryOp × Loc)) (d : Bool) {σ : State} (hg : Good π P σ) :
    Sim π P (List.map π) (bindNextName n (rSt π σ) sc (names.map π) (π x) loc rhs op d)
      (bindNextName n σ sc names x loc rhs op d) := by
  unfold bindNextName
  by_cases hx : x = c!"_"
  · subst hx
    have := (hu c!"_").mpr rfl
    simp only [this, if_true]
    exact Sim.of_eq rfl hg
  · have hx' : ¬ π x = c!"_" := fun e => hx ((hu x).mp e)
    simp only [hx, hx', if_false, Ren.contains_map π hπ]
    cases hc : names.contains x with
    | true => simp only [if_true]; exact Sim.of_eq rfl trivial
    | false =>
      simp only [Bool.false_eq_true, if_false]
      have store : ∀ (v : SVal) (σ1 : State), Good π P σ1 →
          Sim π P (List.map π)
            (match scopeAssign (rSt π σ1) sc (π x) v with
              | some σ2 => Res.ok (π x :: List.map π names) σ2
              | none => errAt loc (Gen.Leaf.Undefined (π x)) (rSt π σ1))
            (match scopeAssign σ1 sc x v with
              | some σ2 => Res.ok (x :: names) σ2
              | none => errAt loc (Gen.Leaf.Undefined x) σ1) := by
        intro v σ1 h1
        rw [scopeAssign_rSt π hπ]
        cases ha : scopeAssign σ1 sc x v with
        | none => exact Sim.of_eq rfl trivial
        | some σ2 => exact Sim.of_eq rfl (good_scopeAssign h1 ha)
      cases d with
      | true =>
        simp only [if_true]
        cases op with
        | some p => exact Sim.of_eq rfl trivial
        | none =>
          simp only [scopeDeclare_rSt π hπ]
          cases hd : scopeDeclare σ sc x loc rhs with
          | ok σ2 => exact Sim.of_eq rfl (good_scopeDeclare hg hd)
          | dup p => exact Sim.of_eq rfl trivial
          | bad => exact Sim.of_eq rfl trivial
      | false =>
        simp only [Bool.false_eq_true, if_false]
        cases op with
        | none => exact store rhs σ hg
        | some p =>
          obtain ⟨o, ol⟩ := p
          simp only [scopeGet_rSt π hπ]
          cases scopeGet σ sc x with
          | none => exact Sim.of_eq rfl trivial
          | some cur =>
            simp only []
            exact Sim.bind (applyBinOp_sim n o ol cur.v rhs.v hg) (fun v σ1 h1 => store (SVal.plain v) σ1 h1)

end Eqv
end Seed
