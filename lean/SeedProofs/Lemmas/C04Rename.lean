/-
  Lemmas/C04Rename.lean — renaming of the keys of scope cells, and equivariance of the scope layer and of
  `bindNextName` under an injective renaming.
-/
import SeedProofs.Lemmas.C04Scope
namespace Seed
namespace Ren
open ScopeL
open Gen (Leaf)

def map (π : List Char → List Char) (m : ScopeMap) : ScopeMap := List.map (fun p => (π p.1, p.2.1, p.2.2)) m

def cell (π : List Char → List Char) : Cell → Cell
  | .scope m => .scope (map π m)
  | .list xs => .list xs
  | .obj m => .obj m
  | .func f => .func f

def state (π : List Char → List Char) (σ : State) : State := { σ with heap := σ.heap.map (cell π) }

def decl (π : List Char → List Char) : DeclRes → DeclRes
  | .ok σ => .ok (state π σ)
  | .dup p => .dup p
  | .bad => .bad

/-- the diagnostics that mention a variable name -/
def leaf (π : List Char → List Char) : Leaf → Leaf
  | .Undefined n => .Undefined (π n)
  | .AlreadyInBinding n => .AlreadyInBinding (π n)
  | .AlreadyInScope n l c => .AlreadyInScope (π n) l c
  | l => l

def err (π : List Char → List Char) : Err → Err
  | .leaf l => .leaf (leaf π l)
  | .atLoc l c e => .atLoc l c (err π e)
  | .funcCall n cl e => .funcCall n cl (err π e)
  | .builtinCall n cl e => .builtinCall n cl (err π e)

def res (π : List Char → List Char) : Res (List (List Char)) → Res (List (List Char))
  | .ok ns σ => .ok (ns.map π) (state π σ)
  | .err e σ => .err (err π e) (state π σ)
  | .crash w σ => .crash w (state π σ)
  | .timeout => .timeout

variable (π : List Char → List Char)

theorem getScope_state (σ : State) (a : Addr) : (state π σ).getScope a = (σ.getScope a).map (map π) := by
  unfold State.getScope state
  simp only [Array.getElem?_map]
  cases σ.heap[a]? with
  | none => rfl
  | some c => cases c <;> rfl

theorem state_set (σ : State) (a : Addr) (c : Cell) : state π (σ.set a c) = (state π σ).set a (cell π c) := by
  unfold state State.set
  simp [Array.map_setIfInBounds]

theorem lookup_map (hπ : ∀ a b, π a = π b → a = b) (k : List Char) :
    ∀ m : ScopeMap, scopeLookup (π k) (map π m) = scopeLookup k m
  | [] => rfl
  | (k', v, l) :: r => by
    unfold map; rw [List.map_cons]
    unfold scopeLookup
    by_cases hk : k = k'
    · subst hk; simp only [if_true]
    · have : π k ≠ π k' := fun e => hk (hπ _ _ e)
      simp only [hk, this, if_false]
      exact lookup_map hπ k r

theorem setVal_map (hπ : ∀ a b, π a = π b → a = b) (k : List Char) (v : SVal) :
    ∀ m : ScopeMap, scopeSetVal (π k) v (map π m) = map π (scopeSetVal k v m)
  | [] => rfl
  | (k', v', l) :: r => by
    unfold map; rw [List.map_cons]
    unfold scopeSetVal
    by_cases hk : k = k'
    · subst hk; simp only [if_true, List.map_cons]
    · have : π k ≠ π k' := fun e => hk (hπ _ _ e)
      simp only [hk, this, if_false, List.map_cons]
      congr 1
      exact setVal_map hπ k v r

/-! ### the chain walks under any renaming of states

  `T` is a map on states that renames the keys of every scope cell (`state π` here, `Eqv.rSt π`, which also renames the
  code in function cells, for whole programs): reading a scope of `T σ` gives the renamed map, and writing a renamed map
  into `T σ` is `T` of the write. -/
section
variable {T : State → State} (hget : ∀ σ a, (T σ).getScope a = (σ.getScope a).map (map π))
  (hset : ∀ σ a m, (T σ).set a (.scope (map π m)) = T (σ.set a (.scope m))) (hπ : ∀ a b, π a = π b → a = b)
include hget hπ

theorem scopeGet_map (σ : State) (sc : List Addr) (x : List Char) : scopeGet (T σ) sc (π x) = scopeGet σ sc x := by
  induction sc with
  | nil => rfl
  | cons a r ih =>
    rw [scopeGet_cons, scopeGet_cons, hget]
    cases σ.getScope a with
    | none => rfl
    | some m =>
      simp only [Option.map, lookup_map π hπ]
      cases scopeLookup x m with
      | none => exact ih
      | some p => rfl

include hset

theorem scopeAssign_map (σ : State) (sc : List Addr) (x : List Char) (v : SVal) :
    scopeAssign (T σ) sc (π x) v = (scopeAssign σ sc x v).map T := by
  induction sc with
  | nil => rfl
  | cons a r ih =>
    rw [scopeAssign_cons, scopeAssign_cons, hget]
    cases σ.getScope a with
    | none => rfl
    | some m =>
      simp only [Option.map, lookup_map π hπ]
      cases scopeLookup x m with
      | none => exact ih
      | some p => simp only [setVal_map π hπ, hset]

theorem scopeDeclare_map (σ : State) (sc : List Addr) (x : List Char) (loc : Loc) (v : SVal) :
    scopeDeclare (T σ) sc (π x) loc v =
      match scopeDeclare σ sc x loc v with
      | .ok σ' => .ok (T σ')
      | .dup p => .dup p
      | .bad => .bad := by
  cases sc with
  | nil => rfl
  | cons a r =>
    rw [scopeDeclare_cons, scopeDeclare_cons, hget]
    cases σ.getScope a with
    | none => rfl
    | some m =>
      simp only [Option.map, lookup_map π hπ]
      cases scopeLookup x m with
      | none => exact congrArg DeclRes.ok (hset σ a ((x, v, loc) :: m))
      | some p => rfl
end

theorem scopeGet_ren (hπ : ∀ a b, π a = π b → a = b) (σ : State) (sc : List Addr) (x : List Char) :
    scopeGet (state π σ) sc (π x) = scopeGet σ sc x :=
  scopeGet_map π (getScope_state π) hπ σ sc x

theorem scopeAssign_ren (hπ : ∀ a b, π a = π b → a = b) (σ : State) (sc : List Addr) (x : List Char) (v : SVal) :
    scopeAssign (state π σ) sc (π x) v = (scopeAssign σ sc x v).map (state π) :=
  scopeAssign_map π (getScope_state π) (fun σ a m => (state_set π σ a (.scope m)).symm) hπ σ sc x v

theorem scopeDeclare_ren (hπ : ∀ a b, π a = π b → a = b) (σ : State) (sc : List Addr) (x : List Char) (loc : Loc) (v : SVal) :
    scopeDeclare (state π σ) sc (π x) loc v = decl π (scopeDeclare σ sc x loc v) :=
  scopeDeclare_map π (getScope_state π) (fun σ a m => (state_set π σ a (.scope m)).symm) hπ σ sc x loc v

theorem contains_map (hπ : ∀ a b, π a = π b → a = b) (x : List Char) (names : List (List Char)) :
    (names.map π).contains (π x) = names.contains x := by
  induction names with
  | nil => rfl
  | cons n r ih =>
    rw [List.map_cons, List.contains_cons, List.contains_cons, ih]
    have : (π x == π n) = (x == n) := by
      by_cases h : x = n
      · subst h; simp
      · have h' : π x ≠ π n := fun e => h (hπ _ _ e)
        rw [beq_eq_false_iff_ne.mpr h, beq_eq_false_iff_ne.mpr h']
    rw [this]

theorem bindNextName_ren (hπ : ∀ a b, π a = π b → a = b) (hu : ∀ a, π a = c!"_" ↔ a = c!"_")
    (fuel : Nat) (σ : State) (sc : List Addr) (names : List (List Char)) (x : List Char) (loc : Loc) (rhs : SVal) (d : Bool) :
    bindNextName fuel (state π σ) sc (names.map π) (π x) loc rhs none d =
      res π (bindNextName fuel σ sc names x loc rhs none d) := by
  unfold bindNextName
  by_cases hx : x = c!"_"
  · have := (hu x).mpr hx
    simp only [hx, if_true] at *
    simp only [this, if_true]; rfl
  · have hx' : ¬ π x = c!"_" := fun e => hx ((hu x).mp e)
    simp only [hx, hx', if_false, contains_map π hπ]
    cases hc : names.contains x with
    | true => simp only [if_true]; rfl
    | false =>
      simp only [Bool.false_eq_true, if_false]
      cases d with
      | true =>
        simp only [if_true, scopeDeclare_ren π hπ]
        cases scopeDeclare σ sc x loc rhs <;> rfl
      | false =>
        simp only [Bool.false_eq_true, if_false, scopeAssign_ren π hπ]
        cases scopeAssign σ sc x rhs <;> rfl

end Ren
end Seed
