/-
  Lemmas/C04Scope.lean — the heap and the scope chain: what the four cell readers see after `State.alloc` /
  `State.set`, `scopeLookup` / `scopeSetVal`, and the three chain walks `scopeGet`, `scopeAssign`, `scopeDeclare`.
-/
import SeedModel.Eval
namespace Seed
namespace ScopeL

@[simp] theorem alloc_fst (σ : State) (c : Cell) : (σ.alloc c).1 = σ.heap.size := rfl
@[simp] theorem alloc_out (σ : State) (c : Cell) : (σ.alloc c).2.out = σ.out := rfl
@[simp] theorem alloc_size (σ : State) (c : Cell) : (σ.alloc c).2.heap.size = σ.heap.size + 1 := by
  simp [State.alloc]

theorem alloc_old (σ : State) (c : Cell) {b : Addr} (h : b < σ.heap.size) :
    (σ.alloc c).2.heap[b]? = σ.heap[b]? := by
  simp only [State.alloc, Array.getElem?_push]
  rw [if_neg (Nat.ne_of_lt h)]

theorem alloc_new (σ : State) (c : Cell) : (σ.alloc c).2.heap[σ.heap.size]? = some c := by
  simp [State.alloc]

@[simp] theorem set_out (σ : State) (a : Addr) (c : Cell) : (σ.set a c).out = σ.out := rfl
@[simp] theorem set_size (σ : State) (a : Addr) (c : Cell) : (σ.set a c).heap.size = σ.heap.size := by
  simp [State.set]

theorem _root_.Seed.State.set_set (σ : State) (a : Addr) (c c' : Cell) : (σ.set a c).set a c' = σ.set a c' := by
  simp [State.set]

theorem heap_set (σ : State) (a b : Addr) (c : Cell) :
    (σ.set a c).heap[b]? = if a = b then (if a < σ.heap.size then some c else none) else σ.heap[b]? := by
  simp only [State.set, Array.getElem?_setIfInBounds]

theorem set_other (σ : State) (a : Addr) (c : Cell) {b : Addr} (h : b ≠ a) :
    (σ.set a c).heap[b]? = σ.heap[b]? := by
  simp [State.set, Ne.symm h]

theorem set_same (σ : State) (a : Addr) (c : Cell) (h : a < σ.heap.size) :
    (σ.set a c).heap[a]? = some c := by
  simp [State.set, h]

theorem set_same_oob (σ : State) (a : Addr) (c : Cell) (h : ¬ a < σ.heap.size) : σ.set a c = σ := by
  simp [State.set, Array.setIfInBounds, h]

theorem heap_lt_of_some {σ : State} {a : Addr} {c : Cell} (h : σ.heap[a]? = some c) : a < σ.heap.size :=
  (Array.getElem?_eq_some_iff.mp h).1

theorem getScope_heap {σ : State} {a : Addr} {m : ScopeMap} :
    σ.getScope a = some m ↔ σ.heap[a]? = some (.scope m) := by
  unfold State.getScope
  cases hc : σ.heap[a]? with
  | none => simp
  | some c => cases c <;> simp

theorem getList_heap {σ : State} {a : Addr} {xs : List SVal} :
    σ.getList a = some xs ↔ σ.heap[a]? = some (.list xs) := by
  unfold State.getList
  cases hc : σ.heap[a]? with
  | none => simp
  | some c => cases c <;> simp

theorem getObj_heap {σ : State} {a : Addr} {m : ObjMap} :
    σ.getObj a = some m ↔ σ.heap[a]? = some (.obj m) := by
  unfold State.getObj
  cases hc : σ.heap[a]? with
  | none => simp
  | some c => cases c <;> simp

theorem getFunc_heap {σ : State} {a : Addr} {f : FuncRec} :
    σ.getFunc a = some f ↔ σ.heap[a]? = some (.func f) := by
  unfold State.getFunc
  cases hc : σ.heap[a]? with
  | none => simp
  | some c => cases c <;> simp

theorem getScope_lt {σ : State} {a : Addr} {m : ScopeMap} (h : σ.getScope a = some m) : a < σ.heap.size :=
  heap_lt_of_some (getScope_heap.mp h)
theorem getList_lt {σ : State} {a : Addr} {xs : List SVal} (h : σ.getList a = some xs) : a < σ.heap.size :=
  heap_lt_of_some (getList_heap.mp h)
theorem getObj_lt {σ : State} {a : Addr} {m : ObjMap} (h : σ.getObj a = some m) : a < σ.heap.size :=
  heap_lt_of_some (getObj_heap.mp h)
theorem getFunc_lt {σ : State} {a : Addr} {f : FuncRec} (h : σ.getFunc a = some f) : a < σ.heap.size :=
  heap_lt_of_some (getFunc_heap.mp h)

theorem getScope_congr {σ σ' : State} {a : Addr} (h : σ'.heap[a]? = σ.heap[a]?) : σ'.getScope a = σ.getScope a := by
  unfold State.getScope; rw [h]
theorem getList_congr {σ σ' : State} {a : Addr} (h : σ'.heap[a]? = σ.heap[a]?) : σ'.getList a = σ.getList a := by
  unfold State.getList; rw [h]
theorem getObj_congr {σ σ' : State} {a : Addr} (h : σ'.heap[a]? = σ.heap[a]?) : σ'.getObj a = σ.getObj a := by
  unfold State.getObj; rw [h]
theorem getFunc_congr {σ σ' : State} {a : Addr} (h : σ'.heap[a]? = σ.heap[a]?) : σ'.getFunc a = σ.getFunc a := by
  unfold State.getFunc; rw [h]

theorem getScope_set_same {σ : State} {a : Addr} (m : ScopeMap) (h : a < σ.heap.size) :
    (σ.set a (.scope m)).getScope a = some m :=
  getScope_heap.mpr (set_same σ a _ h)

theorem getScope_set_other {σ : State} {a b : Addr} (c : Cell) (h : b ≠ a) :
    (σ.set a c).getScope b = σ.getScope b :=
  getScope_congr (set_other σ a c h)

theorem getList_set_scope (σ : State) (c : Addr) (m' : ScopeMap) (b : Addr) {m : ScopeMap} (h : σ.getScope c = some m) :
    (σ.set c (.scope m')).getList b = σ.getList b := by
  by_cases hb : b = c
  · subst hb
    unfold State.getList; rw [set_same σ b _ (getScope_lt h), getScope_heap.mp h]
  · exact getList_congr (set_other σ c _ hb)

theorem getObj_set_scope (σ : State) (c : Addr) (m' : ScopeMap) (b : Addr) {m : ScopeMap} (h : σ.getScope c = some m) :
    (σ.set c (.scope m')).getObj b = σ.getObj b := by
  by_cases hb : b = c
  · subst hb
    unfold State.getObj; rw [set_same σ b _ (getScope_lt h), getScope_heap.mp h]
  · exact getObj_congr (set_other σ c _ hb)

theorem getScope_alloc {σ : State} {a : Addr} {m : ScopeMap} (c : Cell) (h : σ.getScope a = some m) :
    (σ.alloc c).2.getScope a = some m :=
  (getScope_congr (alloc_old σ c (getScope_lt h))).trans h

theorem getList_alloc {σ : State} {a : Addr} {xs : List SVal} (c : Cell) (h : σ.getList a = some xs) :
    (σ.alloc c).2.getList a = some xs :=
  (getList_congr (alloc_old σ c (getList_lt h))).trans h

theorem getList_alloc_new (σ : State) (xs : List SVal) : (σ.alloc (.list xs)).2.getList σ.heap.size = some xs :=
  getList_heap.mpr (alloc_new σ _)

theorem getScope_alloc_new (σ : State) (m : ScopeMap) : (σ.alloc (.scope m)).2.getScope σ.heap.size = some m :=
  getScope_heap.mpr (alloc_new σ _)

theorem lookup_setVal_same {k : List Char} {v w : SVal} {l : Loc} :
    ∀ {m : ScopeMap}, scopeLookup k m = some (w, l) → scopeLookup k (scopeSetVal k v m) = some (v, l)
  | [], h => by simp [scopeLookup] at h
  | (k', v', l') :: r, h => by
    unfold scopeLookup at h
    unfold scopeSetVal
    by_cases hk : k = k'
    · simp only [hk, if_true] at h ⊢
      unfold scopeLookup; simp only [if_true]
      cases h; rfl
    · simp only [hk, if_false] at h ⊢
      unfold scopeLookup; simp only [hk, if_false]
      exact lookup_setVal_same h

theorem lookup_setVal_other {k y : List Char} {v : SVal} (hy : y ≠ k) :
    ∀ (m : ScopeMap), scopeLookup y (scopeSetVal k v m) = scopeLookup y m
  | [] => rfl
  | (k', v', l') :: r => by
    unfold scopeSetVal
    by_cases hk : k = k'
    · simp only [hk, if_true]
      unfold scopeLookup
      have : y ≠ k' := hk ▸ hy
      simp only [this, if_false]
    · simp only [hk, if_false]
      unfold scopeLookup
      by_cases hy' : y = k'
      · simp only [hy', if_true]
      · simp only [hy', if_false]; exact lookup_setVal_other hy r

/-- assignment never adds or removes a name -/
theorem lookup_setVal_isSome (k y : List Char) (v : SVal) (m : ScopeMap) :
    (scopeLookup y (scopeSetVal k v m)).isSome = (scopeLookup y m).isSome := by
  by_cases hy : y = k
  · subst hy
    cases h : scopeLookup y m with
    | none =>
      have : ∀ m : ScopeMap, scopeLookup y m = none → scopeLookup y (scopeSetVal y v m) = none := by
        intro m
        induction m with
        | nil => intro _; rfl
        | cons p r ih =>
          obtain ⟨k', v', l'⟩ := p
          intro h
          unfold scopeLookup at h
          by_cases hk : y = k'
          · simp [hk] at h
          · simp only [hk, if_false] at h
            unfold scopeSetVal; simp only [hk, if_false]
            unfold scopeLookup; simp only [hk, if_false]
            exact ih h
      rw [this m h]
    | some p => obtain ⟨w, l⟩ := p; rw [lookup_setVal_same h]; rfl
  · rw [lookup_setVal_other hy]

theorem lookup_cons_same (k : List Char) (v : SVal) (l : Loc) (m : ScopeMap) :
    scopeLookup k ((k, v, l) :: m) = some (v, l) := by
  unfold scopeLookup; simp

theorem lookup_cons_other {k y : List Char} (hy : y ≠ k) (v : SVal) (l : Loc) (m : ScopeMap) :
    scopeLookup y ((k, v, l) :: m) = scopeLookup y m := by
  conv => lhs; unfold scopeLookup
  simp [hy]

def Skips (σ : State) (pre : List Addr) (k : List Char) : Prop :=
  ∀ b ∈ pre, ∃ mb, σ.getScope b = some mb ∧ scopeLookup k mb = none

theorem scopeGet_cons (σ : State) (a : Addr) (r : List Addr) (k : List Char) :
    scopeGet σ (a :: r) k =
      match σ.getScope a with
      | none => none
      | some m => match scopeLookup k m with
        | some (v, _) => some v
        | none => scopeGet σ r k := by
  rw [scopeGet]; rfl

theorem scopeGet_skip {σ : State} {pre : List Addr} {k : List Char} (h : Skips σ pre k) (r : List Addr) :
    scopeGet σ (pre ++ r) k = scopeGet σ r k := by
  induction pre with
  | nil => rfl
  | cons b pre ih =>
    obtain ⟨mb, h1, h2⟩ := h b List.mem_cons_self
    rw [List.cons_append, scopeGet_cons, h1]; simp only [h2]
    exact ih (fun c hc => h c (List.mem_cons_of_mem _ hc))

theorem scopeGet_hit {σ : State} {a : Addr} {m : ScopeMap} {k : List Char} {v : SVal} {l : Loc}
    (h1 : σ.getScope a = some m) (h2 : scopeLookup k m = some (v, l)) (r : List Addr) :
    scopeGet σ (a :: r) k = some v := by
  rw [scopeGet_cons, h1]; simp only [h2]

/-- `scopeGet` returns exactly the value of the innermost scope that holds the name -/
theorem scopeGet_some_iff {σ : State} {sc : List Addr} {k : List Char} {v : SVal} :
    scopeGet σ sc k = some v ↔
      ∃ pre a post m l, sc = pre ++ a :: post ∧ Skips σ pre k ∧ σ.getScope a = some m ∧ scopeLookup k m = some (v, l) := by
  constructor
  · induction sc with
    | nil => intro h; simp [scopeGet] at h
    | cons a r ih =>
      intro h
      rw [scopeGet_cons] at h
      cases hm : σ.getScope a with
      | none => simp [hm] at h
      | some m =>
        simp only [hm] at h
        cases hl : scopeLookup k m with
        | some p =>
          obtain ⟨w, l⟩ := p
          simp only [hl] at h
          cases h
          exact ⟨[], a, r, m, l, rfl, (fun _ hb => by cases hb), hm, hl⟩
        | none =>
          simp only [hl] at h
          obtain ⟨pre, a', post, m', l, e, hs, h1, h2⟩ := ih h
          refine ⟨a :: pre, a', post, m', l, by rw [e]; rfl, ?_, h1, h2⟩
          intro b hb
          rcases List.mem_cons.mp hb with rfl | hb
          · exact ⟨m, hm, hl⟩
          · exact hs b hb
  · rintro ⟨pre, a, post, m, l, rfl, hs, h1, h2⟩
    rw [scopeGet_skip hs]; exact scopeGet_hit h1 h2 post

/-- if two states agree, at every address of the chain, on whether the cell is a scope and on what the scope
    says about `k`, then `scopeGet … k` agrees -/
theorem scopeGet_congr {σ σ' : State} {sc : List Addr} {k : List Char}
    (h : ∀ a ∈ sc, (σ'.getScope a).map (scopeLookup k ·|>.map Prod.fst) = (σ.getScope a).map (scopeLookup k ·|>.map Prod.fst)) :
    scopeGet σ' sc k = scopeGet σ sc k := by
  induction sc with
  | nil => rfl
  | cons a r ih =>
    have ha := h a List.mem_cons_self
    have ih' := ih (fun b hb => h b (List.mem_cons_of_mem _ hb))
    rw [scopeGet_cons, scopeGet_cons]
    cases h1 : σ'.getScope a <;> cases h2 : σ.getScope a <;> simp only [h1, h2, Option.map] at ha ⊢
    · cases ha
    · cases ha
    · rename_i m' m
      cases h3 : scopeLookup k m' <;> cases h4 : scopeLookup k m <;> simp only [h3, h4] at ha ⊢
      · exact ih'
      · simp at ha
      · simp at ha
      · rename_i p' p; obtain ⟨v', l'⟩ := p'; obtain ⟨v, l⟩ := p
        simp at ha; simp [ha]

theorem scopeGet_frame {σ σ' : State} {sc : List Addr} (k : List Char)
    (h : ∀ a ∈ sc, σ'.heap[a]? = σ.heap[a]?) : scopeGet σ' sc k = scopeGet σ sc k :=
  scopeGet_congr (fun a ha => by rw [getScope_congr (h a ha)])

theorem scopeAssign_cons (σ : State) (a : Addr) (r : List Addr) (k : List Char) (v : SVal) :
    scopeAssign σ (a :: r) k v =
      match σ.getScope a with
      | none => none
      | some m => match scopeLookup k m with
        | some _ => some (σ.set a (.scope (scopeSetVal k v m)))
        | none => scopeAssign σ r k v := by
  rw [scopeAssign]; rfl

theorem scopeAssign_skip {σ : State} {pre : List Addr} {k : List Char} (h : Skips σ pre k) (r : List Addr) (v : SVal) :
    scopeAssign σ (pre ++ r) k v = scopeAssign σ r k v := by
  induction pre with
  | nil => rfl
  | cons b pre ih =>
    obtain ⟨mb, h1, h2⟩ := h b List.mem_cons_self
    rw [List.cons_append, scopeAssign_cons, h1]; simp only [h2]
    exact ih (fun c hc => h c (List.mem_cons_of_mem _ hc))

/-- `scopeAssign` rewrites exactly the innermost scope cell that holds the name -/
theorem scopeAssign_some_iff {σ σ' : State} {sc : List Addr} {k : List Char} {v : SVal} :
    scopeAssign σ sc k v = some σ' ↔
      ∃ pre a post m w l, sc = pre ++ a :: post ∧ Skips σ pre k ∧ σ.getScope a = some m ∧ scopeLookup k m = some (w, l) ∧
        σ' = σ.set a (.scope (scopeSetVal k v m)) := by
  constructor
  · induction sc with
    | nil => intro h; simp [scopeAssign] at h
    | cons a r ih =>
      intro h
      rw [scopeAssign_cons] at h
      cases hm : σ.getScope a with
      | none => simp [hm] at h
      | some m =>
        simp only [hm] at h
        cases hl : scopeLookup k m with
        | some p =>
          obtain ⟨w, l⟩ := p
          simp only [hl] at h
          cases h
          exact ⟨[], a, r, m, w, l, rfl, (fun _ hb => by cases hb), hm, hl, rfl⟩
        | none =>
          simp only [hl] at h
          obtain ⟨pre, a', post, m', w, l, e, hs, h1, h2, h3⟩ := ih h
          refine ⟨a :: pre, a', post, m', w, l, by rw [e]; rfl, ?_, h1, h2, h3⟩
          intro b hb
          rcases List.mem_cons.mp hb with rfl | hb
          · exact ⟨m, hm, hl⟩
          · exact hs b hb
  · rintro ⟨pre, a, post, m, w, l, rfl, hs, h1, h2, rfl⟩
    rw [scopeAssign_skip hs, scopeAssign_cons, h1]; simp only [h2]

theorem scopeAssign_isSome (σ : State) (sc : List Addr) (k : List Char) (v : SVal) :
    (scopeAssign σ sc k v).isSome = (scopeGet σ sc k).isSome := by
  induction sc with
  | nil => rfl
  | cons a r ih =>
    rw [scopeAssign_cons, scopeGet_cons]
    cases σ.getScope a with
    | none => rfl
    | some m =>
      dsimp only
      cases scopeLookup k m with
      | none => exact ih
      | some p => obtain ⟨w, l⟩ := p; rfl

theorem scopeAssign_none_iff (σ : State) (sc : List Addr) (k : List Char) (v : SVal) :
    scopeAssign σ sc k v = none ↔ scopeGet σ sc k = none := by
  have := scopeAssign_isSome σ sc k v
  cases h1 : scopeAssign σ sc k v <;> cases h2 : scopeGet σ sc k <;> simp_all

theorem scopeDeclare_cons (σ : State) (a : Addr) (r : List Addr) (k : List Char) (loc : Loc) (v : SVal) :
    scopeDeclare σ (a :: r) k loc v =
      match σ.getScope a with
      | none => .bad
      | some m => match scopeLookup k m with
        | some (_, prev) => .dup prev
        | none => .ok (σ.set a (.scope ((k, v, loc) :: m))) := rfl

theorem scopeDeclare_ok_iff {σ σ' : State} {a : Addr} {r : List Addr} {k : List Char} {loc : Loc} {v : SVal} :
    scopeDeclare σ (a :: r) k loc v = .ok σ' ↔
      ∃ m, σ.getScope a = some m ∧ scopeLookup k m = none ∧ σ' = σ.set a (.scope ((k, v, loc) :: m)) := by
  rw [scopeDeclare_cons]
  cases hm : σ.getScope a with
  | none => simp
  | some m =>
    cases hl : scopeLookup k m with
    | none =>
      simp only [Option.some.injEq, exists_eq_left', hl, true_and]
      constructor
      · intro h; cases h; rfl
      · intro h; rw [h]
    | some p => obtain ⟨w, l⟩ := p; simp [hl]

theorem scopeDeclare_dup_iff {σ : State} {a : Addr} {r : List Addr} {k : List Char} {loc prev : Loc} {v : SVal} :
    scopeDeclare σ (a :: r) k loc v = .dup prev ↔
      ∃ m w, σ.getScope a = some m ∧ scopeLookup k m = some (w, prev) := by
  rw [scopeDeclare_cons]
  cases hm : σ.getScope a with
  | none => simp
  | some m =>
    cases hl : scopeLookup k m with
    | none => simp [hl]
    | some p =>
      obtain ⟨w, l⟩ := p
      simp only [hl]
      constructor
      · intro h; cases h; exact ⟨m, w, rfl, hl⟩
      · rintro ⟨m', w', h1, h2⟩; cases h1; rw [hl] at h2; cases h2; rfl

end ScopeL
end Seed
