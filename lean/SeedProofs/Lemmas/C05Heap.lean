/-
  Lemmas/C05Heap.lean — cell-kind facts used by C05: a cell is of one kind, overwriting a cell with one of the
  same kind does not disturb readers of the other kinds; `listSet`.
-/
import SeedProofs.Lemmas.C04Scope
import SeedProofs.Lemmas.C20Bind
import SeedProofs.Lemmas.ListSet
namespace Seed
namespace HeapL
open ScopeL

theorem getScope_none_of_getList {σ : State} {a : Addr} {xs : List SVal} (h : σ.getList a = some xs) : σ.getScope a = none := by
  unfold State.getScope; rw [getList_heap.mp h]

theorem getScope_none_of_getObj {σ : State} {a : Addr} {m : ObjMap} (h : σ.getObj a = some m) : σ.getScope a = none := by
  unfold State.getScope; rw [getObj_heap.mp h]

theorem getScope_set_nonscope (σ : State) (a : Addr) (c : Cell) (b : Addr) (h : σ.getScope a = none) (hc : ∀ m, c ≠ .scope m) :
    (σ.set a c).getScope b = σ.getScope b := by
  by_cases hb : b = a
  · subst hb
    rw [h]
    by_cases hlt : b < σ.heap.size
    · unfold State.getScope; rw [set_same σ b c hlt]
      cases c with
      | scope m => exact absurd rfl (hc m)
      | list _ => rfl
      | obj _ => rfl
      | func _ => rfl
    · rw [set_same_oob σ b c hlt]; exact h
  · exact getScope_set_other c hb

theorem scopeGet_assigned {σ σ' : State} {sc : List Addr} {x : List Char} {v : SVal} (h : scopeAssign σ sc x v = some σ') :
    scopeGet σ' sc x = some v := by
  obtain ⟨pre, a, post, m, w, l, rfl, hs, h1, h2, rfl⟩ := scopeAssign_some_iff.mp h
  -- the cells before the rewritten one still do not hold `x`
  have hs' : Skips (σ.set a (.scope (scopeSetVal x v m))) pre x := by
    intro b hb
    obtain ⟨mb, hb1, hb2⟩ := hs b hb
    have : b ≠ a := by rintro rfl; rw [h1] at hb1; cases hb1; rw [h2] at hb2; cases hb2
    exact ⟨mb, by rw [getScope_set_other _ this]; exact hb1, hb2⟩
  rw [scopeGet_skip hs']
  exact scopeGet_hit (getScope_set_same _ (getScope_lt h1)) (lookup_setVal_same h2) post

theorem scopeGet_assign_other {σ σ' : State} {sc : List Addr} {x y : List Char} {v : SVal}
    (h : scopeAssign σ sc x v = some σ') (hy : y ≠ x) : scopeGet σ' sc y = scopeGet σ sc y := by
  obtain ⟨pre, a, post, m, w, l, _, _, hm, _, rfl⟩ := scopeAssign_some_iff.mp h
  refine scopeGet_congr fun b _ => ?_
  by_cases hb : b = a
  · subst hb
    rw [getScope_set_same _ (getScope_lt hm), hm]
    simp only [Option.map, lookup_setVal_other hy]
  · rw [getScope_set_other _ hb]

theorem getList_assign {σ σ' : State} {sc : List Addr} {x : List Char} {v : SVal} (h : scopeAssign σ sc x v = some σ')
    (b : Addr) : σ'.getList b = σ.getList b := by
  obtain ⟨pre, a, post, m, w, l, _, _, hm, _, rfl⟩ := scopeAssign_some_iff.mp h
  exact getList_set_scope σ a _ b hm

theorem listSet_get_same {α} (xs : List α) (i : Nat) (v : α) (h : i < xs.length) : (listSet xs i v)[i]? = some v := by
  rw [listSet_getElem? xs i i v h, if_pos rfl]

theorem listSet_get_other {α} (xs : List α) (i j : Nat) (v : α) (h : j ≠ i) : (listSet xs i v)[j]? = xs[j]? := by
  rw [listSet_eq_set, List.getElem?_set_ne (Ne.symm h)]

end HeapL
end Seed
