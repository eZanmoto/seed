/-
  Lemmas/C05ProgBuild.lean — the building operations, one evaluator step each (list literal and its items, `+` on lists,
  range read, collector of a list pattern), then as statements of a program (`b := [a..]`, `b := a + []`, `b := a[0:k]`,
  `[..b] := a`: each declares `b` as a NEW list cell holding copies of the element values; `b += [x]`), `+=` on scalars,
  and a call of a one-parameter function down to its body.  For the program-level theorems of C05.
-/
import SeedProofs.Lemmas.C05ProgFrame
namespace Seed
namespace C05P
open ScopeL HeapL
open Gen (Leaf)

theorem set_set (σ : State) (a : Addr) (c c' : Cell) : (σ.set a c).set a c' = σ.set a c' := σ.set_set a c c'

theorem applyBinOp_scalar_state {fuel : Nat} {σ σ' : State} {op : BinaryOp} {loc : Loc} {a b v : Val}
    (hk : a.kind = .Null ∨ a.kind = .Bool ∨ a.kind = .Int ∨ a.kind = .Str)
    (h : applyBinOp fuel σ op loc a b = .ok v σ') : σ' = σ := by
  rcases BindL.applyBinOp_state_cases h with h | ⟨x, _, _, _, rfl, _⟩
  · exact h
  · simp [Val.kind] at hk

theorem sum_ints (fuel : Nat) (σ : State) (loc : Loc) (x y : Int) (h : inI64 (x + y) = true) :
    applyBinOp fuel σ .Sum loc (.int x) (.int y) = .ok (.int (x + y)) σ := by
  simp [applyBinOp, arith, h]

theorem listItems_nil (n : Nat) (σ : State) (sc : List Addr) (acc : List SVal) :
    evalListItems (n + 1) σ sc [] acc = .ok acc σ := by
  rw [evalListItems]

theorem listItems_item {n : Nat} {σ σ1 : State} {sc : List Addr} {e : Expr} {v : SVal} (r : List ListItem) (acc : List SVal)
    (he : evalExpr n σ sc e = .ok v σ1) :
    evalListItems (n + 1) σ sc (.mk e false :: r) acc = evalListItems n σ1 sc r (acc ++ [v]) := by
  rw [evalListItems]; simp only [he, Res.bind, Bool.not_false]; rfl

theorem listItems_spread {n : Nat} {σ σ1 : State} {sc : List Addr} {e : Expr} {a : Addr} {s : Option Val} {xs : List SVal}
    (r : List ListItem) (acc : List SVal) (he : evalExpr n σ sc e = .ok ⟨.list a, s⟩ σ1) (hl : σ1.getList a = some xs) :
    evalListItems (n + 1) σ sc (.mk e true :: r) acc = evalListItems n σ1 sc r (acc ++ xs) := by
  rw [evalListItems]; simp only [he, Res.bind, Bool.not_true, hl]; rfl

theorem list_literal {n : Nat} {σ σ1 : State} {sc : List Addr} {items : List ListItem} {vals : List SVal} (loc : Loc)
    (h : evalListItems n σ sc items [] = .ok vals σ1) :
    evalExpr (n + 1) σ sc (.mk (.List items false) loc) = .ok (SVal.plain (.list σ1.heap.size)) (σ1.alloc (.list vals)).2 := by
  rw [evalExpr]; simp only [Bool.false_eq_true, if_false, h, Res.bind]; rfl

theorem empty_literal (n : Nat) (σ : State) (sc : List Addr) (l : Loc) :
    evalExpr (n + 2) σ sc (.mk (.List [] false) l) = .ok (SVal.plain (.list σ.heap.size)) (σ.alloc (.list [])).2 :=
  list_literal l (listItems_nil n σ sc [])

theorem list1_literal {n : Nat} {σ σ1 : State} {sc : List Addr} {x : Expr} {vx : SVal} (l : Loc)
    (hx : evalExpr n σ sc x = .ok vx σ1) :
    evalExpr (n + 2) σ sc (.mk (.List [.mk x false] false) l) =
      .ok (SVal.plain (.list σ1.heap.size)) (σ1.alloc (.list [vx])).2 := by
  -- `x` was evaluated, so there is fuel left for the end of the item list
  obtain ⟨k, rfl⟩ := evalExpr_ok_pos hx
  exact list_literal l (by rw [listItems_item [] [] hx, listItems_nil]; rfl)

theorem sum_lists (fuel : Nat) {σ : State} (loc : Loc) {x y : Addr} {xs ys : List SVal}
    (hx : σ.getList x = some xs) (hy : σ.getList y = some ys) :
    applyBinOp fuel σ .Sum loc (.list x) (.list y) = .ok (.list σ.heap.size) (σ.alloc (.list (xs ++ ys))).2 := by
  simp only [applyBinOp, hx, hy]; rfl

theorem opassign_list1_stmt {n : Nat} {σ : State} {A0 : Addr} {sc' : List Addr} {m : ScopeMap} {b : List Char} {lb : Loc}
    {A : Addr} {sa : Option Val} {items : List SVal} {x : Expr} {vx : SVal} (lb2 ol ll : Loc)
    (hx : evalExpr n σ (A0 :: sc') x = .ok vx σ) (hb : b ≠ c!"_") (hs : σ.getScope A0 = some m)
    (hlk : scopeLookup b m = some (⟨.list A, sa⟩, lb)) (hl : σ.getList A = some items) :
    evalStmt (n + 3) σ (A0 :: sc') (.OpAssign (.mk (.Var b) lb2) .Sum ol (.mk (.List [.mk x false] false) ll)) =
      .ok .none (((σ.alloc (.list [vx])).2.alloc (.list (items ++ [vx]))).2.set A0
        (.scope (scopeSetVal b (SVal.plain (.list (σ.heap.size + 1))) m))) := by
  have hop := sum_lists (n + 1) ol (getList_alloc (.list [vx]) hl) (getList_alloc_new σ [vx])
  rw [alloc_size] at hop
  exact opassign_var_stmt (n := n + 1) lb2 ol (list1_literal ll hx) hb (getScope_alloc _ hs) hlk hop
    (getScope_alloc _ (getScope_alloc _ hs))

theorem rangeIndex_step {n : Nat} {σ σ1 σ2 σ3 : State} {sc : List Addr} {ex : Expr} {start stop : Option Expr} {a b : Option Nat}
    {addr : Addr} {s : Option Val} {items : List SVal} (loc : Loc)
    (h1 : evalOptIndex n σ sc start = .ok a σ1) (h2 : evalOptIndex n σ1 sc stop = .ok b σ2)
    (h3 : evalExpr n σ2 sc ex = .ok ⟨.list addr, s⟩ σ3) (h4 : σ3.getList addr = some items)
    (hlo : a.getD 0 ≤ b.getD items.length) (hhi : b.getD items.length ≤ items.length) :
    evalExpr (n + 1) σ sc (.mk (.RangeIndex ex start stop) loc) =
      .ok (SVal.plain (.list σ3.heap.size))
        (σ3.alloc (.list ((items.drop (a.getD 0)).take (b.getD items.length - a.getD 0)))).2 := by
  rw [evalExpr]; simp only [h1, h2, h3, h4, Res.bind, hlo, hhi, decide_true, Bool.and_self, if_true]; rfl

theorem optIndex_none (n : Nat) (σ : State) (sc : List Addr) : evalOptIndex (n + 1) σ sc none = .ok none σ := by
  rw [evalOptIndex]

theorem optIndex_lit (n : Nat) (σ : State) (sc : List Addr) (i : Nat) (l : Loc) :
    evalOptIndex (n + 4) σ sc (some (.mk (.Int (Int.ofNat i)) l)) = .ok (some i) σ := by
  rw [evalOptIndex, toIndex_lit n]; rfl

theorem range_lit {σ : State} {sc : List Addr} {a : List Char} {A : Addr} {s : Option Val} {items : List SVal} (n : Nat)
    (i j : Nat) (la li lj l : Loc) (ha : scopeGet σ sc a = some ⟨.list A, s⟩) (hl : σ.getList A = some items)
    (hij : i ≤ j) (hj : j ≤ items.length) :
    evalExpr (n + 5) σ sc (.mk (.RangeIndex (.mk (.Var a) la) (some (.mk (.Int (Int.ofNat i)) li))
        (some (.mk (.Int (Int.ofNat j)) lj))) l) =
      .ok (SVal.plain (.list σ.heap.size)) (σ.alloc (.list ((items.drop i).take (j - i)))).2 :=
  rangeIndex_step l (optIndex_lit n σ sc i li) (optIndex_lit n σ sc j lj) (var_read (n + 3) la ha) hl hij hj

theorem spread_copy {σ : State} {sc : List Addr} {a : List Char} {A : Addr} {s : Option Val} {items : List SVal} (n : Nat)
    (la l : Loc) (ha : scopeGet σ sc a = some ⟨.list A, s⟩) (hl : σ.getList A = some items) :
    evalExpr (n + 3) σ sc (.mk (.List [.mk (.mk (.Var a) la) true] false) l) =
      .ok (SVal.plain (.list σ.heap.size)) (σ.alloc (.list items)).2 :=
  list_literal l (by rw [listItems_spread [] [] (var_read n la ha) hl, listItems_nil]; rfl)

/-- `a + []` : the empty literal is one new cell, the sum another -/
theorem sum_copy {σ : State} {sc : List Addr} {a : List Char} {A : Addr} {s : Option Val} {items : List SVal} (n : Nat)
    (la ol le l : Loc) (ha : scopeGet σ sc a = some ⟨.list A, s⟩) (hl : σ.getList A = some items) :
    evalExpr (n + 3) σ sc (.mk (.BinaryOp .Sum ol (.mk (.Var a) la) (.mk (.List [] false) le)) l) =
      .ok (SVal.plain (.list (σ.heap.size + 1))) ((σ.alloc (.list [])).2.alloc (.list items)).2 := by
  rw [evalExpr, var_read (n + 1) la ha]
  simp only [Res.bind, empty_literal n, SVal.plain]
  rw [sum_lists _ ol (getList_alloc _ hl) (getList_alloc_new σ []), alloc_size, List.append_nil]

theorem range_copy {σ : State} {sc : List Addr} {a : List Char} {A : Addr} {s : Option Val} {items : List SVal} (n : Nat)
    (k : Nat) (la l0 lk l : Loc) (ha : scopeGet σ sc a = some ⟨.list A, s⟩) (hl : σ.getList A = some items)
    (hk : k ≤ items.length) :
    evalExpr (n + 5) σ sc (.mk (.RangeIndex (.mk (.Var a) la) (some (.mk (.Int (Int.ofNat 0)) l0))
        (some (.mk (.Int (Int.ofNat k)) lk))) l) =
      .ok (SVal.plain (.list σ.heap.size)) (σ.alloc (.list (items.take k))).2 :=
  range_lit n 0 k la l0 lk l ha hl (Nat.zero_le k) hk

theorem take_length_self {α} (xs : List α) : xs.take xs.length = xs := List.take_length

theorem bindNext_list_collect {n : Nat} {σ : State} {sc : List Addr} {names : List (List Char)} {items : List ListItem}
    {b : Addr} {s : Option Val} {rhsItems : List SVal} (lp : Loc) (decl : Bool) (hb : σ.getList b = some rhsItems)
    (hlen : items.length - 1 ≤ rhsItems.length) :
    bindNext (n + 1) σ sc names (.mk (.List items true) lp) ⟨.list b, s⟩ none decl =
      bindList n σ sc names items true lp b decl 0 items.length := by
  rw [bindNext]
  simp only [hb, Bool.true_and, Bool.not_true, Bool.false_and, Bool.false_eq_true, if_false, gt_iff_lt,
    Nat.not_lt.mpr hlen, decide_false]

theorem bindList_collect {n : Nat} {σ : State} {sc : List Addr} {names : List (List Char)} {e : Expr} {lhsLoc : Loc} {b : Addr}
    {decl : Bool} {lhsLen : Nat} {rhsItems : List SVal} (hb : σ.getList b = some rhsItems) :
    bindList (n + 1) σ sc names [.mk e false] true lhsLoc b decl (lhsLen - 1) lhsLen =
      (bindNext n (σ.alloc (.list (rhsItems.drop (lhsLen - 1)))).2 sc names e (SVal.plain (.list σ.heap.size)) none decl).bind
        fun names' σ2 => bindList n σ2 sc names' [] true lhsLoc b decl (lhsLen - 1 + 1) lhsLen := by
  rw [bindList]; simp only [Bool.false_eq_true, if_false, hb, Bool.true_and, decide_true, if_true]; rfl

theorem bindList_nil (n : Nat) (σ : State) (sc : List Addr) (names : List (List Char)) (collect : Bool) (lhsLoc : Loc)
    (b : Addr) (decl : Bool) (i lhsLen : Nat) : bindList (n + 1) σ sc names [] collect lhsLoc b decl i lhsLen = .ok names σ := by
  rw [bindList]

/-- running `st` from `σ` declares `b` in the innermost cell `A0` (which held `ms`) as the list cell `B` — an address
    that did not exist — holding `ys`; `σ1` is the state just before the declaration: every cell that existed is as
    it was -/
structure FreshCopy (k : Nat) (σ : State) (A0 : Addr) (sc' : List Addr) (ms : ScopeMap) (st : Stmt) (b : List Char)
    (lb : Loc) (B : Addr) (ys : List SVal) (σ1 : State) : Prop where
  run : evalStmt k σ (A0 :: sc') st = .ok .none (σ1.set A0 (.scope ((b, SVal.plain (.list B), lb) :: ms)))
  fresh : σ.heap.size ≤ B
  cell : σ1.getList B = some ys
  old : ∀ c, c < σ.heap.size → σ1.heap[c]? = σ.heap[c]?
  out : σ1.out = σ.out

theorem freshCopy_declare {n : Nat} {σ σ1 : State} {A0 : Addr} {sc' : List Addr} {ms : ScopeMap} {b : List Char} {rhs : Expr}
    {B : Addr} {ys : List SVal} (lb : Loc)
    (hr : evalExpr (n + 1) σ (A0 :: sc') rhs = .ok (SVal.plain (.list B)) σ1)
    (hb : b ≠ c!"_") (hs : σ.getScope A0 = some ms) (hfresh : scopeLookup b ms = none)
    (hB : σ.heap.size ≤ B) (hcell : σ1.getList B = some ys)
    (hold : ∀ c, c < σ.heap.size → σ1.heap[c]? = σ.heap[c]?) (hout : σ1.out = σ.out) :
    FreshCopy (n + 2) σ A0 sc' ms (.Declare (.mk (.Var b) lb) rhs) b lb B ys σ1 := by
  have hs1 : σ1.getScope A0 = some ms := by rw [getScope_congr (hold A0 (getScope_lt hs))]; exact hs
  exact ⟨declare_var_stmt lb hr hb hs1 hfresh, hB, hcell, hold, hout⟩

theorem copy_by_spread {σ : State} {A0 : Addr} {sc' : List Addr} {ms : ScopeMap} {a b : List Char} {A : Addr}
    {s : Option Val} {items : List SVal} (n : Nat) (lb la l : Loc)
    (hs : σ.getScope A0 = some ms) (ha : scopeGet σ (A0 :: sc') a = some ⟨.list A, s⟩) (hl : σ.getList A = some items)
    (hb : b ≠ c!"_") (hfresh : scopeLookup b ms = none) :
    FreshCopy (n + 4) σ A0 sc' ms (.Declare (.mk (.Var b) lb) (.mk (.List [.mk (.mk (.Var a) la) true] false) l))
      b lb σ.heap.size items (σ.alloc (.list items)).2 :=
  freshCopy_declare lb (spread_copy n la l ha hl) hb hs hfresh (Nat.le_refl _) (getList_alloc_new σ items)
    (fun _ hc => alloc_old σ _ hc) rfl

theorem copy_by_sum {σ : State} {A0 : Addr} {sc' : List Addr} {ms : ScopeMap} {a b : List Char} {A : Addr}
    {s : Option Val} {items : List SVal} (n : Nat) (lb la ol le l : Loc)
    (hs : σ.getScope A0 = some ms) (ha : scopeGet σ (A0 :: sc') a = some ⟨.list A, s⟩) (hl : σ.getList A = some items)
    (hb : b ≠ c!"_") (hfresh : scopeLookup b ms = none) :
    FreshCopy (n + 4) σ A0 sc' ms
      (.Declare (.mk (.Var b) lb) (.mk (.BinaryOp .Sum ol (.mk (.Var a) la) (.mk (.List [] false) le)) l))
      b lb (σ.heap.size + 1) items ((σ.alloc (.list [])).2.alloc (.list items)).2 := by
  refine freshCopy_declare lb (sum_copy n la ol le l ha hl) hb hs hfresh (Nat.le_succ _) ?_ (fun c hc => ?_) rfl
  · have := getList_alloc_new (σ.alloc (.list [])).2 items
    rwa [alloc_size] at this
  · have hc1 : c < (σ.alloc (.list [])).2.heap.size := by rw [alloc_size]; omega
    rw [alloc_old _ _ hc1, alloc_old σ _ hc]

theorem copy_by_range {σ : State} {A0 : Addr} {sc' : List Addr} {ms : ScopeMap} {a b : List Char} {A : Addr}
    {s : Option Val} {items : List SVal} (n k : Nat) (lb la l0 lk l : Loc)
    (hs : σ.getScope A0 = some ms) (ha : scopeGet σ (A0 :: sc') a = some ⟨.list A, s⟩) (hl : σ.getList A = some items)
    (hk : k ≤ items.length) (hb : b ≠ c!"_") (hfresh : scopeLookup b ms = none) :
    FreshCopy (n + 6) σ A0 sc' ms
      (.Declare (.mk (.Var b) lb) (.mk (.RangeIndex (.mk (.Var a) la) (some (.mk (.Int (Int.ofNat 0)) l0))
        (some (.mk (.Int (Int.ofNat k)) lk))) l))
      b lb σ.heap.size (items.take k) (σ.alloc (.list (items.take k))).2 :=
  freshCopy_declare lb (range_copy n k la l0 lk l ha hl hk) hb hs hfresh (Nat.le_refl _) (getList_alloc_new σ _)
    (fun _ hc => alloc_old σ _ hc) rfl

theorem copy_by_collect {σ : State} {A0 : Addr} {sc' : List Addr} {ms : ScopeMap} {a b : List Char} {A : Addr}
    {s : Option Val} {items : List SVal} (n : Nat) (lb la lp : Loc)
    (hs : σ.getScope A0 = some ms) (ha : scopeGet σ (A0 :: sc') a = some ⟨.list A, s⟩) (hl : σ.getList A = some items)
    (hb : b ≠ c!"_") (hfresh : scopeLookup b ms = none) :
    FreshCopy (n + 5) σ A0 sc' ms
      (.Declare (.mk (.List [.mk (.mk (.Var b) lb) false] true) lp) (.mk (.Var a) la))
      b lb σ.heap.size items (σ.alloc (.list items)).2 := by
  refine ⟨?_, Nat.le_refl _, getList_alloc_new σ items, fun _ hc => alloc_old σ _ hc, rfl⟩
  rw [evalStmt, var_read (n + 3) la ha]
  simp only [Res.bind]
  rw [bindNext_list_collect lp true hl (Nat.zero_le _), List.length_singleton, bindList_collect (lhsLen := 1) hl,
    bindNext_var, bindName_declare lb _ hb rfl (getScope_alloc _ hs) hfresh]
  simp only [Res.bind]
  rw [bindList_nil]
  rfl

/-- what `evalCall` does with the way the body ended -/
def finishCall (esc : Escape) (σ4 : State) : Res SVal :=
  match esc with
  | .none => .ok (SVal.plain .null) σ4
  | .brk l => errAt l Leaf.BreakOutsideLoop σ4
  | .cont l => errAt l Leaf.ContinueOutsideLoop σ4
  | .ret v _ => .ok v σ4

/-- the state in which the body of `fn f(p) { … }` starts when called from `σ` with the argument value `arg`: a
    fresh scope cell (address `σ.heap.size`) holding `p ↦ arg` — the `SVal` of the argument itself -/
def paramEntry (σ : State) (p : List Char) (lp : Loc) (arg : SVal) : State :=
  (σ.alloc (.scope [])).2.set σ.heap.size (.scope [(p, arg, lp)])

theorem block1_spec {σ : State} {sc : List Addr} {p : List Char} {body : List Stmt} (m : Nat) (lp : Loc) (arg : SVal)
    (hp : p ≠ c!"_") :
    evalBlock (m + 3) σ sc [(.mk (.Var p) lp, arg)] body = evalStmts (m + 2) (paramEntry σ p lp arg) (σ.heap.size :: sc) body := by
  rw [evalBlock_succ, declareAll_single lp arg m hp (getScope_alloc_new σ []) rfl]
  rfl

theorem call1_spec {σ : State} {sc clo : List Addr} {f a p : List Char} {F : Addr} {name : Option (List Char)}
    {body : List Stmt} {arg : SVal} (m : Nat) (lf la lp loc : Loc)
    (hf : scopeGet σ sc f = some ⟨.func F, none⟩)
    (hfr : σ.getFunc F = some ⟨name, [.mk (.Var p) lp], false, body, clo⟩) (hp : p ≠ c!"_")
    (ha : scopeGet σ sc a = some arg) :
    evalCall (m + 4) σ sc (.mk (.Var f) lf) [.mk (.mk (.Var a) la) false] loc =
      ((evalStmts (m + 2) (paramEntry σ p lp arg) (σ.heap.size :: clo) body).mapErr (Err.funcCall name loc)).bind
        finishCall := by
  rw [evalCall, listItems_item [] [] (var_read (m + 1) la ha), listItems_nil]
  simp only [Res.bind, List.nil_append, var_read (m + 2) lf hf, hfr, Bool.false_and, Bool.false_eq_true, if_false,
    Bool.not_false, Bool.true_and, List.length_cons, List.length_nil, ne_eq, not_true_eq_false, decide_false,
    List.zip_cons_cons, List.zip_nil_left, block1_spec m lp arg hp]
  rfl

theorem paramEntry_param (σ : State) (clo : List Addr) (p : List Char) (lp : Loc) (arg : SVal) :
    scopeGet (paramEntry σ p lp arg) (σ.heap.size :: clo) p = some arg :=
  scopeGet_declared clo p arg lp (getScope_alloc_new σ [])

theorem paramEntry_scope (σ : State) (p : List Char) (lp : Loc) (arg : SVal) :
    (paramEntry σ p lp arg).getScope σ.heap.size = some [(p, arg, lp)] :=
  getScope_set_same _ (getScope_lt (getScope_alloc_new σ []))

theorem paramEntry_old (σ : State) (p : List Char) (lp : Loc) (arg : SVal) {c : Addr} (hc : c < σ.heap.size) :
    (paramEntry σ p lp arg).heap[c]? = σ.heap[c]? := by
  unfold paramEntry
  rw [set_other _ _ _ (Nat.ne_of_lt hc), alloc_old σ _ hc]

end C05P
end Seed
