/-
  Lemmas/C05ProgFrame.lean — which reads survive which writes: declared names in the innermost scope cell, writes
  to list / object cells against scope chains, allocation against everything that existed.  For the program-level
  theorems of C05.
-/
import SeedProofs.Lemmas.C05ProgStep
import SeedProofs.Lemmas.C12Map
namespace Seed
namespace C05P
open ScopeL HeapL

theorem ne_of_lookup {a b : List Char} {m : ScopeMap} {p : SVal × Loc}
    (ha : scopeLookup a m = some p) (hb : scopeLookup b m = none) : a ≠ b := by
  rintro rfl; rw [ha] at hb; cases hb

theorem scopeGet_declared {σ : State} {A0 : Addr} {ms : ScopeMap} (r : List Addr) (x : List Char) (v : SVal) (l : Loc)
    (hs : σ.getScope A0 = some ms) :
    scopeGet (σ.set A0 (.scope ((x, v, l) :: ms))) (A0 :: r) x = some v :=
  scopeGet_hit (getScope_set_same _ (getScope_lt hs)) (lookup_cons_same x v l ms) r

theorem scopeGet_declared_other {σ : State} {A0 : Addr} {ms : ScopeMap} (r : List Addr) {x y : List Char} (v : SVal) (l : Loc)
    {w : SVal} {lw : Loc} (hs : σ.getScope A0 = some ms) (hy : y ≠ x) (hl : scopeLookup y ms = some (w, lw)) :
    scopeGet (σ.set A0 (.scope ((x, v, l) :: ms))) (A0 :: r) y = some w :=
  scopeGet_hit (getScope_set_same _ (getScope_lt hs)) (by rw [lookup_cons_other hy]; exact hl) r

theorem getFunc_set_scope (σ : State) (c : Addr) (m' : ScopeMap) (b : Addr) {m : ScopeMap} (h : σ.getScope c = some m) :
    (σ.set c (.scope m')).getFunc b = σ.getFunc b := by
  by_cases hb : b = c
  · subst hb
    unfold State.getFunc; rw [set_same σ b _ (getScope_lt h), getScope_heap.mp h]
  · exact getFunc_congr (set_other σ c _ hb)

theorem getList_set_same {σ : State} {a : Addr} {xs : List SVal} (ys : List SVal) (h : σ.getList a = some xs) :
    (σ.set a (.list ys)).getList a = some ys :=
  getList_heap.mpr (set_same σ a _ (getList_lt h))

theorem getObj_set_same {σ : State} {a : Addr} {m : ObjMap} (m' : ObjMap) (h : σ.getObj a = some m) :
    (σ.set a (.obj m')).getObj a = some m' :=
  getObj_heap.mpr (set_same σ a _ (getObj_lt h))

theorem getList_set_other {σ : State} {a b : Addr} (c : Cell) (h : b ≠ a) : (σ.set a c).getList b = σ.getList b :=
  getList_congr (set_other σ a c h)

theorem getObj_set_other {σ : State} {a b : Addr} (c : Cell) (h : b ≠ a) : (σ.set a c).getObj b = σ.getObj b :=
  getObj_congr (set_other σ a c h)

theorem getScope_set_list {σ : State} {a : Addr} {xs : List SVal} (ys : List SVal) (h : σ.getList a = some xs) (b : Addr) :
    (σ.set a (.list ys)).getScope b = σ.getScope b :=
  getScope_set_nonscope σ a _ b (getScope_none_of_getList h) (fun _ e => by cases e)

theorem getScope_set_obj {σ : State} {a : Addr} {m : ObjMap} (m' : ObjMap) (h : σ.getObj a = some m) (b : Addr) :
    (σ.set a (.obj m')).getScope b = σ.getScope b :=
  getScope_set_nonscope σ a _ b (getScope_none_of_getObj h) (fun _ e => by cases e)

theorem scopeGet_set_list {σ : State} {a : Addr} {xs : List SVal} (ys : List SVal) (h : σ.getList a = some xs)
    (sc : List Addr) (x : List Char) : scopeGet (σ.set a (.list ys)) sc x = scopeGet σ sc x :=
  scopeGet_congr fun b _ => by rw [getScope_set_list ys h b]

theorem scopeGet_set_obj {σ : State} {a : Addr} {m : ObjMap} (m' : ObjMap) (h : σ.getObj a = some m)
    (sc : List Addr) (x : List Char) : scopeGet (σ.set a (.obj m')) sc x = scopeGet σ sc x :=
  scopeGet_congr fun b _ => by rw [getScope_set_obj m' h b]

theorem getObj_alloc {σ : State} {a : Addr} {m : ObjMap} (c : Cell) (h : σ.getObj a = some m) :
    (σ.alloc c).2.getObj a = some m :=
  (getObj_congr (alloc_old σ c (getObj_lt h))).trans h

theorem getFunc_alloc {σ : State} {a : Addr} {f : FuncRec} (c : Cell) (h : σ.getFunc a = some f) :
    (σ.alloc c).2.getFunc a = some f :=
  (getFunc_congr (alloc_old σ c (getFunc_lt h))).trans h

/-- a lookup that succeeds depends only on cells that exist: it survives every change that keeps the existing cells
    (allocation, writes to fresh cells) -/
theorem scopeGet_some_frame {σ σ' : State} {sc : List Addr} {x : List Char} {v : SVal}
    (hold : ∀ c, c < σ.heap.size → σ'.heap[c]? = σ.heap[c]?) (h : scopeGet σ sc x = some v) :
    scopeGet σ' sc x = some v := by
  obtain ⟨pre, c, post, m, l, e, hs, h1, h2⟩ := scopeGet_some_iff.mp h
  refine scopeGet_some_iff.mpr ⟨pre, c, post, m, l, e, ?_, ?_, h2⟩
  · intro d hd
    obtain ⟨md, hd1, hd2⟩ := hs d hd
    exact ⟨md, by rw [getScope_congr (hold d (getScope_lt hd1))]; exact hd1, hd2⟩
  · rw [getScope_congr (hold c (getScope_lt h1))]; exact h1

theorem scopeGet_alloc {σ : State} {sc : List Addr} {x : List Char} {v : SVal} (c : Cell)
    (h : scopeGet σ sc x = some v) : scopeGet (σ.alloc c).2 sc x = some v :=
  scopeGet_some_frame (fun _ hb => alloc_old σ c hb) h

end C05P
end Seed
