/-
  Lemmas/C05ProgStep.lean — single steps of the evaluator with their exact fuel, for the program-level theorems of
  C05 (aliasing): reads (`x`, `x[i]`, `x.k`, `x["k"]`, `l === r`), the statements `x := e`, `x = e`, `x op= e`,
  `x[i] = e`, `x.k = e`, `x["k"] = e`, `f(args);`, and statement lists.

  Nothing here may import Lemmas/C12Heap.lean: C05.lean reaches `Seed.ScopeL.*` / `Seed.HeapL.*` by their short names
  through `open`, and C12Heap.lean has the same short names directly in `Seed` (other argument orders), which would win.
-/
import SeedProofs.Lemmas.C05Heap
import SeedProofs.Global
namespace Seed

theorem evalExpr_ok_pos {n : Nat} {σ σ' : State} {sc : List Addr} {e : Expr} {v : SVal}
    (h : evalExpr n σ sc e = .ok v σ') : ∃ k, n = k + 1 := by
  cases n with
  | zero => rw [evalExpr] at h; cases h
  | succ k => exact ⟨k, rfl⟩

/-- `e[k]` on an object, with any key expression: the stored value with `src :=` that object -/
theorem index_read_src {n : Nat} {σ σ1 σ2 : State} {sc : List Addr} {ex ke : Expr} (loc : Loc) {name : List Char}
    {ov : SVal} {a : Addr} {m : ObjMap} {v : SVal}
    (h : evalExpr n σ sc ex = .ok ov σ1) (hov : ov.v = .obj a)
    (hke : evalToStr n σ1 sc c!"property" ke = .ok name σ2)
    (hm : σ2.getObj a = some m) (hk : objGet name m = some v) :
    evalExpr (n + 1) σ sc (.mk (.Index ex ke) loc) = .ok ⟨v.v, some (.obj a)⟩ σ2 := by
  rw [evalExpr, h]
  simp only [Res.bind, hov, hke, hm, hk]

/-- `e.k` on an object: the stored value with `src :=` that object -/
theorem prop_read_src {n : Nat} {σ σ1 : State} {sc : List Addr} {ex : Expr} (loc : Loc) {name : List Char}
    {ov : SVal} {a : Addr} {m : ObjMap} {v : SVal}
    (h : evalExpr n σ sc ex = .ok ov σ1) (hov : ov.v = .obj a)
    (hm : σ1.getObj a = some m) (hk : objGet name m = some v) :
    evalExpr (n + 1) σ sc (.mk (.Prop ex name false) loc) = .ok ⟨v.v, some (.obj a)⟩ σ1 := by
  rw [evalExpr, h]
  simp only [Res.bind, Bool.false_eq_true, if_false, hov, hm, hk]

namespace C05P
open ScopeL HeapL

theorem toIndex_mono {n m : Nat} {σ sc e} {r : Res Nat} (h : evalToIndex n σ sc e = r) (hr : r ≠ .timeout) (hnm : n ≤ m) :
    evalToIndex m σ sc e = r :=
  fuel_stable (f := fun k => evalToIndex k σ sc e) (fun k => (monoAll k).evalToIndex σ sc e) h hr hnm

theorem call_mono {n m : Nat} {σ sc f args loc} {r : Res SVal} (h : evalCall n σ sc f args loc = r) (hr : r ≠ .timeout)
    (hnm : n ≤ m) : evalCall m σ sc f args loc = r :=
  fuel_stable (f := fun k => evalCall k σ sc f args loc) (fun k => (monoAll k).evalCall σ sc f args loc) h hr hnm

theorem ok_ne_timeout {α} {a : α} {σ : State} : (Res.ok a σ : Res α) ≠ .timeout := nofun

theorem stmts_step {n k : Nat} {σ σ1 : State} {sc : List Addr} {st : Stmt} (r : List Stmt)
    (h : evalStmt k σ sc st = .ok .none σ1) (hk : k ≤ n) : evalStmts (n + 1) σ sc (st :: r) = evalStmts n σ1 sc r :=
  evalStmts_cons_ok_le r h hk

theorem var_read {σ : State} {sc : List Addr} {x : List Char} {v : SVal} (n : Nat) (l : Loc)
    (h : scopeGet σ sc x = some v) : evalExpr (n + 1) σ sc (.mk (.Var x) l) = .ok v σ :=
  evalExpr_var n l h

theorem toInt_lit (n : Nat) (σ : State) (sc : List Addr) (d : List Char) (i : Int) (l : Loc) :
    evalToInt (n + 2) σ sc d (.mk (.Int i) l) = .ok i σ := by
  rw [evalToInt, evalExpr]; rfl

theorem toIndex_int (n : Nat) (σ : State) (sc : List Addr) {i : Int} (l : Loc) (hi : 0 ≤ i) :
    evalToIndex (n + 3) σ sc (.mk (.Int i) l) = .ok i.toNat σ := by
  rw [evalToIndex, toInt_lit]
  simp only [Res.bind, Int.not_lt.mpr hi, if_false]

theorem toIndex_lit (n : Nat) (σ : State) (sc : List Addr) (i : Nat) (l : Loc) :
    evalToIndex (n + 3) σ sc (.mk (.Int (Int.ofNat i)) l) = .ok i σ :=
  toIndex_int n σ sc l (Int.natCast_nonneg i)

theorem toStr_lit (n : Nat) (σ : State) (sc : List Addr) (d k : List Char) (l : Loc)
    (hk : utf8Decode (utf8Encode k) = .ok k) :
    evalToStr (n + 2) σ sc d (.mk (.Str k none) l) = .ok k σ := by
  rw [evalToStr, evalExpr]
  simp only [Res.bind, SVal.plain, hk]

theorem var_index_read {σ : State} {sc : List Addr} {x : List Char} {A : Addr} {s : Option Val} {items : List SVal}
    {i : Nat} {v : SVal} (n : Nat) (lx li l : Loc)
    (hx : scopeGet σ sc x = some ⟨.list A, s⟩) (hl : σ.getList A = some items) (hv : items[i]? = some v) :
    evalExpr (n + 4) σ sc (.mk (.Index (.mk (.Var x) lx) (.mk (.Int (Int.ofNat i)) li)) l) = .ok v σ := by
  rw [evalExpr, var_read (n + 2) lx hx]
  simp only [Res.bind, toIndex_lit n, hl, hv]

theorem var_prop_read {σ : State} {sc : List Addr} {x k : List Char} {A : Addr} {s : Option Val} {m : ObjMap}
    {v : SVal} (n : Nat) (lx l : Loc)
    (hx : scopeGet σ sc x = some ⟨.obj A, s⟩) (hm : σ.getObj A = some m) (hv : objGet k m = some v) :
    evalExpr (n + 2) σ sc (.mk (.Prop (.mk (.Var x) lx) k false) l) = .ok ⟨v.v, some (.obj A)⟩ σ :=
  prop_read_src l (var_read n lx hx) rfl hm hv

theorem var_key_read {σ : State} {sc : List Addr} {x k : List Char} {A : Addr} {s : Option Val} {m : ObjMap}
    {v : SVal} (n : Nat) (lx lk l : Loc) (hk : utf8Decode (utf8Encode k) = .ok k)
    (hx : scopeGet σ sc x = some ⟨.obj A, s⟩) (hm : σ.getObj A = some m) (hv : objGet k m = some v) :
    evalExpr (n + 3) σ sc (.mk (.Index (.mk (.Var x) lx) (.mk (.Str k none) lk)) l) = .ok ⟨v.v, some (.obj A)⟩ σ :=
  index_read_src l (var_read (n + 1) lx hx) rfl (toStr_lit n σ sc _ k lk hk) hm hv

theorem refeq_read {n : Nat} {σ : State} {sc : List Addr} {l r : Expr} {vl vr : SVal} {b : Bool} (ol loc : Loc)
    (hl : evalExpr n σ sc l = .ok vl σ) (hr : evalExpr n σ sc r = .ok vr σ) (hb : refEq vl.v vr.v = some b) :
    evalExpr (n + 1) σ sc (.mk (.BinaryOp .RefEq ol l r) loc) = .ok (SVal.plain (.bool b)) σ := by
  rw [evalExpr, hl]
  simp only [Res.bind, hr]
  simp [applyBinOp, hb]

theorem refeq_vars {σ : State} {sc : List Addr} {x y : List Char} {vx vy : SVal} {b : Bool} (n : Nat) (lx ly ol loc : Loc)
    (hx : scopeGet σ sc x = some vx) (hy : scopeGet σ sc y = some vy) (hb : refEq vx.v vy.v = some b) :
    evalExpr (n + 2) σ sc (.mk (.BinaryOp .RefEq ol (.mk (.Var x) lx) (.mk (.Var y) ly)) loc) =
      .ok (SVal.plain (.bool b)) σ :=
  refeq_read ol loc (var_read n lx hx) (var_read n ly hy) hb

theorem bindNext_var (n : Nat) (σ : State) (sc : List Addr) (names : List (List Char)) (x : List Char) (l : Loc) (rhs : SVal)
    (op : Option (BinaryOp × Loc)) (decl : Bool) :
    bindNext (n + 1) σ sc names (.mk (.Var x) l) rhs op decl = bindNextName n σ sc names x l rhs op decl := by
  rw [bindNext]

theorem bindName_declare {f : Nat} {σ : State} {a : Addr} {sc : List Addr} {names : List (List Char)} {name : List Char}
    {m : ScopeMap} (loc : Loc) (rhs : SVal) (h1 : name ≠ c!"_") (hn : names.contains name = false)
    (hs : σ.getScope a = some m) (hf : scopeLookup name m = none) :
    bindNextName f σ (a :: sc) names name loc rhs none true = .ok (name :: names) (σ.set a (.scope ((name, rhs, loc) :: m))) := by
  unfold bindNextName
  rw [if_neg h1, hn]
  simp [scopeDeclare, hs, hf]

theorem bindName_opassign {f : Nat} {σ σ1 : State} {a : Addr} {sc : List Addr} {name : List Char} {m : ScopeMap}
    {cur : SVal} {lc : Loc} {op : BinaryOp} {ol : Loc} {r : Val} (loc : Loc) (rhs : SVal) (h1 : name ≠ c!"_")
    (hs : σ.getScope a = some m) (hl : scopeLookup name m = some (cur, lc))
    (hop : applyBinOp f σ op ol cur.v rhs.v = .ok r σ1) (hs1 : σ1.getScope a = some m) :
    bindNextName f σ (a :: sc) [] name loc rhs (some (op, ol)) false =
      .ok [name] (σ1.set a (.scope (scopeSetVal name (SVal.plain r) m))) := by
  simp [bindNextName, h1, scopeGet, scopeAssign, hs, hl, hop, Res.bind, hs1]

theorem setVal_head (x : List Char) (v w : SVal) (l : Loc) (m : ScopeMap) :
    scopeSetVal x v ((x, w, l) :: m) = (x, v, l) :: m := by
  simp [scopeSetVal]

theorem declare_var_stmt {n : Nat} {σ σ1 : State} {a : Addr} {sc : List Addr} {x : List Char} {rhs : Expr} {v : SVal}
    {m : ScopeMap} (lx : Loc)
    (hr : evalExpr (n + 1) σ (a :: sc) rhs = .ok v σ1) (hx : x ≠ c!"_")
    (hs : σ1.getScope a = some m) (hf : scopeLookup x m = none) :
    evalStmt (n + 2) σ (a :: sc) (.Declare (.mk (.Var x) lx) rhs) =
      .ok .none (σ1.set a (.scope ((x, v, lx) :: m))) := by
  rw [evalStmt, hr]
  simp only [Res.bind]
  rw [bindNext_var, bindName_declare lx v hx rfl hs hf]

/-- `x = rhs`: whatever `scopeAssign` does to the chain -/
theorem assign_var_step {n : Nat} {σ σ1 σ2 : State} {sc : List Addr} {x : List Char} {rhs : Expr} {v : SVal} (lx : Loc)
    (hr : evalExpr (n + 1) σ sc rhs = .ok v σ1) (hx : x ≠ c!"_") (h2 : scopeAssign σ1 sc x v = some σ2) :
    evalStmt (n + 2) σ sc (.Assign (.mk (.Var x) lx) rhs) = .ok .none σ2 := by
  rw [evalStmt, hr]
  simp only [Res.bind]
  rw [bindNext_var]
  simp [bindNextName, hx, h2]

theorem assign_var_stmt {n : Nat} {σ σ1 : State} {a : Addr} {sc : List Addr} {x : List Char} {rhs : Expr} {v : SVal}
    {m : ScopeMap} {p : SVal × Loc} (lx : Loc)
    (hr : evalExpr (n + 1) σ (a :: sc) rhs = .ok v σ1) (hx : x ≠ c!"_")
    (hs : σ1.getScope a = some m) (hl : scopeLookup x m = some p) :
    evalStmt (n + 2) σ (a :: sc) (.Assign (.mk (.Var x) lx) rhs) =
      .ok .none (σ1.set a (.scope (scopeSetVal x v m))) :=
  assign_var_step lx hr hx (by simp only [scopeAssign, hs, hl])

theorem opassign_var_stmt {n : Nat} {σ σ1 σ2 : State} {a : Addr} {sc : List Addr} {x : List Char} {rhs : Expr} {v cur : SVal}
    {m : ScopeMap} {lc : Loc} {op : BinaryOp} {r : Val} (lx ol : Loc)
    (hr : evalExpr (n + 1) σ (a :: sc) rhs = .ok v σ1) (hx : x ≠ c!"_")
    (hs : σ1.getScope a = some m) (hl : scopeLookup x m = some (cur, lc))
    (hop : applyBinOp n σ1 op ol cur.v v.v = .ok r σ2) (hs2 : σ2.getScope a = some m) :
    evalStmt (n + 2) σ (a :: sc) (.OpAssign (.mk (.Var x) lx) op ol rhs) =
      .ok .none (σ2.set a (.scope (scopeSetVal x (SVal.plain r) m))) := by
  rw [evalStmt, hr]
  simp only [Res.bind]
  rw [bindNext_var, bindName_opassign lx v hx hs hl hop hs2]

theorem index_assign_stmt {n : Nat} {σ σ1 σ2 : State} {sc : List Addr} {x : List Char} {ix rhs : Expr} {v cur : SVal}
    {A : Addr} {s : Option Val} {items : List SVal} {i : Nat} (lx l : Loc)
    (hr : evalExpr (n + 2) σ sc rhs = .ok v σ1) (hx : scopeGet σ1 sc x = some ⟨.list A, s⟩)
    (hix : evalToIndex (n + 1) σ1 sc ix = .ok i σ2) (hl : σ2.getList A = some items) (hc : items[i]? = some cur) :
    evalStmt (n + 3) σ sc (.Assign (.mk (.Index (.mk (.Var x) lx) ix) l) rhs) =
      .ok .none (σ2.set A (.list (listSet items i v))) := by
  rw [evalStmt, hr]
  simp only [Res.bind]
  rw [bindNext, var_read n lx hx]
  simp only [Res.bind, hix, hl, hc, opAssignValue]

theorem prop_assign_stmt {n : Nat} {σ σ1 : State} {sc : List Addr} {x k : List Char} {rhs : Expr} {v : SVal}
    {A : Addr} {s : Option Val} {m : ObjMap} (lx l : Loc)
    (hr : evalExpr (n + 2) σ sc rhs = .ok v σ1) (hx : scopeGet σ1 sc x = some ⟨.obj A, s⟩)
    (hm : σ1.getObj A = some m) :
    evalStmt (n + 3) σ sc (.Assign (.mk (.Prop (.mk (.Var x) lx) k false) l) rhs) =
      .ok .none (σ1.set A (.obj (objInsert k v m))) := by
  rw [evalStmt, hr]
  simp only [Res.bind]
  rw [bindNext, var_read n lx hx]
  simp only [Res.bind, Bool.false_eq_true, if_false]
  rw [bindProp]
  cases hg : objGet k m <;> simp only [hm, hg, opAssignValue, Res.bind]

theorem key_assign_stmt {n : Nat} {σ σ1 σ2 : State} {sc : List Addr} {x k : List Char} {ke rhs : Expr} {v : SVal}
    {A : Addr} {s : Option Val} {m : ObjMap} (lx l : Loc)
    (hr : evalExpr (n + 2) σ sc rhs = .ok v σ1) (hx : scopeGet σ1 sc x = some ⟨.obj A, s⟩)
    (hke : evalToStr (n + 1) σ1 sc c!"property" ke = .ok k σ2) (hm : σ2.getObj A = some m) :
    evalStmt (n + 3) σ sc (.Assign (.mk (.Index (.mk (.Var x) lx) ke) l) rhs) =
      .ok .none (σ2.set A (.obj (objInsert k v m))) := by
  rw [evalStmt, hr]
  simp only [Res.bind]
  rw [bindNext, var_read n lx hx]
  simp only [Res.bind, hke]
  rw [bindProp]
  cases hg : objGet k m <;> simp only [hm, hg, opAssignValue, Res.bind]

theorem call_stmt (n : Nat) (σ : State) (sc : List Addr) (f : Expr) (args : List ListItem) (lc : Loc) :
    evalStmt (n + 2) σ sc (.Expr (.mk (.Call f args) lc)) = (evalCall n σ sc f args lc).bind fun _ σ1 => .ok .none σ1 := by
  rw [evalStmt, evalExpr]

theorem declare_alias_stmts {n : Nat} {σ : State} {A0 : Addr} {sc' : List Addr} {ms : ScopeMap} {a b : List Char} {va : SVal}
    {la : Loc} (lb lr : Loc) (rest : List Stmt) (hs : σ.getScope A0 = some ms) (ha : scopeLookup a ms = some (va, la))
    (hb : b ≠ c!"_") (hfresh : scopeLookup b ms = none) (hn : 2 ≤ n) :
    evalStmts (n + 1) σ (A0 :: sc') (.Declare (.mk (.Var b) lb) (.mk (.Var a) lr) :: rest) =
      evalStmts n (σ.set A0 (.scope ((b, va, lb) :: ms))) (A0 :: sc') rest :=
  stmts_step rest (declare_var_stmt (n := 0) lb (var_read 0 lr (scopeGet_hit hs ha sc')) hb hs hfresh) hn

theorem index_lit_assign_stmts {n k : Nat} {σ σ1 : State} {sc : List Addr} {x : List Char} {A : Addr} {s : Option Val}
    {items : List SVal} {i : Nat} {e : Expr} {v : SVal} (lx li l : Loc) (rest : List Stmt)
    (he : evalExpr k σ sc e = .ok v σ1) (hx : scopeGet σ1 sc x = some ⟨.list A, s⟩) (hl : σ1.getList A = some items)
    (hi : i < items.length) (hk : k + 5 ≤ n) :
    evalStmts (n + 1) σ sc (.Assign (.mk (.Index (.mk (.Var x) lx) (.mk (.Int (Int.ofNat i)) li)) l) e :: rest) =
      evalStmts n (σ1.set A (.list (listSet items i v))) sc rest :=
  stmts_step rest (index_assign_stmt (n := k + 2) lx l (evalExpr_fuel_mono he ok_ne_timeout (by omega)) hx
    (toIndex_lit k σ1 sc i li) hl (List.getElem?_eq_getElem hi)) hk

theorem call_stmts {n k : Nat} {σ σ' : State} {sc : List Addr} {f : Expr} {args : List ListItem} {lc : Loc} {v : SVal}
    (rest : List Stmt) (h : evalCall k σ sc f args lc = .ok v σ') (hk : k + 2 ≤ n) :
    evalStmts (n + 1) σ sc (.Expr (.mk (.Call f args) lc) :: rest) = evalStmts n σ' sc rest :=
  stmts_step rest (by rw [call_stmt, h]; rfl) hk

end C05P

theorem declareAll_single {σ : State} {a : Addr} {sc : List Addr} {name : List Char} {m : ScopeMap} (loc : Loc)
    (arg : SVal) (n : Nat) (h1 : name ≠ c!"_") (hs : σ.getScope a = some m) (hf : scopeLookup name m = none) :
    declareAll (n + 2) σ (a :: sc) [(.mk (.Var name) loc, arg)] = .ok () (σ.set a (.scope ((name, arg, loc) :: m))) := by
  rw [declareAll, C05P.bindNext_var, C05P.bindName_declare loc arg h1 rfl hs hf]
  simp only [Res.bind]
  rw [declareAll]

end Seed
