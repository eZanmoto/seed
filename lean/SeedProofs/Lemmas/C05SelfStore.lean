/-
  Lemmas/C05SelfStore.lean — two facts of C05, proved on top of C05.lean.

  (A1) `self_store_is_alias`: storing a container into one of its OWN slots (`x[i] = x`, `o.k = o`, `o["k"] = o`) stores the
       container itself — the slot holds the same address, no cell is allocated — so `x[i] === x` is true and a later
       write `x[j] = w` is read back through `x[i][j]`.
  (A2) `builders_fresh_even_when_empty`: every building operation allocates a NEW cell at `heap.size`, whatever the size of
       the result, in particular when the result is empty: `xs[k:k]`, `xs[len:]`, `[]`, `[ys..]` with `ys` empty, the collector
       of `[h, ..t] := [1]`, the rest parameter of a call without surplus arguments, `a .. b` with `b ≤ a`, `xs + ys` with
       both empty.  Since the heap never shrinks (G2), two evaluations never give the same address.
-/
import SeedProofs.C05
import SeedProofs.Lemmas.Instances
import SeedProofs.Lemmas.C12Lit
namespace Seed
namespace C05S
open ScopeL HeapL C05P

/-! # (A1) a container stored into its own slot -/

theorem var_index2_read {σ : State} {sc : List Addr} {x : List Char} {A B : Addr} {s sB : Option Val}
    {items itemsB : List SVal} {i j : Nat} {v : SVal} (n : Nat) (lx li l lj l' : Loc)
    (hx : scopeGet σ sc x = some ⟨.list A, s⟩) (hl : σ.getList A = some items) (hi : items[i]? = some ⟨.list B, sB⟩)
    (hB : σ.getList B = some itemsB) (hv : itemsB[j]? = some v) :
    evalExpr (n + 5) σ sc
      (.mk (.Index (.mk (.Index (.mk (.Var x) lx) (.mk (.Int (Int.ofNat i)) li)) l) (.mk (.Int (Int.ofNat j)) lj)) l') = .ok v σ := by
  rw [evalExpr, var_index_read n lx li l hx hl hi]
  simp only [Res.bind, toIndex_lit (n + 1), hB, hv]

theorem var_prop2_read {σ : State} {sc : List Addr} {o k j : List Char} {A B : Addr} {s sB : Option Val}
    {m mB : ObjMap} {v : SVal} (n : Nat) (lo l l' : Loc)
    (ho : scopeGet σ sc o = some ⟨.obj A, s⟩) (hm : σ.getObj A = some m) (hk : objGet k m = some ⟨.obj B, sB⟩)
    (hB : σ.getObj B = some mB) (hv : objGet j mB = some v) :
    evalExpr (n + 3) σ sc (.mk (.Prop (.mk (.Prop (.mk (.Var o) lo) k false) l) j false) l') = .ok ⟨v.v, some (.obj B)⟩ σ := by
  rw [evalExpr, var_prop_read n lo l ho hm hk]
  simp only [Res.bind, Bool.false_eq_true, if_false, hB, hv]

example : scopeGet C05.σP [0] c!"a" = some ⟨.list 1, none⟩ ∧ C05.σP.getList 1 = some [C05.sl 2, C05.sv 5] ∧
    [C05.sl 2, C05.sv 5][0]? = some ⟨.list 2, none⟩ ∧ C05.σP.getList 2 = some [C05.sv 1] ∧ [C05.sv 1][0]? = some (C05.sv 1) := by
  decide

/-- **`x[i] = x`.**  The statement rewrites the one cell `A` that `x` denotes: position `i` now holds the value of `x`
    itself — the address `A`, not the address of a copy — every other position and every other cell is as it was, the heap
    has the same size (nothing was allocated), nothing was printed; `x` still denotes `A`, `x[i]` reads the list `A`, and
    `x[i] === x` is `true`. -/
theorem self_store_is_alias {σ : State} {sc : List Addr} {x : List Char} {A : Addr} {s : Option Val} {items : List SVal}
    {i : Nat} (n : Nat) (lx li ls lr : Loc)
    (hx : scopeGet σ sc x = some ⟨.list A, s⟩) (hl : σ.getList A = some items) (hi : i < items.length) :
    let σ' := σ.set A (.list (listSet items i ⟨.list A, s⟩))
    evalStmt (n + 5) σ sc
        (.Assign (.mk (.Index (.mk (.Var x) lx) (.mk (.Int (Int.ofNat i)) li)) ls) (.mk (.Var x) lr)) = .ok .none σ' ∧
    σ'.getList A = some (listSet items i ⟨.list A, s⟩) ∧
    (listSet items i ⟨.list A, s⟩)[i]? = some ⟨.list A, s⟩ ∧
    (∀ j, j ≠ i → (listSet items i ⟨.list A, s⟩)[j]? = items[j]?) ∧
    σ'.heap.size = σ.heap.size ∧ (∀ c, c ≠ A → σ'.heap[c]? = σ.heap[c]?) ∧ σ'.out = σ.out ∧
    scopeGet σ' sc x = some ⟨.list A, s⟩ ∧
    (∀ f l1 l2 l3, evalExpr (f + 4) σ' sc
        (.mk (.Index (.mk (.Var x) l1) (.mk (.Int (Int.ofNat i)) l2)) l3) = .ok ⟨.list A, s⟩ σ') ∧
    (∀ f l1 l2 l3 l4 l5 l6, evalExpr (f + 5) σ' sc
        (.mk (.BinaryOp .RefEq l5 (.mk (.Index (.mk (.Var x) l1) (.mk (.Int (Int.ofNat i)) l2)) l3) (.mk (.Var x) l4)) l6) =
      .ok (SVal.plain (.bool true)) σ') := by
  intro σ'
  have hx' : scopeGet σ' sc x = some ⟨.list A, s⟩ := by rw [scopeGet_set_list _ hl]; exact hx
  have hl' : σ'.getList A = some (listSet items i ⟨.list A, s⟩) := getList_set_same _ hl
  have hself := listSet_get_same items i (⟨.list A, s⟩ : SVal) hi
  have hread : ∀ f l1 l2 l3, evalExpr (f + 4) σ' sc
      (.mk (.Index (.mk (.Var x) l1) (.mk (.Int (Int.ofNat i)) l2)) l3) = .ok ⟨.list A, s⟩ σ' :=
    fun f l1 l2 l3 => var_index_read f l1 l2 l3 hx' hl' hself
  refine ⟨?_, hl', hself, fun j hj => listSet_get_other items i j _ hj, set_size _ _ _, fun c hc => set_other _ _ _ hc, rfl,
    hx', hread, fun f l1 l2 l3 l4 l5 l6 => ?_⟩
  · exact index_assign_stmt (n := n + 2) lx ls (var_read (n + 3) lr hx) hx (toIndex_lit n σ sc i li) hl
      (List.getElem?_eq_getElem hi)
  · exact refeq_read l5 l6 (hread f l1 l2 l3) (var_read (f + 3) l4 hx') (by simp [refEq])

/-- **`x[i] = x; x[j] = e; rest`** (`j ≠ i`; `e` without effects, as in `C05.alias_mutation_visible`): the later write
    goes to the same one cell, and is read back through the stored self-reference — `x[i][j]` is the value written — while
    `x[i] === x` stays true; still no cell was allocated. -/
theorem self_store_then_write {σ : State} {sc : List Addr} {x : List Char} {A : Addr} {s : Option Val} {items : List SVal}
    {i j : Nat} {e : Expr} {w : SVal} (n : Nat) (lx li ls lr lx2 lj ls2 : Loc)
    (hx : scopeGet σ sc x = some ⟨.list A, s⟩) (hl : σ.getList A = some items) (hi : i < items.length)
    (hj : j < items.length) (hji : j ≠ i)
    (he : evalExpr n (σ.set A (.list (listSet items i ⟨.list A, s⟩))) sc e =
      .ok w (σ.set A (.list (listSet items i ⟨.list A, s⟩)))) :
    let σ'' := σ.set A (.list (listSet (listSet items i ⟨.list A, s⟩) j w))
    (∀ rest, evalStmts (n + 7) σ sc
        (.Assign (.mk (.Index (.mk (.Var x) lx) (.mk (.Int (Int.ofNat i)) li)) ls) (.mk (.Var x) lr) ::
         .Assign (.mk (.Index (.mk (.Var x) lx2) (.mk (.Int (Int.ofNat j)) lj)) ls2) e :: rest) =
      evalStmts (n + 5) σ'' sc rest) ∧
    σ''.getList A = some (listSet (listSet items i ⟨.list A, s⟩) j w) ∧
    (∀ f l1 l2 l3 l4 l5, evalExpr (f + 5) σ'' sc
        (.mk (.Index (.mk (.Index (.mk (.Var x) l1) (.mk (.Int (Int.ofNat i)) l2)) l3) (.mk (.Int (Int.ofNat j)) l4)) l5) =
      .ok w σ'') ∧
    (∀ f l1 l2 l3, evalExpr (f + 4) σ'' sc
        (.mk (.Index (.mk (.Var x) l1) (.mk (.Int (Int.ofNat j)) l2)) l3) = .ok w σ'') ∧
    (∀ f l1 l2 l3 l4 l5 l6, evalExpr (f + 5) σ'' sc
        (.mk (.BinaryOp .RefEq l5 (.mk (.Index (.mk (.Var x) l1) (.mk (.Int (Int.ofNat i)) l2)) l3) (.mk (.Var x) l4)) l6) =
      .ok (SVal.plain (.bool true)) σ'') ∧
    σ''.heap.size = σ.heap.size ∧ (∀ c, c ≠ A → σ''.heap[c]? = σ.heap[c]?) ∧ σ''.out = σ.out := by
  intro σ''
  have hj' : j < (listSet items i (⟨.list A, s⟩ : SVal)).length := (listSet_len items i _).symm ▸ hj
  have hx'' : scopeGet σ'' sc x = some ⟨.list A, s⟩ := (scopeGet_set_list _ hl _ x).trans hx
  have hl'' : σ''.getList A = some (listSet (listSet items i ⟨.list A, s⟩) j w) := getList_set_same _ hl
  have hself'' : (listSet (listSet items i ⟨.list A, s⟩) j w)[i]? = some ⟨.list A, s⟩ :=
    (listSet_get_other _ j i w (Ne.symm hji)).trans (listSet_get_same items i _ hi)
  have hw := listSet_get_same (listSet items i (⟨.list A, s⟩ : SVal)) j w hj'
  refine ⟨fun rest => ?_, hl'', fun f l1 l2 l3 l4 l5 => var_index2_read f l1 l2 l3 l4 l5 hx'' hl'' hself'' hl'' hw,
    fun f l1 l2 l3 => var_index_read f l1 l2 l3 hx'' hl'' hw,
    fun f l1 l2 l3 l4 l5 l6 => refeq_read l5 l6 (var_index_read f l1 l2 l3 hx'' hl'' hself'') (var_read (f + 3) l4 hx'')
      (by simp [refEq]),
    set_size _ _ _, fun c hc => set_other _ _ _ hc, rfl⟩
  -- the second write goes to the cell the first one wrote
  rw [stmts_step _ (self_store_is_alias (i := i) 0 lx li ls lr hx hl hi).1 (by omega),
    index_lit_assign_stmts lx2 lj ls2 _ he ((scopeGet_set_list _ hl _ x).trans hx) (getList_set_same _ hl) hj' (by omega),
    set_set]

/-- **`o.k = o`** and **`o["k"] = o`.**  Both statements rewrite the one cell `A` that `o` denotes so that it maps `k` to the
    value of `o` itself — the address `A` — and leave every other key, every other cell, the heap size and the output as
    they were; `o.k` then reads the object `A` and `o.k === o` is `true`. -/
theorem self_store_is_alias_obj {σ : State} {sc : List Addr} {o k : List Char} {A : Addr} {s : Option Val} {m : ObjMap}
    (n : Nat) (lo ls lr lk : Loc)
    (ho : scopeGet σ sc o = some ⟨.obj A, s⟩) (hm : σ.getObj A = some m) :
    let σ' := σ.set A (.obj (objInsert k ⟨.obj A, s⟩ m))
    evalStmt (n + 3) σ sc (.Assign (.mk (.Prop (.mk (.Var o) lo) k false) ls) (.mk (.Var o) lr)) = .ok .none σ' ∧
    evalStmt (n + 4) σ sc (.Assign (.mk (.Index (.mk (.Var o) lo) (.mk (.Str k none) lk)) ls) (.mk (.Var o) lr)) =
      .ok .none σ' ∧
    σ'.getObj A = some (objInsert k ⟨.obj A, s⟩ m) ∧
    objGet k (objInsert k ⟨.obj A, s⟩ m) = some ⟨.obj A, s⟩ ∧
    (∀ k', k' ≠ k → objGet k' (objInsert k ⟨.obj A, s⟩ m) = objGet k' m) ∧
    σ'.heap.size = σ.heap.size ∧ (∀ c, c ≠ A → σ'.heap[c]? = σ.heap[c]?) ∧ σ'.out = σ.out ∧
    scopeGet σ' sc o = some ⟨.obj A, s⟩ ∧
    (∀ f l1 l2, evalExpr (f + 2) σ' sc (.mk (.Prop (.mk (.Var o) l1) k false) l2) = .ok ⟨.obj A, some (.obj A)⟩ σ') ∧
    (∀ f l1 l2 l3 l4 l5, evalExpr (f + 3) σ' sc
        (.mk (.BinaryOp .RefEq l4 (.mk (.Prop (.mk (.Var o) l1) k false) l2) (.mk (.Var o) l3)) l5) =
      .ok (SVal.plain (.bool true)) σ') := by
  intro σ'
  have ho' : scopeGet σ' sc o = some ⟨.obj A, s⟩ := by rw [scopeGet_set_obj _ hm]; exact ho
  have hm' : σ'.getObj A = some (objInsert k ⟨.obj A, s⟩ m) := getObj_set_same _ hm
  have hself := objGet_objInsert_same k (⟨.obj A, s⟩ : SVal) m
  have hread : ∀ f l1 l2, evalExpr (f + 2) σ' sc (.mk (.Prop (.mk (.Var o) l1) k false) l2) =
      .ok ⟨.obj A, some (.obj A)⟩ σ' := fun f l1 l2 => var_prop_read f l1 l2 ho' hm' hself
  refine ⟨?_, ?_, hm', hself, fun k' hk' => objGet_objInsert_other hk' _ m, set_size _ _ _,
    fun c hc => set_other _ _ _ hc, rfl, ho', hread, fun f l1 l2 l3 l4 l5 => ?_⟩
  · exact prop_assign_stmt (n := n) lo ls (var_read (n + 1) lr ho) ho hm
  · exact key_assign_stmt (n := n + 1) lo ls (var_read (n + 2) lr ho) ho (toStr_lit n σ sc _ k lk (C15U.decode_encode k)) hm
  · exact refeq_read l4 l5 (hread f l1 l2) (var_read (f + 1) l3 ho') (by simp [refEq])

/-- **`o.k = o; o.j = e; rest`** (`j ≠ k`, `e` without effects): the later write is read back through the stored
    self-reference, `o.k.j` -/
theorem self_store_then_write_obj {σ : State} {sc : List Addr} {o k j : List Char} {A : Addr} {s : Option Val} {m : ObjMap}
    {e : Expr} {w : SVal} (n : Nat) (lo ls lr lo2 ls2 : Loc)
    (ho : scopeGet σ sc o = some ⟨.obj A, s⟩) (hm : σ.getObj A = some m) (hjk : j ≠ k)
    (he : evalExpr n (σ.set A (.obj (objInsert k ⟨.obj A, s⟩ m))) sc e =
      .ok w (σ.set A (.obj (objInsert k ⟨.obj A, s⟩ m)))) :
    let σ'' := σ.set A (.obj (objInsert j w (objInsert k ⟨.obj A, s⟩ m)))
    (∀ rest, evalStmts (n + 5) σ sc
        (.Assign (.mk (.Prop (.mk (.Var o) lo) k false) ls) (.mk (.Var o) lr) ::
         .Assign (.mk (.Prop (.mk (.Var o) lo2) j false) ls2) e :: rest) =
      evalStmts (n + 3) σ'' sc rest) ∧
    σ''.getObj A = some (objInsert j w (objInsert k ⟨.obj A, s⟩ m)) ∧
    (∀ f l1 l2 l3, evalExpr (f + 3) σ'' sc
        (.mk (.Prop (.mk (.Prop (.mk (.Var o) l1) k false) l2) j false) l3) = .ok ⟨w.v, some (.obj A)⟩ σ'') ∧
    (∀ f l1 l2 l3 l4 l5, evalExpr (f + 3) σ'' sc
        (.mk (.BinaryOp .RefEq l4 (.mk (.Prop (.mk (.Var o) l1) k false) l2) (.mk (.Var o) l3)) l5) =
      .ok (SVal.plain (.bool true)) σ'') ∧
    σ''.heap.size = σ.heap.size ∧ (∀ c, c ≠ A → σ''.heap[c]? = σ.heap[c]?) ∧ σ''.out = σ.out := by
  intro σ''
  have ho'' : scopeGet σ'' sc o = some ⟨.obj A, s⟩ := (scopeGet_set_obj _ hm _ o).trans ho
  have hm'' : σ''.getObj A = some (objInsert j w (objInsert k ⟨.obj A, s⟩ m)) := getObj_set_same _ hm
  have hself'' : objGet k (objInsert j w (objInsert k ⟨.obj A, s⟩ m)) = some ⟨.obj A, s⟩ :=
    (objGet_objInsert_other (Ne.symm hjk) _ _).trans (objGet_objInsert_same k _ m)
  have hw := objGet_objInsert_same j w (objInsert k ⟨.obj A, s⟩ m)
  refine ⟨fun rest => ?_, hm'', fun f l1 l2 l3 => var_prop2_read f l1 l2 l3 ho'' hm'' hself'' hm'' hw,
    fun f l1 l2 l3 l4 l5 => refeq_read l4 l5 (var_prop_read f l1 l2 ho'' hm'' hself'') (var_read (f + 1) l3 ho'')
      (by simp [refEq]),
    set_size _ _ _, fun c hc => set_other _ _ _ hc, rfl⟩
  -- the second write goes to the cell the first one wrote
  rw [stmts_step _ (self_store_is_alias_obj (k := k) 0 lo ls lr lo ho hm).1 (by omega),
    stmts_step _ (prop_assign_stmt (n := n) (k := j) lo2 ls2 (evalExpr_fuel_mono he ok_ne_timeout (by omega))
      ((scopeGet_set_obj _ hm _ o).trans ho) (getObj_set_same _ hm)) (by omega), set_set]

/-- scope 0: `v ↦ list 1`, `o ↦ object 2`; list 1 = `[1, 2, 3]`, object 2 = `{"a": 1}` -/
def σS : State :=
  ⟨#[.scope [(c!"v", SVal.plain (.list 1), (1, 0)), (c!"o", SVal.plain (.obj 2), (2, 0))],
     .list [C05.sv 1, C05.sv 2, C05.sv 3], .obj [(c!"a", C05.sv 1)]], []⟩

example : scopeGet σS [0] c!"v" = some ⟨.list 1, none⟩ ∧ σS.getList 1 = some [C05.sv 1, C05.sv 2, C05.sv 3] ∧
    0 < [C05.sv 1, C05.sv 2, C05.sv 3].length ∧ scopeGet σS [0] c!"o" = some ⟨.obj 2, none⟩ ∧
    σS.getObj 2 = some [(c!"a", C05.sv 1)] := by decide

/-- `v[0] = v;` in `σS`: cell 1 becomes `[list 1, 2, 3]` -/
example :
    evalStmt 5 σS [0] (.Assign (.mk (.Index (.mk (.Var c!"v") (3, 0)) (.mk (.Int (Int.ofNat 0)) (3, 2))) (3, 1)) (.mk (.Var c!"v") (3, 7))) =
      .ok .none (σS.set 1 (.list [SVal.plain (.list 1), C05.sv 2, C05.sv 3])) :=
  (self_store_is_alias (σ := σS) (sc := [0]) (x := c!"v") (A := 1) (s := none) (items := [C05.sv 1, C05.sv 2, C05.sv 3])
    (i := 0) 0 (3, 0) (3, 2) (3, 1) (3, 7) (by rfl) (by rfl) (by decide)).1

/-- `v[0] = v; v[1] = 9;` in `σS`: cell 1 becomes `[list 1, 9, 3]` -/
example :
    evalStmts 8 σS [0]
      [.Assign (.mk (.Index (.mk (.Var c!"v") (3, 0)) (.mk (.Int (Int.ofNat 0)) (3, 2))) (3, 1)) (.mk (.Var c!"v") (3, 7)),
       .Assign (.mk (.Index (.mk (.Var c!"v") (4, 0)) (.mk (.Int (Int.ofNat 1)) (4, 2))) (4, 1)) C05.e9] =
      evalStmts 6 (σS.set 1 (.list [SVal.plain (.list 1), C05.sv 9, C05.sv 3])) [0] [] :=
  (self_store_then_write (σ := σS) (sc := [0]) (x := c!"v") (A := 1) (s := none) (items := [C05.sv 1, C05.sv 2, C05.sv 3])
    (i := 0) (j := 1) (e := C05.e9) (w := C05.sv 9) 1 (3, 0) (3, 2) (3, 1) (3, 7) (4, 0) (4, 2) (4, 1)
    (by rfl) (by rfl) (by decide) (by decide) (by decide) (C05.e9_pure 0 _ _)).1 []

/-- `o.k = o;` in `σS`: cell 2 becomes `{"a": 1, "k": object 2}` -/
example :
    evalStmt 3 σS [0] (.Assign (.mk (.Prop (.mk (.Var c!"o") (3, 0)) c!"k" false) (3, 1)) (.mk (.Var c!"o") (3, 6))) =
      .ok .none (σS.set 2 (.obj [(c!"a", C05.sv 1), (c!"k", SVal.plain (.obj 2))])) :=
  (self_store_is_alias_obj (σ := σS) (sc := [0]) (o := c!"o") (k := c!"k") (A := 2) (s := none) (m := [(c!"a", C05.sv 1)])
    0 (3, 0) (3, 1) (3, 6) (3, 2) (by rfl) (by rfl)).1

/-- `o.k = o; o.a = 9;` in `σS`: cell 2 becomes `{"a": 9, "k": object 2}` -/
example :
    evalStmts 6 σS [0]
      [.Assign (.mk (.Prop (.mk (.Var c!"o") (3, 0)) c!"k" false) (3, 1)) (.mk (.Var c!"o") (3, 6)),
       .Assign (.mk (.Prop (.mk (.Var c!"o") (4, 0)) c!"a" false) (4, 1)) C05.e9] =
      evalStmts 4 (σS.set 2 (.obj [(c!"a", C05.sv 9), (c!"k", SVal.plain (.obj 2))])) [0] [] :=
  (self_store_then_write_obj (σ := σS) (sc := [0]) (o := c!"o") (k := c!"k") (j := c!"a") (A := 2) (s := none)
    (m := [(c!"a", C05.sv 1)]) (e := C05.e9) (w := C05.sv 9) 1 (3, 0) (3, 1) (3, 6) (4, 0) (4, 1)
    (by rfl) (by rfl) (by decide) (C05.e9_pure 0 _ _)).1 []

example : (run 100 c!"t.sd" c!"v := [1, 2, 3];\nv[0] = v;\nprint(v[0] === v);\nv[1] = 5;\nprint(v[0][1]);\n").out =
    [c!"true", c!"5"] := by decide +kernel

example : (run 100 c!"t.sd"
    c!"o := {\"a\": 1};\no.k = o;\nprint(o.k === o);\no[\"j\"] = o;\nprint(o.j === o.k);\no.a = 7;\nprint(o.k.j.a);\n").out =
    [c!"true", c!"true", c!"7"] := by decide +kernel

/-- the self-reference survives any depth: `v[0][0][0]` is still `v` -/
example : (run 100 c!"t.sd" c!"v := [1, 2];\nv[0] = v;\nprint(v[0][0][0] === v);\nv[0][0][1] = 8;\nprint(v[1]);\n").out =
    [c!"true", c!"8"] := by decide +kernel

/-! # (A2) building operations allocate a new cell also when the result is empty -/

/-- scope 0: `a ↦ list 1 = [1, 2]`, `e ↦ list 2 = []` -/
def σE : State :=
  ⟨#[.scope [(c!"a", SVal.plain (.list 1), (1, 0)), (c!"e", SVal.plain (.list 2), (2, 0))],
     .list [C05.sv 1, C05.sv 2], .list []], []⟩

example : scopeGet σE [0] c!"a" = some ⟨.list 1, none⟩ ∧ σE.getList 1 = some [C05.sv 1, C05.sv 2] ∧
    scopeGet σE [0] c!"e" = some ⟨.list 2, none⟩ ∧ σE.getList 2 = some [] := by decide

/-! ### the heap never shrinks, so a later allocation never returns an earlier address -/

/-- the size part of G2 (`HeapGrows`), read off a successful result -/
theorem size_le_of_grows {α} {σ σ' : State} {r : Res α} {a : α} (hr : Res.Rel HeapGrows σ r) (h : r = .ok a σ') :
    σ.heap.size ≤ σ'.heap.size := by
  rw [h] at hr; exact hr.1

theorem evalExpr_size_le {n : Nat} {σ σ' : State} {sc : List Addr} {e : Expr} {v : SVal}
    (h : evalExpr n σ sc e = .ok v σ') : σ.heap.size ≤ σ'.heap.size :=
  size_le_of_grows ((relAll heapGrows_good n).evalExpr σ σ sc e (heapGrows_good.refl σ)) h

theorem evalStmt_size_le {n : Nat} {σ σ' : State} {sc : List Addr} {st : Stmt} {esc : Escape}
    (h : evalStmt n σ sc st = .ok esc σ') : σ.heap.size ≤ σ'.heap.size :=
  size_le_of_grows ((relAll heapGrows_good n).evalStmt σ σ sc st (heapGrows_good.refl σ)) h

theorem evalStmts_size_le {n : Nat} {σ σ' : State} {sc : List Addr} {ss : List Stmt} {esc : Escape}
    (h : evalStmts n σ sc ss = .ok esc σ') : σ.heap.size ≤ σ'.heap.size :=
  size_le_of_grows ((relAll heapGrows_good n).evalStmts σ σ sc ss (heapGrows_good.refl σ)) h

/-- two allocations, the second in any state at least as large as the one the first left: different addresses, so `===` is
    `false` between the two results (either order), and `true` between a result and itself -/
theorem later_build_differs {σ σ' : State} (c : Cell) (h : (σ.alloc c).2.heap.size ≤ σ'.heap.size) (c' : Cell) :
    (σ.alloc c).1 ≠ (σ'.alloc c').1 ∧
    refEq (.list (σ.alloc c).1) (.list (σ'.alloc c').1) = some false ∧
    refEq (.list (σ'.alloc c').1) (.list (σ.alloc c).1) = some false ∧
    refEq (.list (σ.alloc c).1) (.list (σ.alloc c).1) = some true := by
  rw [alloc_size] at h
  have hlt : σ.heap.size < σ'.heap.size := by omega
  have h1 : σ.heap.size ≠ σ'.heap.size := Nat.ne_of_lt hlt
  have h2 : σ'.heap.size ≠ σ.heap.size := Nat.ne_of_gt hlt
  simp only [alloc_fst, refEq]
  exact ⟨h1, by simp [h1], by simp [h2], by simp⟩

example : evalExpr 2 State.init [] (.mk (.List [] false) (1, 0)) =
    .ok (SVal.plain (.list 0)) (State.init.alloc (.list [])).2 := by rw [evalExpr, evalListItems]; rfl

example : ((State.init.alloc (.list [])).2.alloc (.obj [])).2.heap.size ≤ ((State.init.alloc (.list [])).2.alloc (.obj [])).2.heap.size ∧
    (State.init.alloc (.list [])).2.heap.size ≤ ((State.init.alloc (.list [])).2.alloc (.obj [])).2.heap.size := by decide

/-- whatever runs between two building operations (here: any statement list that completes), the second result is not
    the first -/
theorem builds_around_stmts_differ {n : Nat} {σ σ' : State} {sc : List Addr} {ss : List Stmt} {esc : Escape} (c c' : Cell)
    (h : evalStmts n (σ.alloc c).2 sc ss = .ok esc σ') :
    refEq (.list (σ.alloc c).1) (.list (σ'.alloc c').1) = some false :=
  (later_build_differs c (evalStmts_size_le h) c').2.1

example : evalStmts 1 (State.init.alloc (.list [])).2 [] [] = .ok .none (State.init.alloc (.list [])).2 := by rw [evalStmts]

/-- **`xs[k:k]`**: a new cell at `heap.size` holding `[]` -/
theorem range_empty_fresh {σ : State} {sc : List Addr} {a : List Char} {A : Addr} {s : Option Val} {items : List SVal} (n : Nat)
    (k : Nat) (la li lj l : Loc) (ha : scopeGet σ sc a = some ⟨.list A, s⟩) (hl : σ.getList A = some items)
    (hk : k ≤ items.length) :
    evalExpr (n + 5) σ sc (.mk (.RangeIndex (.mk (.Var a) la) (some (.mk (.Int (Int.ofNat k)) li))
        (some (.mk (.Int (Int.ofNat k)) lj))) l) =
      .ok (SVal.plain (.list σ.heap.size)) (σ.alloc (.list [])).2 := by
  rw [range_lit n k k la li lj l ha hl (Nat.le_refl _) hk]; simp

/-- **`xs[len:]`**: a new cell holding `[]` -/
theorem range_tail_empty_fresh {σ : State} {sc : List Addr} {a : List Char} {A : Addr} {s : Option Val} {items : List SVal}
    (n : Nat) (la li l : Loc) (ha : scopeGet σ sc a = some ⟨.list A, s⟩) (hl : σ.getList A = some items) :
    evalExpr (n + 5) σ sc (.mk (.RangeIndex (.mk (.Var a) la) (some (.mk (.Int (Int.ofNat items.length)) li)) none) l) =
      .ok (SVal.plain (.list σ.heap.size)) (σ.alloc (.list [])).2 := by
  rw [rangeIndex_step l (optIndex_lit n σ sc items.length li) (optIndex_none (n + 3) σ sc) (var_read (n + 3) la ha) hl
    (Nat.le_refl _) (Nat.le_refl _)]
  simp

/-- the corollary of `C05.range_read_fresh` (arbitrary bound expressions): when the two bounds are equal the new cell
    holds `[]` — and it is still a new cell -/
theorem range_read_fresh_empty (n : Nat) (σ σ1 σ2 σ3 : State) (sc : List Addr) (ex : Expr) (start stop : Option Expr) (loc : Loc)
    (a b : Option Nat) (addr : Addr) (s : Option Val) (items : List SVal)
    (h1 : evalOptIndex n σ sc start = .ok a σ1) (h2 : evalOptIndex n σ1 sc stop = .ok b σ2)
    (h3 : evalExpr n σ2 sc ex = .ok ⟨.list addr, s⟩ σ3) (h4 : σ3.getList addr = some items)
    (hab : a.getD 0 = b.getD items.length) (hb : b.getD items.length ≤ items.length) :
    evalExpr (n + 1) σ sc (.mk (.RangeIndex ex start stop) loc) =
      .ok (SVal.plain (.list σ3.heap.size)) (σ3.alloc (.list [])).2 ∧ σ3.heap.size ≠ addr := by
  refine ⟨?_, C05.fresh_ne_live σ3 (.list []) addr items h4⟩
  rw [C05.range_read_fresh n σ σ1 σ2 σ3 sc ex start stop loc a b addr s items h1 h2 h3 h4 ⟨Nat.le_of_eq hab, hb⟩, hab]; simp

example : evalOptIndex 4 C05.σ₀ [0] (some (.mk (.Int (Int.ofNat 1)) (1, 1))) = .ok (some 1) C05.σ₀ ∧
    evalExpr 4 C05.σ₀ [0] (.mk (.Var c!"a") (1, 0)) = .ok ⟨.list 1, none⟩ C05.σ₀ ∧
    C05.σ₀.getList 1 = some [C05.sv 1, C05.sv 2] ∧ (some 1 : Option Nat).getD 0 = (some 1 : Option Nat).getD 2 := by
  refine ⟨?_, by rw [evalExpr]; rfl, by decide, rfl⟩
  rw [evalOptIndex, toIndex_lit 0]; rfl

/-- **`{}`** (instance of `C05.object_literal_fresh`) -/
theorem empty_object_fresh (n : Nat) (σ : State) (sc : List Addr) (loc : Loc) :
    evalExpr (n + 2) σ sc (.mk (.Object []) loc) = .ok (SVal.plain (.obj σ.heap.size)) (σ.alloc (.obj [])).2 :=
  C05.object_literal_fresh (n + 1) σ σ sc [] loc [] (by rw [evalProps])

/-- **`[ys..]`** with `ys` empty (instance of `C05P.spread_copy`, which is stated for arbitrary contents): a new cell, not
    the cell of `ys` -/
theorem spread_empty_fresh {σ : State} {sc : List Addr} {y : List Char} {Y : Addr} {s : Option Val} (n : Nat) (ly l : Loc)
    (hy : scopeGet σ sc y = some ⟨.list Y, s⟩) (hl : σ.getList Y = some []) :
    evalExpr (n + 3) σ sc (.mk (.List [.mk (.mk (.Var y) ly) true] false) l) =
      .ok (SVal.plain (.list σ.heap.size)) (σ.alloc (.list [])).2 ∧ σ.heap.size ≠ Y :=
  ⟨spread_copy n ly l hy hl, C05.fresh_ne_live σ (.list []) Y [] hl⟩

example : evalExpr 3 σE [0] (.mk (.List [.mk (.mk (.Var c!"e") (3, 1)) true] false) (3, 0)) =
    .ok (SVal.plain (.list 3)) (σE.alloc (.list [])).2 :=
  (spread_empty_fresh (σ := σE) (Y := 2) (s := none) 0 (3, 1) (3, 0) (by rfl) (by rfl)).1

theorem intRange_empty (a b : Int) (h : b ≤ a) : intRange a b = [] := by
  have : (b - a).toNat = 0 := by omega
  simp [intRange, this]

/-- **`a .. b`** with `b ≤ a` (in particular `0 .. 0`), from `C05.range_fresh` -/
theorem int_range_empty_fresh (n : Nat) (σ : State) (sc : List Addr) (a b : Int) (la lb loc : Loc) (h : b ≤ a) :
    evalExpr (n + 3) σ sc (.mk (.Range (.mk (.Int a) la) (.mk (.Int b) lb)) loc) =
      .ok (SVal.plain (.list σ.heap.size)) (σ.alloc (.list [])).2 := by
  rw [C05.range_fresh (n + 2) σ σ σ sc _ _ loc a b (toInt_lit n σ sc _ a la) (toInt_lit n σ sc _ b lb),
    intRange_empty a b h]

/-- **`xs + ys`** with both empty (instance of `C05.sum_fresh`): a new cell, different from both operands — also for
    `xs + xs` -/
theorem sum_empty_fresh (fuel : Nat) (σ : State) (loc : Loc) (x y : Addr) (hx : σ.getList x = some []) (hy : σ.getList y = some []) :
    applyBinOp fuel σ .Sum loc (.list x) (.list y) = .ok (.list σ.heap.size) (σ.alloc (.list [])).2 ∧
    σ.heap.size ≠ x ∧ σ.heap.size ≠ y :=
  let h := C05.sum_fresh fuel σ loc x y [] [] hx hy
  ⟨h.1, h.2.1, h.2.2.1⟩

theorem sum_empty_vars {σ : State} {sc : List Addr} {x y : List Char} {X Y : Addr} {sx sy : Option Val} (n : Nat) (lx ly ol l : Loc)
    (hx : scopeGet σ sc x = some ⟨.list X, sx⟩) (hy : scopeGet σ sc y = some ⟨.list Y, sy⟩)
    (hlx : σ.getList X = some []) (hly : σ.getList Y = some []) :
    evalExpr (n + 2) σ sc (.mk (.BinaryOp .Sum ol (.mk (.Var x) lx) (.mk (.Var y) ly)) l) =
      .ok (SVal.plain (.list σ.heap.size)) (σ.alloc (.list [])).2 := by
  rw [evalExpr, var_read n lx hx]
  simp only [Res.bind, var_read n ly hy, (sum_empty_fresh (n + 1) σ ol X Y hlx hly).1]

/-- `e + e` in `σE` is the new cell 3 -/
example : evalExpr 2 σE [0] (.mk (.BinaryOp .Sum (3, 2) (.mk (.Var c!"e") (3, 0)) (.mk (.Var c!"e") (3, 4))) (3, 2)) =
    .ok (SVal.plain (.list 3)) (σE.alloc (.list [])).2 :=
  sum_empty_vars (σ := σE) (X := 2) (Y := 2) (sx := none) (sy := none) 0 (3, 0) (3, 4) (3, 2) (3, 2) (by rfl) (by rfl) (by rfl) (by rfl)

example : (0 : Int) ≤ 0 ∧ (-3 : Int) ≤ 2 := by decide

/-- corollary of `C05.collect_fresh` (stated for arbitrary contents): when the source has no item left for the collector
    (`length ≤ lhsLen - 1`) the collector is still bound to a NEW cell, holding `[]` -/
theorem collect_fresh_empty (n : Nat) (σ : State) (sc : List Addr) (names : List (List Char)) (e : Expr) (lhsLoc : Loc) (b : Addr)
    (decl : Bool) (lhsLen : Nat) (rhsItems : List SVal) (hb : σ.getList b = some rhsItems) (hlen : rhsItems.length ≤ lhsLen - 1) :
    bindList (n + 1) σ sc names [.mk e false] true lhsLoc b decl (lhsLen - 1) lhsLen =
      (bindNext n (σ.alloc (.list [])).2 sc names e (SVal.plain (.list σ.heap.size)) none decl).bind
        fun names' σ2 => bindList n σ2 sc names' [] true lhsLoc b decl (lhsLen - 1 + 1) lhsLen := by
  rw [C05.collect_fresh n σ sc names e lhsLoc b decl lhsLen rhsItems hb, List.drop_eq_nil_of_le hlen]

example : C05.σ₀.getList 1 = some [C05.sv 1, C05.sv 2] ∧ [C05.sv 1, C05.sv 2].length ≤ 3 - 1 := by decide

/-- **`[..t] := a`** with `a` empty (instance of `C05P.copy_by_collect`) -/
theorem collect_all_empty {σ : State} {A0 : Addr} {sc' : List Addr} {ms : ScopeMap} {a t : List Char} {A : Addr}
    {s : Option Val} (n : Nat) (lt la lp : Loc)
    (hs : σ.getScope A0 = some ms) (ha : scopeGet σ (A0 :: sc') a = some ⟨.list A, s⟩) (hl : σ.getList A = some [])
    (ht : t ≠ c!"_") (hfresh : scopeLookup t ms = none) :
    FreshCopy (n + 5) σ A0 sc' ms (.Declare (.mk (.List [.mk (.mk (.Var t) lt) false] true) lp) (.mk (.Var a) la))
      t lt σ.heap.size [] (σ.alloc (.list [])).2 :=
  copy_by_collect n lt la lp hs ha hl ht hfresh

example : FreshCopy 5 σE 0 [] [(c!"a", SVal.plain (.list 1), (1, 0)), (c!"e", SVal.plain (.list 2), (2, 0))]
    (.Declare (.mk (.List [.mk (.mk (.Var c!"t") (3, 3)) false] true) (3, 0)) (.mk (.Var c!"e") (3, 8)))
    c!"t" (3, 3) 3 [] (σE.alloc (.list [])).2 :=
  collect_all_empty (a := c!"e") (A := 2) (s := none) 0 (3, 3) (3, 8) (3, 0) (by rfl) (by rfl) (by rfl) (by decide) (by decide)

/-- **`[h, ..t] := a`** where `a` holds a one-element list (the statement `[h, ..t] := [1]` after its right-hand side):
    `h` is bound to the element, and `t` to a NEW cell — address `heap.size` — holding `[]` -/
theorem collect_rest_empty {σ : State} {A0 : Addr} {sc' : List Addr} {ms : ScopeMap} {a h t : List Char} {A : Addr}
    {s : Option Val} {v0 : SVal} (n : Nat) (lh lt la lp : Loc)
    (hs : σ.getScope A0 = some ms) (ha : scopeGet σ (A0 :: sc') a = some ⟨.list A, s⟩) (hl : σ.getList A = some [v0])
    (hh : h ≠ c!"_") (ht : t ≠ c!"_") (hth : t ≠ h) (hfh : scopeLookup h ms = none) (hft : scopeLookup t ms = none) :
    let σ1 := σ.set A0 (.scope ((h, v0, lh) :: ms))
    let σ3 := (σ1.alloc (.list [])).2.set A0 (.scope ((t, SVal.plain (.list σ.heap.size), lt) :: (h, v0, lh) :: ms))
    evalStmt (n + 6) σ (A0 :: sc')
        (.Declare (.mk (.List [.mk (.mk (.Var h) lh) false, .mk (.mk (.Var t) lt) false] true) lp) (.mk (.Var a) la)) =
      .ok .none σ3 ∧
    scopeGet σ3 (A0 :: sc') t = some (SVal.plain (.list σ.heap.size)) ∧ scopeGet σ3 (A0 :: sc') h = some v0 ∧
    σ3.getList σ.heap.size = some [] ∧ σ.heap[σ.heap.size]? = none ∧ σ.heap.size ≠ A ∧ σ3.getList A = some [v0] ∧
    σ3.heap.size = σ.heap.size + 1 := by
  intro σ1 σ3
  have hs1 := getScope_set_same (σ := σ) ((h, v0, lh) :: ms) (getScope_lt hs)
  have hl1 := (getList_set_scope σ A0 ((h, v0, lh) :: ms) A hs).trans hl
  have hs2 := getScope_alloc (.list []) hs1
  refine ⟨?_, scopeGet_declared sc' t _ lt hs2,
    scopeGet_declared_other sc' _ lt hs2 (Ne.symm hth) (lookup_cons_same h v0 lh ms),
    (getList_set_scope _ A0 _ _ hs2).trans ?_, by simp, C05.fresh_ne_live σ (.list []) A [v0] hl,
    (getList_set_scope _ A0 _ _ hs2).trans (getList_alloc _ hl1), ?_⟩
  · rw [evalStmt, var_read (n + 4) la ha]
    simp only [Res.bind]
    rw [bindNext_list_collect lp true hl (Nat.le_of_eq rfl)]
    -- position 0 binds `h` to the element
    rw [bindList]
    simp only [Bool.false_eq_true, if_false, hl, Bool.true_and, List.length_cons, List.length_nil, Nat.reduceAdd,
      Nat.reduceSub, Nat.zero_ne_one, decide_false, List.getElem?_cons_zero]
    rw [bindNext_var, bindName_declare lh v0 hh rfl hs hfh]
    simp only [Res.bind]
    -- position 1 is the collector, with nothing left
    rw [bindList_collect (lhsLen := 2) hl1, bindNext_var, bindName_declare lt _ ht (by simp [hth]) (getScope_alloc _ hs1)
      ((lookup_cons_other hth _ lh ms).trans hft)]
    simp only [Res.bind]
    rw [bindList_nil, set_size]
    rfl
  · have := getList_alloc_new (σ.set A0 (.scope ((h, v0, lh) :: ms))) []
    rwa [set_size] at this
  · rw [set_size, alloc_size, set_size]

/-- `[h, ..t] := a;` where `a ↦ list 1 = [1]`: `t` is the new cell 2 -/
def σC : State := ⟨#[.scope [(c!"a", SVal.plain (.list 1), (1, 0))], .list [C05.sv 1]], []⟩

example :
    evalStmt 6 σC [0]
        (.Declare (.mk (.List [.mk (.mk (.Var c!"h") (2, 1)) false, .mk (.mk (.Var c!"t") (2, 6)) false] true) (2, 0))
          (.mk (.Var c!"a") (2, 12))) =
      .ok .none (((σC.set 0 (.scope [(c!"h", C05.sv 1, (2, 1)), (c!"a", SVal.plain (.list 1), (1, 0))])).alloc (.list [])).2.set 0
        (.scope [(c!"t", SVal.plain (.list 2), (2, 6)), (c!"h", C05.sv 1, (2, 1)), (c!"a", SVal.plain (.list 1), (1, 0))])) :=
  (collect_rest_empty (σ := σC) (A0 := 0) (sc' := []) (ms := [(c!"a", SVal.plain (.list 1), (1, 0))]) (a := c!"a") (h := c!"h")
    (t := c!"t") (A := 1) (s := none) (v0 := C05.sv 1) 0 (2, 1) (2, 6) (2, 12) (2, 0)
    (by rfl) (by rfl) (by rfl) (by decide) (by decide) (by decide) (by decide) (by decide)).1

/-- the parameter bindings of a call (`evalCall`): parameters zipped with the values, plus `this` for a method call -/
def callBindings (fr : FuncRec) (fv : SVal) (loc : Loc) (vals : List SVal) : List (Expr × SVal) :=
  match fv.src with
  | some this => fr.args.zip vals ++ [(Expr.mk (.Var c!"this") loc, SVal.plain this)]
  | none => fr.args.zip vals

/-- **the rest parameter is a new cell.**  A call of a function with a collector `fn f(p₁, …, pₖ, ..r)` that receives at
    least `k` arguments: after the arguments and the callee are evaluated (state `σ2`), a NEW list cell — address
    `σ2.heap.size` — receives the surplus argument values `argVals.drop k`, and the body runs with the last parameter
    bound to that address.  Stated for arbitrary surplus. -/
theorem rest_param_fresh {n : Nat} {σ σ1 σ2 : State} {sc : List Addr} {f : Expr} {args : List ListItem} {loc : Loc}
    {argVals : List SVal} {fv : SVal} {a : Addr} {fr : FuncRec}
    (ha : evalListItems n σ sc args [] = .ok argVals σ1) (hf : evalExpr n σ1 sc f = .ok fv σ2) (hv : fv.v = .func a)
    (hfr : σ2.getFunc a = some fr) (hc : fr.collect = true) (hn : fr.args.length - 1 ≤ argVals.length) :
    evalCall (n + 1) σ sc f args loc =
      ((evalBlock n (σ2.alloc (.list (argVals.drop (fr.args.length - 1)))).2 fr.closure
          (callBindings fr fv loc (argVals.take (fr.args.length - 1) ++ [SVal.plain (.list σ2.heap.size)])) fr.stmts).mapErr
        (Err.funcCall fr.name loc)).bind finishCall := by
  have hn' : ¬ (fr.args.length - 1 > argVals.length) := by omega
  rw [evalCall]
  simp only [ha, hf, Res.bind, hv, hfr, hc, Bool.true_and, hn', decide_false, Bool.false_eq_true, if_false, Bool.not_true,
    Bool.false_and, if_true]
  unfold callBindings finishCall
  rfl

/-- … in particular with NO surplus argument (`argVals.length = k`): the rest parameter is still a NEW cell, holding `[]`,
    and the other parameters get exactly the arguments -/
theorem rest_param_fresh_empty {n : Nat} {σ σ1 σ2 : State} {sc : List Addr} {f : Expr} {args : List ListItem} {loc : Loc}
    {argVals : List SVal} {fv : SVal} {a : Addr} {fr : FuncRec}
    (ha : evalListItems n σ sc args [] = .ok argVals σ1) (hf : evalExpr n σ1 sc f = .ok fv σ2) (hv : fv.v = .func a)
    (hfr : σ2.getFunc a = some fr) (hc : fr.collect = true) (hn : argVals.length = fr.args.length - 1) :
    evalCall (n + 1) σ sc f args loc =
      ((evalBlock n (σ2.alloc (.list [])).2 fr.closure
          (callBindings fr fv loc (argVals ++ [SVal.plain (.list σ2.heap.size)])) fr.stmts).mapErr
        (Err.funcCall fr.name loc)).bind finishCall := by
  rw [rest_param_fresh ha hf hv hfr hc (Nat.le_of_eq hn.symm), ← hn, List.drop_length, List.take_length]

/-- scope 0: `f ↦ func 1`, cell 1 = `fn f(..r) { return r; }` closed over the global scope -/
def σF : State :=
  ⟨#[.scope [(c!"f", SVal.plain (.func 1), (1, 3))],
     .func ⟨some c!"f", [.mk (.Var c!"r") (1, 7)], true, [.Return (1, 12) (.mk (.Var c!"r") (1, 19))], [0]⟩], []⟩

/-- an instance of the hypotheses of `rest_param_fresh` / `rest_param_fresh_empty`: `f()` in `σF` — one parameter (the
    collector), no argument -/
example : evalListItems 1 σF [0] [] [] = .ok [] σF ∧
    evalExpr 1 σF [0] (.mk (.Var c!"f") (2, 0)) = .ok ⟨.func 1, none⟩ σF ∧
    σF.getFunc 1 = some ⟨some c!"f", [.mk (.Var c!"r") (1, 7)], true, [.Return (1, 12) (.mk (.Var c!"r") (1, 19))], [0]⟩ ∧
    ([] : List SVal).length = [Expr.mk (.Var c!"r") (1, 7)].length - 1 :=
  ⟨by rw [evalListItems], by rw [evalExpr]; rfl, rfl, rfl⟩

/-- the state in which the body of `fn f(..r) { … }` starts when called as `f()` from `σ`: a new list cell (address
    `σ.heap.size`) holding `[]`, and a new scope cell (the next address) holding `r ↦` that list -/
def restEntry (σ : State) (r : List Char) (lr : Loc) : State :=
  ((σ.alloc (.list [])).2.alloc (.scope [])).2.set (σ.heap.size + 1) (.scope [(r, SVal.plain (.list σ.heap.size), lr)])

theorem restEntry_eq (σ : State) (r : List Char) (lr : Loc) :
    restEntry σ r lr = paramEntry (σ.alloc (.list [])).2 r lr (SVal.plain (.list σ.heap.size)) := by
  unfold restEntry paramEntry
  rw [alloc_size]

theorem call_rest0_spec {σ : State} {sc clo : List Addr} {f r : List Char} {F : Addr} {name : Option (List Char)}
    {body : List Stmt} (m : Nat) (lf lr loc : Loc)
    (hf : scopeGet σ sc f = some ⟨.func F, none⟩)
    (hfr : σ.getFunc F = some ⟨name, [.mk (.Var r) lr], true, body, clo⟩) (hr : r ≠ c!"_") :
    evalCall (m + 4) σ sc (.mk (.Var f) lf) [] loc =
      ((evalStmts (m + 2) (restEntry σ r lr) ((σ.heap.size + 1) :: clo) body).mapErr (Err.funcCall name loc)).bind finishCall := by
  rw [rest_param_fresh_empty (n := m + 3) (σ1 := σ) (σ2 := σ) (argVals := []) (fv := ⟨.func F, none⟩)
    (listItems_nil _ σ sc []) (var_read (m + 2) lf hf) rfl hfr rfl rfl]
  simp only [callBindings, List.nil_append, List.zip_cons_cons, List.zip_nil_left]
  rw [block1_spec m lr _ hr, alloc_size, restEntry_eq]

/-- `f()` in `σF` returns the new list cell 2 (cell 3 is the scope of the call); a second call, from the state the first
    left, returns the new cell 4 -/
example :
    evalCall 5 σF [0] (.mk (.Var c!"f") (2, 0)) [] (2, 1) = .ok (SVal.plain (.list 2)) (restEntry σF c!"r" (1, 7)) ∧
    evalCall 5 (restEntry σF c!"r" (1, 7)) [0] (.mk (.Var c!"f") (3, 0)) [] (3, 1) =
      .ok (SVal.plain (.list 4)) (restEntry (restEntry σF c!"r" (1, 7)) c!"r" (1, 7)) := by
  constructor
  · rw [call_rest0_spec (σ := σF) (F := 1) (name := some c!"f") (clo := [0]) 1 (2, 0) (1, 7) (2, 1) (by rfl) (by rfl) (by decide)]
    with_unfolding_all rfl
  · rw [call_rest0_spec (σ := restEntry σF c!"r" (1, 7)) (F := 1) (name := some c!"f") (clo := [0]) 1 (3, 0) (1, 7) (3, 1)
      (by rfl) (by rfl) (by decide)]
    with_unfolding_all rfl

/-- in the body, `r` is a list cell that did not exist before the call and holds `[]`; every cell that existed is as it
    was -/
theorem restEntry_spec (σ : State) (clo : List Addr) (r : List Char) (lr : Loc) :
    scopeGet (restEntry σ r lr) ((σ.heap.size + 1) :: clo) r = some (SVal.plain (.list σ.heap.size)) ∧
    (restEntry σ r lr).getList σ.heap.size = some [] ∧ σ.heap[σ.heap.size]? = none ∧
    (∀ c, c < σ.heap.size → (restEntry σ r lr).heap[c]? = σ.heap[c]?) ∧ (restEntry σ r lr).heap.size = σ.heap.size + 2 := by
  have hlt : σ.heap.size < (σ.alloc (.list [])).2.heap.size := by rw [alloc_size]; exact Nat.lt_succ_self _
  rw [restEntry_eq]
  refine ⟨?_, (getList_congr (paramEntry_old _ r lr _ hlt)).trans (getList_alloc_new σ []), by simp,
    fun c hc => (paramEntry_old _ r lr _ (Nat.lt_trans hc hlt)).trans (alloc_old σ _ hc), ?_⟩
  · have := paramEntry_param (σ.alloc (.list [])).2 clo r lr (SVal.plain (.list σ.heap.size))
    rwa [alloc_size] at this
  · unfold paramEntry
    rw [set_size, alloc_size, alloc_size]

/-- In a state `σ` where `x` holds a list `X` (contents `items`) and `y` an EMPTY list
    `Y`, each of the building operations below evaluates to the list value whose address is `σ.heap.size` — an address at
    which `σ` has no cell — in the state `σ` extended by one cell `.list []` (for the two binding forms: the state in which
    the collector / rest parameter is bound to that address).  The address differs from `X` and from `Y`; and evaluating any
    second building operation afterwards, in any state reached from there, gives yet another address, so `===` between
    the two results is `false`. -/
theorem builders_fresh_even_when_empty {σ : State} {sc : List Addr} {x y : List Char} {X Y : Addr} {sx sy : Option Val}
    {items : List SVal}
    (hx : scopeGet σ sc x = some ⟨.list X, sx⟩) (hlx : σ.getList X = some items)
    (hy : scopeGet σ sc y = some ⟨.list Y, sy⟩) (hly : σ.getList Y = some []) :
    let fresh : Res SVal := .ok (SVal.plain (.list σ.heap.size)) (σ.alloc (.list [])).2
    -- `x[k:k]`
    (∀ n k la li lj l, k ≤ items.length → evalExpr (n + 5) σ sc (.mk (.RangeIndex (.mk (.Var x) la)
        (some (.mk (.Int (Int.ofNat k)) li)) (some (.mk (.Int (Int.ofNat k)) lj))) l) = fresh) ∧
    -- `x[len:]`
    (∀ n la li l, evalExpr (n + 5) σ sc (.mk (.RangeIndex (.mk (.Var x) la)
        (some (.mk (.Int (Int.ofNat items.length)) li)) none) l) = fresh) ∧
    -- `[]`
    (∀ n l, evalExpr (n + 2) σ sc (.mk (.List [] false) l) = fresh) ∧
    -- `[y..]`
    (∀ n ly l, evalExpr (n + 3) σ sc (.mk (.List [.mk (.mk (.Var y) ly) true] false) l) = fresh) ∧
    -- `a .. b` with `b ≤ a`
    (∀ n (a b : Int) la lb l, b ≤ a → evalExpr (n + 3) σ sc (.mk (.Range (.mk (.Int a) la) (.mk (.Int b) lb)) l) = fresh) ∧
    -- `y + y`
    (∀ n l1 l2 ol l, evalExpr (n + 2) σ sc (.mk (.BinaryOp .Sum ol (.mk (.Var y) l1) (.mk (.Var y) l2)) l) = fresh) ∧
    -- the collector of a pattern with `lhsLen - 1` leading items, reached with no item of `x` left (`bindList` at the
    -- collector position; the statement `[h, ..t] := x` as a whole is `collect_rest_empty`)
    (∀ n names e lhsLoc decl lhsLen, items.length ≤ lhsLen - 1 →
      bindList (n + 1) σ sc names [.mk e false] true lhsLoc X decl (lhsLen - 1) lhsLen =
        (bindNext n (σ.alloc (.list [])).2 sc names e (SVal.plain (.list σ.heap.size)) none decl).bind
          fun names' σ2 => bindList n σ2 sc names' [] true lhsLoc X decl (lhsLen - 1 + 1) lhsLen) ∧
    -- the rest parameter of `f()` for `f` holding `fn (..r) { body }`
    (∀ m f r F name body clo lf lr loc, scopeGet σ sc f = some ⟨.func F, none⟩ →
      σ.getFunc F = some ⟨name, [.mk (.Var r) lr], true, body, clo⟩ → r ≠ c!"_" →
      evalCall (m + 4) σ sc (.mk (.Var f) lf) [] loc =
        ((evalStmts (m + 2) (restEntry σ r lr) ((σ.heap.size + 1) :: clo) body).mapErr (Err.funcCall name loc)).bind finishCall ∧
      scopeGet (restEntry σ r lr) ((σ.heap.size + 1) :: clo) r = some (SVal.plain (.list σ.heap.size)) ∧
      (restEntry σ r lr).getList σ.heap.size = some []) ∧
    -- the address is new, the cell is empty, the operands are untouched
    σ.heap[σ.heap.size]? = none ∧ (σ.alloc (.list [])).2.getList σ.heap.size = some [] ∧
    σ.heap.size ≠ X ∧ σ.heap.size ≠ Y ∧
    (σ.alloc (.list [])).2.getList X = some items ∧ (σ.alloc (.list [])).2.getList Y = some [] ∧
    -- a second build, in any later state, is a different container
    (∀ σ' : State, (σ.alloc (.list [])).2.heap.size ≤ σ'.heap.size → ∀ c',
      refEq (.list σ.heap.size) (.list (σ'.alloc c').1) = some false ∧
      refEq (.list (σ'.alloc c').1) (.list σ.heap.size) = some false) := by
  intro fresh
  refine ⟨fun n k la li lj l hk => range_empty_fresh n k la li lj l hx hlx hk,
    fun n la li l => range_tail_empty_fresh n la li l hx hlx,
    fun n l => empty_literal n σ sc l,
    fun n ly l => (spread_empty_fresh n ly l hy hly).1,
    fun n a b la lb l h => int_range_empty_fresh n σ sc a b la lb l h,
    fun n l1 l2 ol l => sum_empty_vars n l1 l2 ol l hy hy hly hly,
    fun n names e lhsLoc decl lhsLen h1 => collect_fresh_empty n σ sc names e lhsLoc X decl lhsLen items hlx h1,
    fun m f r F name body clo lf lr loc hf hfr hr =>
      ⟨call_rest0_spec m lf lr loc hf hfr hr, (restEntry_spec σ clo r lr).1, (restEntry_spec σ clo r lr).2.1⟩,
    by simp, getList_alloc_new σ [], C05.fresh_ne_live σ (.list []) X items hlx, C05.fresh_ne_live σ (.list []) Y [] hly,
    getList_alloc _ hlx, getList_alloc _ hly, fun σ' h c' => ?_⟩
  have := later_build_differs (σ := σ) (.list []) h c'
  exact ⟨this.2.1, this.2.2.1⟩

/-- `a[1:1]` in `σE` is the new cell 3, and then `a[2:]` the new cell 4 -/
example :
    evalExpr 5 σE [0] (.mk (.RangeIndex (.mk (.Var c!"a") (3, 0)) (some (.mk (.Int (Int.ofNat 1)) (3, 2)))
        (some (.mk (.Int (Int.ofNat 1)) (3, 4)))) (3, 1)) = .ok (SVal.plain (.list 3)) (σE.alloc (.list [])).2 ∧
    evalExpr 5 (σE.alloc (.list [])).2 [0] (.mk (.RangeIndex (.mk (.Var c!"a") (4, 0)) (some (.mk (.Int (Int.ofNat 2)) (4, 2)))
        none) (4, 1)) = .ok (SVal.plain (.list 4)) ((σE.alloc (.list [])).2.alloc (.list [])).2 :=
  ⟨range_empty_fresh (σ := σE) (A := 1) (s := none) (items := [C05.sv 1, C05.sv 2]) 0 1 (3, 0) (3, 2) (3, 4) (3, 1)
      (by rfl) (by rfl) (by decide),
   range_tail_empty_fresh (σ := (σE.alloc (.list [])).2) (A := 1) (s := none) (items := [C05.sv 1, C05.sv 2]) 0 (4, 0) (4, 2) (4, 1)
      (by rfl) (by rfl)⟩

/-- two empty slices of the same list are two containers -/
example : (run 100 c!"t.sd" c!"xs := [1, 2];\na := xs[1:1];\nb := xs[2:];\nprint(a === b);\nprint(a === a);\n").out =
    [c!"false", c!"true"] := by decide +kernel

/-- every builder, evaluated twice with an empty result: never the same container, never the operand -/
example : (run 100 c!"t.sd"
    c!"e := [];\nprint([] === []);\nprint([e..] === [e..]);\nprint((0 .. 0) === (0 .. 0));\nprint((e + e) === (e + e));\nprint((e + e) === e);\nprint([e..] === e);\nprint(e[0:0] === e);\nprint(e[0:] === e[:0]);\n").out =
    [c!"false", c!"false", c!"false", c!"false", c!"false", c!"false", c!"false", c!"false"] := by decide +kernel

/-- the collector with nothing left, and the rest parameter with no surplus argument -/
example : (run 100 c!"t.sd"
    c!"[h, ..t] := [1];\n[k, ..u] := [1];\nprint(t === u);\nprint(t == u);\nfn f(..r) { return r; }\na := f();\nb := f();\nprint(a === b);\nprint(a === a);\nfn g(p, ..r) { return r; }\nprint(g(1) === g(1));\n").out =
    [c!"false", c!"true", c!"false", c!"true", c!"false"] := by decide +kernel

/-- an empty result is a container of its own: growing one does not grow the other -/
example : (run 100 c!"t.sd"
    c!"xs := [1, 2];\na := xs[1:1];\nb := xs[1:1];\na += [7];\nprint(b == []);\nprint(a == [7]);\nprint(xs == [1, 2]);\n").out =
    [c!"true", c!"true", c!"true"] := by decide +kernel

end C05S
end Seed
