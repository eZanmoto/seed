/-
  Lemmas/C06Int.lean — integer facts used by C06: the 64-bit range as inequalities, bounds and sign of the
  truncating remainder, bounds of the truncating quotient, decimal values of digit strings.
-/
import SeedModel.Prim
import SeedModel.Eval
import SeedModel.Lex
namespace Seed.C06
open Seed

theorem inI64_iff (n : Int) : inI64 n = true ↔ -9223372036854775808 ≤ n ∧ n ≤ 9223372036854775807 := by
  unfold inI64 i64Min i64MaxI
  rw [Bool.and_eq_true, decide_eq_true_eq, decide_eq_true_eq]

theorem not_inI64_iff (n : Int) : inI64 n = false ↔ n < -9223372036854775808 ∨ 9223372036854775807 < n := by
  cases h : inI64 n
  · simp only [true_iff]
    have hn : ¬ (-9223372036854775808 ≤ n ∧ n ≤ 9223372036854775807) := fun hc => by
      have := (inI64_iff n).mpr hc
      rw [h] at this
      exact Bool.false_ne_true this
    omega
  · have := (inI64_iff n).mp h
    simp only [Bool.true_eq_false, false_iff]
    omega

theorem tmod_bounds (a b : Int) (hb : b ≠ 0) :
    (0 ≤ a → 0 ≤ Int.tmod a b ∧ Int.tmod a b < b.natAbs) ∧
    (a ≤ 0 → -(b.natAbs : Int) < Int.tmod a b ∧ Int.tmod a b ≤ 0) := by
  constructor
  · intro ha
    have := (Int.tdiv_tmod_unique (q := Int.tdiv a b) (r := Int.tmod a b) ha hb).mp ⟨rfl, rfl⟩
    exact ⟨this.2.1, this.2.2⟩
  · intro ha
    have := (Int.tdiv_tmod_unique' (q := Int.tdiv a b) (r := Int.tmod a b) ha hb).mp ⟨rfl, rfl⟩
    exact ⟨this.2.1, this.2.2⟩

theorem tmod_natAbs_le (a b : Int) : (Int.tmod a b).natAbs ≤ a.natAbs := by
  rw [Int.natAbs_tmod]
  exact Nat.mod_le _ _

theorem tmod_between (a b : Int) :
    (0 ≤ a → 0 ≤ Int.tmod a b ∧ Int.tmod a b ≤ a) ∧ (a ≤ 0 → a ≤ Int.tmod a b ∧ Int.tmod a b ≤ 0) := by
  have hle := tmod_natAbs_le a b
  constructor
  · intro ha
    have h0 : 0 ≤ Int.tmod a b := Int.tmod_nonneg b ha
    omega
  · intro ha
    have h0 : Int.tmod a b ≤ 0 := by
      have := Int.tmod_nonneg (a := -a) b (by omega)
      rw [Int.neg_tmod] at this
      omega
    omega

theorem tmod_inI64 {a : Int} (b : Int) (ha : inI64 a = true) : inI64 (Int.tmod a b) = true := by
  rw [inI64_iff] at *
  have := tmod_between a b
  omega

/-- the quotient fits 64 bits, except for `-2^63 / -1`: for the divisors `1` and `-1` it is the dividend or its negation,
    for every other divisor at most half the dividend in magnitude -/
theorem tdiv_inI64 {a b : Int} (ha : inI64 a = true) (hb : b ≠ 0) (h : ¬ (a = -9223372036854775808 ∧ b = -1)) :
    inI64 (Int.tdiv a b) = true := by
  rw [inI64_iff] at *
  by_cases h1 : b = 1
  · rw [h1, Int.tdiv_one]; exact ha
  by_cases h2 : b = -1
  · rw [h2, Int.tdiv_neg, Int.tdiv_one]; omega
  · have hq : (Int.tdiv a b).natAbs = a.natAbs / b.natAbs := Int.natAbs_tdiv a b
    have : a.natAbs / b.natAbs ≤ a.natAbs / 2 := Nat.div_le_div_left (by omega) (by omega)
    omega

theorem decimalValue_nil : decimalValue [] = 0 := rfl

theorem foldl_dec_append (ds es : List Char) (acc : Nat) :
    (ds ++ es).foldl (fun acc c => acc * 10 + digitVal c) acc =
      es.foldl (fun acc c => acc * 10 + digitVal c) (ds.foldl (fun acc c => acc * 10 + digitVal c) acc) := by
  simp [List.foldl_append]

theorem decimalValue_snoc (ds : List Char) (d : Char) : decimalValue (ds ++ [d]) = decimalValue ds * 10 + digitVal d := by
  simp [decimalValue, List.foldl_append]

theorem foldl_dec_zero_cons (ds : List Char) :
    decimalValue ('0' :: ds) = decimalValue ds := by
  simp [decimalValue, digitVal]

theorem foldl_dec_acc (ds : List Char) (acc : Nat) :
    ds.foldl (fun acc c => acc * 10 + digitVal c) acc = acc * 10 ^ ds.length + decimalValue ds := by
  induction ds generalizing acc with
  | nil => simp [decimalValue]
  | cons d r ih =>
    simp only [List.foldl_cons, List.length_cons, decimalValue]
    rw [ih, ih (0 * 10 + digitVal d)]
    rw [Nat.pow_succ]
    simp only [Nat.zero_mul, Nat.zero_add]
    rw [Nat.add_mul, Nat.add_assoc, Nat.mul_assoc, Nat.mul_comm 10]

theorem decimalValue_cons (d : Char) (ds : List Char) :
    decimalValue (d :: ds) = digitVal d * 10 ^ ds.length + decimalValue ds := by
  have := foldl_dec_acc ds (0 * 10 + digitVal d)
  simp only [Nat.zero_mul, Nat.zero_add] at this
  simpa [decimalValue] using this

end Seed.C06
