/-
  C07Call.lean — the call boundary: what a call of a user function does with the result of the callee's body.
  A call is an expression: its result carries a value, never an `Escape`; the only way a `return` of the callee is
  seen by the caller is as the value of the call expression.
-/
import SeedProofs.Lemmas.C07Loops
import SeedProofs.Lemmas.Located
namespace Seed.C07
open Seed Gen

/-- the arity check of `eval_call` passes: with a collecting last parameter at least `params - 1` arguments, otherwise
    exactly `params` -/
def ArityOK (fr : FuncRec) (got : Nat) : Prop :=
  (fr.collect = true → fr.args.length - 1 ≤ got) ∧ (fr.collect = false → fr.args.length = got)

instance (fr : FuncRec) (got : Nat) : Decidable (ArityOK fr got) := by unfold ArityOK; exact inferInstance

/-- the values bound to the parameters (the surplus collected into a fresh list when the last parameter collects) and the
    state after that allocation -/
def callVals (σ2 : State) (fr : FuncRec) (argVals : List SVal) : List SVal × State :=
  if fr.collect then
    ((argVals.take (fr.args.length - 1) ++ [SVal.plain (.list (σ2.alloc (.list (argVals.drop (fr.args.length - 1)))).1)]),
      (σ2.alloc (.list (argVals.drop (fr.args.length - 1)))).2)
  else (argVals, σ2)

/-- the bindings of the callee's scope: parameters, then `this` for a method call -/
def callBindings (σ2 : State) (fr : FuncRec) (src : Option Val) (argVals : List SVal) (loc : Loc) : List (Expr × SVal) :=
  match src with
  | some this => fr.args.zip (callVals σ2 fr argVals).1 ++ [(Expr.mk (.Var c!"this") loc, SVal.plain this)]
  | none => fr.args.zip (callVals σ2 fr argVals).1

/-- what the call makes of the result of the body: errors get a call frame, the four escapes are consumed -/
def callResult (name : Option (List Char)) (loc : Loc) (rb : Res Escape) : Res SVal :=
  (rb.mapErr (Err.funcCall name loc)).bind fun esc σ4 =>
    match esc with
    | .none => .ok (SVal.plain .null) σ4
    | .brk l => errAt l Leaf.BreakOutsideLoop σ4
    | .cont l => errAt l Leaf.ContinueOutsideLoop σ4
    | .ret v _ => .ok v σ4

/-- **A call of a user function** whose arguments and callee evaluate and whose arity matches is: the body, as a block
    in a fresh scope on the function's closure chain (not the caller's), its result turned into a value by `callResult` -/
theorem call_unfold {n : Nat} {σ σ1 σ2 : State} {sc : List Addr} {f : Expr} {args : List ListItem} (loc : Loc)
    {argVals : List SVal} {fv : SVal} {a : Addr} {fr : FuncRec}
    (hargs : evalListItems n σ sc args [] = .ok argVals σ1) (hf : evalExpr n σ1 sc f = .ok fv σ2)
    (hv : fv.v = .func a) (hfr : σ2.getFunc a = some fr) (har : ArityOK fr argVals.length) :
    evalCall (n + 1) σ sc f args loc =
      callResult fr.name loc
        (evalBlock n (callVals σ2 fr argVals).2 fr.closure (callBindings σ2 fr fv.src argVals loc) fr.stmts) := by
  conv => lhs; unfold evalCall
  simp only [hargs, hf, Res.bind, hv, hfr]
  obtain ⟨h1, h2⟩ := har
  cases hc : fr.collect with
  | false =>
    have := h2 hc
    simp only [callResult, callBindings, callVals, hc, this]
    cases fv.src <;> simp [Res.bind] <;> rfl
  | true =>
    have := h1 hc
    have hlt : ¬ (fr.args.length - 1 > argVals.length) := by omega
    simp only [callResult, callBindings, callVals, hc]
    cases fv.src <;> simp [Res.bind, hlt] <;> rfl

section boundary
variable {n : Nat} {σ σ1 σ2 σ4 : State} {sc : List Addr} {f : Expr} {args : List ListItem} (loc : Loc)
  {argVals : List SVal} {fv : SVal} {a : Addr} {fr : FuncRec}
  (hargs : evalListItems n σ sc args [] = .ok argVals σ1) (hf : evalExpr n σ1 sc f = .ok fv σ2)
  (hv : fv.v = .func a) (hfr : σ2.getFunc a = some fr) (har : ArityOK fr argVals.length)
include hargs hf hv hfr har

/-- `return v` escaping the body: the call expression has the value `v`, in the state at the `return` -/
theorem call_return {v : SVal} {l : Loc}
    (hb : evalBlock n (callVals σ2 fr argVals).2 fr.closure (callBindings σ2 fr fv.src argVals loc) fr.stmts = .ok (.ret v l) σ4) :
    evalCall (n + 1) σ sc f args loc = .ok v σ4 := by
  rw [call_unfold loc hargs hf hv hfr har, hb]; rfl

/-- the body runs to its end: the call is `null` -/
theorem call_falls_off
    (hb : evalBlock n (callVals σ2 fr argVals).2 fr.closure (callBindings σ2 fr fv.src argVals loc) fr.stmts = .ok .none σ4) :
    evalCall (n + 1) σ sc f args loc = .ok (SVal.plain .null) σ4 := by
  rw [call_unfold loc hargs hf hv hfr har, hb]; rfl

/-- a `break` escaping the body is not seen by a loop around the call: it is the error "break outside loop", at the
    position of the `break` -/
theorem call_break_is_error {l : Loc}
    (hb : evalBlock n (callVals σ2 fr argVals).2 fr.closure (callBindings σ2 fr fv.src argVals loc) fr.stmts = .ok (.brk l) σ4) :
    evalCall (n + 1) σ sc f args loc = .err (Err.at l Leaf.BreakOutsideLoop) σ4 := by
  rw [call_unfold loc hargs hf hv hfr har, hb]; rfl

theorem call_continue_is_error {l : Loc}
    (hb : evalBlock n (callVals σ2 fr argVals).2 fr.closure (callBindings σ2 fr fv.src argVals loc) fr.stmts = .ok (.cont l) σ4) :
    evalCall (n + 1) σ sc f args loc = .err (Err.at l Leaf.ContinueOutsideLoop) σ4 := by
  rw [call_unfold loc hargs hf hv hfr har, hb]; rfl

/-- an error of the body gets one call frame (name of the function, position of the call) -/
theorem call_error_framed {e : Err}
    (hb : evalBlock n (callVals σ2 fr argVals).2 fr.closure (callBindings σ2 fr fv.src argVals loc) fr.stmts = .err e σ4) :
    evalCall (n + 1) σ sc f args loc = .err (Err.funcCall fr.name loc e) σ4 := by
  rw [call_unfold loc hargs hf hv hfr har, hb]; rfl

/-- **The call boundary**, all cases at once: the result of the call as a function of the result of the body.  The result
    type of a call is `Res SVal`: there is no way for an `Escape` to leave it. -/
theorem call_boundary :
    evalCall (n + 1) σ sc f args loc =
      match evalBlock n (callVals σ2 fr argVals).2 fr.closure (callBindings σ2 fr fv.src argVals loc) fr.stmts with
      | .ok .none σ4 => .ok (SVal.plain .null) σ4
      | .ok (.ret v _) σ4 => .ok v σ4
      | .ok (.brk l) σ4 => .err (Err.at l Leaf.BreakOutsideLoop) σ4
      | .ok (.cont l) σ4 => .err (Err.at l Leaf.ContinueOutsideLoop) σ4
      | .err e σ4 => .err (Err.funcCall fr.name loc e) σ4
      | .crash w σ4 => .crash w σ4
      | .timeout => .timeout := by
  rw [call_unfold loc hargs hf hv hfr har]
  cases evalBlock n (callVals σ2 fr argVals).2 fr.closure (callBindings σ2 fr fv.src argVals loc) fr.stmts with
  | ok esc σ4 => cases esc <;> rfl
  | err e σ4 => rfl
  | crash w σ4 => rfl
  | timeout => rfl

/-- `call_unfold` free of fuel: once the body of the callee has the result `rb` from some fuel on, the call has the result
    the boundary makes of `rb`, from some fuel on -/
theorem call_of_body {k : Nat} {rb : Res Escape}
    (hb : ∀ m, k ≤ m → evalBlock m (callVals σ2 fr argVals).2 fr.closure (callBindings σ2 fr fv.src argVals loc) fr.stmts = rb)
    (hr : callResult fr.name loc rb ≠ .timeout) :
    ∃ k, ∀ m, k ≤ m → evalCall m σ sc f args loc = callResult fr.name loc rb := by
  refine ⟨max n k + 1, fun m hm => call_mono ?_ hr hm⟩
  rw [call_unfold loc (listItems_mono hargs (by simp) (Nat.le_max_left n k))
    (evalExpr_fuel_mono hf (by simp) (Nat.le_max_left n k)) hv hfr har, hb _ (Nat.le_max_right n k)]

end boundary

theorem break_error_located (l : Loc) : Located (Err.at l Leaf.BreakOutsideLoop) := located_at l _
theorem continue_error_located (l : Loc) : Located (Err.at l Leaf.ContinueOutsideLoop) := located_at l _

/-! ### statements whose only sub-computations are expressions never escape -/

theorem then_none {α} {r : Res α} {esc : Escape} {σ' : State} (h : (r.bind fun _ σ1 => .ok Escape.none σ1) = .ok esc σ') :
    esc = .none := by
  obtain ⟨_, _, _, h⟩ := Res.bind_eq_ok h
  cases h; rfl

/-- an expression statement (in particular a call statement `f(…)`) completes normally or fails: no escape of a callee
    can reach the caller's statement sequence -/
theorem expr_stmt_never_escapes {n : Nat} {σ σ' : State} {sc : List Addr} {e : Expr} {esc : Escape}
    (h : evalStmt n σ sc (.Expr e) = .ok esc σ') : esc = .none := by
  cases n with
  | zero => unfold evalStmt at h; cases h
  | succ n => unfold evalStmt at h; exact then_none h

theorem declare_never_escapes {n : Nat} {σ σ' : State} {sc : List Addr} {lhs rhs : Expr} {esc : Escape}
    (h : evalStmt n σ sc (.Declare lhs rhs) = .ok esc σ') : esc = .none := by
  cases n with
  | zero => unfold evalStmt at h; cases h
  | succ n =>
    unfold evalStmt at h
    obtain ⟨_, _, _, h⟩ := Res.bind_eq_ok h
    exact then_none h

theorem assign_never_escapes {n : Nat} {σ σ' : State} {sc : List Addr} {lhs rhs : Expr} {esc : Escape}
    (h : evalStmt n σ sc (.Assign lhs rhs) = .ok esc σ') : esc = .none := by
  cases n with
  | zero => unfold evalStmt at h; cases h
  | succ n =>
    unfold evalStmt at h
    obtain ⟨_, _, _, h⟩ := Res.bind_eq_ok h
    exact then_none h

theorem opassign_never_escapes {n : Nat} {σ σ' : State} {sc : List Addr} {lhs rhs : Expr} {op : BinaryOp} {ol : Loc}
    {esc : Escape} (h : evalStmt n σ sc (.OpAssign lhs op ol rhs) = .ok esc σ') : esc = .none := by
  cases n with
  | zero => unfold evalStmt at h; cases h
  | succ n =>
    unfold evalStmt at h
    obtain ⟨_, _, _, h⟩ := Res.bind_eq_ok h
    exact then_none h

/-- a `return` statement whose expression is a call escapes with the value of the call: `return f(x)` -/
theorem return_of_call {n : Nat} {σ σ' : State} {sc : List Addr} {l loc : Loc} {f : Expr} {args : List ListItem} {v : SVal}
    (h : evalCall n σ sc f args loc = .ok v σ') :
    evalStmt (n + 2) σ sc (.Return l (.mk (.Call f args) loc)) = .ok (.ret v l) σ' := by
  unfold evalStmt
  have : evalExpr (n + 1) σ sc (.mk (.Call f args) loc) = .ok v σ' := by unfold evalExpr; exact h
  simp only [this, Res.bind]

end Seed.C07
