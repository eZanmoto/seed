/-
  C07Loops.lean — helpers for "a jump that leaves a loop body acts on exactly that loop":
  fuel stability for the loop functions, the fuel-free equality `FuelEq` of two fuel-indexed computations,
  what a statement list that completes normally consists of, how `for` enters its function, the scope of a block.
-/
import SeedProofs.Global
import SeedProofs.Lemmas.ResBind
namespace Seed.C07
open Seed

theorem fuel_stable {α} {f : Nat → Res α} (hmono : ∀ k, Res.Le (f k) (f (k + 1))) {n m : Nat} {r : Res α}
    (h : f n = r) (hr : r ≠ .timeout) (hnm : n ≤ m) : f m = r := Seed.fuel_stable hmono h hr hnm

theorem while_mono {n m : Nat} {σ sc c b} {r : Res Escape} (h : evalWhile n σ sc c b = r) (hr : r ≠ .timeout) (hnm : n ≤ m) :
    evalWhile m σ sc c b = r :=
  fuel_stable (f := fun k => evalWhile k σ sc c b) (fun k => (monoAll k).evalWhile σ sc c b) h hr hnm

theorem for_mono {n m : Nat} {σ sc lhs ps b} {r : Res Escape} (h : evalFor n σ sc lhs ps b = r) (hr : r ≠ .timeout) (hnm : n ≤ m) :
    evalFor m σ sc lhs ps b = r :=
  fuel_stable (f := fun k => evalFor k σ sc lhs ps b) (fun k => (monoAll k).evalFor σ sc lhs ps b) h hr hnm

theorem declareAll_mono {n m : Nat} {σ sc bs} {r : Res Unit} (h : declareAll n σ sc bs = r) (hr : r ≠ .timeout) (hnm : n ≤ m) :
    declareAll m σ sc bs = r :=
  fuel_stable (f := fun k => declareAll k σ sc bs) (fun k => (monoAll k).declareAll σ sc bs) h hr hnm

theorem listItems_mono {n m : Nat} {σ sc items acc} {r : Res (List SVal)} (h : evalListItems n σ sc items acc = r)
    (hr : r ≠ .timeout) (hnm : n ≤ m) : evalListItems m σ sc items acc = r :=
  fuel_stable (f := fun k => evalListItems k σ sc items acc) (fun k => (monoAll k).evalListItems σ sc items acc) h hr hnm

theorem call_mono {n m : Nat} {σ sc f args loc} {r : Res SVal} (h : evalCall n σ sc f args loc = r)
    (hr : r ≠ .timeout) (hnm : n ≤ m) : evalCall m σ sc f args loc = r :=
  fuel_stable (f := fun k => evalCall k σ sc f args loc) (fun k => (monoAll k).evalCall σ sc f args loc) h hr hnm

/-- `f` and `g` have the same outcomes: every result other than a time-out that one of them reaches (at some fuel) the
    other reaches too (at some fuel).  For fuel-monotone `f`, `g` this says that they denote the same partial result. -/
def FuelEq {α} (f g : Nat → Res α) : Prop := ∀ r, r ≠ .timeout → ((∃ k, f k = r) ↔ (∃ k, g k = r))

theorem FuelEq.refl {α} (f : Nat → Res α) : FuelEq f f := fun _ _ => Iff.rfl
theorem FuelEq.symm {α} {f g : Nat → Res α} (h : FuelEq f g) : FuelEq g f := fun r hr => (h r hr).symm
theorem FuelEq.trans {α} {f g k : Nat → Res α} (h1 : FuelEq f g) (h2 : FuelEq g k) : FuelEq f k :=
  fun r hr => (h1 r hr).trans (h2 r hr)

theorem FuelEq.of_shift {α} {f g : Nat → Res α} (hf : ∀ k, Res.Le (f k) (f (k + 1))) (hg : ∀ k, Res.Le (g k) (g (k + 1)))
    (k0 : Nat) (h : ∀ m, k0 ≤ m → f (m + 1) = g m) : FuelEq f g := by
  intro r hr
  constructor
  · rintro ⟨k, hk⟩
    refine ⟨max k k0, ?_⟩
    rw [← h _ (Nat.le_max_right k k0)]
    exact fuel_stable hf hk hr (by have := Nat.le_max_left k k0; omega)
  · rintro ⟨k, hk⟩
    refine ⟨max k k0 + 1, ?_⟩
    rw [h _ (Nat.le_max_right k k0)]
    exact fuel_stable hg hk hr (Nat.le_max_left k k0)

theorem FuelEq.of_const {α} {f : Nat → Res α} (hf : ∀ k, Res.Le (f k) (f (k + 1))) {k0 : Nat} {r0 : Res α}
    (h : ∀ m, k0 ≤ m → f m = r0) : FuelEq f (fun _ => r0) := by
  intro r hr
  constructor
  · rintro ⟨k, hk⟩
    refine ⟨0, ?_⟩
    have := fuel_stable hf hk hr (Nat.le_max_left k k0)
    rw [h _ (Nat.le_max_right k k0)] at this
    exact this
  · rintro ⟨_, hk⟩
    exact ⟨k0, (h k0 (Nat.le_refl _)).trans hk⟩

theorem stmts_nil_ok {n : Nat} {σ σ1 : State} {sc : List Addr} {esc : Escape} (h : evalStmts n σ sc [] = .ok esc σ1) :
    esc = .none ∧ σ1 = σ := by
  cases n with
  | zero => rw [evalStmts_zero] at h; cases h
  | succ n => rw [evalStmts_nil] at h; cases h; exact ⟨rfl, rfl⟩

theorem stmts_cons_none {n : Nat} {σ σ1 : State} {sc : List Addr} {st : Stmt} {ss : List Stmt}
    (h : evalStmts n σ sc (st :: ss) = .ok .none σ1) :
    ∃ m σ2, n = m + 1 ∧ evalStmt m σ sc st = .ok .none σ2 ∧ evalStmts m σ2 sc ss = .ok .none σ1 := by
  cases n with
  | zero => rw [evalStmts_zero] at h; cases h
  | succ m =>
    rw [evalStmts_cons] at h
    cases hst : evalStmt m σ sc st with
    | ok esc σ2 =>
      rw [hst] at h
      cases esc with
      | none => exact ⟨m, σ2, rfl, hst, h⟩
      | _ => cases h
    | _ => rw [hst] at h; cases h

/-- `for`: the iterable is evaluated once, its pairs are computed once, the loop runs over that list -/
theorem for_enters (n : Nat) (σ σ1 : State) (sc : List Addr) (lhs iter : Expr) (stmts : List Stmt) (it : SVal)
    (pairs : List (SVal × SVal)) (hi : evalExpr n σ sc iter = .ok it σ1) (hp : toPairs σ1 it.v = some (some pairs)) :
    evalStmt (n + 1) σ sc (.For lhs iter stmts) = evalFor n σ1 sc lhs pairs stmts := by
  rw [evalStmt_for, hi]; simp only [Res.bind, hp]

theorem block_scope (n : Nat) (σ : State) (sc : List Addr) (bs : List (Expr × SVal)) (b : List Stmt) :
    evalBlock (n + 1) σ sc bs b =
      (declareAll n (σ.alloc (.scope [])).2 ((σ.alloc (.scope [])).1 :: sc) bs).bind fun _ σ2 =>
        evalStmts n σ2 ((σ.alloc (.scope [])).1 :: sc) b :=
  evalBlock_succ n σ sc bs b

theorem block_after_decl {n : Nat} {σ σb : State} {sc : List Addr} {bs : List (Expr × SVal)} (b : List Stmt)
    (hd : declareAll n (σ.alloc (.scope [])).2 ((σ.alloc (.scope [])).1 :: sc) bs = .ok () σb) :
    evalBlock (n + 1) σ sc bs b = evalStmts n σb ((σ.alloc (.scope [])).1 :: sc) b := by
  rw [block_scope, hd]; rfl

end Seed.C07
