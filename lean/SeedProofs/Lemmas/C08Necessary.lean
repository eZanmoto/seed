/-
  C08Necessary.lean — every parenthesis the printer emits is NECESSARY.

  The printer `prR k / prE k / prStmts` (Lemmas/ParseRT2Defs.lean, whole grammar) puts a pair of parentheses
  around a sub-expression exactly when the sub-expression is a binary operation whose tier is looser than its
  slot, or a `..` expression in any slot but the loosest (`prE_paren`).  `parse_print_expr / parse_print_prog`
  say that these pairs SUFFICE.  Here, by counting: whatever the parser returns, from whatever tokens, the printed
  form of the result has at most as many `(` as the tokens that were consumed (`parseExpr_paren_count`, from
  C08NecessaryInv.lean); so a token list with fewer `(` than the printed form of `e` — in particular the printed
  tokens minus any one pair — never parses to `e` (`printed_parens_minimal`, `printed_paren_necessary`;
  `ctx_paren_necessary` is the same on the tree, for one-hole contexts).

  No well-formedness hypothesis is needed for necessity (it is a statement about what the parser can return).
-/
import SeedProofs.Lemmas.C08NecessaryInv
namespace Seed.C08N
open Seed

mutual
theorem prR_strip (k : Nat) : (r : RawExpr) → prR k (stripR r) = prR k r
  | .Null => by simp only [stripR]
  | .Bool _ => by simp only [stripR]
  | .Int _ => by simp only [stripR]
  | .Str _ _ => by simp only [stripR]
  | .Var _ => by simp only [stripR]
  | .BinaryOp op _ l r => by simp only [stripR, prR, prE_strip _ l, prE_strip _ r]
  | .List items c => by simp only [stripR, prR, prItems_strip items]
  | .Index e i => by simp only [stripR, prR, prE_strip _ e, prE_strip _ i]
  | .RangeIndex e a b => by simp only [stripR, prR, prE_strip _ e, prO_strip a, prO_strip b]
  | .Range a b => by simp only [stripR, prR, prE_strip _ a, prE_strip _ b]
  | .Object props => by simp only [stripR, prR, prProps_strip props]
  | .Prop e _ _ => by simp only [stripR, prR, prE_strip _ e]
  | .Func args c stmts => by simp only [stripR, prR, prEs_strip args, prStmts_strip stmts]
  | .Call f args => by simp only [stripR, prR, prE_strip _ f, prItems_strip args]
theorem prE_strip (k : Nat) : (e : Expr) → prE k (stripE e) = prE k e
  | .mk r _ => by simp only [stripE, prE, prR_strip k r]
theorem prO_strip : (o : Option Expr) → prO (stripO o) = prO o
  | none => by simp only [stripO]
  | some e => by simp only [stripO, prO, prE_strip 1 e]
theorem prItems_strip : (l : List ListItem) → prItems (stripItems l) = prItems l
  | [] => by simp only [stripItems]
  | .mk e _ :: r => by simp only [stripItems, prItems, prE_strip 1 e, prItems_strip r]
theorem prProps_strip : (l : List PropItem) → prProps (stripProps l) = prProps l
  | [] => by simp only [stripProps]
  | .Pair k v :: r => by simp only [stripProps, prProps, prE_strip 1 k, prE_strip 1 v, prProps_strip r]
  | .Single e _ _ :: r => by simp only [stripProps, prProps, prE_strip 1 e, prProps_strip r]
theorem prEs_strip : (l : List Expr) → prEs (stripEs l) = prEs l
  | [] => by simp only [stripEs]
  | e :: r => by simp only [stripEs, prEs, prE_strip 1 e, prEs_strip r]
theorem prStmts_strip : (l : List Stmt) → prStmts (stripStmts l) = prStmts l
  | [] => by simp only [stripStmts]
  | s :: r => by simp only [stripStmts, prStmts, prStmt_strip s, prStmts_strip r]
theorem prStmt_strip : (s : Stmt) → prStmt (stripStmt s) = prStmt s
  | .Block b => by simp only [stripStmt, prStmt, prStmts_strip b]
  | .Expr e => by simp only [stripStmt, prStmt, prE_strip 1 e]
  | .Declare l r => by simp only [stripStmt, prStmt, prE_strip 1 l, prE_strip 1 r]
  | .Assign l r => by simp only [stripStmt, prStmt, prE_strip 1 l, prE_strip 1 r]
  | .OpAssign l _ _ r => by simp only [stripStmt, prStmt, prE_strip 1 l, prE_strip 1 r]
  | .If bs none => by simp only [stripStmt, prStmt, prBs_strip bs]
  | .If bs (some els) => by simp only [stripStmt, prStmt, prBs_strip bs, prStmts_strip els]
  | .While c s => by simp only [stripStmt, prStmt, prE_strip 1 c, prStmts_strip s]
  | .For l i s => by simp only [stripStmt, prStmt, prE_strip 1 l, prE_strip 1 i, prStmts_strip s]
  | .Break _ => by simp only [stripStmt, prStmt]
  | .Continue _ => by simp only [stripStmt, prStmt]
  | .Func _ _ args _ s => by simp only [stripStmt, prStmt, prEs_strip args, prStmts_strip s]
  | .Return _ e => by simp only [stripStmt, prStmt, prE_strip 1 e]
theorem prBs_strip : (l : List Branch) → prBs (stripBs l) = prBs l
  | [] => by simp only [stripBs]
  | .mk c s :: r => by simp only [stripBs, prBs, prE_strip 1 c, prStmts_strip s, prBs_strip r]
end

theorem prE_congr {k : Nat} {e f : Expr} (h : stripE e = stripE f) : prE k e = prE k f := by
  rw [← prE_strip k e, h, prE_strip]

theorem prStmts_congr {p q : List Stmt} (h : stripStmts p = stripStmts q) : prStmts p = prStmts q := by
  rw [← prStmts_strip p, h, prStmts_strip]

/-- **the count**: whatever `parseExpr` returns — any tokens, any fuel, either setting of the spread flag, any
    remainder — the printed form of the result has at most as many `(` as the consumed tokens -/
theorem parseExpr_paren_count {fuel : Nat} {s : Bool} {ts rest : List Span} {e : Expr}
    (h : parseExpr fuel s ts = .ok e rest) : wt (prE 1 e) + ws rest ≤ ws ts :=
  ((pcAll fuel).parseExpr s ts).elim h

/-- the same for statement lists (what `parseProg` runs on the lexer's output) -/
theorem parseStmts_paren_count {fuel : Nat} {c : Bool} {ts rest : List Span} {p : List Stmt}
    (h : parseStmts fuel c [] ts = .ok p rest) : wt (prStmts p) + ws rest ≤ ws ts := by
  have := ((pcAll fuel).parseStmts c [] ts).elim h
  rw [wt_prStmts]
  simpa only [cStmts_nil, Nat.zero_add] using this

/-- … and through the front end: the printed form of the program `parseProg` returns has at most as many `(` as
    the source text has `(` tokens -/
theorem parseProg_paren_count {src : List Char} {p : List Stmt} (h : parseProg src = .ok p) :
    wt (prStmts p) ≤ ws (lexAll src).1 := by
  obtain ⟨rest, hp⟩ := parseProg_ok h
  have := parseStmts_paren_count hp
  omega

-- the hypothesis is satisfiable and the bound is attained: `(a + b) * c` has one `(`, so has its tree;
-- with a redundant pair `((a + b)) * c` the inequality is strict
private def v (s : List Char) : Expr := .mk (.Var s) (0, 0)
private def bin (op : BinaryOp) (l r : Expr) : Expr := .mk (.BinaryOp op (0, 0) l r) (0, 0)
private def rng (l r : Expr) : Expr := .mk (.Range l r) (0, 0)
private def sp0 (toks : List Token) : List Span := toks.map fun t => ⟨(0, 0), t, (0, 0)⟩

example : parseExpr 100 false (sp0 [.ParenOpen, .Ident c!"a", .Sum, .Ident c!"b", .ParenClose, .Mul, .Ident c!"c"]) =
    .ok (bin .Mul (bin .Sum (v c!"a") (v c!"b")) (v c!"c")) [] := by rfl
example : wt (prE 1 (bin .Mul (bin .Sum (v c!"a") (v c!"b")) (v c!"c"))) = 1 ∧
    ws (sp0 [.ParenOpen, .Ident c!"a", .Sum, .Ident c!"b", .ParenClose, .Mul, .Ident c!"c"]) = 1 := by decide +kernel
example : parseExpr 100 false
    (sp0 [.ParenOpen, .ParenOpen, .Ident c!"a", .Sum, .Ident c!"b", .ParenClose, .ParenClose, .Mul, .Ident c!"c"]) =
    .ok (bin .Mul (bin .Sum (v c!"a") (v c!"b")) (v c!"c")) [] := by rfl

-- through the front end: the text `x = ((a + b)) * c;` has two `(`, the printed form of what `parseProg` returns one
example : (match parseProg c!"x = ((a + b)) * c;" with
    | .ok p => decide (wt (prStmts p) = 1 ∧ ws (lexAll c!"x = ((a + b)) * c;").1 = 2)
    | _ => false) = true := by decide +kernel

/-- **no spelling with fewer `(`**: a token list with fewer `(` than the printed form of `e` is never parsed to
    `e` (up to positions) — not with any fuel, not with either spread flag, not with any remainder -/
theorem fewer_parens_never_parse (e : Expr) (ts : List Span) (hlt : ws ts < wt (prE 1 e))
    (fuel : Nat) (s : Bool) (e' : Expr) (rest : List Span) (h : parseExpr fuel s ts = .ok e' rest) :
    stripE e' ≠ stripE e := by
  intro heq
  have h1 := parseExpr_paren_count h
  rw [prE_congr heq] at h1
  omega

theorem fewer_parens_never_parse_prog (p : List Stmt) (ts : List Span) (hlt : ws ts < wt (prStmts p))
    (fuel : Nat) (c : Bool) (p' : List Stmt) (rest : List Span) (h : parseStmts fuel c [] ts = .ok p' rest) :
    stripStmts p' ≠ stripStmts p := by
  intro heq
  have h1 := parseStmts_paren_count h
  rw [prStmts_congr heq] at h1
  omega

/-- **the printer is paren-minimal**: for a well-formed `e`, the printed tokens are parsed to `e` (the round trip),
    and every token list that is parsed to `e` has at least as many `(` -/
theorem printed_parens_minimal (e : Expr) (hwf : wfE true e = true) :
    (∀ ts : List Span, ts.map Span.tok = prE 1 e →
        ws ts = wt (prE 1 e) ∧ ∃ e', parseExpr (parseFuel ts) false ts = .ok e' [] ∧ stripE e' = stripE e) ∧
    (∀ (ts : List Span) (fuel : Nat) (s : Bool) (e' : Expr) (rest : List Span),
        parseExpr fuel s ts = .ok e' rest → stripE e' = stripE e → wt (prE 1 e) ≤ ws ts) := by
  refine ⟨fun ts hts => ⟨by rw [← ws_map_tok, hts], parse_print_expr e hwf ts hts⟩, ?_⟩
  intro ts fuel s e' rest h heq
  exact Nat.le_of_not_lt fun hlt => fewer_parens_never_parse e ts hlt fuel s e' rest h heq

theorem printed_parens_minimal_prog (p : List Stmt) (hwf : wfStmts true p = true) :
    (∀ ts : List Span, ts.map Span.tok = prStmts p →
        ws ts = wt (prStmts p) ∧
          ∃ p', parseStmts (parseFuel ts) false [] ts = .ok p' [] ∧ stripStmts p' = stripStmts p) ∧
    (∀ (ts : List Span) (fuel : Nat) (c : Bool) (p' : List Stmt) (rest : List Span),
        parseStmts fuel c [] ts = .ok p' rest → stripStmts p' = stripStmts p → wt (prStmts p) ≤ ws ts) := by
  refine ⟨fun ts hts => ⟨by rw [← ws_map_tok, hts], parse_print_prog p hwf ts hts⟩, ?_⟩
  intro ts fuel c p' rest h heq
  exact Nat.le_of_not_lt fun hlt => fewer_parens_never_parse_prog p ts hlt fuel c p' rest h heq

theorem wt_delete_pair (pre mid post : List Token) :
    wt (pre ++ (mid ++ post)) + 1 = wt (pre ++ Token.ParenOpen :: (mid ++ Token.ParenClose :: post)) := by
  simp only [wt_append, wt_cons, pw]
  omega

/-- **every printed parenthesis is necessary** (expressions).  Split the printed tokens of `e` at any `(` and any
    later `)` — in particular at a pair the printer put around a sub-expression, at any depth — and delete the
    two: no parse of the remaining tokens gives `e` back.  It fails, or stops early, or gives a different tree. -/
theorem printed_paren_necessary (e : Expr) (pre mid post : List Token)
    (hpr : prE 1 e = pre ++ Token.ParenOpen :: (mid ++ Token.ParenClose :: post))
    (ts : List Span) (hts : ts.map Span.tok = pre ++ (mid ++ post))
    (fuel : Nat) (s : Bool) (e' : Expr) (rest : List Span) (h : parseExpr fuel s ts = .ok e' rest) :
    stripE e' ≠ stripE e := by
  refine fewer_parens_never_parse e ts ?_ fuel s e' rest h
  have := wt_delete_pair pre mid post
  rw [← ws_map_tok, hts, hpr]
  omega

/-- **every printed parenthesis is necessary** (programs) -/
theorem printed_paren_necessary_prog (p : List Stmt) (pre mid post : List Token)
    (hpr : prStmts p = pre ++ Token.ParenOpen :: (mid ++ Token.ParenClose :: post))
    (ts : List Span) (hts : ts.map Span.tok = pre ++ (mid ++ post))
    (fuel : Nat) (c : Bool) (p' : List Stmt) (rest : List Span) (h : parseStmts fuel c [] ts = .ok p' rest) :
    stripStmts p' ≠ stripStmts p := by
  refine fewer_parens_never_parse_prog p ts ?_ fuel c p' rest h
  have := wt_delete_pair pre mid post
  rw [← ws_map_tok, hts, hpr]
  omega

/-- the front end: a source text whose tokens are the printed ones minus one pair is not parsed to `p` -/
theorem printed_paren_necessary_parseProg (p : List Stmt) (pre mid post : List Token)
    (hpr : prStmts p = pre ++ Token.ParenOpen :: (mid ++ Token.ParenClose :: post))
    (src : List Char) (hts : (lexAll src).1.map Span.tok = pre ++ (mid ++ post))
    (p' : List Stmt) (h : parseProg src = .ok p') : stripStmts p' ≠ stripStmts p := by
  intro heq
  have h1 := parseProg_paren_count h
  have := wt_delete_pair pre mid post
  rw [prStmts_congr heq, ← ws_map_tok, hts, hpr] at h1
  omega

/-- the printer parenthesises `s` in a slot of level `k` exactly when `s` is a binary operation of a tier looser
    than `k`, or a `..` expression and `k` is not the loosest level -/
def needsParen (k : Nat) : Expr → Bool
  | .mk (.BinaryOp op _ _ _) _ => decide (tierOf op < k)
  | .mk (.Range _ _) _ => decide (1 < k)
  | _ => false

/-- `s` without parentheses of its own (its operands keep theirs) -/
def bare (s : Expr) : List Token := prE 0 s

/-- the printed form of `s` in a slot of level `k` is `bare s`, parenthesised iff `needsParen k s` -/
theorem prE_paren (k : Nat) (s : Expr) : prE k s = paren (needsParen k s) (bare s) := by
  obtain ⟨r, q⟩ := s
  cases r with
  | BinaryOp op p l r =>
    simp only [bare, prE, prR, needsParen, Nat.not_lt_zero, decide_false]
    simp only [paren, Bool.false_eq_true, if_false]
  | Range l r =>
    simp only [bare, prE, prR, needsParen, Nat.not_lt_zero, decide_false]
    simp only [paren, Bool.false_eq_true, if_false]
  | Bool b => cases b <;> rfl
  | Int z => cases z <;> rfl
  | Str s o => cases o <;> rfl
  | _ => rfl

theorem needsParen_bin (k : Nat) (op : BinaryOp) (p : Loc) (l r : Expr) (q : Loc) :
    needsParen k (.mk (.BinaryOp op p l r) q) = decide (tierOf op < k) := rfl

theorem needsParen_range (k : Nat) (l r : Expr) (q : Loc) : needsParen k (.mk (.Range l r) q) = decide (1 < k) := rfl

/-- one-hole contexts through the positions whose level matters: operands of binary operators and of `..`,
    the operand of each postfix form, and (to nest further) an index expression -/
inductive Ctx where
  | hole
  | binL (op : BinaryOp) (p : Loc) (c : Ctx) (r : Expr) (q : Loc)
  | binR (op : BinaryOp) (p : Loc) (l : Expr) (c : Ctx) (q : Loc)
  | rangeL (c : Ctx) (r : Expr) (q : Loc)
  | rangeR (l : Expr) (c : Ctx) (q : Loc)
  | index (c : Ctx) (i : Expr) (q : Loc)
  | indexI (e : Expr) (c : Ctx) (q : Loc)
  | rangeIndex (c : Ctx) (a b : Option Expr) (q : Loc)
  | prop (c : Ctx) (name : List Char) (tp : Bool) (q : Loc)
  | call (c : Ctx) (args : List ListItem) (q : Loc)

namespace Ctx

def fill : Ctx → Expr → Expr
  | hole, s => s
  | binL op p c r q, s => .mk (.BinaryOp op p (c.fill s) r) q
  | binR op p l c q, s => .mk (.BinaryOp op p l (c.fill s)) q
  | rangeL c r q, s => .mk (.Range (c.fill s) r) q
  | rangeR l c q, s => .mk (.Range l (c.fill s)) q
  | index c i q, s => .mk (.Index (c.fill s) i) q
  | indexI e c q, s => .mk (.Index e (c.fill s)) q
  | rangeIndex c a b q, s => .mk (.RangeIndex (c.fill s) a b) q
  | prop c name tp q, s => .mk (.Prop (c.fill s) name tp) q
  | call c args q, s => .mk (.Call (c.fill s) args) q

/-- the level of the hole when the whole is printed in a slot of level `k` -/
def lvl : Ctx → Nat → Nat
  | hole, k => k
  | binL op _ c _ _, _ => c.lvl (tierOf op)
  | binR op _ _ c _, _ => c.lvl (tierOf op + 1)
  | rangeL c _ _, _ => c.lvl 1
  | rangeR _ c _, _ => c.lvl Gen.firstTier
  | index c _ _, _ => c.lvl 5
  | indexI _ c _, _ => c.lvl 1
  | rangeIndex c _ _ _, _ => c.lvl 5
  | prop c _ _ _, _ => c.lvl 5
  | call c _ _, _ => c.lvl 5

def open? (b : Bool) : List Token := if b then [Token.ParenOpen] else []
def close? (b : Bool) : List Token := if b then [Token.ParenClose] else []

def pre : Ctx → Nat → List Token
  | hole, _ => []
  | binL op _ c _ _, k => open? (decide (tierOf op < k)) ++ c.pre (tierOf op)
  | binR op _ l c _, k => open? (decide (tierOf op < k)) ++ (prE (tierOf op) l ++ tokOf op :: c.pre (tierOf op + 1))
  | rangeL c _ _, k => open? (decide (1 < k)) ++ c.pre 1
  | rangeR l c _, k => open? (decide (1 < k)) ++ (prE 1 l ++ Token.DotDot :: c.pre Gen.firstTier)
  | index c _ _, _ => c.pre 5
  | indexI e c _, _ => prE 5 e ++ Token.BracketOpen :: c.pre 1
  | rangeIndex c _ _ _, _ => c.pre 5
  | prop c _ _ _, _ => c.pre 5
  | call c _ _, _ => c.pre 5

def post : Ctx → Nat → List Token
  | hole, _ => []
  | binL op _ c r _, k =>
    c.post (tierOf op) ++ (tokOf op :: prE (tierOf op + 1) r ++ close? (decide (tierOf op < k)))
  | binR op _ _ c _, k => c.post (tierOf op + 1) ++ close? (decide (tierOf op < k))
  | rangeL c r _, k => c.post 1 ++ (Token.DotDot :: prE Gen.firstTier r ++ close? (decide (1 < k)))
  | rangeR _ c _, k => c.post Gen.firstTier ++ close? (decide (1 < k))
  | index c i _, _ => c.post 5 ++ Token.BracketOpen :: (prE 1 i ++ [Token.BracketClose])
  | indexI _ c _, _ => c.post 1 ++ [Token.BracketClose]
  | rangeIndex c a b _, _ =>
    c.post 5 ++ Token.BracketOpen :: (prO a ++ Token.Colon :: (prO b ++ [Token.BracketClose]))
  | prop c name tp _, _ => c.post 5 ++ [if tp then Token.DashGreaterThan else Token.Dot, Token.Ident name]
  | call c args _, _ => c.post 5 ++ Token.ParenOpen :: sepBody .ParenClose false (prItems args)

theorem paren_eq (b : Bool) (ts : List Token) : paren b ts = open? b ++ (ts ++ close? b) := by
  cases b <;> simp [paren, open?, close?]

/-- the printed form of a filled context: what the context prints around the hole does not depend on what is
    put into it -/
theorem prE_fill (c : Ctx) (s : Expr) (k : Nat) : prE k (c.fill s) = c.pre k ++ (prE (c.lvl k) s ++ c.post k) := by
  induction c generalizing k <;>
    simp only [fill, prE, prR, paren_eq, pre, post, lvl, *, List.append_assoc, List.cons_append, List.nil_append,
      List.append_nil]

end Ctx

/-- **necessity on the tree**: `s` sits in the hole of `c`, and the printer parenthesises it there
    (`needsParen (c.lvl 1) s`: `s` is a binary operation looser than the slot — e.g. a right operand of equal
    tier — or a `..` expression).  Then the printed tokens of `c.fill s` are `c.pre ++ ( bare s ) ++ c.post`, and
    the tokens without that pair, `c.pre ++ bare s ++ c.post`, are never parsed to `c.fill s`. -/
theorem ctx_paren_necessary (c : Ctx) (s : Expr) (hneed : needsParen (c.lvl 1) s = true) :
    prE 1 (c.fill s) = c.pre 1 ++ (Token.ParenOpen :: (bare s ++ [Token.ParenClose]) ++ c.post 1) ∧
    ∀ (ts : List Span), ts.map Span.tok = c.pre 1 ++ (bare s ++ c.post 1) →
      ∀ (fuel : Nat) (sf : Bool) (e' : Expr) (rest : List Span),
        parseExpr fuel sf ts = .ok e' rest → stripE e' ≠ stripE (c.fill s) := by
  have hpr : prE 1 (c.fill s) = c.pre 1 ++ (Token.ParenOpen :: (bare s ++ [Token.ParenClose]) ++ c.post 1) := by
    rw [Ctx.prE_fill, prE_paren (c.lvl 1) s, hneed]
    simp only [paren, if_true]
  refine ⟨hpr, fun ts hts fuel sf e' rest h => ?_⟩
  refine printed_paren_necessary (c.fill s) (c.pre 1) (bare s) (c.post 1) ?_ ts hts fuel sf e' rest h
  rw [hpr]
  simp only [List.cons_append, List.append_assoc, List.nil_append]

/-- and where the printer does not parenthesise, the sub-expression is printed bare: so the printer's pairs are
    exactly the ones of `ctx_paren_necessary` -/
theorem ctx_no_paren (c : Ctx) (s : Expr) (hneed : needsParen (c.lvl 1) s = false) :
    prE 1 (c.fill s) = c.pre 1 ++ (bare s ++ c.post 1) := by
  rw [Ctx.prE_fill, prE_paren (c.lvl 1) s, hneed]
  simp only [paren, Bool.false_eq_true, if_false]

/-- the two binary-operator slots, spelled out: the left operand is parenthesised iff its tier is lower than the
    operator's, the right operand iff its tier is lower or equal -/
theorem operand_slots (op op' : BinaryOp) (p p' q q' : Loc) (a b x : Expr) :
    (needsParen ((Ctx.binL op p .hole x q).lvl 1) (.mk (.BinaryOp op' p' a b) q') = true ↔ tierOf op' < tierOf op) ∧
    (needsParen ((Ctx.binR op p x .hole q).lvl 1) (.mk (.BinaryOp op' p' a b) q') = true ↔ tierOf op' ≤ tierOf op) := by
  constructor
  · simp only [Ctx.lvl, needsParen]; exact decide_eq_true_iff
  · simp only [Ctx.lvl, needsParen]; exact decide_eq_true_iff.trans Nat.lt_succ_iff

private def idx (e i : Expr) : Expr := .mk (.Index e i) (0, 0)
private def a : Expr := v c!"a"
private def b : Expr := v c!"b"
private def c : Expr := v c!"c"
private def d : Expr := v c!"d"

-- `a - (b - c)`: a right operand of equal tier.  Context `a - □`, sub-expression `b - c`.
example : needsParen ((Ctx.binR .Sub (0, 0) a .hole (0, 0)).lvl 1) (bin .Sub b c) = true := by decide +kernel
example : prE 1 ((Ctx.binR .Sub (0, 0) a .hole (0, 0)).fill (bin .Sub b c)) =
    [.Ident c!"a", .Sub, .ParenOpen, .Ident c!"b", .Sub, .Ident c!"c", .ParenClose] := by decide +kernel
-- the theorem: `a - b - c` (any positions, any fuel) is never `a - (b - c)` …
example (ts : List Span) (hts : ts.map Span.tok = [.Ident c!"a", .Sub, .Ident c!"b", .Sub, .Ident c!"c"])
    (fuel : Nat) (sf : Bool) (e' : Expr) (rest : List Span) (h : parseExpr fuel sf ts = .ok e' rest) :
    stripE e' ≠ stripE (bin .Sub a (bin .Sub b c)) :=
  (ctx_paren_necessary (Ctx.binR .Sub (0, 0) a .hole (0, 0)) (bin .Sub b c) (by decide +kernel)).2 ts
    (by rw [hts]; decide +kernel) fuel sf e' rest h
-- … it is the other grouping, `(a - b) - c`
example : parseExpr 100 false (sp0 [.Ident c!"a", .Sub, .Ident c!"b", .Sub, .Ident c!"c"]) =
    .ok (bin .Sub (bin .Sub a b) c) [] := by rfl

-- `(a + b) * c`: a left operand of a looser tier.  Without the pair: `a + (b * c)`
example : needsParen ((Ctx.binL .Mul (0, 0) .hole c (0, 0)).lvl 1) (bin .Sum a b) = true := by decide +kernel
example (ts : List Span) (hts : ts.map Span.tok = [.Ident c!"a", .Sum, .Ident c!"b", .Mul, .Ident c!"c"])
    (fuel : Nat) (sf : Bool) (e' : Expr) (rest : List Span) (h : parseExpr fuel sf ts = .ok e' rest) :
    stripE e' ≠ stripE (bin .Mul (bin .Sum a b) c) :=
  (ctx_paren_necessary (Ctx.binL .Mul (0, 0) .hole c (0, 0)) (bin .Sum a b) (by decide +kernel)).2 ts
    (by rw [hts]; decide +kernel) fuel sf e' rest h
example : parseExpr 100 false (sp0 [.Ident c!"a", .Sum, .Ident c!"b", .Mul, .Ident c!"c"]) =
    .ok (bin .Sum a (bin .Mul b c)) [] := by rfl

-- `(a .. b) + c`: `..` is looser than every tier.  Without the pair: `a .. (b + c)`
example : needsParen ((Ctx.binL .Sum (0, 0) .hole c (0, 0)).lvl 1) (rng a b) = true := by decide +kernel
example : prE 1 (bin .Sum (rng a b) c) =
    [.ParenOpen, .Ident c!"a", .DotDot, .Ident c!"b", .ParenClose, .Sum, .Ident c!"c"] := by decide +kernel
example (ts : List Span) (hts : ts.map Span.tok = [.Ident c!"a", .DotDot, .Ident c!"b", .Sum, .Ident c!"c"])
    (fuel : Nat) (sf : Bool) (e' : Expr) (rest : List Span) (h : parseExpr fuel sf ts = .ok e' rest) :
    stripE e' ≠ stripE (bin .Sum (rng a b) c) :=
  (ctx_paren_necessary (Ctx.binL .Sum (0, 0) .hole c (0, 0)) (rng a b) (by decide +kernel)).2 ts
    (by rw [hts]; decide +kernel) fuel sf e' rest h
example : parseExpr 100 false (sp0 [.Ident c!"a", .DotDot, .Ident c!"b", .Sum, .Ident c!"c"]) =
    .ok (rng a (bin .Sum b c)) [] := by rfl

-- `a .. (b .. c)`: `..` groups to the left, a `..` right operand needs its pair.  Without: `(a .. b) .. c`
example : needsParen ((Ctx.rangeR a .hole (0, 0)).lvl 1) (rng b c) = true := by decide +kernel
example : parseExpr 100 false (sp0 [.Ident c!"a", .DotDot, .Ident c!"b", .DotDot, .Ident c!"c"]) =
    .ok (rng (rng a b) c) [] := by rfl

-- nested: `d * (a - (b - c))[a + b]` — two pairs; the index expression `a + b` needs none
private def nested : Expr := bin .Mul d (idx (bin .Sub a (bin .Sub b c)) (bin .Sum a b))
example : prE 1 nested =
    [.Ident c!"d", .Mul, .ParenOpen, .Ident c!"a", .Sub, .ParenOpen, .Ident c!"b", .Sub, .Ident c!"c", .ParenClose,
      .ParenClose, .BracketOpen, .Ident c!"a", .Sum, .Ident c!"b", .BracketClose] := by decide +kernel
-- the inner pair, two levels down: context `d * (a - □)[a + b]`
private def innerCtx : Ctx :=
  .binR .Mul (0, 0) d (.index (.binR .Sub (0, 0) a .hole (0, 0)) (bin .Sum a b) (0, 0)) (0, 0)
example : innerCtx.fill (bin .Sub b c) = nested := rfl
example : needsParen (innerCtx.lvl 1) (bin .Sub b c) = true := by decide +kernel
example (ts : List Span)
    (hts : ts.map Span.tok = [.Ident c!"d", .Mul, .ParenOpen, .Ident c!"a", .Sub, .Ident c!"b", .Sub, .Ident c!"c",
      .ParenClose, .BracketOpen, .Ident c!"a", .Sum, .Ident c!"b", .BracketClose])
    (fuel : Nat) (sf : Bool) (e' : Expr) (rest : List Span) (h : parseExpr fuel sf ts = .ok e' rest) :
    stripE e' ≠ stripE nested :=
  (ctx_paren_necessary innerCtx (bin .Sub b c) (by decide +kernel)).2 ts (by rw [hts]; decide +kernel) fuel sf e' rest h
-- the outer pair (the operand of the index): context `d * □[a + b]`; without it `d * a - (b - c)[a + b]`
private def outerCtx : Ctx := .binR .Mul (0, 0) d (.index .hole (bin .Sum a b) (0, 0)) (0, 0)
example : outerCtx.fill (bin .Sub a (bin .Sub b c)) = nested := rfl
example : needsParen (outerCtx.lvl 1) (bin .Sub a (bin .Sub b c)) = true := by decide +kernel
example : parseExpr 200 false (sp0 [.Ident c!"d", .Mul, .Ident c!"a", .Sub, .ParenOpen, .Ident c!"b", .Sub,
      .Ident c!"c", .ParenClose, .BracketOpen, .Ident c!"a", .Sum, .Ident c!"b", .BracketClose]) =
    .ok (bin .Sub (bin .Mul d a) (idx (bin .Sub b c) (bin .Sum a b))) [] := by rfl

-- where no pair is printed: `a - b * c`, `(a - b) - c` is printed `a - b - c`
example : needsParen ((Ctx.binR .Sub (0, 0) a .hole (0, 0)).lvl 1) (bin .Mul b c) = false := by decide +kernel
example : needsParen ((Ctx.binL .Sub (0, 0) .hole c (0, 0)).lvl 1) (bin .Sub a b) = false := by decide +kernel

-- on tokens, anywhere in the grammar: the pair in a list item inside a function body, `fn() { return [(a + b) * c]; }`
private def fnE : Expr :=
  .mk (.Func [] false [.Return (0, 0) (.mk (.List [.mk (bin .Mul (bin .Sum a b) c) false] false) (0, 0))]) (0, 0)
example : prE 1 fnE =
    [.Fn, .ParenOpen, .ParenClose, .BraceOpen, .Return, .BracketOpen] ++ Token.ParenOpen ::
      ([.Ident c!"a", .Sum, .Ident c!"b"] ++ Token.ParenClose ::
        [.Mul, .Ident c!"c", .BracketClose, .StmtEnd, .BraceClose]) := by decide +kernel
example (ts : List Span)
    (hts : ts.map Span.tok = [.Fn, .ParenOpen, .ParenClose, .BraceOpen, .Return, .BracketOpen] ++
      ([.Ident c!"a", .Sum, .Ident c!"b"] ++ [.Mul, .Ident c!"c", .BracketClose, .StmtEnd, .BraceClose]))
    (fuel : Nat) (sf : Bool) (e' : Expr) (rest : List Span) (h : parseExpr fuel sf ts = .ok e' rest) :
    stripE e' ≠ stripE fnE :=
  printed_paren_necessary fnE _ _ _ (by decide +kernel) ts hts fuel sf e' rest h

-- a deleted pair may also leave something that is not an expression at all: `(a + b)(c)` without the call's
-- parentheses stops after `a + b`
example : parseExpr 100 false (sp0 [.ParenOpen, .Ident c!"a", .Sum, .Ident c!"b", .ParenClose, .Ident c!"c"]) =
    .ok (bin .Sum a b) (sp0 [.Ident c!"c"]) := by rfl

-- programs: `x = (a + b) * c;`
private def prog : List Stmt := [.Assign (v c!"x") (bin .Mul (bin .Sum a b) c)]
example : wfStmts true prog = true := by decide +kernel
example (ts : List Span)
    (hts : ts.map Span.tok = [.Ident c!"x", .Equals] ++ ([.Ident c!"a", .Sum, .Ident c!"b"] ++
      [.Mul, .Ident c!"c", .StmtEnd]))
    (fuel : Nat) (cl : Bool) (p' : List Stmt) (rest : List Span) (h : parseStmts fuel cl [] ts = .ok p' rest) :
    stripStmts p' ≠ stripStmts prog :=
  printed_paren_necessary_prog prog _ _ _ (by decide +kernel) ts hts fuel cl p' rest h

-- … and through the front end: the text `x = a + b * c;` spells the printed tokens minus the pair; it is accepted,
-- as another program
example : (lexAll c!"x = a + b * c;").1.map Span.tok =
    [.Ident c!"x", .Equals] ++ ([.Ident c!"a", .Sum, .Ident c!"b"] ++ [.Mul, .Ident c!"c", .StmtEnd]) := by
  decide +kernel
example (p' : List Stmt) (h : parseProg c!"x = a + b * c;" = .ok p') : stripStmts p' ≠ stripStmts prog :=
  printed_paren_necessary_parseProg prog [.Ident c!"x", .Equals] [.Ident c!"a", .Sum, .Ident c!"b"]
    [.Mul, .Ident c!"c", .StmtEnd] (by decide +kernel) c!"x = a + b * c;" (by decide +kernel) p' h
example : (match parseProg c!"x = a + b * c;" with
    | .ok p' => decide (prStmts p' = prStmts [.Assign (v c!"x") (bin .Sum a (bin .Mul b c))])
    | _ => false) = true := by decide +kernel

end Seed.C08N
