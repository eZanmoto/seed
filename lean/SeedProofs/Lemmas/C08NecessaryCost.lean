/-
  C08NecessaryCost.lean — counting opening parentheses.

  `pw t` is 1 for the token `(` and 0 for every other token; `wt` / `ws` sum it over a token list / a list of
  spans.  This file computes the number of `(` in what the whole-grammar printer `prR / prE / prStmt / prStmts`
  (Lemmas/ParseRT2Defs.lean) emits, constructor by constructor (`cR_…`, `cStmt_…`), and the three facts about
  the level argument of the printer that the parser proof (C08NecessaryInv.lean) needs:

    cR_mono     k ≤ j → cR k r ≤ cR j r          a tighter slot never needs fewer parentheses
    cR_le_one   cR k r ≤ 1 + cR 1 r              a slot costs at most the one pair around the sub-expression
    cR_high     5 ≤ k → cR k r = cR 5 r          nothing is tighter than the postfix level
-/
import SeedProofs.Lemmas.ParseRT2Image
namespace Seed.C08N
open Seed

def pw : Token → Nat
  | .ParenOpen => 1
  | _ => 0

def wt : List Token → Nat
  | [] => 0
  | t :: ts => pw t + wt ts

def ws : List Span → Nat
  | [] => 0
  | sp :: ts => pw sp.tok + ws ts

theorem pw_ParenOpen : pw .ParenOpen = 1 := rfl

theorem wt_nil : wt [] = 0 := rfl
theorem wt_cons (t : Token) (ts : List Token) : wt (t :: ts) = pw t + wt ts := rfl
theorem ws_nil : ws [] = 0 := rfl
theorem ws_cons (sp : Span) (ts : List Span) : ws (sp :: ts) = pw sp.tok + ws ts := rfl

theorem ws_cons_open {sp : Span} (h : sp.tok = .ParenOpen) (ts : List Span) : ws (sp :: ts) = 1 + ws ts := by
  rw [ws_cons, h]; rfl

theorem wt_append (a b : List Token) : wt (a ++ b) = wt a + wt b := by
  induction a with
  | nil => simp only [List.nil_append, wt, Nat.zero_add]
  | cons t a ih => simp only [List.cons_append, wt, ih, Nat.add_assoc]

theorem ws_append (a b : List Span) : ws (a ++ b) = ws a + ws b := by
  induction a with
  | nil => simp only [List.nil_append, ws, Nat.zero_add]
  | cons t a ih => simp only [List.cons_append, ws, ih, Nat.add_assoc]

theorem ws_map_tok (ts : List Span) : wt (ts.map Span.tok) = ws ts := by
  induction ts with
  | nil => rfl
  | cons sp ts ih => simp only [List.map_cons, wt, ws, ih]

theorem wt_paren (b : Bool) (ts : List Token) : wt (paren b ts) = (if b then 1 else 0) + wt ts := by
  cases b <;> simp [paren, wt, wt_append, pw]

/-- sum of `f` over a list (own definition: reversal and append lemmas below) -/
def sumW {α} (f : α → Nat) : List α → Nat
  | [] => 0
  | a :: l => f a + sumW f l

theorem sumW_nil {α} (f : α → Nat) : sumW f [] = 0 := rfl
theorem sumW_cons {α} (f : α → Nat) (a : α) (l : List α) : sumW f (a :: l) = f a + sumW f l := rfl

theorem sumW_append {α} (f : α → Nat) (a b : List α) : sumW f (a ++ b) = sumW f a + sumW f b := by
  induction a with
  | nil => simp only [List.nil_append, sumW, Nat.zero_add]
  | cons t a ih => simp only [List.cons_append, sumW, ih, Nat.add_assoc]

theorem sumW_reverse {α} (f : α → Nat) (l : List α) : sumW f l.reverse = sumW f l := by
  induction l with
  | nil => rfl
  | cons a l ih => simp only [List.reverse_cons, sumW_append, sumW, ih]; omega

theorem sumW_map {α β} (f : β → Nat) (g : α → β) (l : List α) : sumW f (l.map g) = sumW (fun a => f (g a)) l := by
  induction l with
  | nil => rfl
  | cons a l ih => simp only [List.map_cons, sumW, ih]

theorem wt_sepBody (close : Token) (c : Bool) (L : List (List Token)) :
    wt (sepBody close c L) = pw close + sumW wt L := by
  induction L with
  | nil => simp [sepBody, wt, sumW]
  | cons t rest ih =>
    cases rest with
    | nil => cases c <;> simp [sepBody, wt, wt_append, sumW, pw] <;> omega
    | cons u rest =>
      simp only [sepBody] at ih ⊢
      simp only [wt_append, wt_cons, ih, sumW, pw]
      omega

theorem wt_spreadMark (s : Bool) : wt (spreadMark s) = 0 := by
  cases s <;> rfl

def optW : Option (List Token) → Nat
  | none => 0
  | some e => wt e

theorem wt_ifTail (bs : List (List Token)) (els : Option (List Token)) :
    wt (ifTail bs els) = sumW wt bs + optW els := by
  induction bs with
  | nil => cases els <;> simp [ifTail, wt, sumW, optW, pw]
  | cons b rest ih =>
    cases rest with
    | nil => cases els <;> simp [ifTail, wt, wt_append, sumW, optW, pw]
    | cons b2 rest =>
      simp only [ifTail] at ih ⊢
      simp only [wt_append, wt_cons, ih, sumW, pw]
      omega

theorem wt_ifBody (bs : List (List Token)) (els : Option (List Token)) :
    wt (ifBody bs els) = sumW wt bs + optW els := by
  simp only [ifBody, wt_cons, wt_ifTail, pw, Nat.zero_add]

theorem pw_tokOf (op : BinaryOp) : pw (tokOf op) = 0 := by
  cases op <;> rfl

theorem pw_assignTok (op : BinaryOp) : pw ((assignTokOf op).getD Token.Equals) = 0 := by
  cases op <;> rfl

theorem tierOf_ge (op : BinaryOp) : 2 ≤ tierOf op := by
  cases op <;> decide

theorem tierOf_lt (op : BinaryOp) : tierOf op < 5 := by
  cases op <;> decide

theorem tierOf_of_opAt {k : Nat} {t : Token} {op : BinaryOp} (h : opAt k t = some op) : tierOf op = k := by
  unfold opAt at h
  split at h
  · rename_i op' k' hl
    split at h
    · rename_i hk
      cases h; subst hk
      exact (by decide : ∀ x ∈ Gen.binOps, tierOf x.2.1 = x.2.2) _ (lookupAssoc_mem hl)
    · cases h
  · cases h

/-- `(` in `prR k r`: `r` printed in a slot of level `k` -/
def cR (k : Nat) (r : RawExpr) : Nat := wt (prR k r)
def cE (k : Nat) (e : Expr) : Nat := wt (prE k e)
def cO (o : Option Expr) : Nat := wt (prO o)
def cItem (i : ListItem) : Nat := wt (prItem i)
def cProp (p : PropItem) : Nat := wt (prProp p)
def cStmt (s : Stmt) : Nat := wt (prStmt s)
def cB (b : Branch) : Nat := wt (prB b)
def cItems (l : List ListItem) : Nat := sumW cItem l
def cProps (l : List PropItem) : Nat := sumW cProp l
def cEs (l : List Expr) : Nat := sumW (cE 1) l
def cStmts (l : List Stmt) : Nat := sumW cStmt l
def cBs (l : List Branch) : Nat := sumW cB l
def cOS : Option (List Stmt) → Nat
  | none => 0
  | some l => cStmts l
/-- an atom handed over to the expression parser has been paid for -/
def cPre : Option RawExpr → Nat
  | none => 0
  | some a => cR 5 a

theorem cE_mk (k : Nat) (r : RawExpr) (p : Loc) : cE k (.mk r p) = cR k r := by
  simp only [cE, cR, prE]

theorem cO_none : cO none = 0 := by simp only [cO, prO, wt]
theorem cO_some (e : Expr) : cO (some e) = cE 1 e := by simp only [cO, prO, cE]

theorem cPre_none : cPre none = 0 := rfl
theorem cPre_some (a : RawExpr) : cPre (some a) = cR 5 a := rfl
theorem cOS_none : cOS none = 0 := rfl
theorem cOS_some (l : List Stmt) : cOS (some l) = cStmts l := rfl

theorem cItem_mk (e : Expr) (s : Bool) : cItem (.mk e s) = cE 1 e := by
  simp only [cItem, prItem, wt_append, wt_spreadMark, cE, Nat.add_zero]

theorem cProp_pair (k v : Expr) : cProp (.Pair k v) = cE 1 k + cE 1 v := by
  simp only [cProp, prProp, wt_append, wt_cons, cE, pw, Nat.zero_add]

theorem cProp_single (e : Expr) (s c : Bool) : cProp (.Single e s c) = cE 1 e := by
  simp only [cProp, prProp, wt_append, wt_spreadMark, cE, Nat.add_zero, Nat.zero_add]

theorem cItems_nil : cItems [] = 0 := rfl
theorem cItems_cons (e : Expr) (s : Bool) (l : List ListItem) : cItems (.mk e s :: l) = cE 1 e + cItems l := by
  simp only [cItems, sumW, cItem_mk]
theorem cItems_reverse (l : List ListItem) : cItems l.reverse = cItems l := sumW_reverse _ _

theorem cProps_nil : cProps [] = 0 := rfl
theorem cProps_pair (k v : Expr) (l : List PropItem) : cProps (.Pair k v :: l) = cE 1 k + cE 1 v + cProps l := by
  simp only [cProps, sumW, cProp_pair]
theorem cProps_single (e : Expr) (s c : Bool) (l : List PropItem) :
    cProps (.Single e s c :: l) = cE 1 e + cProps l := by
  simp only [cProps, sumW, cProp_single]
theorem cProps_reverse (l : List PropItem) : cProps l.reverse = cProps l := sumW_reverse _ _

theorem cEs_nil : cEs [] = 0 := rfl
theorem cEs_cons (e : Expr) (l : List Expr) : cEs (e :: l) = cE 1 e + cEs l := rfl
theorem cEs_reverse (l : List Expr) : cEs l.reverse = cEs l := sumW_reverse _ _

theorem cStmts_nil : cStmts [] = 0 := rfl
theorem cStmts_cons (s : Stmt) (l : List Stmt) : cStmts (s :: l) = cStmt s + cStmts l := rfl
theorem cStmts_reverse (l : List Stmt) : cStmts l.reverse = cStmts l := sumW_reverse _ _

theorem cBs_nil : cBs [] = 0 := rfl
theorem cBs_cons (b : Branch) (l : List Branch) : cBs (b :: l) = cB b + cBs l := rfl

theorem wt_prItems (l : List ListItem) : sumW wt (prItems l) = cItems l := by
  rw [prItems_map, sumW_map]; rfl

theorem wt_prProps (l : List PropItem) : sumW wt (prProps l) = cProps l := by
  rw [prProps_map, sumW_map]; rfl

theorem wt_prEs (l : List Expr) : sumW wt (prEs l) = cEs l := by
  rw [prEs_map, sumW_map]; rfl

theorem wt_prBs (l : List Branch) : sumW wt (prBs l) = cBs l := by
  rw [prBs_map, sumW_map]; rfl

theorem wt_prStmts (l : List Stmt) : wt (prStmts l) = cStmts l := by
  induction l with
  | nil => simp only [prStmts, wt, cStmts, sumW]
  | cons s l ih => simp only [prStmts, wt_append, wt_cons, ih, cStmts, sumW, cStmt, pw, Nat.zero_add]

theorem cR_null (k : Nat) : cR k .Null = 0 := by simp [cR, prR, wt, pw]
theorem cR_bool (k : Nat) (b : Bool) : cR k (.Bool b) = 0 := by cases b <;> simp [cR, prR, wt, pw]
theorem cR_int (k : Nat) (z : Int) : cR k (.Int z) = 0 := by cases z <;> simp [cR, prR, wt, pw]
theorem cR_str (k : Nat) (s : List Char) (o : Option (List (Nat × Nat))) : cR k (.Str s o) = 0 := by
  cases o <;> simp [cR, prR, wt, pw]
theorem cR_var (k : Nat) (x : List Char) : cR k (.Var x) = 0 := by simp [cR, prR, wt, pw]

/-- a binary operation: one pair iff its tier is looser than the slot, plus the two operands in their slots -/
theorem cR_bin (k : Nat) (op : BinaryOp) (p : Loc) (l r : Expr) :
    cR k (.BinaryOp op p l r) =
      (if tierOf op < k then 1 else 0) + (cE (tierOf op) l + cE (tierOf op + 1) r) := by
  simp only [cR, prR, wt_paren, wt_append, wt_cons, pw_tokOf, cE, Nat.zero_add, decide_eq_true_eq]

theorem cR_range (k : Nat) (l r : Expr) :
    cR k (.Range l r) = (if 1 < k then 1 else 0) + (cE 1 l + cE Gen.firstTier r) := by
  simp only [cR, prR, wt_paren, wt_append, wt_cons, cE, pw, Nat.zero_add, decide_eq_true_eq]

theorem cR_list (k : Nat) (items : List ListItem) (c : Bool) : cR k (.List items c) = cItems items := by
  simp only [cR, prR, wt_cons, wt_sepBody, wt_prItems, pw, Nat.zero_add]

theorem cR_index (k : Nat) (e i : Expr) : cR k (.Index e i) = cE 5 e + cE 1 i := by
  simp only [cR, prR, wt_append, wt_cons, wt_nil, cE, pw, Nat.zero_add, Nat.add_zero]

theorem cR_rangeIndex (k : Nat) (e : Expr) (a b : Option Expr) :
    cR k (.RangeIndex e a b) = cE 5 e + (cO a + cO b) := by
  simp only [cR, prR, wt_append, wt_cons, wt_nil, cE, cO, pw, Nat.zero_add, Nat.add_zero]

theorem cR_prop (k : Nat) (e : Expr) (name : List Char) (tp : Bool) : cR k (.Prop e name tp) = cE 5 e := by
  cases tp <;> simp [cR, prR, wt_append, wt, cE, pw]

theorem cR_call (k : Nat) (f : Expr) (args : List ListItem) : cR k (.Call f args) = cE 5 f + (1 + cItems args) := by
  simp only [cR, prR, wt_append, wt_cons, wt_sepBody, wt_prItems, cE, pw, Nat.zero_add]

theorem cR_object (k : Nat) (props : List PropItem) : cR k (.Object props) = cProps props := by
  simp only [cR, prR, wt_cons, wt_sepBody, wt_prProps, pw, Nat.zero_add]

theorem cR_func (k : Nat) (args : List Expr) (c : Bool) (stmts : List Stmt) :
    cR k (.Func args c stmts) = 1 + (cEs args + cStmts stmts) := by
  simp only [cR, prR, wt_append, wt_cons, wt_nil, wt_sepBody, wt_prEs, wt_prStmts, pw, Nat.zero_add, Nat.add_zero]

theorem cR_bin_own (op : BinaryOp) (p : Loc) (l r : Expr) :
    cR (tierOf op) (.BinaryOp op p l r) = cE (tierOf op) l + cE (tierOf op + 1) r := by
  rw [cR_bin, if_neg (Nat.lt_irrefl _), Nat.zero_add]

theorem cR_range_one (l r : Expr) : cR 1 (.Range l r) = cE 1 l + cE Gen.firstTier r := by
  rw [cR_range, if_neg (Nat.lt_irrefl _), Nat.zero_add]

theorem cR_mono {k j : Nat} (h : k ≤ j) (r : RawExpr) : cR k r ≤ cR j r := by
  cases r <;> simp only [cR_null, cR_bool, cR_int, cR_str, cR_var, cR_bin, cR_range, cR_list, cR_index,
    cR_rangeIndex, cR_prop, cR_call, cR_object, cR_func, Nat.le_refl]
  · split <;> split <;> omega
  · split <;> split <;> omega

theorem cR_le_one (k : Nat) (r : RawExpr) : cR k r ≤ 1 + cR 1 r := by
  cases r <;> simp only [cR_null, cR_bool, cR_int, cR_str, cR_var, cR_bin, cR_range, cR_list, cR_index,
    cR_rangeIndex, cR_prop, cR_call, cR_object, cR_func]
  all_goals first | omega | (split <;> split <;> omega)

theorem cR_high {k : Nat} (h : 5 ≤ k) (r : RawExpr) : cR k r = cR 5 r := by
  cases r <;> simp only [cR_null, cR_bool, cR_int, cR_str, cR_var, cR_bin, cR_range, cR_list, cR_index,
    cR_rangeIndex, cR_prop, cR_call, cR_object, cR_func]
  · rename_i op _ _ _
    have := tierOf_lt op
    rw [if_pos (by omega), if_pos (by omega)]
  · rw [if_pos (by omega), if_pos (by omega)]

theorem cStmt_block (b : List Stmt) : cStmt (.Block b) = cStmts b := by
  simp only [cStmt, prStmt, wt_append, wt_cons, wt_nil, wt_prStmts, pw, Nat.zero_add, Nat.add_zero]
theorem cStmt_expr (e : Expr) : cStmt (.Expr e) = cE 1 e := by simp only [cStmt, prStmt, cE]
theorem cStmt_declare (l r : Expr) : cStmt (.Declare l r) = cE 1 l + cE 1 r := by
  simp only [cStmt, prStmt, wt_append, wt_cons, cE, pw, Nat.zero_add]
theorem cStmt_assign (l r : Expr) : cStmt (.Assign l r) = cE 1 l + cE 1 r := by
  simp only [cStmt, prStmt, wt_append, wt_cons, cE, pw, Nat.zero_add]
theorem cStmt_opAssign (l : Expr) (op : BinaryOp) (p : Loc) (r : Expr) :
    cStmt (.OpAssign l op p r) = cE 1 l + cE 1 r := by
  simp only [cStmt, prStmt, wt_append, wt_cons, cE, pw_assignTok, Nat.zero_add]
theorem cStmt_if (bs : List Branch) (els : Option (List Stmt)) : cStmt (.If bs els) = cBs bs + cOS els := by
  cases els <;>
    simp only [cStmt, prStmt, wt_ifBody, wt_prBs, optW, cOS, wt_append, wt_cons, wt_nil, wt_prStmts, pw, Nat.zero_add,
      Nat.add_zero]
theorem cStmt_while (c : Expr) (s : List Stmt) : cStmt (.While c s) = cE 1 c + cStmts s := by
  simp only [cStmt, prStmt, wt_append, wt_cons, wt_nil, wt_prStmts, cE, pw, Nat.zero_add, Nat.add_zero]
theorem cStmt_for (l i : Expr) (s : List Stmt) : cStmt (.For l i s) = cE 1 l + (cE 1 i + cStmts s) := by
  simp only [cStmt, prStmt, wt_append, wt_cons, wt_nil, wt_prStmts, cE, pw, Nat.zero_add, Nat.add_zero]
theorem cStmt_break (p : Loc) : cStmt (.Break p) = 0 := by simp [cStmt, prStmt, wt, pw]
theorem cStmt_continue (p : Loc) : cStmt (.Continue p) = 0 := by simp [cStmt, prStmt, wt, pw]
theorem cStmt_func (n : List Char) (p : Loc) (args : List Expr) (c : Bool) (s : List Stmt) :
    cStmt (.Func n p args c s) = 1 + (cEs args + cStmts s) := by
  simp only [cStmt, prStmt, wt_append, wt_cons, wt_nil, wt_sepBody, wt_prEs, wt_prStmts, pw, Nat.zero_add, Nat.add_zero]
theorem cStmt_return (p : Loc) (e : Expr) : cStmt (.Return p e) = cE 1 e := by
  simp only [cStmt, prStmt, wt_cons, cE, pw, Nat.zero_add]
theorem cB_mk (c : Expr) (s : List Stmt) : cB (.mk c s) = cE 1 c + cStmts s := by
  simp only [cB, prB, prBlock, wt_append, wt_cons, wt_nil, wt_prStmts, cE, pw, Nat.zero_add, Nat.add_zero]

end Seed.C08N
