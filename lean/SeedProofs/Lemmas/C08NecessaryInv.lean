/-
  C08NecessaryInv.lean — the parser never returns a tree whose printed form has more opening parentheses than
  the tokens it consumed.

  One induction on the fuel over all 22 functions of the mutual block of SeedModel/Parse.lean (`PCAll`), with the
  post-condition calculus `SatR` (the post-condition sees the result and the remaining tokens):

      f n … ts = .ok a rest   →   cost a + ws rest ≤ (cost of what was already accumulated) + ws ts

  where `ws` counts the `(` tokens and `cost` is the number of `(` in the printed form (C08NecessaryCost.lean).
-/
import SeedProofs.Lemmas.C08NecessaryCost
namespace Seed.C08N
open Seed

def SatR {α} (P : α → List Span → Prop) : PRes α → Prop
  | .ok a r => P a r
  | _ => True

namespace SatR
theorem ok {α} {P : α → List Span → Prop} {a : α} {r : List Span} (h : P a r) : SatR P (.ok a r) := h
theorem err {α} {P : α → List Span → Prop} {e : PErr} : SatR P (.err e : PRes α) := True.intro
theorem timeout {α} {P : α → List Span → Prop} : SatR P (.timeout : PRes α) := True.intro

theorem bind {α β} {P : α → List Span → Prop} {Q : β → List Span → Prop} {r : PRes α}
    {f : α → List Span → PRes β} (h : SatR P r) (hf : ∀ a ts, P a ts → SatR Q (f a ts)) : SatR Q (r.bind f) := by
  cases r with
  | ok a rest => exact hf a rest h
  | err e => exact True.intro
  | timeout => exact True.intro

theorem map {α β} {Q : β → List Span → Prop} {r : PRes α} {f : α → β} (h : SatR (fun a ts => Q (f a) ts) r) :
    SatR Q (r.map f) := by
  cases r with
  | ok a rest => exact h
  | err e => exact True.intro
  | timeout => exact True.intro

theorem mono {α} {P Q : α → List Span → Prop} {r : PRes α} (h : SatR P r) (hpq : ∀ a ts, P a ts → Q a ts) :
    SatR Q r := by
  cases r with
  | ok a rest => exact hpq a rest h
  | err e => exact True.intro
  | timeout => exact True.intro

theorem elim {α} {P : α → List Span → Prop} {r : PRes α} {a : α} {rest : List Span} (h : SatR P r)
    (hr : r = .ok a rest) : P a rest := by
  subst hr; exact h
end SatR

theorem expectTok_satR (t : Token) (ts : List Span) : SatR (fun _ r => pw t + ws r ≤ ws ts) (expectTok t ts) :=
  expectTok_cases t ts (fun _ => True.intro) fun sp r h ht => by
    subst h ht; exact Nat.le_refl _

theorem expectIdent_satR (ts : List Span) : SatR (fun _ r => ws r ≤ ws ts) (expectIdent ts) :=
  expectIdent_cases ts (fun _ => True.intro) fun sp r _ h _ => by
    subst h; exact Nat.le_add_left _ _

structure PCAll (n : Nat) : Prop where
  parseAtom : ∀ pre ts, SatR (fun a r => cR 5 a + ws r ≤ cPre pre + ws ts) (parseAtom n pre ts)
  parsePostfix : ∀ l pre ts, SatR (fun a r => cR 5 a + ws r ≤ cPre pre + ws ts) (parsePostfix n l pre ts)
  postfixLoop : ∀ l acc ts, SatR (fun a r => cR 5 a + ws r ≤ cR 5 acc + ws ts) (postfixLoop n l acc ts)
  parseIndexTail : ∀ e ts, SatR (fun a r => cR 5 a + ws r ≤ cE 5 e + ws ts) (parseIndexTail n e ts)
  parseRangeEnd : ∀ e s ts, SatR (fun a r => cR 5 a + ws r ≤ cE 5 e + cO s + ws ts) (parseRangeEnd n e s ts)
  parseTier : ∀ k l pre ts, SatR (fun a r => cR k a + ws r ≤ cPre pre + ws ts) (parseTier n k l pre ts)
  tierLoop : ∀ k l acc ts, SatR (fun a r => cR k a + ws r ≤ cR k acc + ws ts) (tierLoop n k l acc ts)
  parseExpr1 : ∀ s l pre ts, SatR (fun a r => cR 1 a + ws r ≤ cPre pre + ws ts) (parseExpr1 n s l pre ts)
  rangeLoop : ∀ s l acc ts, SatR (fun a r => cR 1 a + ws r ≤ cR 1 acc + ws ts) (rangeLoop n s l acc ts)
  parseExpr : ∀ s ts, SatR (fun e r => cE 1 e + ws r ≤ ws ts) (parseExpr n s ts)
  parseArgs : ∀ acc ts, SatR (fun l r => cItems l + ws r ≤ cItems acc + ws ts) (parseArgs n acc ts)
  parseExprList : ∀ acc ts, SatR (fun p r => cItems p.1 + ws r ≤ cItems acc + ws ts) (parseExprList n acc ts)
  parseParams : ∀ acc ts, SatR (fun p r => cEs p.1 + ws r ≤ cEs acc + ws ts) (parseParams n acc ts)
  parsePropItems : ∀ acc ts, SatR (fun l r => cProps l + ws r ≤ cProps acc + ws ts) (parsePropItems n acc ts)
  parsePropTail : ∀ acc ts, SatR (fun l r => cProps l + ws r ≤ cProps acc + ws ts) (parsePropTail n acc ts)
  parseBlock : ∀ ts, SatR (fun l r => cStmts l + ws r ≤ ws ts) (parseBlock n ts)
  parseStmts : ∀ c acc ts, SatR (fun l r => cStmts l + ws r ≤ cStmts acc + ws ts) (parseStmts n c acc ts)
  parseIf : ∀ ts, SatR (fun p r => cBs p.1 + cOS p.2 + ws r ≤ ws ts) (parseIf n ts)
  parseStmtTail : ∀ lhs ts, SatR (fun s r => cStmt s + ws r ≤ cE 1 lhs + ws ts) (parseStmtTail n lhs ts)
  parseExprStmt : ∀ amb l pre ts, SatR (fun s r => cStmt s + ws r ≤ cPre pre + ws ts) (parseExprStmt n amb l pre ts)
  parseRawStmt : ∀ amb ts, SatR (fun s r => cStmt s + ws r ≤ ws ts) (parseRawStmt n amb ts)
  parseBraceStmt : ∀ amb l ts, SatR (fun s r => cStmt s + ws r ≤ ws ts) (parseBraceStmt n amb l ts)

/-- the post-condition of a sub-call, by the induction hypothesis -/
macro "pc_call " ih:ident : tactic =>
  `(tactic| with_reducible first | exact expectTok_satR _ _ | exact expectIdent_satR _ | parser_call $ih)

theorem pcAll_zero : PCAll 0 := by
  constructor <;> intros <;> exact True.intro

theorem pcAll_succ (n : Nat) (ih : PCAll n) : PCAll (n + 1) := by
  constructor <;> intros
  case' parseAtom => unfold parseAtom
  case' parsePostfix => unfold parsePostfix
  case' postfixLoop => unfold postfixLoop
  case' parseIndexTail => unfold parseIndexTail
  case' parseRangeEnd => unfold parseRangeEnd
  case' parseTier => unfold parseTier
  case' tierLoop => unfold tierLoop
  case' parseExpr1 => unfold parseExpr1
  case' rangeLoop => unfold rangeLoop
  case' parseExpr => unfold parseExpr
  case' parseArgs => unfold parseArgs
  case' parseExprList => unfold parseExprList
  case' parseParams => unfold parseParams
  case' parsePropItems => unfold parsePropItems
  case' parsePropTail => unfold parsePropTail
  case' parseBlock => unfold parseBlock
  case' parseStmts => unfold parseStmts
  case' parseIf => unfold parseIf
  case' parseStmtTail => unfold parseStmtTail
  case' parseExprStmt => unfold parseExprStmt
  case' parseRawStmt => unfold parseRawStmt
  case' parseBraceStmt => unfold parseBraceStmt
  -- three functions pass their result to a slot of another level (`cR k` against `cR (k + 1)`, `cE`): that needs
  -- `cR_high` / `cR_mono`, which the walk below does not know
  case parseTier k l pre ts =>
    split
    · rename_i hk
      refine SatR.mono (ih.parsePostfix l pre ts) ?_
      intro a r h
      rw [cR_high (by simpa [Gen.postfixTier] using hk)]
      exact h
    · refine SatR.bind (ih.parseTier (k + 1) l pre ts) ?_
      intro a r h
      refine SatR.mono (ih.tierLoop k l a r) ?_
      intro b r' h'
      have := cR_mono (Nat.le_add_right k 1) a
      omega
  case parseExpr1 s l pre ts =>
    refine SatR.bind (ih.parseTier Gen.firstTier l pre ts) ?_
    intro a r h
    refine SatR.mono (ih.rangeLoop s l a r) ?_
    intro b r' h'
    have := cR_mono (show 1 ≤ Gen.firstTier by decide) a
    omega
  case parseExpr s ts =>
    refine SatR.map (SatR.mono (ih.parseExpr1 s (headLoc ts) none ts) ?_)
    intro a r h
    simpa only [cE_mk, cPre_none, Nat.zero_add] using h
  -- a leaf is linear arithmetic once the cost of every constructor and the weight of every token list in sight
  -- have been written as sums over the parts
  all_goals repeat' first
    | ((with_reducible apply SatR.bind); pc_call ih)
    | intro _ _ _
    | ((with_reducible apply iteInduction) <;> intro _)
    | split
    | (with_reducible exact SatR.err)
    | (with_reducible apply SatR.ok)
    | ((with_reducible apply SatR.mono); pc_call ih)
    | ((try simp only [ws_cons, ws_nil, pw_ParenOpen, cE_mk, cO_none, cO_some, cPre_none, cPre_some, cOS_none,
        cOS_some, cItems_nil, cItems_cons, cItems_reverse, cProps_nil, cProps_pair, cProps_single, cProps_reverse,
        cEs_nil, cEs_cons, cEs_reverse, cStmts_nil, cStmts_cons, cStmts_reverse, cBs_nil, cBs_cons, cB_mk,
        cR_null, cR_bool, cR_int, cR_str, cR_var, cR_list, cR_index, cR_rangeIndex, cR_prop, cR_call, cR_object,
        cR_func, cR_range_one, cStmt_block, cStmt_expr, cStmt_declare, cStmt_assign, cStmt_opAssign, cStmt_if,
        cStmt_while, cStmt_for, cStmt_break, cStmt_continue, cStmt_func, cStmt_return] at *); omega)
  -- three leaves need one more fact each.
  -- tierLoop: the operator found at tier `k` has tier `k`, so the new node is printed bare in the loop's slot
  · have hk := tierOf_of_opAt ‹opAt _ _ = some _›
    subst hk
    simp only [ws_cons, cR_bin_own, cE_mk, cPre_none] at *
    omega
  -- postfixLoop, a call: the `(` just read is the one printed
  · simp only [ws_cons_open ‹_›, cR_call, cE_mk, cItems_nil] at *
    omega
  -- parseAtom, `( e )`: the pair pays for the one the printer may need around `e` in a tighter slot
  · have := cR_le_one 5 ‹RawExpr›
    simp only [ws_cons_open ‹_›, cPre_none] at *
    omega

theorem pcAll (n : Nat) : PCAll n := by
  induction n with
  | zero => exact pcAll_zero
  | succ n ih => exact pcAll_succ n ih

end Seed.C08N
