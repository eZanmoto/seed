/-
  Words and numbers: a token that begins with a letter, a digit or `_` begins right at
  the scanner; the token of a run of digits and `_` (starting with a digit, followed by something that is
  neither) is the value of its digits; `_` separators do not matter.
-/
import SeedModel.Lex
import SeedProofs.Lemmas.Scan
import SeedProofs.Lemmas.C09Pos
import SeedProofs.Lemmas.C09Layout
import SeedProofs.Lemmas.C09Local
namespace Seed.C09
open Seed

theorem not_sep_of_identChar {c : Char} (h : isIdentChar c = true) : ¬ isSep c := fun hs => by
  rw [isIdentChar_sep hs] at h; cases h

theorem nextToken_start {ch : Char} (h : ¬ isSep ch) (r : List Char) (l c : Nat) :
    kind (nextToken ⟨ch :: r, l, c⟩) = tokK ch r :=
  kind_nextToken (s := ⟨ch :: r, l, c⟩) (by
    simp only [Scanner.skipWs]
    rw [skipWs_stop (fun hb => h (Or.inl hb)) (fun hh => h (Or.inr (Or.inl hh)))])

theorem not_stmtEnd_of_not_sep {c : Char} (h : ¬ isSep c) : ¬ (c = '\n' || c = ';') = true := by
  intro hc
  rcases Bool.or_eq_true_iff.mp hc with hc | hc
  · exact h (Or.inr (Or.inr (Or.inl (of_decide_eq_true hc))))
  · exact h (Or.inr (Or.inr (Or.inr (of_decide_eq_true hc))))

theorem tokBody_word {ch : Char} (h : (isAsciiAlpha ch || ch = '_') = true) (s : Scanner) :
    tokBody ch s = .ok (keywordOrIdent (s.rest.takeWhile isIdentChar),
      s.advance (s.rest.takeWhile isIdentChar).length) := by
  unfold tokBody
  rw [if_neg (not_stmtEnd_of_not_sep (not_sep_of_identChar (isIdentChar_of_start h))), if_pos h]

theorem isIdentChar_of_digit {d : Char} (h : isAsciiDigit d = true) : isIdentChar d = true := by
  simp [isIdentChar, h]

theorem digit_not_start {d : Char} (h : isAsciiDigit d = true) : ¬ (isAsciiAlpha d || d = '_') = true := by
  unfold isAsciiDigit at h
  unfold isAsciiAlpha
  simp only [Bool.and_eq_true, decide_eq_true_eq, Char.reduceToNat] at h
  simp only [Char.reduceToNat, Bool.or_eq_true, Bool.and_eq_true, decide_eq_true_eq, not_or]
  refine ⟨by omega, ?_⟩
  rintro rfl
  exact absurd h.2 (by decide)

theorem tokBody_digit {d : Char} (h : isAsciiDigit d = true) (s : Scanner) : tokBody d s = lexInt s := by
  unfold tokBody
  rw [if_neg (not_stmtEnd_of_not_sep (not_sep_of_identChar (isIdentChar_of_digit h))),
    if_neg (digit_not_start h), if_pos h]

theorem nextToken_int (d : Char) (raw x : List Char) (l c : Nat) (hd : isAsciiDigit d = true)
    (hall : ∀ ch ∈ d :: raw, isIntChar ch = true) (hx : ∀ e, x.head? = some e → isIntChar e = false) :
    kind (nextToken ⟨d :: raw ++ x, l, c⟩) =
      if decimalValue ((d :: raw).filter (fun ch => ch ≠ '_')) ≤ i64Max then
        .tok (Token.IntLiteral (Int.ofNat (decimalValue ((d :: raw).filter (fun ch => ch ≠ '_'))))) x
      else .err (LexError.IntOverflow (0, 0) (d :: raw)) := by
  rw [List.cons_append, nextToken_start (not_sep_of_identChar (isIdentChar_of_digit hd)), tokK,
    tokBody_digit hd, exK_lexInt]
  unfold lexIntK
  have e : (d :: (raw ++ x)).takeWhile isIntChar = d :: raw := takeWhile_of_boundary (a := d :: raw) hall hx
  simp only [e, show (d :: (raw ++ x)).drop (d :: raw).length = x from List.drop_left' rfl]
  by_cases hle : decimalValue ((d :: raw).filter (fun ch => ch ≠ '_')) ≤ i64Max
  · simp only [hle, if_true]
  · simp only [hle, if_false]

theorem filter_digits {ds : List Char} (h : ∀ ch ∈ ds, isAsciiDigit ch = true) :
    ds.filter (fun ch => ch ≠ '_') = ds := by
  apply List.filter_eq_self.mpr
  intro ch hc
  have : ch ≠ '_' := by rintro rfl; exact absurd (h _ hc) (by decide)
  simpa using this

end Seed.C09
