/-
  What `skipWs` removes, and that it does not matter.  `Layout` is the text it removes: blanks (space,
  tab, CR, FF) possibly followed by one `#` comment; a comment stops *before* the newline (or at the end
  of input), and a newline stops `skipWs`, so a `Layout` text never contains a newline and nothing
  follows its comment.  `LexTo` is a position-free "lexing `src` yields the tokens `ts` and leaves `rest`".
-/
import SeedModel.Lex
import SeedProofs.Lemmas.Scan
import SeedProofs.Lemmas.C09Pos
namespace Seed.C09
open Seed

/-- space, tab, carriage return, form feed: the whitespace other than newline -/
def isBlank (c : Char) : Prop := c = ' ' ∨ c = '\t' ∨ c = '\r' ∨ c.toNat = 12

instance (c : Char) : Decidable (isBlank c) := by unfold isBlank; infer_instance

/-- text that `skipWs` removes: blanks, then possibly a comment `#…` without newline, running to the
    end of the text -/
inductive Layout : List Char → Prop
  | nil : Layout []
  | blank {c : Char} {p : List Char} : isBlank c → Layout p → Layout (c :: p)
  | comment {t : List Char} : (∀ c ∈ t, c ≠ '\n') → Layout ('#' :: t)

/-- what may follow a layout text `p`: anything if `p` is only blanks; if `p` ends in a comment, the
    comment must end there: a newline or the end of input follows -/
def CommentClosed (p r : List Char) : Prop := '#' ∈ p → r = [] ∨ r.head? = some '\n'

theorem CommentClosed.nil (r : List Char) : CommentClosed [] r := fun h => by cases h

theorem isBlank_iff (c : Char) : isBlank c ↔ (c ≠ '\n' ∧ isAsciiWs c = true) := by
  unfold isBlank isAsciiWs
  simp only [Bool.or_eq_true, decide_eq_true_eq]
  constructor
  · rintro (h | h | h | h)
    · subst h; decide
    · subst h; decide
    · subst h; decide
    · refine ⟨?_, Or.inl (Or.inr h)⟩
      intro hc; subst hc; revert h; decide
  · rintro ⟨h1, (((h | h) | h) | h) | h⟩
    · exact Or.inl h
    · exact Or.inr (Or.inl h)
    · exact absurd h h1
    · exact Or.inr (Or.inr (Or.inr h))
    · exact Or.inr (Or.inr (Or.inl h))

theorem isBlank_ne_hash {c : Char} (h : isBlank c) : c ≠ '#' := by
  rintro rfl; revert h; decide

theorem isBlank_ne_nl {c : Char} (h : isBlank c) : c ≠ '\n' := ((isBlank_iff c).mp h).1

theorem Layout.no_newline {p : List Char} (h : Layout p) : ∀ c ∈ p, c ≠ '\n' := by
  induction h with
  | nil => intro c hc; cases hc
  | blank hb _ ih =>
    intro c hc
    rcases List.mem_cons.mp hc with rfl | hc
    · exact isBlank_ne_nl hb
    · exact ih c hc
  | comment ht =>
    intro c hc
    rcases List.mem_cons.mp hc with rfl | hc
    · decide
    · exact ht c hc

theorem skipWs_blank {ch : Char} (hb : isBlank ch) (r : List Char) (l c : Nat) :
    skipWs (ch :: r) l c = skipWs r (locAfter l c r.head?).1 (locAfter l c r.head?).2 := by
  obtain ⟨h1, h2⟩ := (isBlank_iff ch).mp hb
  simp [skipWs, isBlank_ne_hash hb, h1, h2]

theorem skipWs_stop {ch : Char} (hb : ¬ isBlank ch) (hh : ch ≠ '#') (r : List Char) (l c : Nat) :
    skipWs (ch :: r) l c = ⟨ch :: r, l, c⟩ := by
  have : (ch = '\n' || !isAsciiWs ch) = true := by
    by_cases h : ch = '\n'
    · simp [h]
    · have : isAsciiWs ch = false := by
        cases hw : isAsciiWs ch with
        | false => rfl
        | true => exact absurd ((isBlank_iff ch).mpr ⟨h, hw⟩) hb
      simp [this]
  simp only [skipWs, hh, this, if_true, if_false]

theorem skipComment_spec (r : List Char) (l c : Nat) :
    ∃ t, r = t ++ (skipComment r l c).rest ∧ (∀ x ∈ t, x ≠ '\n') ∧
      ((skipComment r l c).rest = [] ∨ (skipComment r l c).rest.head? = some '\n') := by
  induction r generalizing l c with
  | nil => exact ⟨[], rfl, by simp, Or.inl rfl⟩
  | cons ch r ih =>
    by_cases h : ch = '\n'
    · refine ⟨[], ?_, by simp, Or.inr ?_⟩ <;> simp [skipComment, h]
    · simp only [skipComment, h, if_false]
      obtain ⟨t, h1, h2, h3⟩ := ih (locAfter l c r.head?).1 (locAfter l c r.head?).2
      refine ⟨ch :: t, by rw [List.cons_append, ← h1], ?_, h3⟩
      intro x hx
      rcases List.mem_cons.mp hx with rfl | hx
      · exact h
      · exact h2 x hx

theorem skipComment_append (t r : List Char) (ht : ∀ x ∈ t, x ≠ '\n')
    (hr : r = [] ∨ r.head? = some '\n') (l c : Nat) : (skipComment (t ++ r) l c).rest = r := by
  induction t generalizing l c with
  | nil =>
    rcases hr with rfl | hr
    · rfl
    · cases r with
      | nil => rfl
      | cons x r =>
        simp only [List.head?_cons, Option.some.injEq] at hr
        subst hr
        simp [skipComment]
  | cons ch t ih =>
    have h : ch ≠ '\n' := ht ch (List.mem_cons_self ..)
    simp only [List.cons_append, skipComment, h, if_false]
    exact ih (fun x hx => ht x (List.mem_cons_of_mem _ hx)) _ _

theorem skipWs_layout (r : List Char) (l c : Nat) :
    ∃ p, r = p ++ (skipWs r l c).rest ∧ Layout p ∧ CommentClosed p (skipWs r l c).rest ∧
      (∀ x, (skipWs r l c).rest.head? = some x → ¬ isBlank x ∧ x ≠ '#') := by
  induction r generalizing l c with
  | nil => exact ⟨[], rfl, Layout.nil, CommentClosed.nil _, by simp [skipWs]⟩
  | cons ch r ih =>
    by_cases h1 : ch = '#'
    · subst h1
      have hsk : skipWs ('#' :: r) l c =
          skipComment r (locAfter l c r.head?).1 (locAfter l c r.head?).2 := by
        simp [skipWs, skipComment]
      rw [hsk]
      obtain ⟨t, e1, e2, e3⟩ := skipComment_spec r (locAfter l c r.head?).1 (locAfter l c r.head?).2
      refine ⟨'#' :: t, by rw [List.cons_append, ← e1], Layout.comment e2, fun _ => e3, ?_⟩
      intro x hx
      rcases e3 with e3 | e3
      · rw [e3] at hx; cases hx
      · rw [e3] at hx
        injection hx with hx
        subst hx
        exact ⟨by decide, by decide⟩
    · by_cases h2 : isBlank ch
      · rw [skipWs_blank h2]
        obtain ⟨p, e1, e2, e3, e4⟩ := ih (locAfter l c r.head?).1 (locAfter l c r.head?).2
        refine ⟨ch :: p, by rw [List.cons_append, ← e1], Layout.blank h2 e2, ?_, e4⟩
        intro hm
        rcases List.mem_cons.mp hm with hm | hm
        · exact absurd hm.symm h1
        · exact e3 hm
      · rw [skipWs_stop h2 h1]
        refine ⟨[], rfl, Layout.nil, CommentClosed.nil _, ?_⟩
        intro x hx
        simp only [List.head?_cons, Option.some.injEq] at hx
        subst hx
        exact ⟨h2, h1⟩

theorem skipWs_append_layout {p : List Char} (hp : Layout p) (r : List Char) (hc : CommentClosed p r)
    (l c l' c' : Nat) : (skipWs (p ++ r) l c).rest = (skipWs r l' c').rest := by
  induction hp generalizing l c with
  | nil => exact skipWs_rest_indep _ _ _ _ _
  | blank hb _ ih =>
    rw [List.cons_append, skipWs_blank hb]
    exact ih (fun hm => hc (List.mem_cons_of_mem _ hm)) _ _
  | @comment t ht =>
    have hr := hc (List.mem_cons_self ..)
    have hsk : skipWs ('#' :: t ++ r) l c =
        skipComment (t ++ r) (locAfter l c (t ++ r).head?).1 (locAfter l c (t ++ r).head?).2 := by
      simp [skipWs, skipComment]
    rw [hsk, skipComment_append t r ht hr]
    rcases hr with rfl | hr
    · rfl
    · cases r with
      | nil => rfl
      | cons x r =>
        simp only [List.head?_cons, Option.some.injEq] at hr
        subst hr
        simp [skipWs]

theorem skipWs_of_layout {p : List Char} (hp : Layout p) (r : List Char) (hc : CommentClosed p r)
    (hh : ∀ x, r.head? = some x → ¬ isBlank x ∧ x ≠ '#') (l c : Nat) :
    (skipWs (p ++ r) l c).rest = r := by
  rw [skipWs_append_layout hp r hc l c 0 0]
  cases r with
  | nil => rfl
  | cons x r =>
    obtain ⟨h1, h2⟩ := hh x rfl
    rw [skipWs_stop h1 h2]

theorem skipWs_idem (r : List Char) (l c l' c' : Nat) :
    (skipWs (skipWs r l c).rest l' c').rest = (skipWs r l c).rest := by
  obtain ⟨p, _, _, _, e4⟩ := skipWs_layout r l c
  cases h : (skipWs r l c).rest with
  | nil => rfl
  | cons x t =>
    obtain ⟨h1, h2⟩ := e4 x (by rw [h]; rfl)
    rw [skipWs_stop h1 h2]

theorem nextToken_skip_layout {p : List Char} (hp : Layout p) (r : List Char)
    (hc : CommentClosed p r) (l c l' c' : Nat) :
    kind (nextToken ⟨p ++ r, l, c⟩) = kind (nextToken ⟨r, l', c'⟩) :=
  nextToken_kind_of_skipWs (skipWs_append_layout hp r hc l c l' c')

theorem lexRaw_skip_layout {p : List Char} (hp : Layout p) (r : List Char)
    (hc : CommentClosed p r) (n l c l' c' : Nat) :
    (lexRaw n ⟨p ++ r, l, c⟩).1.map Span.tok = (lexRaw n ⟨r, l', c'⟩).1.map Span.tok ∧
    (lexRaw n ⟨p ++ r, l, c⟩).2.map eraseLoc = (lexRaw n ⟨r, l', c'⟩).2.map eraseLoc :=
  lexRaw_congr_of_kind n (nextToken_skip_layout hp r hc l c l' c')

theorem nextToken_stmtEnd (ch : Char) (h : ch = '\n' ∨ ch = ';') (r : List Char) (l c : Nat) :
    kind (nextToken ⟨ch :: r, l, c⟩) = .tok Token.StmtEnd r := by
  have hb : ¬ isBlank ch := by rcases h with rfl | rfl <;> decide
  have hh : ch ≠ '#' := by rcases h with rfl | rfl <;> decide
  rw [kind_of_tokBody]
  simp only [Scanner.skipWs, skipWs_stop hb hh]
  have : (ch = '\n' || ch = ';') = true := by rcases h with rfl | rfl <;> rfl
  simp only [tokBody, this, if_true, exK, Scanner.next_rest, List.drop_one, List.tail_cons]

/-- lexing `src` (from any position) yields the tokens `ts` and leaves the text `rest` -/
inductive LexTo : List Char → List Token → List Char → Prop
  | nil (r : List Char) : LexTo r [] r
  | cons {src mid rest : List Char} {t : Token} {ts : List Token} (l c : Nat) :
      kind (nextToken ⟨src, l, c⟩) = .tok t mid → LexTo mid ts rest → LexTo src (t :: ts) rest

theorem kind_tok_length {s : Scanner} {t : Token} {mid : List Char}
    (h : kind (nextToken s) = .tok t mid) :
    ∃ k, 1 ≤ k ∧ k ≤ s.rest.length ∧ mid = s.rest.drop k := by
  cases hn : nextToken s with
  | eof => rw [hn] at h; cases h
  | err e => rw [hn] at h; cases h
  | tok sp s' =>
    rw [hn] at h
    simp only [kind, TokK.tok.injEq] at h
    obtain ⟨n, h1, h2, h3⟩ := nextToken_advance hn
    exact ⟨n, h1, h2, by rw [← h.2, h3, Scanner.advance_rest]⟩

/-- what is left is a suffix of the source -/
theorem LexTo.suffix {src rest : List Char} {ts : List Token} (h : LexTo src ts rest) :
    ∃ pre, src = pre ++ rest ∧ (ts = [] → pre = []) := by
  induction h with
  | nil r => exact ⟨[], rfl, fun _ => rfl⟩
  | @cons src mid rest t ts l c hk _ ih =>
    obtain ⟨k, _, _, hm⟩ := kind_tok_length hk
    obtain ⟨pre, hp, _⟩ := ih
    simp only at hm
    refine ⟨src.take k ++ pre, ?_, by intro h; cases h⟩
    rw [List.append_assoc, ← hp, hm, List.take_append_drop]

theorem LexTo.length_le {src rest : List Char} {ts : List Token} (h : LexTo src ts rest) :
    ts.length + rest.length ≤ src.length := by
  induction h with
  | nil r => simp
  | cons l c hk _ ih =>
    obtain ⟨k, h1, h2, hm⟩ := kind_tok_length hk
    simp only at h2 hm
    rw [hm, List.length_drop] at ih
    simp only [List.length_cons]
    omega

theorem LexTo.append {a b c : List Char} {ts us : List Token} (h1 : LexTo a ts b) (h2 : LexTo b us c) :
    LexTo a (ts ++ us) c := by
  induction h1 with
  | nil r => exact h2
  | cons l c hk _ ih => exact LexTo.cons l c hk (ih h2)

theorem LexTo.lexRaw {src rest : List Char} {ts : List Token} (h : LexTo src ts rest)
    (n l c l' c' : Nat) :
    (lexRaw (ts.length + n) ⟨src, l, c⟩).1.map Span.tok =
        ts ++ (lexRaw n ⟨rest, l', c'⟩).1.map Span.tok ∧
    (lexRaw (ts.length + n) ⟨src, l, c⟩).2.map eraseLoc = (lexRaw n ⟨rest, l', c'⟩).2.map eraseLoc := by
  induction h generalizing l c with
  | nil r =>
    simp only [List.length_nil, Nat.zero_add, List.nil_append]
    exact lexRaw_kind_indep n rfl
  | @cons src mid rest t ts l0 c0 hk _ ih =>
    have hk' : kind (nextToken ⟨src, l, c⟩) = .tok t mid := by
      rw [← hk]; exact nextToken_kind_indep rfl
    obtain ⟨l1, c1, e1, e2⟩ := lexRaw_succ_of_tok hk' (ts.length + n)
    obtain ⟨i1, i2⟩ := ih l1 c1
    rw [List.length_cons, Nat.add_right_comm, e1, e2, i1, i2]
    exact ⟨rfl, rfl⟩

end Seed.C09
