/-
  A token depends only on its own characters and on at most one character of lookahead, and a separator
  character (blank, `#`, newline, `;`) ends every token at least as well as whatever followed before.

  `nextToken_local` (proved in C09Tok.lean from what is here): if lexing `a ++ x` yields the token `t` and leaves exactly `x`, then lexing
  `a ++ y` yields `t` and leaves `y`, provided `y` starts like `x` does, or starts with a separator —
  except that an *unterminated* string literal at the end of input (`x = []`; the model, like the
  implementation, accepts it) would swallow what is appended, so that case is excluded.
-/
import SeedModel.Lex
import SeedProofs.Lemmas.Scan
import SeedProofs.Lemmas.C09Pos
import SeedProofs.Lemmas.C09Layout
namespace Seed.C09
open Seed

/-- characters that end every token: blanks, `#`, newline, `;` -/
def isSep (c : Char) : Prop := isBlank c ∨ c = '#' ∨ c = '\n' ∨ c = ';'

instance (c : Char) : Decidable (isSep c) := by unfold isSep; infer_instance

def isStrTok : Token → Bool
  | .StrLiteral _ => true
  | .InterpStrLiteral _ _ => true
  | _ => false

theorem isSep_cases {e : Char} (h : isSep e) :
    e = ' ' ∨ e = '\t' ∨ e = '\r' ∨ e = Char.ofNat 12 ∨ e = '#' ∨ e = '\n' ∨ e = ';' := by
  rcases h with (h | h | h | h) | h | h | h
  · exact Or.inl h
  · exact Or.inr (Or.inl h)
  · exact Or.inr (Or.inr (Or.inl h))
  · refine Or.inr (Or.inr (Or.inr (Or.inl ?_)))
    rw [← h, Char.ofNat_toNat]
  · exact Or.inr (Or.inr (Or.inr (Or.inr (Or.inl h))))
  · exact Or.inr (Or.inr (Or.inr (Or.inr (Or.inr (Or.inl h)))))
  · exact Or.inr (Or.inr (Or.inr (Or.inr (Or.inr (Or.inr h)))))

theorem isIdentChar_sep {e : Char} (h : isSep e) : isIdentChar e = false := by
  rcases isSep_cases h with rfl | rfl | rfl | rfl | rfl | rfl | rfl <;> decide

theorem isIntChar_sep {e : Char} (h : isSep e) : isIntChar e = false := by
  rcases isSep_cases h with rfl | rfl | rfl | rfl | rfl | rfl | rfl <;> decide

theorem matchDouble_sep (c1 : Char) {e : Char} (h : isSep e) : matchDouble c1 e = none := by
  rcases isSep_cases h with rfl | rfl | rfl | rfl | rfl | rfl | rfl <;>
    simp [matchDouble, lookupAssoc, Gen.doubleSym]

theorem matchTriple_sep (c1 c2 : Char) {e : Char} (h : isSep e) : matchTriple c1 c2 e = none := by
  rcases isSep_cases h with rfl | rfl | rfl | rfl | rfl | rfl | rfl <;>
    simp [matchTriple, lookupAssoc, Gen.tripleSym]

theorem drop_append_eq_self {a x : List Char} {k : Nat} (hk : k ≤ (a ++ x).length)
    (h : (a ++ x).drop k = x) : k = a.length := by
  have := congrArg List.length h
  simp only [List.length_drop, List.length_append] at this hk
  omega

theorem takeWhile_boundary {P : Char → Bool} {a x : List Char}
    (h : ((a ++ x).takeWhile P).length = a.length) :
    (∀ c ∈ a, P c = true) ∧ (∀ e, x.head? = some e → P e = false) := by
  induction a with
  | nil =>
    refine ⟨by simp, ?_⟩
    intro e he
    cases x with
    | nil => cases he
    | cons d x =>
      simp only [List.head?_cons, Option.some.injEq] at he
      subst he
      cases hp : P d with
      | false => rfl
      | true => simp [hp] at h
  | cons ch a ih =>
    cases hp : P ch with
    | false => simp [hp] at h
    | true =>
      simp only [List.cons_append, List.takeWhile_cons, hp, if_true, List.length_cons,
        Nat.add_right_cancel_iff] at h
      obtain ⟨h1, h2⟩ := ih h
      refine ⟨?_, h2⟩
      intro c hc
      rcases List.mem_cons.mp hc with rfl | hc
      · exact hp
      · exact h1 c hc

theorem takeWhile_of_boundary {P : Char → Bool} {a y : List Char} (ha : ∀ c ∈ a, P c = true)
    (hy : ∀ e, y.head? = some e → P e = false) : (a ++ y).takeWhile P = a := by
  induction a with
  | nil =>
    cases y with
    | nil => rfl
    | cons d y => simp [hy d rfl]
  | cons ch a ih =>
    simp only [List.cons_append, List.takeWhile_cons, ha ch (List.mem_cons_self ..), if_true]
    rw [ih (fun c hc => ha c (List.mem_cons_of_mem _ hc))]

/-- the lookahead condition: `y` starts like `x`, or with a separator -/
def EndsLike (x y : List Char) : Prop := x.head? = y.head? ∨ ∃ e y', y = e :: y' ∧ isSep e

theorem EndsLike.forall_head {x y : List Char} (he : EndsLike x y) {Q : Char → Prop}
    (hx : ∀ e, x.head? = some e → Q e) (hsep : ∀ e, isSep e → Q e) : ∀ e, y.head? = some e → Q e := by
  intro e hy
  rcases he with h | ⟨e', y', rfl, hs⟩
  · exact hx e (by rw [h, hy])
  · cases hy
    exact hsep _ hs

theorem takeWhile_local {P : Char → Bool} {ch : Char} {a1 x y : List Char}
    (hdrop : (ch :: (a1 ++ x)).drop ((ch :: (a1 ++ x)).takeWhile P).length = x)
    (he : EndsLike x y) (hP : ∀ e, isSep e → P e = false) :
    (ch :: (a1 ++ x)).takeWhile P = ch :: a1 ∧ (ch :: (a1 ++ y)).takeWhile P = ch :: a1 := by
  have hk : ((ch :: (a1 ++ x)).takeWhile P).length ≤ ((ch :: a1) ++ x).length :=
    (List.takeWhile_sublist P).length_le
  obtain ⟨h1, h2⟩ := takeWhile_boundary (a := ch :: a1) (drop_append_eq_self hk hdrop)
  exact ⟨takeWhile_of_boundary (a := ch :: a1) h1 h2,
    takeWhile_of_boundary (a := ch :: a1) h1 (he.forall_head h2 hP)⟩

theorem skipComment_rest_length_le (r : List Char) (l c : Nat) :
    (skipComment r l c).rest.length ≤ r.length := by
  obtain ⟨n, hn⟩ := skipComment_advance r l c
  rw [hn, Scanner.advance_rest, List.length_drop]
  exact Nat.sub_le _ _

theorem skipWs_rest_length_le (r : List Char) (l c : Nat) :
    (skipWs r l c).rest.length ≤ r.length := by
  obtain ⟨n, hn⟩ := skipWs_advance r l c
  rw [hn, Scanner.advance_rest, List.length_drop]
  exact Nat.sub_le _ _

theorem skipComment_local (a x : List Char) (l c : Nat)
    (h : x.length < (skipComment (a ++ x) l c).rest.length) :
    ∃ ch a1, ∀ z l' c', (skipComment (a ++ z) l' c').rest = ch :: (a1 ++ z) := by
  induction a generalizing l c with
  | nil =>
    have := skipComment_rest_length_le x l c
    simp only [List.nil_append] at h
    omega
  | cons ch a ih =>
    by_cases hn : ch = '\n'
    · exact ⟨ch, a, fun z l' c' => by simp [skipComment, hn]⟩
    · simp only [List.cons_append, skipComment, hn, if_false] at h
      obtain ⟨ch', a1, e⟩ := ih _ _ h
      exact ⟨ch', a1, fun z l' c' => by
        simp only [List.cons_append, skipComment, hn, if_false]
        exact e z _ _⟩

/-- if `skipWs` on `a ++ x` stops inside `a`, it stops at the same place of `a` whatever follows `a` -/
theorem skipWs_local (a x : List Char) (l c : Nat)
    (h : x.length < (skipWs (a ++ x) l c).rest.length) :
    ∃ ch a1, ∀ z l' c', (skipWs (a ++ z) l' c').rest = ch :: (a1 ++ z) := by
  induction a generalizing l c with
  | nil =>
    have := skipWs_rest_length_le x l c
    simp only [List.nil_append] at h
    omega
  | cons ch a ih =>
    by_cases h1 : ch = '#'
    · have hsk : ∀ z l c, skipWs ((ch :: a) ++ z) l c = skipComment ((ch :: a) ++ z) l c := by
        intro z l c
        simp only [List.cons_append, skipWs, h1, if_true]
      rw [hsk] at h
      obtain ⟨ch', a1, e⟩ := skipComment_local (ch :: a) x l c h
      exact ⟨ch', a1, fun z l' c' => by rw [hsk]; exact e z l' c'⟩
    · by_cases h2 : isBlank ch
      · rw [List.cons_append, skipWs_blank h2] at h
        obtain ⟨ch', a1, e⟩ := ih _ _ h
        exact ⟨ch', a1, fun z l' c' => by rw [List.cons_append, skipWs_blank h2]; exact e z _ _⟩
      · exact ⟨ch, a, fun z l' c' => by rw [List.cons_append, skipWs_stop h2 h1]⟩

end Seed.C09
