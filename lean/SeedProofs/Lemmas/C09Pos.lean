/-
  The lexer's *tokens* do not depend on the scanner's line/column.

  `kind` forgets every position of a `nextToken` result: the token without its span and the
  remaining characters without the scanner's line/column; an error keeps its constructor and payload,
  its location is reset to `(0, 0)`.  `nextToken_kind_indep`: two scanners with the same remaining
  characters give results of the same kind.  The same for every sub-lexer (`skipWs`, `lexInt`,
  `strLoop`, `lexStr`, `lexSym`) and for `lexRaw`.

  The string loop is given a position-free twin `strLoopK` on bare texts (`accK_strLoop`); everything
  later proved about string literals is proved about it.
-/
import SeedModel.Lex
import SeedProofs.Lemmas.Scan
namespace Seed.C09
open Seed

def eraseLoc : LexError → LexError
  | .Unexpected _ c => .Unexpected (0, 0) c
  | .IntOverflow _ raw => .IntOverflow (0, 0) raw
  | .UnescapedDollar _ => .UnescapedDollar (0, 0)
  | .InvalidInterpolationStart _ c => .InvalidInterpolationStart (0, 0) c
  | .InvalidEscapeChar _ c => .InvalidEscapeChar (0, 0) c
  | .InvalidHexChar _ c => .InvalidHexChar (0, 0) c

/-- a `nextToken` result without positions -/
inductive TokK where
  | eof
  | tok (t : Token) (rest : List Char)
  | err (e : LexError)
  deriving DecidableEq, Repr

def kind : TokRes → TokK
  | .eof => .eof
  | .tok sp s => .tok sp.tok s.rest
  | .err e => .err (eraseLoc e)

def exK : Except LexError (Token × Scanner) → Except LexError (Token × List Char)
  | .error e => .error (eraseLoc e)
  | .ok (t, s) => .ok (t, s.rest)

def accK : Except LexError (StrAcc × Scanner) → Except LexError (StrAcc × List Char)
  | .error e => .error (eraseLoc e)
  | .ok (a, s) => .ok (a, s.rest)

def stepK : StrStep → StrStep
  | .cont a => .cont a
  | .done a => .done a
  | .fail e => .fail (eraseLoc e)

theorem next_rest_congr {s s' : Scanner} (h : s.rest = s'.rest) : s.next.rest = s'.next.rest := by
  rw [Scanner.next_rest, Scanner.next_rest, h]

theorem advance_rest_congr {s s' : Scanner} (h : s.rest = s'.rest) (n : Nat) :
    (s.advance n).rest = (s'.advance n).rest := by
  rw [Scanner.advance_rest, Scanner.advance_rest, h]

theorem skipComment_rest_indep (r : List Char) (l c l' c' : Nat) :
    (skipComment r l c).rest = (skipComment r l' c').rest := by
  induction r generalizing l c l' c' with
  | nil => rfl
  | cons ch r ih =>
    by_cases h : ch = '\n'
    · simp [skipComment, h]
    · simp only [skipComment, h, if_false]
      exact ih _ _ _ _

theorem skipWs_rest_indep (r : List Char) (l c l' c' : Nat) :
    (skipWs r l c).rest = (skipWs r l' c').rest := by
  induction r generalizing l c l' c' with
  | nil => rfl
  | cons ch r ih =>
    by_cases h1 : ch = '#'
    · simp only [skipWs, h1, if_true]
      exact skipComment_rest_indep _ _ _ _ _
    · by_cases h2 : (ch = '\n' || !isAsciiWs ch) = true
      · simp only [skipWs, h1, h2, if_true, if_false]
      · simp only [skipWs, h1, h2, if_false]
        exact ih _ _ _ _

theorem Scanner.skipWs_rest_congr {s s' : Scanner} (h : s.rest = s'.rest) :
    s.skipWs.rest = s'.skipWs.rest := by
  unfold Scanner.skipWs
  rw [h]
  exact skipWs_rest_indep _ _ _ _ _

/-- `lexInt` on a bare text -/
def lexIntK (r : List Char) : Except LexError (Token × List Char) :=
  let raw := r.takeWhile isIntChar
  let n := decimalValue (raw.filter (fun c => c ≠ '_'))
  if n ≤ i64Max then .ok (Token.IntLiteral (Int.ofNat n), r.drop raw.length)
  else .error (LexError.IntOverflow (0, 0) raw)

theorem exK_lexInt (s : Scanner) : exK (lexInt s) = lexIntK s.rest := by
  unfold lexInt lexIntK
  simp only
  split <;> simp only [exK, eraseLoc, Scanner.advance_rest]

theorem lexInt_indep {s s' : Scanner} (h : s.rest = s'.rest) : exK (lexInt s) = exK (lexInt s') := by
  rw [exK_lexInt, exK_lexInt, h]

theorem strStep_zero (interp : Bool) (a : StrAcc) (ch : Char) (loc : Loc) :
    strStep interp a ch (0, 0) = stepK (strStep interp a ch loc) := by
  unfold strStep
  split
  · simp only [apply_ite stepK]; rfl
  · simp only [apply_ite stepK]; rfl
  · split
    · rfl
    · split <;> rfl
  · simp only [apply_ite stepK]; rfl

/-- `strLoop` on a bare text; an error is located at `(0, 0)` -/
def strLoopK (interp : Bool) : List Char → StrAcc → Except LexError (StrAcc × List Char)
  | [], a => .ok (a, [])
  | ch :: r, a =>
    match strStep interp a ch (0, 0) with
    | .fail e => .error e
    | .done a' => .ok (a', r)
    | .cont a' => strLoopK interp r a'

theorem accK_strLoop (interp : Bool) (r : List Char) (l c : Nat) (a : StrAcc) :
    accK (strLoop interp r l c a) = strLoopK interp r a := by
  induction r generalizing l c a with
  | nil => rfl
  | cons ch r ih =>
    unfold strLoop strLoopK
    rw [strStep_zero interp a ch (l, c)]
    cases strStep interp a ch (l, c) with
    | fail e => rfl
    | done a' => rfl
    | cont a' => exact ih _ _ a'

theorem strLoop_indep (interp : Bool) (r : List Char) (l c l' c' : Nat) (a : StrAcc) :
    accK (strLoop interp r l c a) = accK (strLoop interp r l' c' a) := by
  rw [accK_strLoop, accK_strLoop]

/-- the token a finished string loop yields -/
def strTok (interp : Bool) (a : StrAcc) : Token :=
  if interp then Token.InterpStrLiteral a.chars.reverse a.slots.reverse
  else Token.StrLiteral a.chars.reverse

/-- `lexStr` on a bare text, whose first character stands for the opening quote -/
def lexStrK (interp : Bool) (r : List Char) : Except LexError (Token × List Char) :=
  match strLoopK interp (r.drop 1) StrAcc.init with
  | .error e => .error e
  | .ok (a, r') => .ok (strTok interp a, r')

theorem exK_lexStr (interp : Bool) (s : Scanner) : exK (lexStr interp s) = lexStrK interp s.rest := by
  unfold lexStr lexStrK
  rw [← Scanner.next_rest, ← accK_strLoop interp s.next.rest s.next.line s.next.col]
  simp only
  cases strLoop interp s.next.rest s.next.line s.next.col StrAcc.init with
  | error e => rfl
  | ok p => cases interp <;> rfl

theorem lexStr_indep (interp : Bool) {s s' : Scanner} (h : s.rest = s'.rest) :
    exK (lexStr interp s) = exK (lexStr interp s') := by
  rw [exK_lexStr, exK_lexStr, h]

theorem lexSym_indep (c1 : Char) {s s' : Scanner} (h : s.rest = s'.rest) :
    (lexSym c1 s).1 = (lexSym c1 s').1 ∧ (lexSym c1 s).2.rest = (lexSym c1 s').2.rest := by
  rw [lexSym_eq_symCore, lexSym_eq_symCore, h]
  exact ⟨rfl, advance_rest_congr h _⟩

theorem tokBody_indep (ch : Char) {s s' : Scanner} (h : s.rest = s'.rest) :
    exK (tokBody ch s) = exK (tokBody ch s') := by
  rcases tokBody_cases ch with ⟨_, e⟩ | ⟨_, e⟩ | ⟨_, e⟩ | ⟨_, e⟩ | ⟨_, e⟩ | ⟨_, _, e⟩ <;> rw [e, e]
  · simp only [exK, next_rest_congr h]
  · simp only [exK, h, advance_rest_congr h]
  · exact lexInt_indep h
  · exact lexStr_indep false h
  · exact lexStr_indep true (next_rest_congr h)
  · obtain ⟨h1, h2⟩ := lexSym_indep ch h
    rcases hx : lexSym ch s with ⟨o, t⟩
    rcases hy : lexSym ch s' with ⟨o', t'⟩
    rw [hx, hy] at h1 h2
    cases h1
    cases o <;> simp only [exK, eraseLoc] <;> rw [h2]

theorem kind_of_tokBody (s0 : Scanner) :
    kind (nextToken s0) =
      match s0.skipWs.rest with
      | [] => .eof
      | c :: _ =>
        match exK (tokBody c s0.skipWs) with
        | .error e => .err e
        | .ok (t, r) => .tok t r := by
  rw [nextToken_eq]
  cases s0.skipWs.rest with
  | nil => rfl
  | cons c r =>
    dsimp only
    cases tokBody c s0.skipWs with
    | error e => rfl
    | ok p => rfl

/-- the first token of the text `ch :: r`, which begins with a character that is not layout -/
def tokK (ch : Char) (r : List Char) : TokK :=
  match exK (tokBody ch ⟨ch :: r, 0, 0⟩) with
  | .error e => .err e
  | .ok (t, r') => .tok t r'

theorem kind_nextToken {s : Scanner} {ch : Char} {r : List Char} (h : s.skipWs.rest = ch :: r) :
    kind (nextToken s) = tokK ch r := by
  rw [kind_of_tokBody, h]
  simp only
  rw [tokBody_indep ch (s' := ⟨ch :: r, 0, 0⟩) h]
  rfl

theorem tokK_tok_iff {ch : Char} {r x : List Char} {t : Token} :
    tokK ch r = .tok t x ↔ exK (tokBody ch ⟨ch :: r, 0, 0⟩) = .ok (t, x) := by
  unfold tokK
  rcases exK (tokBody ch ⟨ch :: r, 0, 0⟩) with e | ⟨t', r'⟩ <;> simp

theorem tokK_err_iff {ch : Char} {r : List Char} {e : LexError} :
    tokK ch r = .err e ↔ exK (tokBody ch ⟨ch :: r, 0, 0⟩) = .error e := by
  unfold tokK
  rcases exK (tokBody ch ⟨ch :: r, 0, 0⟩) with e' | ⟨t', r'⟩ <;> simp

theorem kind_eq_eof_iff {s : Scanner} : kind (nextToken s) = .eof ↔ s.skipWs.rest = [] := by
  rw [kind_of_tokBody]
  split
  · next h => simp [h]
  · next c r h =>
    rw [h]
    rcases exK (tokBody c s.skipWs) with e | ⟨t, r'⟩ <;> simp

theorem nextToken_kind_of_skipWs {s s' : Scanner} (h : s.skipWs.rest = s'.skipWs.rest) :
    kind (nextToken s) = kind (nextToken s') := by
  rw [kind_of_tokBody, kind_of_tokBody, ← h]
  split
  · rfl
  · rw [tokBody_indep _ h]

theorem nextToken_kind_indep {s s' : Scanner} (h : s.rest = s'.rest) :
    kind (nextToken s) = kind (nextToken s') :=
  nextToken_kind_of_skipWs (Scanner.skipWs_rest_congr h)

theorem lexRaw_succ_of_tok {s : Scanner} {t : Token} {r : List Char} (h : kind (nextToken s) = .tok t r)
    (n : Nat) :
    ∃ l c, (lexRaw (n + 1) s).1.map Span.tok = t :: (lexRaw n ⟨r, l, c⟩).1.map Span.tok ∧
      (lexRaw (n + 1) s).2 = (lexRaw n ⟨r, l, c⟩).2 := by
  cases hn : nextToken s with
  | eof => rw [hn] at h; cases h
  | err e => rw [hn] at h; cases h
  | tok sp s' =>
    rw [hn] at h
    obtain ⟨sr, sl, sc⟩ := s'
    cases h
    exact ⟨sl, sc, by simp only [lexRaw, hn, List.map_cons], by simp only [lexRaw, hn]⟩

theorem lexRaw_congr_of_kind (n : Nat) {s s' : Scanner} (h : kind (nextToken s) = kind (nextToken s')) :
    (lexRaw n s).1.map Span.tok = (lexRaw n s').1.map Span.tok ∧
    (lexRaw n s).2.map eraseLoc = (lexRaw n s').2.map eraseLoc := by
  induction n generalizing s s' with
  | zero => exact ⟨rfl, rfl⟩
  | succ n ih =>
    unfold lexRaw
    cases h1 : nextToken s <;> cases h2 : nextToken s' <;> rw [h1, h2] at h <;>
      simp only [kind, TokK.tok.injEq, TokK.err.injEq, reduceCtorEq] at h
    · exact ⟨rfl, rfl⟩
    · obtain ⟨ht, hr⟩ := h
      obtain ⟨i1, i2⟩ := ih (nextToken_kind_indep hr)
      simp only [List.map_cons, ht, i1, i2, and_self]
    · simp only [List.map_nil, Option.map_some, h, and_self]

theorem lexRaw_kind_indep (n : Nat) {s s' : Scanner} (h : s.rest = s'.rest) :
    (lexRaw n s).1.map Span.tok = (lexRaw n s').1.map Span.tok ∧
    (lexRaw n s).2.map eraseLoc = (lexRaw n s').2.map eraseLoc :=
  lexRaw_congr_of_kind n (nextToken_kind_indep h)

end Seed.C09
