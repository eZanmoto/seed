/-
  From single tokens to token streams: `RawEq a b` ("the texts `a` and `b` lex to
  the same tokens and the same kind of error, from any position, with any fuel"), its lift through a
  common `LexTo` prefix, and its consequence for `lexAll`.
-/
import SeedModel.Lex
import SeedProofs.Lemmas.Scan
import SeedProofs.Lemmas.C09Pos
import SeedProofs.Lemmas.C09Layout
import SeedProofs.Lemmas.C09Local
import SeedProofs.Lemmas.C09Tok
namespace Seed.C09
open Seed

/-- same raw tokens (positions erased) and same error (location erased), whatever the fuel and the
    starting positions -/
def RawEq (a b : List Char) : Prop :=
  ∀ m l c l' c', (lexRaw m ⟨a, l, c⟩).1.map Span.tok = (lexRaw m ⟨b, l', c'⟩).1.map Span.tok ∧
    (lexRaw m ⟨a, l, c⟩).2.map eraseLoc = (lexRaw m ⟨b, l', c'⟩).2.map eraseLoc

theorem RawEq.refl (a : List Char) : RawEq a a := fun m _ _ _ _ => lexRaw_kind_indep m rfl

theorem RawEq.symm {a b : List Char} (h : RawEq a b) : RawEq b a :=
  fun m l c l' c' => ⟨(h m l' c' l c).1.symm, (h m l' c' l c).2.symm⟩

theorem RawEq.trans {a b d : List Char} (h1 : RawEq a b) (h2 : RawEq b d) : RawEq a d :=
  fun m l c l' c' => ⟨(h1 m l c 0 0).1.trans (h2 m 0 0 l' c').1, (h1 m l c 0 0).2.trans (h2 m 0 0 l' c').2⟩

theorem RawEq.of_kind {a b : List Char}
    (h : ∀ l c l' c', kind (nextToken ⟨a, l, c⟩) = kind (nextToken ⟨b, l', c'⟩)) : RawEq a b :=
  fun m l c l' c' => lexRaw_congr_of_kind m (h l c l' c')

theorem RawEq.newline_semicolon (r : List Char) : RawEq ('\n' :: r) (';' :: r) :=
  RawEq.of_kind fun l c l' c' => by
    rw [nextToken_stmtEnd '\n' (Or.inl rfl), nextToken_stmtEnd ';' (Or.inr rfl)]

theorem RawEq.of_tok {a b ra rb : List Char} {t : Token}
    (ha : ∀ l c, kind (nextToken ⟨a, l, c⟩) = .tok t ra)
    (hb : ∀ l c, kind (nextToken ⟨b, l, c⟩) = .tok t rb) (hr : RawEq ra rb) : RawEq a b := by
  intro m l c l' c'
  cases m with
  | zero => exact ⟨rfl, rfl⟩
  | succ m =>
    obtain ⟨l1, c1, a1, a2⟩ := lexRaw_succ_of_tok (ha l c) m
    obtain ⟨l2, c2, b1, b2⟩ := lexRaw_succ_of_tok (hb l' c') m
    obtain ⟨i1, i2⟩ := hr m l1 c1 l2 c2
    rw [a1, a2, b1, b2, i1, i2]
    exact ⟨rfl, rfl⟩

theorem RawEq.of_lexTo {a a' : List Char} {ts : List Token} (h1 : LexTo a ts a') :
    ∀ {b b' : List Char}, LexTo b ts b' → RawEq a' b' → RawEq a b := by
  induction h1 with
  | nil r =>
    intro b b' h2 hr
    cases h2
    exact hr
  | @cons src mid rest t ts l c hk _ ih =>
    intro b b' h2 hr
    cases h2 with
    | @cons _ mid' _ _ _ l' c' hk' htail' =>
      refine RawEq.of_tok (t := t) (ra := mid) (rb := mid') ?_ ?_ (ih htail' hr)
      · intro l2 c2; rw [← hk]; exact nextToken_kind_indep rfl
      · intro l2 c2; rw [← hk']; exact nextToken_kind_indep rfl

theorem LexTo.of_lexRaw (n : Nat) (s : Scanner) (k : Nat) :
    ∃ rest, LexTo s.rest (((Seed.lexRaw n s).1.take k).map Span.tok) rest := by
  induction n generalizing s k with
  | zero => exact ⟨s.rest, by simp only [Seed.lexRaw, List.take_nil, List.map_nil]; exact LexTo.nil _⟩
  | succ n ih =>
    cases k with
    | zero => exact ⟨s.rest, by simp only [List.take_zero, List.map_nil]; exact LexTo.nil _⟩
    | succ k =>
      unfold Seed.lexRaw
      cases hn : nextToken s with
      | eof => exact ⟨s.rest, by simp only [List.take_nil, List.map_nil]; exact LexTo.nil _⟩
      | err e => exact ⟨s.rest, by simp only [List.take_nil, List.map_nil]; exact LexTo.nil _⟩
      | tok sp s' =>
        obtain ⟨rest, hr⟩ := ih s' k
        refine ⟨rest, ?_⟩
        simp only [List.take_succ_cons, List.map_cons]
        obtain ⟨sr, sl, sc⟩ := s
        exact LexTo.cons sl sc (by rw [hn]; rfl) hr

theorem nextToken_progress {s s' : Scanner} {sp : Span} (h : nextToken s = .tok sp s') :
    s'.rest.length < s.rest.length := nextToken_rest_lt h

/-- what the parser sees, positions erased, and the kind of lexical error -/
def SameTokens (a b : List Char) : Prop :=
  (lexAll a).1.map Span.tok = (lexAll b).1.map Span.tok ∧
  (lexAll a).2.map eraseLoc = (lexAll b).2.map eraseLoc

end Seed.C09

namespace Seed.LexRT
open Seed

/-- `suppress` on bare tokens -/
def suppressT : Option Token → List Token → List Token
  | _, [] => []
  | last, t :: r =>
    if t ≠ Token.StmtEnd then t :: suppressT (some t) r
    else
      match last with
      | none => suppressT (some t) r
      | some u => if isContinuation u then suppressT (some t) r else t :: suppressT (some t) r

theorem suppress_map_tok (last : Option Token) (sps : List Span) :
    (suppress last sps).map Span.tok = suppressT last (sps.map Span.tok) := by
  induction sps generalizing last with
  | nil => rfl
  | cons sp r ih =>
    rw [suppress.eq_def]
    simp only [List.map_cons, suppressT]
    by_cases hs : sp.tok = Token.StmtEnd
    · have hs' : ¬ (sp.tok ≠ Token.StmtEnd) := fun h => h hs
      rw [if_neg hs', if_neg hs']
      cases last with
      | none => exact ih _
      | some u =>
        simp only
        cases hc : isContinuation u
        · simp only [Bool.false_eq_true, if_false, List.map_cons, ih]
        · simp only [if_true, ih]
    · rw [if_pos hs, if_pos hs, List.map_cons, ih]

end Seed.LexRT

namespace Seed.C09
open Seed

theorem suppress_tok_congr (last : Option Token) (ts ts' : List Span)
    (h : ts.map Span.tok = ts'.map Span.tok) :
    (suppress last ts).map Span.tok = (suppress last ts').map Span.tok := by
  rw [LexRT.suppress_map_tok, LexRT.suppress_map_tok, h]

theorem lexAll_eq_of_fuel {src : List Char} {n : Nat} (hn : src.length < n) :
    ∃ l c, lexAll src = (suppress none (lexRaw n ⟨src, l, c⟩).1, (lexRaw n ⟨src, l, c⟩).2) := by
  refine ⟨(Scanner.new src).line, (Scanner.new src).col, ?_⟩
  have e : Scanner.new src = ⟨src, (Scanner.new src).line, (Scanner.new src).col⟩ := by
    unfold Scanner.new; split <;> rfl
  unfold lexAll
  rw [← e, lexRaw_fuel_irrelevant (src.length + 1) n (Scanner.new src) (by rw [Scanner.new_rest]; omega)
    (by rw [Scanner.new_rest]; exact hn)]

theorem RawEq.sameTokens {a b : List Char} (h : RawEq a b) : SameTokens a b := by
  obtain ⟨l, c, ea⟩ := lexAll_eq_of_fuel (src := a) (n := a.length + b.length + 1) (by omega)
  obtain ⟨l', c', eb⟩ := lexAll_eq_of_fuel (src := b) (n := a.length + b.length + 1) (by omega)
  obtain ⟨h1, h2⟩ := h (a.length + b.length + 1) l c l' c'
  unfold SameTokens
  rw [ea, eb]
  exact ⟨suppress_tok_congr none _ _ h1, h2⟩

end Seed.C09
