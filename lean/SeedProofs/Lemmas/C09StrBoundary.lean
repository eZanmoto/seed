/-
  The boundary theorems of C09 at the end of a text whose last token is a string literal.

  A literal that is still open when the input ends is a token (C09Tok.lean, `open_literal_is_a_token`).  Hence

  * "the lexer produced a string TOKEN, so it saw the closing quote" is FALSE: `LexTo`-style hypotheses do
    not imply termination when nothing follows the boundary (the example
    `LexTo c!"x=\"ab" … [] ∧ Unterminated c!"x=\"ab"`).  They do imply it when something follows
    (`boundary_not_unterminated`) — which is why `newline_is_semicolon_at_boundary` (C09.lean) has no
    side condition and already covers a string literal before the `;`.
  * "a text that ends inside a literal is a lexical error before and after appending layout" is FALSE too:
    `x="ab` and `x="ab ` are both accepted, with different tokens; `x="ab\` is accepted and `x="ab\ ` is
    rejected (the `decide`d examples after `open_interp_start_fails`).  The end of such a text is not a
    token boundary but a point *inside* the literal; what is true is `unterminated_append` (the appended
    text is run through the string state machine from the state the literal was left in) with its outcomes
    per state (`open_none_plain`, `open_escape_fails`, `open_hex_fails`, `open_interp_start_fails`).
-/
import SeedModel.Lex
import SeedProofs.Lemmas.Scan
import SeedProofs.Lemmas.C09Pos
import SeedProofs.Lemmas.C09Layout
import SeedProofs.Lemmas.C09Local
import SeedProofs.Lemmas.C09Tok
import SeedProofs.Lemmas.C09Raw
namespace Seed.C09
open Seed

/-- `src` ends inside a string literal: it is lexed up to some token boundary, and what is left there is a
    literal that is still open at the end of `src` -/
def Unterminated (src : List Char) : Prop := ∃ ts mid, LexTo src ts mid ∧ openTok mid = true

theorem LexTo.nil_of_nil {ts : List Token} {rest : List Char} (h : LexTo [] ts rest) : ts = [] := by
  have := h.length_le
  simp only [List.length_nil] at this
  exact List.length_eq_zero_iff.mp (by omega)

theorem LexTo.replace_rest_aux {src rest : List Char} {ts : List Token} (h : LexTo src ts rest) :
    ∀ pre, src = pre ++ rest → ∀ y, EndsLike rest y → (rest = [] → y = [] ∨ ¬ Unterminated pre) →
      LexTo (pre ++ y) ts y := by
  induction h with
  | nil r =>
    intro pre hsrc y _ _
    obtain rfl := List.self_eq_append_left.mp hsrc
    exact LexTo.nil y
  | @cons src mid rest t ts l c hk htail ih =>
    intro pre hsrc y he hterm
    obtain ⟨k, _, _, hm⟩ := kind_tok_length hk
    simp only at hm
    obtain ⟨pre2, hp2, _⟩ := htail.suffix
    have hpre : pre = src.take k ++ pre2 := by
      have : src.take k ++ pre2 ++ rest = pre ++ rest := by
        rw [List.append_assoc, ← hp2, hm, List.take_append_drop, hsrc]
      exact (List.append_cancel_right this).symm
    subst hpre
    have hk' : kind (nextToken ⟨src.take k ++ (pre2 ++ rest), l, c⟩) = .tok t (pre2 ++ rest) := by
      rw [← hp2, hm, List.take_append_drop, ← hm]; exact hk
    rw [List.append_assoc]
    refine LexTo.cons l c (nextToken_local_term l c l c hk' ?_ ?_) (ih pre2 hp2 y he ?_)
    · -- the text after this token starts as before, unless this is the last token
      cases pre2 with
      | nil => exact he
      | cons d p => exact Or.inl rfl
    · -- the last token, at the end of the text: it is not an open literal, or `pre` would be unterminated
      intro hnil
      obtain ⟨rfl, hr⟩ := List.append_eq_nil_iff.mp hnil
      refine (hterm hr).imp (fun hy => by rw [hy]; rfl) fun hn => ?_
      cases ho : openTok (src.take k) with
      | false => rfl
      | true => exact absurd ⟨[], _, LexTo.nil _, by rw [List.append_nil]; exact ho⟩ hn
    · -- the text after the token ends inside a literal only if the whole text does
      intro hr
      refine (hterm hr).imp_right fun hn => ?_
      rintro ⟨ts', mid', h1, h2⟩
      rw [hr, List.append_nil] at hk'
      exact hn ⟨t :: ts', mid', LexTo.cons l c hk' h1, h2⟩

theorem LexTo.replace_rest_term {pre r : List Char} {ts : List Token} (h : LexTo (pre ++ r) ts r)
    (y : List Char) (he : EndsLike r y) (hterm : r = [] → y = [] ∨ ¬ Unterminated pre) :
    LexTo (pre ++ y) ts y :=
  h.replace_rest_aux pre rfl y he hterm

theorem LexTo.append_sep {pre : List Char} {ts : List Token} (h : LexTo pre ts [])
    (hn : ¬ Unterminated pre) (y : List Char) (he : EndsLike [] y) : LexTo (pre ++ y) ts y :=
  LexTo.replace_rest_term (r := []) (by rw [List.append_nil]; exact h) y he fun _ => Or.inr hn

theorem RawEq.at_boundary {pre r r' : List Char} {ts : List Token} (h : LexTo (pre ++ r) ts r)
    (he : EndsLike r r') (hterm : r = [] → r' = [] ∨ ¬ Unterminated pre) (hr : RawEq r' r) :
    RawEq (pre ++ r') (pre ++ r) :=
  RawEq.of_lexTo (h.replace_rest_term r' he hterm) h hr

theorem Layout.cons_sep {p : List Char} (hp : Layout p) (hne : p ≠ []) :
    ∃ e p', p = e :: p' ∧ isSep e := by
  cases hp with
  | nil => exact absurd rfl hne
  | blank hb _ => exact ⟨_, _, rfl, Or.inl hb⟩
  | comment _ => exact ⟨_, _, rfl, Or.inr (Or.inl rfl)⟩

/-- **L3, general, exact side condition**: layout inserted at *any* token boundary changes neither the raw
    token stream nor the kind of error.  Side conditions: a comment in `p` must be closed by `r`; and if
    `r` is empty, `pre` must not end inside a string literal. -/
theorem layout_invariance_at_boundary_term {pre p r : List Char} {ts : List Token}
    (h : LexTo (pre ++ r) ts r) (hp : Layout p) (hc : CommentClosed p r)
    (hterm : r = [] → ¬ Unterminated pre) : RawEq (pre ++ (p ++ r)) (pre ++ r) := by
  by_cases hne : p = []
  · rw [hne]; exact RawEq.refl _
  · obtain ⟨e, p', rfl, hs⟩ := hp.cons_sep hne
    exact RawEq.at_boundary h (Or.inr ⟨e, p' ++ r, rfl, hs⟩) (fun hr => Or.inr (hterm hr))
      (fun m l c l' c' => lexRaw_skip_layout hp r hc m l c l' c')

theorem layout_invariance_at_boundary_term_lexAll {pre p r : List Char} {ts : List Token}
    (h : LexTo (pre ++ r) ts r) (hp : Layout p) (hc : CommentClosed p r)
    (hterm : r = [] → ¬ Unterminated pre) : SameTokens (pre ++ (p ++ r)) (pre ++ r) :=
  (layout_invariance_at_boundary_term h hp hc hterm).sameTokens

/-- **L4 at the end of a text**: a newline or a `;` appended to a text that does not end inside a literal
    are the same thing (in the middle of a text — `newline_is_semicolon_at_boundary` in C09.lean — there
    is no side condition at all: see `boundary_not_unterminated`) -/
theorem newline_is_semicolon_at_end {pre : List Char} {ts : List Token} (h : LexTo pre ts [])
    (hn : ¬ Unterminated pre) (r : List Char) : RawEq (pre ++ '\n' :: r) (pre ++ ';' :: r) :=
  RawEq.at_boundary (h.append_sep hn _ (Or.inr ⟨';', r, rfl, Or.inr (Or.inr (Or.inr rfl))⟩))
    (Or.inr ⟨'\n', r, rfl, Or.inr (Or.inr (Or.inl rfl))⟩) (fun hr => by cases hr)
    (RawEq.newline_semicolon r)

-- a string TOKEN does not mean that the lexer saw a closing quote: `LexTo`-style hypotheses alone do not
-- imply termination when nothing follows
theorem ex_open_pre : LexTo c!"x=\"ab" [.Ident c!"x", .Equals] c!"\"ab" :=
  .cons 1 1 (mid := c!"=\"ab") (by decide) (.cons 1 2 (mid := c!"\"ab") (by decide) (.nil _))

example : LexTo c!"x=\"ab" [.Ident c!"x", .Equals, .StrLiteral c!"ab"] [] ∧ Unterminated c!"x=\"ab" :=
  ⟨ex_open_pre.append (.cons 1 3 (mid := []) (by decide) (.nil _)), _, _, ex_open_pre, by decide⟩

theorem LexTo.split_of_le {src m : List Char} {ts : List Token} (h : LexTo src ts m) :
    ∀ {ts' : List Token} {m' : List Char}, LexTo src ts' m' → ts.length ≤ ts'.length →
      ∃ us, ts' = ts ++ us ∧ LexTo m us m' := by
  induction h with
  | nil r => intro ts' m' h' _; exact ⟨ts', rfl, h'⟩
  | @cons src mid rest t ts l c hk _ ih =>
    intro ts' m' h' hl
    cases h' with
    | nil => simp at hl
    | @cons _ mid' _ t' ts'' l' c' hk' htail' =>
      have e : kind (nextToken ⟨src, l, c⟩) = kind (nextToken ⟨src, l', c'⟩) := nextToken_kind_indep rfl
      rw [hk, hk'] at e
      simp only [TokK.tok.injEq] at e
      obtain ⟨rfl, rfl⟩ := e
      obtain ⟨us, e1, e2⟩ := ih htail' (by simpa using hl)
      exact ⟨us, by rw [e1, List.cons_append], e2⟩

theorem LexTo.eq_of_nil {a b : List Char} (h : LexTo a [] b) : a = b := by
  cases h; rfl

theorem LexTo.cons_inv {a b : List Char} {t : Token} {ts : List Token} (h : LexTo a (t :: ts) b) :
    ∃ l c mid, kind (nextToken ⟨a, l, c⟩) = .tok t mid ∧ LexTo mid ts b := by
  cases h with
  | cons l c hk ht => exact ⟨l, c, _, hk, ht⟩

theorem LexTo.det_end {src : List Char} {ts ts' : List Token} (h : LexTo src ts []) (h' : LexTo src ts' []) :
    ts = ts' := by
  rcases Nat.le_total ts.length ts'.length with hl | hl
  · obtain ⟨us, e1, e2⟩ := h.split_of_le h' hl
    rw [e1, e2.nil_of_nil, List.append_nil]
  · obtain ⟨us, e1, e2⟩ := h'.split_of_le h hl
    rw [e1, e2.nil_of_nil, List.append_nil]

theorem unterminated_iff {pre mid : List Char} {ts : List Token} {t : Token} {l c : Nat}
    (h1 : LexTo pre ts mid) (h2 : kind (nextToken ⟨mid, l, c⟩) = .tok t []) :
    Unterminated pre ↔ openTok mid = true := by
  constructor
  · rintro ⟨ts', mid', h1', ho⟩
    obtain ⟨t', _, hk'⟩ := openTok_tok ho
    have a1 : LexTo pre (ts ++ [t]) [] := h1.append (LexTo.cons l c h2 (LexTo.nil []))
    have a2 : LexTo pre (ts' ++ [t']) [] := h1'.append (LexTo.cons 0 0 (hk' 0 0) (LexTo.nil []))
    have e := a1.det_end a2
    have hl : ts.length = ts'.length := by
      have := congrArg List.length e
      simp only [List.length_append, List.length_cons, List.length_nil] at this
      omega
    obtain ⟨us, e1, e2⟩ := h1.split_of_le h1' (Nat.le_of_eq hl)
    have hus : us = [] := by
      have := congrArg List.length e1
      simp only [List.length_append] at this
      exact List.length_eq_zero_iff.mp (by omega)
    subst hus
    rw [e2.eq_of_nil]
    exact ho
  · intro ho
    exact ⟨ts, mid, h1, ho⟩

theorem ex_lexTo_pre : LexTo c!"x=\"ab\"" [.Ident c!"x", .Equals] c!"\"ab\"" :=
  .cons 1 1 (mid := c!"=\"ab\"") (by decide) (.cons 1 2 (mid := c!"\"ab\"") (by decide) (.nil _))

theorem ex_lexTo : LexTo c!"x=\"ab\"" [.Ident c!"x", .Equals, .StrLiteral c!"ab"] [] :=
  ex_lexTo_pre.append (.cons 1 3 (mid := []) (by decide) (.nil _))

theorem ex_closed : ¬ Unterminated c!"x=\"ab\"" :=
  fun h => absurd ((unterminated_iff (l := 1) (c := 3) (t := .StrLiteral c!"ab") ex_lexTo_pre (by decide)).mp h)
    (by decide)

-- `x="ab"` is not unterminated although its last token is a string literal
example : ¬ Unterminated c!"x=\"ab\"" := ex_closed

/-- the side condition of `layout_invariance_at_boundary` (C09.lean) implies the exact one -/
theorem not_unterminated_of_last_not_str {pre : List Char} {ts : List Token} (h : LexTo pre ts [])
    (hl : ∀ t, ts.getLast? = some t → isStrTok t = false) : ¬ Unterminated pre := by
  rintro ⟨ts', mid', h1', ho⟩
  obtain ⟨t', hs, hk'⟩ := openTok_tok ho
  have e := h.det_end (h1'.append (LexTo.cons 0 0 (hk' 0 0) (LexTo.nil [])))
  have := hl t' (by rw [e]; simp)
  rw [hs] at this
  cases this

example : LexTo c!"x=1" [.Ident c!"x", .Equals, .IntLiteral 1] [] ∧
    ∀ t, [Token.Ident c!"x", .Equals, .IntLiteral 1].getLast? = some t → isStrTok t = false :=
  ⟨.cons 1 1 (mid := c!"=1") (by decide) (.cons 1 2 (mid := c!"1") (by decide)
      (.cons 1 3 (mid := []) (by decide) (.nil _))),
   fun t ht => by simp only [List.getLast?, List.getLast, Option.some.injEq] at ht; subst ht; rfl⟩

theorem OpenLit.resume_length {o : OpenLit} {y m : List Char} {t : Token} (h : o.resume y = .ok (t, m))
    (hy : y ≠ []) : m.length < y.length := by
  have hpos : 0 < y.length := List.length_pos_iff.mpr hy
  cases o with
  | body interp a =>
    rw [OpenLit.resume_body] at h
    cases hl : strLoopK interp y a with
    | error e => rw [hl] at h; cases h
    | ok p =>
      rw [hl] at h
      cases h
      have := strLoopK_length_le hl
      omega
  | noQuote =>
    rw [OpenLit.resume, exK_lexStr] at h
    cases y with
    | nil => exact absurd rfl hy
    | cons d y' =>
      obtain ⟨a, h1, _⟩ := lexStrK_ok h
      have := strLoopK_length_le h1
      simp only [List.length_cons]
      omega

theorem openTok_nil : openTok [] = false := rfl

/-- when something follows the boundary (`r ≠ []`), the `LexTo` hypothesis of the boundary theorems already
    implies that `pre` does not end inside a literal: an open literal would have run on into `r` -/
theorem boundary_not_unterminated {pre r : List Char} {ts : List Token} (h : LexTo (pre ++ r) ts r)
    (hr : r ≠ []) : ¬ Unterminated pre := by
  rintro ⟨ts', mid', h1', ho⟩
  have hm : mid' ≠ [] := by rintro rfl; rw [openTok_nil] at ho; cases ho
  obtain ⟨pre0, rfl, _⟩ := h1'.suffix
  have hh : mid'.head? = (mid' ++ r).head? := by
    cases mid' with
    | nil => exact absurd rfl hm
    | cons d m => rfl
  have h2 := h1'.replace_rest_term (mid' ++ r) (Or.inl hh) (fun h0 => absurd h0 hm)
  rw [← List.append_assoc] at h2
  have hlen : 0 < mid'.length := List.length_pos_iff.mpr hm
  rcases Nat.le_total ts.length ts'.length with hl | hl
  · obtain ⟨us, _, e2⟩ := h.split_of_le h2 hl
    have := e2.length_le
    simp only [List.length_append] at this
    omega
  · obtain ⟨us, _, e2⟩ := h2.split_of_le h hl
    cases us with
    | nil =>
      have := congrArg List.length e2.eq_of_nil
      simp only [List.length_append] at this
      omega
    | cons t2 us' =>
      obtain ⟨l, c, m2, hk, htail⟩ := e2.cons_inv
      unfold openTok at ho
      obtain ⟨o, ho'⟩ := Option.isSome_iff_exists.mp ho
      have hsw := open_literal_swallows ho' r l c
      rw [hk] at hsw
      cases hx : o.resume r with
      | error e => rw [hx] at hsw; cases hsw
      | ok p =>
        obtain ⟨t3, m3⟩ := p
        rw [hx] at hsw
        simp only [TokK.tok.injEq] at hsw
        have h3 := OpenLit.resume_length hx hr
        have h4 := htail.length_le
        rw [hsw.2] at h4
        omega

example : LexTo (c!"x=\"ab\"" ++ c!";y") [.Ident c!"x", .Equals, .StrLiteral c!"ab"] c!";y" ∧
    (c!";y" : List Char) ≠ [] :=
  ⟨.cons 1 1 (mid := c!"=\"ab\";y") (by decide) (.cons 1 2 (mid := c!"\"ab\";y") (by decide)
      (.cons 1 3 (mid := c!";y") (by decide) (.nil _))), by decide⟩

theorem openLit_nil : openLit [] = none := rfl

theorem unterminated_append {pre mid : List Char} {ts : List Token} {o : OpenLit}
    (h : LexTo pre ts mid) (ho : openLit mid = some o) (y : List Char) :
    LexTo (pre ++ y) ts (mid ++ y) ∧
    ∀ l c, kind (nextToken ⟨mid ++ y, l, c⟩) =
      match o.resume y with
      | .error e => .err e
      | .ok (t, r) => .tok t r := by
  refine ⟨?_, fun l c => open_literal_swallows ho y l c⟩
  have hm : mid ≠ [] := by rintro rfl; rw [openLit_nil] at ho; cases ho
  obtain ⟨pre0, rfl, _⟩ := h.suffix
  have hh : mid.head? = (mid ++ y).head? := by
    cases mid with
    | nil => exact absurd rfl hm
    | cons d m => rfl
  have h2 := h.replace_rest_term (mid ++ y) (Or.inl hh) (fun h0 => absurd h0 hm)
  rw [← List.append_assoc] at h2
  exact h2

/-- the accumulator after `p` more plain characters -/
def _root_.Seed.StrAcc.grow (a : StrAcc) (p : List Char) : StrAcc :=
  { a with chars := p.reverse ++ a.chars, n := a.n + p.length }

theorem strLoopK_plain (interp : Bool) (p : List Char) : ∀ (a : StrAcc), a.state = .None →
    (∀ x ∈ p, x ≠ '\\' ∧ x ≠ '"' ∧ x ≠ '$') → strLoopK interp p a = .ok (a.grow p, []) := by
  induction p with
  | nil =>
    intro a _ _
    obtain ⟨_, _, _, _, _, _, _⟩ := a
    simp [strLoopK, StrAcc.grow]
  | cons x p ih =>
    intro a hst hp
    obtain ⟨h1, h2, h3⟩ := hp x (List.mem_cons_self ..)
    have hstep : strStep interp a x (0, 0) = .cont (a.push x) := by
      simp [strStep, hst, h1, h2, h3]
    rw [strLoopK, hstep]
    simp only
    rw [ih (a.push x) hst (fun z hz => hp z (List.mem_cons_of_mem _ hz))]
    obtain ⟨_, _, _, _, _, _, _⟩ := a
    simp [StrAcc.grow, StrAcc.push]
    omega

theorem blank_plain {x : Char} (h : isBlank x) : x ≠ '\\' ∧ x ≠ '"' ∧ x ≠ '$' := by
  refine ⟨?_, ?_, ?_⟩ <;> (rintro rfl; revert h; decide)

/-- **inside the literal's text** (state `None`): appended plain characters — blanks, a comment without
    `\`, `"`, `$` — become part of the literal; the text is still accepted, and still ends inside the literal -/
theorem open_none_plain {interp : Bool} {a : StrAcc} (hst : a.state = .None) (p : List Char)
    (hp : ∀ x ∈ p, x ≠ '\\' ∧ x ≠ '"' ∧ x ≠ '$') :
    (OpenLit.body interp a).resume p = .ok (strTok interp (a.grow p), []) := by
  rw [OpenLit.resume_body, strLoopK_plain interp p a hst hp]

example : (StrAcc.init).state = .None ∧ ∀ x ∈ c!"  \t", x ≠ '\\' ∧ x ≠ '"' ∧ x ≠ '$' := by decide

theorem hexVal_sep {e : Char} (h : isSep e) : hexVal e = none := by
  rcases isSep_cases h with rfl | rfl | rfl | rfl | rfl | rfl | rfl <;> decide

theorem resume_of_fail {interp : Bool} {a : StrAcc} {e : Char} {p' : List Char} {err : LexError}
    (h : strStep interp a e (0, 0) = .fail err) : (OpenLit.body interp a).resume (e :: p') = .error err := by
  rw [OpenLit.resume_body, strLoopK, h]

/-- **after a backslash** (state `Escape`): any appended layout turns the accepted text into a rejected one -/
theorem open_escape_fails {interp : Bool} {a : StrAcc} (hst : a.state = .Escape) {e : Char}
    (p' : List Char) (he : isSep e) :
    (OpenLit.body interp a).resume (e :: p') = .error (.InvalidEscapeChar (0, 0) e) :=
  resume_of_fail (by
    rcases isSep_cases he with rfl | rfl | rfl | rfl | rfl | rfl | rfl <;> simp [strStep, hst])

/-- **inside `\x..`** (state `Hex`): the same, with `InvalidHexChar` -/
theorem open_hex_fails {interp : Bool} {a : StrAcc} (hst : a.state = .Hex) {e : Char}
    (p' : List Char) (he : isSep e) :
    (OpenLit.body interp a).resume (e :: p') = .error (.InvalidHexChar (0, 0) e) :=
  resume_of_fail (by simp [strStep, hst, hexVal_sep he])

/-- **right after `$`** in an interpolated literal: the same, with `InvalidInterpolationStart` -/
theorem open_interp_start_fails {interp : Bool} {a : StrAcc} (hst : a.state = .Interpolate)
    (hs : a.curStart + 1 = a.n) {e : Char} (p' : List Char) (he : isSep e) :
    (OpenLit.body interp a).resume (e :: p') = .error (.InvalidInterpolationStart (0, 0) e) := by
  have hb : e ≠ '{' := by
    rcases isSep_cases he with rfl | rfl | rfl | rfl | rfl | rfl | rfl <;> decide
  exact resume_of_fail (by simp [strStep, hst, hs, hb])

example : ∃ e, isSep e := ⟨' ', by decide⟩

-- the same facts by evaluation of the whole lexer: at the end of a text that ends inside a literal, layout
-- changes the tokens (first line), and can turn an accepted text into a rejected one (second line).  So the
-- statement "such a text is a lexical error before and after" is FALSE of the model (and of the implementation,
-- whose `next_str_literal` leaves its loop at the end of input and returns `Ok`).
example : (lexAll c!"x=\"ab").2 = none ∧ (lexAll c!"x=\"ab ").2 = none ∧
    (lexAll c!"x=\"ab").1.map Span.tok = [.Ident c!"x", .Equals, .StrLiteral c!"ab"] ∧
    (lexAll c!"x=\"ab ").1.map Span.tok = [.Ident c!"x", .Equals, .StrLiteral c!"ab "] := by decide
example : (lexAll c!"x=\"ab\\").2 = none ∧
    (lexAll c!"x=\"ab\\ ").2 = some (.InvalidEscapeChar (1, 7) ' ') := by decide

theorem lexRaw_one_tok {s : Scanner} {t : Token} {r : List Char} (h : kind (nextToken s) = .tok t r) :
    (lexRaw 1 s).1.map Span.tok = [t] ∧ (lexRaw 1 s).2 = none := by
  obtain ⟨l, c, e1, e2⟩ := lexRaw_succ_of_tok h 0
  exact ⟨e1, e2⟩

theorem lexRaw_one_err {s : Scanner} {e : LexError} (h : kind (nextToken s) = .err e) :
    (lexRaw 1 s).1 = [] ∧ (lexRaw 1 s).2.map eraseLoc = some e := by
  cases hn : nextToken s with
  | eof => rw [hn] at h; cases h
  | tok sp s' => rw [hn] at h; cases h
  | err e' =>
    rw [hn] at h
    simp only [kind, TokK.err.injEq] at h
    simp [lexRaw, hn, h]

theorem step_space (interp : Bool) (a : StrAcc) (loc : Loc) :
    (∃ e, strStep interp a ' ' loc = .fail e) ∨
    (∃ a'', strStep interp a ' ' loc = .cont a'' ∧ a''.chars = ' ' :: a.chars) := by
  obtain ⟨chars, n, st, fh, cs, sl, br⟩ := a
  cases st with
  | None =>
    exact Or.inr ⟨(⟨chars, n, .None, fh, cs, sl, br⟩ : StrAcc).push ' ', by simp [strStep], by simp [StrAcc.push]⟩
  | Escape => exact Or.inl ⟨.InvalidEscapeChar loc ' ', by simp [strStep]⟩
  | Hex => exact Or.inl ⟨.InvalidHexChar loc ' ', by simp [strStep, show hexVal ' ' = none from by decide]⟩
  | Interpolate =>
    by_cases h : cs + 1 = n
    · exact Or.inl ⟨.InvalidInterpolationStart loc ' ', by simp [strStep, h]⟩
    · by_cases hb : br = 0
      · exact Or.inr ⟨(⟨chars, n, .None, fh, cs, (cs, n + 1) :: sl, 0⟩ : StrAcc).push ' ',
          by simp [strStep, h, hb], by simp [StrAcc.push]⟩
      · exact Or.inr ⟨(⟨chars, n, .Interpolate, fh, cs, sl, br⟩ : StrAcc).push ' ',
          by simp [strStep, h, hb], by simp [StrAcc.push]⟩

theorem strTok_ne_of_chars {interp : Bool} {a a'' : StrAcc} (h : a''.chars = ' ' :: a.chars) :
    strTok interp a'' ≠ strTok interp a := by
  intro heq
  have hc : a''.chars.reverse = a.chars.reverse := by
    unfold strTok at heq
    cases interp
    · simpa using heq
    · simp only [if_true, Token.InterpStrLiteral.injEq] at heq; exact heq.1
  have := congrArg List.length hc
  rw [h] at this
  simp only [List.length_reverse, List.length_cons] at this
  omega

/-- for every open literal there is a layout text that does not leave it alone: one blank (it fails, or is
    added to the literal); after `$` alone two blanks (the first is taken for the opening quote) -/
theorem OpenLit.layout_matters (o : OpenLit) :
    ∃ p, Layout p ∧ ((∃ e, o.resume p = .error e) ∨ (∃ t r, o.resume p = .ok (t, r) ∧ t ≠ o.tok)) := by
  cases o with
  | body interp a =>
    refine ⟨[' '], Layout.blank (by decide) Layout.nil, ?_⟩
    rcases step_space interp a (0, 0) with ⟨e, he⟩ | ⟨a'', hs, hc⟩
    · exact Or.inl ⟨_, resume_of_fail he⟩
    · refine Or.inr ⟨strTok interp a'', [], ?_, strTok_ne_of_chars hc⟩
      rw [OpenLit.resume_body]
      simp only [strLoopK, hs]
  | noQuote =>
    exact ⟨[' ', ' '], Layout.blank (by decide) (Layout.blank (by decide) Layout.nil),
      Or.inr ⟨.InterpStrLiteral [' '] [], [], rfl, by decide⟩⟩

theorem unterminated_layout_matters {pre : List Char} (h : Unterminated pre) :
    ∃ p, Layout p ∧ ¬ RawEq (pre ++ p) pre := by
  obtain ⟨ts, mid, h1, ho⟩ := h
  unfold openTok at ho
  obtain ⟨o, ho'⟩ := Option.isSome_iff_exists.mp ho
  obtain ⟨p, hp, hkey⟩ := o.layout_matters
  refine ⟨p, hp, ?_⟩
  intro hre
  obtain ⟨hl2, hk2⟩ := unterminated_append h1 ho' p
  obtain ⟨b1, b2⟩ := lexRaw_one_tok (open_literal_is_a_token ho' 0 0)
  obtain ⟨A1, A2⟩ := hl2.lexRaw 1 0 0 0 0
  obtain ⟨B1, B2⟩ := h1.lexRaw 1 0 0 0 0
  obtain ⟨C1, C2⟩ := hre (ts.length + 1) 0 0 0 0
  rw [A1, B1, b1] at C1
  rw [A2, B2, b2] at C2
  have hk := hk2 0 0
  rcases hkey with ⟨e, he⟩ | ⟨t, r, he, hne⟩
  · rw [he] at hk
    rw [(lexRaw_one_err hk).2] at C2
    cases C2
  · rw [he] at hk
    rw [(lexRaw_one_tok hk).1] at C1
    have := List.append_cancel_left C1
    simp only [List.cons.injEq, and_true] at this
    exact hne this

/-- **exactness**: for a text that lexes to its end, "every layout text may be appended without changing the
    raw tokens or the error" holds if and only if the text does not end inside a string literal -/
theorem layout_at_end_iff {pre : List Char} {ts : List Token} (h : LexTo pre ts []) :
    (∀ p, Layout p → RawEq (pre ++ p) pre) ↔ ¬ Unterminated pre := by
  constructor
  · intro hall hu
    obtain ⟨p, hp, hn⟩ := unterminated_layout_matters hu
    exact hn (hall p hp)
  · intro hn p hp
    have h' : LexTo (pre ++ []) ts [] := by rw [List.append_nil]; exact h
    have := layout_invariance_at_boundary_term h' hp (fun _ => Or.inl rfl) (fun _ => hn)
    rw [List.append_nil, List.append_nil] at this
    exact this

-- the last token of `pre` IS a string literal, nothing follows, and layout (with a comment) is appended
example : SameTokens (c!"x=\"ab\"" ++ (c!" \t# c" ++ [])) (c!"x=\"ab\"" ++ []) :=
  layout_invariance_at_boundary_term_lexAll (ts := [.Ident c!"x", .Equals, .StrLiteral c!"ab"])
    (by rw [List.append_nil]; exact ex_lexTo)
    (.blank (by decide) (.blank (by decide) (.comment (by decide)))) (fun _ => Or.inl rfl) (fun _ => ex_closed)
example : (lexAll c!"x=\"ab\" \t# c").1.map Span.tok = [.Ident c!"x", .Equals, .StrLiteral c!"ab"] ∧
    (lexAll c!"x=\"ab\"").1.map Span.tok = [.Ident c!"x", .Equals, .StrLiteral c!"ab"] := by decide
example : RawEq (c!"x=\"ab\"" ++ '\n' :: c!"y") (c!"x=\"ab\"" ++ ';' :: c!"y") :=
  newline_is_semicolon_at_end ex_lexTo ex_closed c!"y"

-- open literals in each state of the machine (hypotheses of `open_literal_swallows`, `unterminated_append`,
-- `open_none_plain`, `open_escape_fails`, `open_hex_fails`, `open_interp_start_fails` are satisfiable)
example : ∃ a, openLit c!"\"ab" = some (.body false a) ∧ a.state = .None := ⟨_, rfl, rfl⟩
example : ∃ a, openLit c!"\"ab\\" = some (.body false a) ∧ a.state = .Escape := ⟨_, rfl, rfl⟩
example : ∃ a, openLit c!"\"ab\\x4" = some (.body false a) ∧ a.state = .Hex := ⟨_, rfl, rfl⟩
example : ∃ a, openLit c!"$\"ab$" = some (.body true a) ∧ a.state = .Interpolate ∧ a.curStart + 1 = a.n :=
  ⟨_, rfl, rfl, rfl⟩
example : openLit c!"x $" = none ∧ openLit c!" $" = some .noQuote := ⟨rfl, rfl⟩
example : ∃ o, LexTo c!"x=\"ab" [.Ident c!"x", .Equals] c!"\"ab" ∧ openLit c!"\"ab" = some o :=
  ⟨_, ex_open_pre, rfl⟩
example : ∀ p, Layout p → RawEq (c!"x=\"ab\"" ++ p) c!"x=\"ab\"" := (layout_at_end_iff ex_lexTo).mpr ex_closed

end Seed.C09
