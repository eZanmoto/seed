/-
  One token and the text after it.

  * `nextToken_local_term` (token locality, see C09Local.lean for the statement in words), class by class:
    string literals, symbols, then words / numbers / terminators inside `tokK_local`.  Its side condition
    is exact: at the end of input the token must not be a literal that is still open (`openTok`).
  * The model (`strLoop`, SeedModel/Lex.lean), like the implementation (`while let Some(c) = peek_char()` in
    `next_str_literal`, which falls out of the loop at the end of input and returns `Ok`), ACCEPTS a literal
    that is still open when the input ends: `"ab` is the token `StrLiteral "ab"`, without any error
    (`open_literal_is_a_token`), and whatever is appended is run through the string state machine from the
    state the literal was left in (`open_literal_swallows`).  A literal that was *rejected* stays rejected,
    with the same error, whatever is appended (`str_error_stable`).
-/
import SeedModel.Lex
import SeedProofs.Lemmas.Scan
import SeedProofs.Lemmas.C09Pos
import SeedProofs.Lemmas.C09Layout
import SeedProofs.Lemmas.C09Local
namespace Seed.C09
open Seed

/-- `strStep` (positions dropped) run over *all* of `r`: `some a'` iff the machine neither fails nor sees
    the closing quote — the literal is still open after `r`, with accumulator `a'` -/
def strRun (interp : Bool) : List Char → StrAcc → Option StrAcc
  | [], a => some a
  | ch :: r, a =>
    match strStep interp a ch (0, 0) with
    | .cont a' => strRun interp r a'
    | _ => none

theorem strLoopK_append (interp : Bool) (r y : List Char) (a : StrAcc) :
    strLoopK interp (r ++ y) a =
      match strRun interp r a with
      | some a' => strLoopK interp y a'
      | none =>
        match strLoopK interp r a with
        | .error e => .error e
        | .ok (a', x) => .ok (a', x ++ y) := by
  induction r generalizing a with
  | nil => rfl
  | cons ch r ih =>
    rw [List.cons_append, strLoopK, strLoopK, strRun]
    cases strStep interp a ch (0, 0) with
    | fail e => rfl
    | done a' => rfl
    | cont a' => exact ih a'

theorem strLoopK_length_le {interp : Bool} {r x : List Char} {a a' : StrAcc}
    (h : strLoopK interp r a = .ok (a', x)) : x.length ≤ r.length - 1 := by
  induction r generalizing a with
  | nil => cases h; exact Nat.le_refl _
  | cons ch r ih =>
    unfold strLoopK at h
    cases hs : strStep interp a ch (0, 0) <;> rw [hs] at h
    · exact Nat.le_trans (ih h) (Nat.sub_le _ _)
    · cases h; exact Nat.le_refl _
    · cases h

theorem strLoopK_of_run {interp : Bool} {r : List Char} {a a' : StrAcc} (h : strRun interp r a = some a') :
    strLoopK interp r a = .ok (a', []) := by
  have := strLoopK_append interp r [] a
  rwa [List.append_nil, h] at this

theorem strLoopK_local {interp : Bool} {a1 x : List Char} {acc acc' : StrAcc}
    (h : strLoopK interp (a1 ++ x) acc = .ok (acc', x)) (hx : x = [] → strRun interp a1 acc = none)
    (y : List Char) : strLoopK interp (a1 ++ y) acc = .ok (acc', y) := by
  rw [strLoopK_append] at h ⊢
  cases hr : strRun interp a1 acc with
  | some a'' =>
    exfalso
    rw [hr] at h
    cases x with
    | nil => rw [hx rfl] at hr; cases hr
    | cons d x' => exact Nat.not_succ_le_self _ (strLoopK_length_le h)
  | none =>
    rw [hr] at h
    simp only at h ⊢
    cases hl : strLoopK interp a1 acc with
    | error e => rw [hl] at h; cases h
    | ok p =>
      obtain ⟨a', x0⟩ := p
      rw [hl] at h
      simp only [Except.ok.injEq, Prod.mk.injEq] at h ⊢
      obtain rfl := List.append_left_eq_self.mp h.2
      exact ⟨h.1, rfl⟩

theorem strLoopK_error_append {interp : Bool} {r : List Char} {a : StrAcc} {e : LexError}
    (h : strLoopK interp r a = .error e) (y : List Char) : strLoopK interp (r ++ y) a = .error e := by
  rw [strLoopK_append]
  cases hr : strRun interp r a with
  | some a' => rw [strLoopK_of_run hr] at h; cases h
  | none => simp only [h]

theorem lexStrK_cons (interp : Bool) (q : Char) (r : List Char) :
    lexStrK interp (q :: r) =
      match strLoopK interp r StrAcc.init with
      | .error e => .error e
      | .ok (a, r') => .ok (strTok interp a, r') := rfl

theorem lexStrK_ok {interp : Bool} {q : Char} {r x : List Char} {t : Token}
    (h : lexStrK interp (q :: r) = .ok (t, x)) :
    ∃ a, strLoopK interp r StrAcc.init = .ok (a, x) ∧ t = strTok interp a := by
  rw [lexStrK_cons] at h
  cases hl : strLoopK interp r StrAcc.init with
  | error e => rw [hl] at h; cases h
  | ok p =>
    obtain ⟨a, r'⟩ := p
    rw [hl] at h
    cases h
    exact ⟨a, rfl, rfl⟩

theorem lexStrK_local {interp : Bool} {q : Char} {a2 x : List Char} {t : Token}
    (h : lexStrK interp (q :: (a2 ++ x)) = .ok (t, x)) (hx : x = [] → strRun interp a2 StrAcc.init = none)
    (y : List Char) : lexStrK interp (q :: (a2 ++ y)) = .ok (t, y) := by
  obtain ⟨a, h1, rfl⟩ := lexStrK_ok h
  rw [lexStrK_cons, strLoopK_local h1 hx y]

theorem lexStrK_error_append {interp : Bool} {q : Char} {a2 : List Char} {e : LexError}
    (h : lexStrK interp (q :: a2) = .error e) (y : List Char) :
    lexStrK interp (q :: (a2 ++ y)) = .error e := by
  rw [lexStrK_cons] at h ⊢
  cases hl : strLoopK interp a2 StrAcc.init with
  | ok p => rw [hl] at h; cases h
  | error e' =>
    rw [hl] at h
    rw [strLoopK_error_append hl]
    exact h

theorem isStrTok_strTok (interp : Bool) (a : StrAcc) : isStrTok (strTok interp a) = true := by
  unfold strTok; split <;> rfl

theorem symCore_one_iff (c1 : Char) (o2 o3 : Option Char) (t : Token) :
    ((symCore c1 o2 o3).1 = some t ∧ (symCore c1 o2 o3).2 = 1) ↔
      (matchSingle c1 = some t ∧ ∀ c2, o2 = some c2 → matchDouble c1 c2 = none) := by
  unfold symCore
  repeat' split
  all_goals simp_all

theorem symCore_two_iff (c1 c2 : Char) (o3 : Option Char) (t : Token) :
    ((symCore c1 (some c2) o3).1 = some t ∧ (symCore c1 (some c2) o3).2 = 2) ↔
      (matchDouble c1 c2 = some t ∧ ∀ c3, o3 = some c3 → matchTriple c1 c2 c3 = none) := by
  unfold symCore
  repeat' split
  all_goals simp_all

theorem symCore_local (c1 : Char) (a1 x y : List Char) (t : Token)
    (h1 : (symCore c1 (a1 ++ x).head? ((a1 ++ x).drop 1).head?).1 = some t)
    (h2 : (c1 :: (a1 ++ x)).drop (symCore c1 (a1 ++ x).head? ((a1 ++ x).drop 1).head?).2 = x)
    (he : EndsLike x y) :
    (symCore c1 (a1 ++ y).head? ((a1 ++ y).drop 1).head?).1 = some t ∧
      (c1 :: (a1 ++ y)).drop (symCore c1 (a1 ++ y).head? ((a1 ++ y).drop 1).head?).2 = y := by
  obtain ⟨k1, k2, k3, k4⟩ := symCore_count c1 (a1 ++ x).head? ((a1 ++ x).drop 1).head?
  have h2 := congrArg List.length h2
  rcases a1 with _ | ⟨c2, _ | ⟨c3, _ | ⟨c4, a4⟩⟩⟩
  · simp only [List.nil_append] at h1 h2 k1 k2 k3 ⊢
    have hk : (symCore c1 x.head? (x.drop 1).head?).2 = 1 := by
      cases x with
      | nil => exact k3 rfl
      | cons d x => simp only [List.length_drop, List.length_cons] at h2; omega
    obtain ⟨hs, hd⟩ := (symCore_one_iff c1 _ _ t).mp ⟨h1, hk⟩
    obtain ⟨r1, r2⟩ := (symCore_one_iff c1 y.head? (y.drop 1).head? t).mpr
      ⟨hs, he.forall_head hd fun e hsep => matchDouble_sep c1 hsep⟩
    rw [r2]
    exact ⟨r1, rfl⟩
  · simp only [List.cons_append, List.nil_append, List.head?_cons, List.drop_succ_cons, List.drop_zero]
      at h1 h2 k1 k2 k4 ⊢
    have hk : (symCore c1 (some c2) x.head?).2 = 2 := by
      cases x with
      | nil =>
        have := k4 rfl
        simp only [List.length_drop, List.length_cons, List.length_nil] at h2
        omega
      | cons d x => simp only [List.length_drop, List.length_cons] at h2; omega
    obtain ⟨hs, hd⟩ := (symCore_two_iff c1 c2 _ t).mp ⟨h1, hk⟩
    obtain ⟨r1, r2⟩ := (symCore_two_iff c1 c2 y.head? t).mpr
      ⟨hs, he.forall_head hd fun e hsep => matchTriple_sep c1 c2 hsep⟩
    rw [r2]
    exact ⟨r1, rfl⟩
  · simp only [List.cons_append, List.nil_append, List.head?_cons, List.drop_succ_cons, List.drop_zero]
      at h1 h2 k1 k2 ⊢
    have hk : (symCore c1 (some c2) (some c3)).2 = 3 := by
      simp only [List.length_drop, List.length_cons] at h2; omega
    rw [hk]
    exact ⟨h1, rfl⟩
  · exfalso
    simp only [List.cons_append, List.head?_cons, List.drop_succ_cons, List.drop_zero, List.length_drop,
      List.length_cons, List.length_append] at h2 k2
    omega

/-- how a literal can be still open at the end of the text: inside its body, the state machine being in
    `a`; or `$` was the last character, so that even the opening quote is missing -/
inductive OpenLit where
  | body (interp : Bool) (a : StrAcc)
  | noQuote

/-- `ch :: a1` is a token text starting with `ch`: is it a literal that `a1` leaves open? -/
def openBody (ch : Char) (a1 : List Char) : Option OpenLit :=
  if ch = '"' then (strRun false a1 StrAcc.init).map (OpenLit.body false)
  else if ch = '$' then
    match a1 with
    | [] => some .noQuote
    | _ :: body => (strRun true body StrAcc.init).map (OpenLit.body true)
  else none

/-- the first token of `src` (after layout) is a string literal that is still open at the end of `src` -/
def openLit (src : List Char) : Option OpenLit :=
  match (skipWs src 0 0).rest with
  | [] => none
  | ch :: a1 => openBody ch a1

def openTok (src : List Char) : Bool := (openLit src).isSome

theorem openLit_of_skipWs {src : List Char} {ch : Char} {a1 : List Char} {l c : Nat}
    (h : (skipWs src l c).rest = ch :: a1) : openLit src = openBody ch a1 := by
  unfold openLit
  rw [skipWs_rest_indep src 0 0 l c, h]

theorem tokBody_quote (s : Scanner) : tokBody '"' s = lexStr false s := by
  unfold tokBody; rfl

theorem tokBody_dollar (s : Scanner) : tokBody '$' s = lexStr true s.next := by
  unfold tokBody; rfl

theorem drop_length_cons_append (ch : Char) (a1 y : List Char) :
    (ch :: (a1 ++ y)).drop (ch :: a1).length = y := by
  simp

theorem tokK_local (ch : Char) (a1 x y : List Char) (t : Token) (h : tokK ch (a1 ++ x) = .tok t x)
    (he : EndsLike x y) (hstr : x = [] → y = [] ∨ openBody ch a1 = none) :
    tokK ch (a1 ++ y) = .tok t y := by
  by_cases hxy : y = x
  · rw [hxy]; exact h
  have hopen : x = [] → openBody ch a1 = none := fun hx =>
    (hstr hx).resolve_left fun hy => hxy (by rw [hx, hy])
  rw [tokK_tok_iff] at h ⊢
  rcases tokBody_cases ch with ⟨_, e⟩ | ⟨_, e⟩ | ⟨_, e⟩ | ⟨rfl, e⟩ | ⟨rfl, e⟩ | ⟨_, _, e⟩ <;> rw [e] at h ⊢
  · simp only [exK, Scanner.next_mk_cons, Except.ok.injEq, Prod.mk.injEq] at h ⊢
    obtain rfl := List.append_left_eq_self.mp h.2
    exact ⟨h.1, rfl⟩
  · simp only [exK, Scanner.advance_rest, Except.ok.injEq, Prod.mk.injEq] at h ⊢
    obtain ⟨r1, r2⟩ := takeWhile_local h.2 he (fun e hs => isIdentChar_sep hs)
    rw [r1] at h
    rw [r2]
    exact ⟨h.1, drop_length_cons_append ch a1 y⟩
  · rw [exK_lexInt] at h ⊢
    unfold lexIntK at h ⊢
    simp only at h ⊢
    split at h
    · next hle =>
      simp only [Except.ok.injEq, Prod.mk.injEq] at h
      obtain ⟨r1, r2⟩ := takeWhile_local h.2 he (fun e hs => isIntChar_sep hs)
      rw [r1] at h hle
      rw [r2, if_pos hle, h.1, drop_length_cons_append]
    · cases h
  · rw [exK_lexStr] at h ⊢
    exact lexStrK_local h (fun hx => by simpa [openBody] using hopen hx) y
  · rw [exK_lexStr] at h ⊢
    simp only [Scanner.next_mk_cons] at h ⊢
    cases a1 with
    | nil =>
      exfalso
      cases x with
      | nil => simpa [openBody] using hopen rfl
      | cons d x' =>
        obtain ⟨a, h1, _⟩ := lexStrK_ok h
        exact Nat.not_succ_le_self _ (Nat.le_trans (strLoopK_length_le h1) (Nat.sub_le _ _))
    | cons q a2 => exact lexStrK_local h (fun hx => by simpa [openBody] using hopen hx) y
  · rw [lexSym_eq_symCore] at h ⊢
    simp only [List.drop_succ_cons, List.drop_zero] at h ⊢
    cases hsym : (symCore ch (a1 ++ x).head? ((a1 ++ x).drop 1).head?).1 with
    | none => rw [hsym] at h; cases h
    | some t0 =>
      rw [hsym] at h
      simp only [exK, Scanner.advance_rest, Except.ok.injEq, Prod.mk.injEq] at h
      obtain ⟨r1, r2⟩ := symCore_local ch a1 x y t (by rw [hsym, h.1]) h.2 he
      rw [r1]
      simp only [exK, Scanner.advance_rest, r2]

theorem kind_tok_skipWs {a x : List Char} {l c : Nat} {t : Token}
    (h : kind (nextToken ⟨a ++ x, l, c⟩) = .tok t x) : x.length < (skipWs (a ++ x) l c).rest.length := by
  cases hn : nextToken ⟨a ++ x, l, c⟩ with
  | eof => rw [hn] at h; cases h
  | err e => rw [hn] at h; cases h
  | tok sp s' =>
    rw [hn] at h
    simp only [kind, TokK.tok.injEq] at h
    obtain ⟨hne, _, _, j, hj, hs'⟩ := nextToken_tok_shape hn
    have hx : s'.rest.length = (Scanner.skipWs ⟨a ++ x, l, c⟩).rest.length - j := by
      rw [hs', Scanner.advance_rest, List.length_drop]
    rw [h.2] at hx
    have : 0 < (Scanner.skipWs ⟨a ++ x, l, c⟩).rest.length := List.length_pos_iff.mpr hne
    change _ < (Scanner.skipWs ⟨a ++ x, l, c⟩).rest.length
    omega

/-- the hypothesis of `skipWs_local` for `x = []` -/
theorem kind_ne_eof_skipWs {a : List Char} {l c : Nat} (h : kind (nextToken ⟨a, l, c⟩) ≠ .eof) :
    ([] : List Char).length < (skipWs (a ++ []) l c).rest.length := by
  rw [List.append_nil]
  exact List.length_pos_iff.mpr fun hr => h (kind_eq_eof_iff.mpr hr)

/-- **token locality** with the exact side condition: at the end of input (`x = []`) the token must not
    be a literal that is still open, which would swallow `y` -/
theorem nextToken_local_term {a x y : List Char} {t : Token} (l c l' c' : Nat)
    (h : kind (nextToken ⟨a ++ x, l, c⟩) = .tok t x)
    (he : EndsLike x y) (hstr : x = [] → y = [] ∨ openTok a = false) :
    kind (nextToken ⟨a ++ y, l', c'⟩) = .tok t y := by
  obtain ⟨ch, a1, hsk⟩ := skipWs_local a x l c (kind_tok_skipWs h)
  rw [kind_nextToken (s := ⟨a ++ x, l, c⟩) (hsk x l c)] at h
  rw [kind_nextToken (s := ⟨a ++ y, l', c'⟩) (hsk y l' c')]
  refine tokK_local ch a1 x y t h he fun hx => (hstr hx).imp_right fun ho => ?_
  have h0 : (skipWs a 0 0).rest = ch :: a1 := by simpa using hsk [] 0 0
  rw [← openLit_of_skipWs h0]
  simpa [openTok] using ho

/-- the token the lexer makes of an open literal at the end of input -/
def OpenLit.tok : OpenLit → Token
  | .body interp a => strTok interp a
  | .noQuote => Token.InterpStrLiteral [] []

/-- what the lexer makes of an open literal when `y` is appended: the string loop simply goes on in `y`
    (after `$` alone: the first character of `y`, whatever it is, is taken for the opening quote) -/
def OpenLit.resume : OpenLit → List Char → Except LexError (Token × List Char)
  | .body interp a, y =>
    match accK (strLoop interp y 0 0 a) with
    | .error e => .error e
    | .ok (a', r) => .ok (strTok interp a', r)
  | .noQuote, y => exK (lexStr true ⟨y, 0, 0⟩)

theorem OpenLit.resume_body (interp : Bool) (a : StrAcc) (y : List Char) :
    (OpenLit.body interp a).resume y =
      match strLoopK interp y a with
      | .error e => .error e
      | .ok (a', r) => .ok (strTok interp a', r) := by
  simp only [OpenLit.resume, accK_strLoop]

theorem OpenLit.isStrTok_tok (o : OpenLit) : isStrTok o.tok = true := by
  cases o with
  | body interp a => exact isStrTok_strTok interp a
  | noQuote => rfl

theorem OpenLit.resume_nil (o : OpenLit) : o.resume [] = .ok (o.tok, []) := by
  cases o with
  | body interp a => rfl
  | noQuote => rfl

theorem tokBody_open {ch : Char} {a1 : List Char} {o : OpenLit} (h : openBody ch a1 = some o)
    (y : List Char) : exK (tokBody ch ⟨ch :: (a1 ++ y), 0, 0⟩) = o.resume y := by
  unfold openBody at h
  split at h
  · next hq =>
    subst hq
    obtain ⟨a, ha, rfl⟩ := Option.map_eq_some_iff.mp h
    rw [tokBody_quote, exK_lexStr, OpenLit.resume_body, lexStrK_cons, strLoopK_append, ha]
  · split at h
    · next hd =>
      subst hd
      rw [tokBody_dollar, exK_lexStr]
      cases a1 with
      | nil => cases h; exact (exK_lexStr true ⟨y, 0, 0⟩).symm
      | cons q a2 =>
        obtain ⟨a, ha, rfl⟩ := Option.map_eq_some_iff.mp h
        rw [OpenLit.resume_body]
        simp only [Scanner.next_mk_cons, List.cons_append]
        rw [lexStrK_cons, strLoopK_append, ha]
    · cases h

/-- **an open literal swallows what is appended**: if the text `mid` is a string literal that is still open
    at its end, then for every `y` the first token of `mid ++ y` is that literal continued in `y` — a longer
    literal (closed in `y`, or again open), or a string error raised in `y` -/
theorem open_literal_swallows {mid : List Char} {o : OpenLit} (h : openLit mid = some o)
    (y : List Char) (l c : Nat) :
    kind (nextToken ⟨mid ++ y, l, c⟩) =
      match o.resume y with
      | .error e => .err e
      | .ok (t, r) => .tok t r := by
  have hne : (skipWs mid 0 0).rest ≠ [] := by
    intro hr
    simp only [openLit, hr, reduceCtorEq] at h
  obtain ⟨ch, a1, hsk⟩ := skipWs_local mid [] 0 0
    (by rw [List.append_nil]; exact List.length_pos_iff.mpr hne)
  have h0 : (skipWs mid 0 0).rest = ch :: a1 := by simpa using hsk [] 0 0
  rw [openLit_of_skipWs h0] at h
  rw [kind_nextToken (s := ⟨mid ++ y, l, c⟩) (hsk y l c), tokK, tokBody_open h y]
  rfl

theorem open_literal_is_a_token {mid : List Char} {o : OpenLit} (h : openLit mid = some o) (l c : Nat) :
    kind (nextToken ⟨mid, l, c⟩) = .tok o.tok [] := by
  have := open_literal_swallows h [] l c
  rw [List.append_nil, OpenLit.resume_nil] at this
  exact this

theorem openTok_tok {mid : List Char} (h : openTok mid = true) :
    ∃ t, isStrTok t = true ∧ ∀ l c, kind (nextToken ⟨mid, l, c⟩) = .tok t [] := by
  unfold openTok at h
  obtain ⟨o, ho⟩ := Option.isSome_iff_exists.mp h
  exact ⟨o.tok, o.isStrTok_tok, fun l c => open_literal_is_a_token ho l c⟩

example : openTok c!"\"ab" = true ∧ openTok c!"$\"a${x" = true ∧ openTok c!"  $" = true ∧
    openTok c!"\"ab\\\"" = true ∧ openTok c!"\"ab\"" = false ∧ openTok c!"\"a$" = false ∧
    openTok c!"ab" = false := by decide

theorem nextToken_local {a x y : List Char} {t : Token} (l c l' c' : Nat)
    (h : kind (nextToken ⟨a ++ x, l, c⟩) = .tok t x)
    (he : EndsLike x y) (hstr : x = [] → y = [] ∨ isStrTok t = false) :
    kind (nextToken ⟨a ++ y, l', c'⟩) = .tok t y := by
  refine nextToken_local_term l c l' c' h he fun hx => (hstr hx).imp_right fun ht => ?_
  cases ho : openTok a with
  | false => rfl
  | true =>
    obtain ⟨t', hs, hk⟩ := openTok_tok ho
    rw [hx, List.append_nil, hk l c] at h
    cases h
    rw [hs] at ht; cases ht

theorem nextToken_closed_local {a y : List Char} {t : Token} (l c l' c' : Nat)
    (h : kind (nextToken ⟨a, l, c⟩) = .tok t []) (hcl : openTok a = false)
    (he : EndsLike [] y) : kind (nextToken ⟨a ++ y, l', c'⟩) = .tok t y :=
  nextToken_local_term l c l' c' (by rw [List.append_nil]; exact h) he fun _ => Or.inr hcl

example : kind (nextToken ⟨c!" \"a\\\"b\"", 1, 1⟩) = .tok (.StrLiteral c!"a\"b") [] ∧
    openTok c!" \"a\\\"b\"" = false ∧ EndsLike [] c!" # c" := by
  refine ⟨by decide, by decide, Or.inr ⟨' ', c!"# c", rfl, by decide⟩⟩

theorem tokBody_err_str {ch : Char} {s : Scanner} {e : LexError} (h : exK (tokBody ch s) = .error e)
    (hs : e.isStr = true) : ch = '"' ∨ ch = '$' := by
  rcases tokBody_cases ch with ⟨_, e⟩ | ⟨_, e⟩ | ⟨_, e⟩ | ⟨hq, _⟩ | ⟨hd, _⟩ | ⟨_, _, e⟩
  · rw [e] at h; cases h
  · rw [e] at h; cases h
  · rw [e, exK_lexInt] at h
    unfold lexIntK at h
    simp only at h
    split at h
    · cases h
    · cases h; cases hs
  · exact Or.inl hq
  · exact Or.inr hd
  · rw [e] at h
    split at h
    · cases h
    · cases h; cases hs

/-- **a text whose last literal is rejected stays rejected, with the same error, whatever is appended**:
    if the first token of `mid` fails with a string error, so does the first token of `mid ++ y` -/
theorem str_error_stable {mid : List Char} {e : LexError} {l c : Nat}
    (h : kind (nextToken ⟨mid, l, c⟩) = .err e) (hs : e.isStr = true) (y : List Char) (l' c' : Nat) :
    kind (nextToken ⟨mid ++ y, l', c'⟩) = .err e := by
  obtain ⟨ch, a1, hsk⟩ := skipWs_local mid [] l c (kind_ne_eof_skipWs (by rw [h]; exact fun h => nomatch h))
  have h0 : (skipWs mid l c).rest = ch :: a1 := by simpa using hsk [] l c
  rw [kind_nextToken (s := ⟨mid, l, c⟩) h0, tokK_err_iff] at h
  rw [kind_nextToken (s := ⟨mid ++ y, l', c'⟩) (hsk y l' c'), tokK_err_iff]
  rcases tokBody_err_str h hs with rfl | rfl
  · rw [tokBody_quote, exK_lexStr] at h ⊢
    exact lexStrK_error_append h y
  · rw [tokBody_dollar, exK_lexStr] at h ⊢
    cases a1 with
    | nil => cases h
    | cons q a2 => exact lexStrK_error_append h y

example : kind (nextToken ⟨c!"\"a\\q", 1, 1⟩) = .err (.InvalidEscapeChar (0, 0) 'q') ∧
    (LexError.InvalidEscapeChar (0, 0) 'q').isStr = true := by decide

end Seed.C09
