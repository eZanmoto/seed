/-
  Lemmas/C10Tree.lean — the inductive unfolding of acyclic values (`Tree`), the structural comparison `eqT` on
  unfoldings (the algorithm of `eq` without heap, fuel and identity short-cut), and its laws.
-/
import SeedModel.Run
import SeedProofs.Lemmas.C12Map
namespace Seed.C10
open Seed

mutual
/-- the unfolding of a value: containers are replaced by their contents -/
inductive Tree where
  | null | bool (b : Bool) | int (n : Int) | str (bs : Bytes)
  | list (xs : Trees) | obj (ps : Props)
  | fn (a : Addr) | builtin (name : List Char) (f : BuiltinId)
inductive Trees where
  | nil | cons (t : Tree) (r : Trees)
inductive Props where
  | nil | cons (k : List Char) (t : Tree) (r : Props)
end

def Tree.kind : Tree → Kind
  | .null => .Null | .bool _ => .Bool | .int _ => .Int | .str _ => .Str | .list _ => .List
  | .obj _ => .Object | .builtin _ _ => .BuiltinFunc | .fn _ => .Func

def Trees.toList : Trees → List Tree
  | .nil => []
  | .cons t r => t :: r.toList
def Props.toList : Props → List (List Char × Tree)
  | .nil => []
  | .cons k t r => (k, t) :: r.toList
def Trees.length (xs : Trees) : Nat := xs.toList.length
def Props.length (xs : Props) : Nat := xs.toList.length

/-- first entry with the key (what `BTreeMap::get` finds; keys are distinct in every real object) -/
def getP (k : List Char) : List (List Char × Tree) → Option Tree
  | [] => none
  | (k', v) :: r => if k = k' then some v else getP k r
def Props.get (k : List Char) (ps : Props) : Option Tree := getP k ps.toList

mutual
/-- `eq` on unfoldings: the same traversal, length checks, key look-ups and paths; no identity short-cut -/
def eqT : Tree → Tree → EqRes
  | .null, .null => .ok true
  | .bool x, .bool y => .ok (x == y)
  | .int x, .int y => .ok (x == y)
  | .str x, .str y => .ok (x == y)
  | .list xs, .list ys => if xs.length ≠ ys.length then .ok false else eqTs 0 xs ys
  | .obj xs, .obj ys => if xs.length ≠ ys.length then .ok false else eqPs xs ys
  | a, b => .mismatch [] (Gen.typeNameDiag a.kind) (Gen.typeNameDiag b.kind)
def eqTs (i : Nat) : Trees → Trees → EqRes
  | .cons x xs, .cons y ys =>
    match eqT x y with
    | .ok true => eqTs (i + 1) xs ys
    | .ok false => .ok false
    | r => r.prefixPath (c!"[" ++ natToChars i ++ c!"]")
  | _, _ => .ok true
def eqPs : Props → Props → EqRes
  | .nil, _ => .ok true
  | .cons k x xs, ys =>
    match ys.get k with
    | none => .ok false
    | some y =>
      match eqT x y with
      | .ok true => eqPs xs ys
      | .ok false => .ok false
      | r => r.prefixPath (c!".'" ++ k ++ c!"'")
end

/-! ### one round of a loop

All four loops of the comparison (`eqTs`/`eqPs` here, `eqItems`/`eqProps` in the model) treat the answer for one
pair in the same way. -/

def _root_.Seed.EqRes.andThen (r : EqRes) (p : List Char) (rest : EqRes) : EqRes :=
  match r with
  | .ok true => rest
  | .ok false => .ok false
  | r => r.prefixPath p

theorem prefixPath_ok {r : EqRes} {p : List Char} {b : Bool} (h : r.prefixPath p = .ok b) : r = .ok b := by
  cases r <;> simp_all [EqRes.prefixPath]

theorem andThen_eq_ok {r rest : EqRes} {p : List Char} {b : Bool} :
    r.andThen p rest = .ok b ↔ (r = .ok true ∧ rest = .ok b) ∨ (r = .ok false ∧ b = false) := by
  cases r with
  | ok u => cases u <;> simp [EqRes.andThen, eq_comm]
  | _ => simp [EqRes.andThen, EqRes.prefixPath]

/-! ### the same loops on plain lists (so that list lemmas apply) -/

def eqL (i : Nat) : List Tree → List Tree → EqRes
  | x :: xs, y :: ys => (eqT x y).andThen (c!"[" ++ natToChars i ++ c!"]") (eqL (i + 1) xs ys)
  | _, _ => .ok true

def eqPL : List (List Char × Tree) → List (List Char × Tree) → EqRes
  | [], _ => .ok true
  | (k, x) :: xs, ys =>
    match getP k ys with
    | none => .ok false
    | some y => (eqT x y).andThen (c!".'" ++ k ++ c!"'") (eqPL xs ys)

theorem eqTs_eq : ∀ (xs ys : Trees) (i : Nat), eqTs i xs ys = eqL i xs.toList ys.toList
  | .nil, ys, i => by cases ys <;> rfl
  | .cons x xs, .nil, i => rfl
  | .cons x xs, .cons y ys, i => by
    rw [Trees.toList, Trees.toList, eqL, ← eqTs_eq xs ys (i + 1), eqTs]
    rfl

theorem eqPs_eq : ∀ (xs ys : Props), eqPs xs ys = eqPL xs.toList ys.toList
  | .nil, ys => rfl
  | .cons k x xs, ys => by
    rw [Props.toList, eqPL, ← eqPs_eq xs ys, eqPs]
    rfl

theorem eqT_list_ne {xs ys : Trees} (h : xs.toList.length ≠ ys.toList.length) : eqT (.list xs) (.list ys) = .ok false := by
  rw [eqT]; exact if_pos h

theorem eqT_list_eq {xs ys : Trees} (h : xs.toList.length = ys.toList.length) :
    eqT (.list xs) (.list ys) = eqL 0 xs.toList ys.toList := by
  rw [eqT, eqTs_eq]; exact if_neg (not_not_intro h)

theorem eqT_obj_ne {xs ys : Props} (h : xs.toList.length ≠ ys.toList.length) : eqT (.obj xs) (.obj ys) = .ok false := by
  rw [eqT]; exact if_pos h

theorem eqT_obj_eq {xs ys : Props} (h : xs.toList.length = ys.toList.length) :
    eqT (.obj xs) (.obj ys) = eqPL xs.toList ys.toList := by
  rw [eqT, eqPs_eq]; exact if_neg (not_not_intro h)

theorem eqT_list_true {xs ys : Trees} (h : eqT (.list xs) (.list ys) = .ok true) :
    xs.toList.length = ys.toList.length ∧ eqL 0 xs.toList ys.toList = .ok true := by
  by_cases hl : xs.toList.length = ys.toList.length
  · exact ⟨hl, eqT_list_eq hl ▸ h⟩
  · cases (eqT_list_ne hl).symm.trans h

theorem eqT_obj_true {xs ys : Props} (h : eqT (.obj xs) (.obj ys) = .ok true) :
    xs.toList.length = ys.toList.length ∧ eqPL xs.toList ys.toList = .ok true := by
  by_cases hl : xs.toList.length = ys.toList.length
  · exact ⟨hl, eqT_obj_eq hl ▸ h⟩
  · cases (eqT_obj_ne hl).symm.trans h

theorem Tree.kind_list {t : Tree} (h : t.kind = .List) : ∃ xs, t = .list xs := by
  cases t <;> first | exact ⟨_, rfl⟩ | cases h

theorem Tree.kind_obj {t : Tree} (h : t.kind = .Object) : ∃ ps, t = .obj ps := by
  cases t <;> first | exact ⟨_, rfl⟩ | cases h

theorem eqT_mismatch (s t : Tree) (h : s.kind ≠ t.kind ∨ s.kind = .Func ∨ s.kind = .BuiltinFunc) :
    eqT s t = .mismatch [] (Gen.typeNameDiag s.kind) (Gen.typeNameDiag t.kind) := by
  cases s <;> cases t <;> first | rfl | simp [Tree.kind] at h

theorem eqT_ok_kind {s t : Tree} {b : Bool} (h : eqT s t = .ok b) : s.kind = t.kind :=
  Decidable.byContradiction fun hk => by rw [eqT_mismatch s t (Or.inl hk)] at h; cases h

theorem eqT_scalar {s t : Tree} (hl : s.kind ≠ .List) (ho : s.kind ≠ .Object)
    (h : ¬ (s.kind ≠ t.kind ∨ s.kind = .Func ∨ s.kind = .BuiltinFunc)) : ∃ b, eqT s t = .ok b ∧ (b = true ↔ s = t) := by
  have hk : s.kind = t.kind := Decidable.byContradiction fun e => h (Or.inl e)
  cases s with
  | list _ => exact absurd rfl hl
  | obj _ => exact absurd rfl ho
  | fn _ => exact absurd (Or.inr (Or.inl rfl)) h
  | builtin _ _ => exact absurd (Or.inr (Or.inr rfl)) h
  | _ => cases t <;> cases hk <;> exact ⟨_, rfl, by simp⟩

theorem eqT_leaf_ok {s t : Tree} {b : Bool} (hl : s.kind ≠ .List) (ho : s.kind ≠ .Object) (h : eqT s t = .ok b) :
    b = true ↔ s = t := by
  by_cases hm : s.kind ≠ t.kind ∨ s.kind = .Func ∨ s.kind = .BuiltinFunc
  · rw [eqT_mismatch s t hm] at h; cases h
  · obtain ⟨b', hb, hi⟩ := eqT_scalar hl ho hm
    cases hb.symm.trans h
    exact hi

theorem Tree.induct {P : Tree → Prop} (leaf : ∀ s : Tree, s.kind ≠ .List → s.kind ≠ .Object → P s)
    (list : ∀ xs : Trees, (∀ t ∈ xs.toList, P t) → P (.list xs))
    (obj : ∀ ps : Props, (∀ k t, (k, t) ∈ ps.toList → P t) → P (.obj ps)) : ∀ t, P t := by
  intro t
  refine Tree.rec (motive_1 := P) (motive_2 := fun xs => ∀ t ∈ xs.toList, P t)
    (motive_3 := fun ps => ∀ k t, (k, t) ∈ ps.toList → P t) (leaf _ nofun nofun) (fun _ => leaf _ nofun nofun)
    (fun _ => leaf _ nofun nofun) (fun _ => leaf _ nofun nofun) list obj (fun _ => leaf _ nofun nofun)
    (fun _ _ => leaf _ nofun nofun) ?_ ?_ ?_ ?_ t
  · exact fun _ h => nomatch h
  · intro t r ht hr u hu
    rcases List.mem_cons.mp hu with rfl | hu
    · exact ht
    · exact hr u hu
  · exact fun _ _ h => nomatch h
  · intro k t r ht hr k' u hu
    rcases List.mem_cons.mp hu with h | hu
    · cases h; exact ht
    · exact hr k' u hu

def keysOf (ps : List (List Char × Tree)) : List (List Char) := ps.map Prod.fst

theorem getP_none {k : List Char} {ps : List (List Char × Tree)} : getP k ps = none ↔ k ∉ keysOf ps := by
  induction ps with
  | nil => simp [getP, keysOf]
  | cons p r ih =>
    obtain ⟨k', v⟩ := p
    by_cases hk : k = k'
    · simp [getP, keysOf, hk]
    · simp only [getP, hk, if_false, ih, keysOf, List.map_cons, List.mem_cons, false_or]

theorem getP_mem {k : List Char} {ps : List (List Char × Tree)} {v : Tree} (h : getP k ps = some v) : (k, v) ∈ ps := by
  induction ps with
  | nil => cases h
  | cons p r ih =>
    obtain ⟨k', v'⟩ := p
    by_cases hk : k = k'
    · rw [getP, if_pos hk] at h
      cases h; cases hk
      exact List.mem_cons_self
    · rw [getP, if_neg hk] at h
      exact List.mem_cons_of_mem _ (ih h)

theorem getP_of_mem {k : List Char} {ps : List (List Char × Tree)} {v : Tree} (hn : (keysOf ps).Nodup)
    (h : (k, v) ∈ ps) : getP k ps = some v := by
  induction ps with
  | nil => cases h
  | cons p r ih =>
    obtain ⟨k', v'⟩ := p
    rw [keysOf, List.map_cons, List.nodup_cons] at hn
    rcases List.mem_cons.mp h with h | h
    · cases h; exact if_pos rfl
    · have : k ≠ k' := fun e => hn.1 (List.mem_map.mpr ⟨(k, v), h, e⟩)
      rw [getP, if_neg this]
      exact ih hn.2 h

theorem subset_of_nodup_of_length_le {α} {xs ys : List α} (hn : xs.Nodup) (hsub : ∀ a ∈ xs, a ∈ ys)
    (hl : ys.length ≤ xs.length) : ∀ b ∈ ys, b ∈ xs := by
  intro b hb
  refine Classical.byContradiction fun hnb => ?_
  -- otherwise `b :: xs` is duplicate-free, included in `ys` and longer
  have : (b :: xs).length ≤ ys.length :=
    List.Nodup.length_le_of_subset (List.nodup_cons.mpr ⟨hnb, hn⟩) fun c hc => by
      rcases List.mem_cons.mp hc with rfl | hc
      · exact hb
      · exact hsub c hc
  exact Nat.not_succ_le_self _ (Nat.le_trans this hl)

theorem eqPL_true {xs ys : List (List Char × Tree)} :
    eqPL xs ys = .ok true ↔ ∀ k x, (k, x) ∈ xs → ∃ y, getP k ys = some y ∧ eqT x y = .ok true := by
  induction xs with
  | nil => simp [eqPL]
  | cons p r ih =>
    obtain ⟨k, x⟩ := p
    rw [eqPL]
    constructor
    · intro h k' x' hm
      cases hg : getP k ys with
      | none => rw [hg] at h; cases h
      | some y =>
        rw [hg] at h
        rcases andThen_eq_ok.mp h with ⟨he, h⟩ | ⟨_, h⟩
        · rcases List.mem_cons.mp hm with e | hm
          · cases e; exact ⟨y, hg, he⟩
          · exact ih.mp h k' x' hm
        · cases h
    · intro h
      obtain ⟨y, hg, he⟩ := h k x List.mem_cons_self
      rw [hg]
      exact andThen_eq_ok.mpr (Or.inl ⟨he, ih.mpr fun k' x' hm => h k' x' (List.mem_cons_of_mem _ hm)⟩)

theorem eqPL_false {xs ys : List (List Char × Tree)} (h : eqPL xs ys = .ok false) :
    ∃ k x, (k, x) ∈ xs ∧ (getP k ys = none ∨ ∃ y, getP k ys = some y ∧ eqT x y = .ok false) := by
  induction xs with
  | nil => cases h
  | cons p r ih =>
    obtain ⟨k, x⟩ := p
    rw [eqPL] at h
    cases hg : getP k ys with
    | none => exact ⟨k, x, List.mem_cons_self, Or.inl hg⟩
    | some y =>
      rw [hg] at h
      rcases andThen_eq_ok.mp h with ⟨_, h⟩ | ⟨he, _⟩
      · obtain ⟨k', x', hm, hh⟩ := ih h
        exact ⟨k', x', List.mem_cons_of_mem _ hm, hh⟩
      · exact ⟨k, x, List.mem_cons_self, Or.inr ⟨y, hg, he⟩⟩

theorem eqPL_true_keys {xs ys : List (List Char × Tree)} (h : eqPL xs ys = .ok true) (hn : (keysOf xs).Nodup)
    (hl : xs.length = ys.length) : ∀ k ∈ keysOf ys, k ∈ keysOf xs :=
  subset_of_nodup_of_length_le hn
    (fun c hc => by
      obtain ⟨⟨c', a⟩, hm, rfl⟩ := List.mem_map.mp hc
      obtain ⟨b, hg, _⟩ := eqPL_true.mp h c' a hm
      exact List.mem_map.mpr ⟨(c', b), getP_mem hg, rfl⟩)
    (by simp [keysOf, hl])

/-! ### well-formed trees: distinct keys in every object (the invariant of `BTreeMap`); function-free trees -/

mutual
def Tree.KO : Tree → Prop
  | .list xs => xs.KO
  | .obj ps => (keysOf ps.toList).Nodup ∧ ps.KO
  | _ => True
def Trees.KO : Trees → Prop
  | .nil => True
  | .cons t r => t.KO ∧ r.KO
def Props.KO : Props → Prop
  | .nil => True
  | .cons _ t r => t.KO ∧ r.KO
end

mutual
def Tree.FnFree : Tree → Prop
  | .list xs => xs.FnFree
  | .obj ps => ps.FnFree
  | .fn _ => False
  | .builtin _ _ => False
  | _ => True
def Trees.FnFree : Trees → Prop
  | .nil => True
  | .cons t r => t.FnFree ∧ r.FnFree
def Props.FnFree : Props → Prop
  | .nil => True
  | .cons _ t r => t.FnFree ∧ r.FnFree
end

theorem Trees.forall_iff {P : Tree → Prop} {Q : Trees → Prop} (hn : Q .nil) (hc : ∀ t r, Q (.cons t r) ↔ P t ∧ Q r) :
    ∀ xs : Trees, Q xs ↔ ∀ t ∈ xs.toList, P t
  | .nil => by simp [hn, Trees.toList]
  | .cons t r => by simp [hc, Trees.toList, Trees.forall_iff hn hc r]

theorem Props.forall_iff {P : Tree → Prop} {Q : Props → Prop} (hn : Q .nil) (hc : ∀ k t r, Q (.cons k t r) ↔ P t ∧ Q r) :
    ∀ ps : Props, Q ps ↔ ∀ k t, (k, t) ∈ ps.toList → P t
  | .nil => by simp [hn, Props.toList]
  | .cons k t r => by
    rw [hc, Props.forall_iff hn hc r, Props.toList]
    constructor
    · intro ⟨h1, h2⟩ k' t' hm
      rcases List.mem_cons.mp hm with e | hm
      · cases e; exact h1
      · exact h2 k' t' hm
    · exact fun h => ⟨h k t List.mem_cons_self, fun k' t' hm => h k' t' (List.mem_cons_of_mem _ hm)⟩

theorem Trees.KO_iff : ∀ xs : Trees, xs.KO ↔ ∀ t ∈ xs.toList, t.KO := Trees.forall_iff trivial fun _ _ => Iff.rfl
theorem Props.KO_iff : ∀ ps : Props, ps.KO ↔ ∀ k t, (k, t) ∈ ps.toList → t.KO := Props.forall_iff trivial fun _ _ _ => Iff.rfl
theorem Trees.FnFree_iff : ∀ xs : Trees, xs.FnFree ↔ ∀ t ∈ xs.toList, t.FnFree := Trees.forall_iff trivial fun _ _ => Iff.rfl
theorem Props.FnFree_iff : ∀ ps : Props, ps.FnFree ↔ ∀ k t, (k, t) ∈ ps.toList → t.FnFree :=
  Props.forall_iff trivial fun _ _ _ => Iff.rfl

def SymAt (s : Tree) : Prop := ∀ t x y, s.KO → t.KO → eqT s t = .ok x → eqT t s = .ok y → x = y

theorem symL : ∀ (xs ys : List Tree) (i j : Nat) (x y : Bool),
    (∀ a ∈ xs, ∀ b ∈ ys, ∀ u v, eqT a b = .ok u → eqT b a = .ok v → u = v) →
    eqL i xs ys = .ok x → eqL j ys xs = .ok y → x = y
  | [], ys, i, j, x, y, _, h1, h2 => by
    cases ys <;> cases h1 <;> cases h2 <;> rfl
  | a :: xs, [], i, j, x, y, _, h1, h2 => by
    cases h1; cases h2; rfl
  | a :: xs, b :: ys, i, j, x, y, hrel, h1, h2 => by
    have hab := hrel a List.mem_cons_self b List.mem_cons_self
    rcases andThen_eq_ok.mp h1 with ⟨e1, h1⟩ | ⟨e1, rfl⟩ <;> rcases andThen_eq_ok.mp h2 with ⟨e2, h2⟩ | ⟨e2, rfl⟩
    · exact symL xs ys (i + 1) (j + 1) x y
        (fun c hc d hd => hrel c (List.mem_cons_of_mem _ hc) d (List.mem_cons_of_mem _ hd)) h1 h2
    · cases hab _ _ e1 e2
    · cases hab _ _ e1 e2
    · rfl

/-- one direction of the object case: everything on the left is found equal on the right ⇒ the other order cannot
    answer `false` -/
theorem symPL_dir {xs ys : List (List Char × Tree)} {y : Bool}
    (hrel : ∀ k a b, (k, a) ∈ xs → (k, b) ∈ ys → ∀ u v, eqT a b = .ok u → eqT b a = .ok v → u = v)
    (hnx : (keysOf xs).Nodup) (hny : (keysOf ys).Nodup) (hlen : xs.length = ys.length)
    (h1 : eqPL xs ys = .ok true) (h2 : eqPL ys xs = .ok y) : y = true := by
  cases y with
  | true => rfl
  | false =>
    obtain ⟨k, b, hm, hnone | ⟨a, hg, he⟩⟩ := eqPL_false h2
    · -- a key of `ys` missing in `xs`
      exact absurd (eqPL_true_keys h1 hnx hlen k (List.mem_map.mpr ⟨(k, b), hm, rfl⟩)) (getP_none.mp hnone)
    · -- the entry of `xs` under the key is found equal to the one entry of `ys` under it
      obtain ⟨b', hg', he'⟩ := eqPL_true.mp h1 k a (getP_mem hg)
      cases (getP_of_mem hny hm).symm.trans hg'
      exact (hrel k a b (getP_mem hg) hm true false he' he).symm

theorem eqT_sym_bool : ∀ s, SymAt s := by
  intro s
  induction s using Tree.induct with
  | leaf s hl ho =>
    intro t x y _ _ h1 h2
    have hk := eqT_ok_kind h2
    exact Bool.eq_iff_iff.mpr
      ((eqT_leaf_ok hl ho h1).trans (eq_comm.trans (eqT_leaf_ok (hk ▸ hl) (hk ▸ ho) h2).symm))
  | list xs ih =>
    intro t x y hks hkt h1 h2
    obtain ⟨ys, rfl⟩ := Tree.kind_list (eqT_ok_kind h2)
    by_cases hl : xs.toList.length = ys.toList.length
    · rw [eqT_list_eq hl] at h1
      rw [eqT_list_eq hl.symm] at h2
      exact symL _ _ 0 0 x y
        (fun a ha b hb u v => ih a ha b u v ((Trees.KO_iff xs).mp hks a ha) ((Trees.KO_iff ys).mp hkt b hb)) h1 h2
    · cases (eqT_list_ne hl).symm.trans h1
      cases (eqT_list_ne (Ne.symm hl)).symm.trans h2
      rfl
  | obj ps ih =>
    intro t x y hks hkt h1 h2
    obtain ⟨qs, rfl⟩ := Tree.kind_obj (eqT_ok_kind h2)
    by_cases hl : ps.toList.length = qs.toList.length
    · rw [eqT_obj_eq hl] at h1
      rw [eqT_obj_eq hl.symm] at h2
      have hrel : ∀ k a b, (k, a) ∈ ps.toList → (k, b) ∈ qs.toList → ∀ u v, eqT a b = .ok u → eqT b a = .ok v → u = v :=
        fun k a b ha hb u v => ih k a ha b u v ((Props.KO_iff ps).mp hks.2 k a ha) ((Props.KO_iff qs).mp hkt.2 k b hb)
      cases x with
      | true => exact (symPL_dir hrel hks.1 hkt.1 hl h1 h2).symm
      | false =>
        cases y with
        | false => rfl
        | true =>
          exact symPL_dir (fun k b a hb ha u v hu hv => (hrel k a b ha hb v u hv hu).symm) hkt.1 hks.1 hl.symm h2 h1
    · cases (eqT_obj_ne hl).symm.trans h1
      cases (eqT_obj_ne (Ne.symm hl)).symm.trans h2
      rfl

theorem reflL : ∀ (xs : List Tree) (i : Nat), (∀ a ∈ xs, eqT a a = .ok true) → eqL i xs xs = .ok true
  | [], i, _ => rfl
  | a :: xs, i, h => by
    rw [eqL, h a List.mem_cons_self]
    exact reflL xs (i + 1) fun c hc => h c (List.mem_cons_of_mem _ hc)

theorem eqT_refl : ∀ s : Tree, s.FnFree → s.KO → eqT s s = .ok true := by
  intro s
  induction s using Tree.induct with
  | leaf s hl ho =>
    intro hf _
    cases s with
    | list _ => exact absurd rfl hl
    | obj _ => exact absurd rfl ho
    | fn _ | builtin _ _ => exact hf.elim
    | _ => simp [eqT]
  | list xs ih =>
    intro hf hk
    rw [eqT_list_eq rfl]
    exact reflL _ 0 fun a ha => ih a ha ((Trees.FnFree_iff xs).mp hf a ha) ((Trees.KO_iff xs).mp hk a ha)
  | obj ps ih =>
    intro hf hk
    rw [eqT_obj_eq rfl]
    exact eqPL_true.mpr fun k x hm =>
      ⟨x, getP_of_mem hk.1 hm, ih k x hm ((Props.FnFree_iff ps).mp hf k x hm) ((Props.KO_iff ps).mp hk.2 k x hm)⟩

def TransAt (s : Tree) : Prop := ∀ t u, eqT s t = .ok true → eqT t u = .ok true → eqT s u = .ok true

theorem eqL_true_cons {i : Nat} {a b : Tree} {xs ys : List Tree} (h : eqL i (a :: xs) (b :: ys) = .ok true) :
    eqT a b = .ok true ∧ eqL (i + 1) xs ys = .ok true := by
  rcases andThen_eq_ok.mp h with h | ⟨_, h⟩
  · exact h
  · cases h

theorem transL : ∀ (xs ys zs : List Tree) (i j k : Nat), (∀ a ∈ xs, TransAt a) →
    xs.length = ys.length → ys.length = zs.length →
    eqL i xs ys = .ok true → eqL j ys zs = .ok true → eqL k xs zs = .ok true
  | [], _, _, _, _, _, _, _, _, _, _ => rfl
  | a :: xs, [], _, _, _, _, _, h, _, _, _ => by cases h
  | a :: xs, b :: ys, [], _, _, _, _, _, h, _, _ => by cases h
  | a :: xs, b :: ys, c :: zs, i, j, k, ih, hl1, hl2, h1, h2 => by
    obtain ⟨hab, h1⟩ := eqL_true_cons h1
    obtain ⟨hbc, h2⟩ := eqL_true_cons h2
    rw [eqL, ih a List.mem_cons_self b c hab hbc]
    exact transL xs ys zs (i + 1) (j + 1) (k + 1) (fun d hd => ih d (List.mem_cons_of_mem _ hd))
      (Nat.succ.inj hl1) (Nat.succ.inj hl2) h1 h2

theorem eqT_trans : ∀ s, TransAt s := by
  intro s
  induction s using Tree.induct with
  | leaf s hl ho =>
    intro t u h1 h2
    cases (eqT_leaf_ok hl ho h1).mp rfl
    exact h2
  | list xs ih =>
    intro t u h1 h2
    obtain ⟨ys, rfl⟩ := Tree.kind_list (eqT_ok_kind h1).symm
    obtain ⟨zs, rfl⟩ := Tree.kind_list (eqT_ok_kind h2).symm
    obtain ⟨l1, e1⟩ := eqT_list_true h1
    obtain ⟨l2, e2⟩ := eqT_list_true h2
    rw [eqT_list_eq (l1.trans l2)]
    exact transL _ _ _ 0 0 0 ih l1 l2 e1 e2
  | obj ps ih =>
    intro t u h1 h2
    obtain ⟨qs, rfl⟩ := Tree.kind_obj (eqT_ok_kind h1).symm
    obtain ⟨rs, rfl⟩ := Tree.kind_obj (eqT_ok_kind h2).symm
    obtain ⟨l1, e1⟩ := eqT_obj_true h1
    obtain ⟨l2, e2⟩ := eqT_obj_true h2
    rw [eqT_obj_eq (l1.trans l2)]
    refine eqPL_true.mpr fun k x hm => ?_
    obtain ⟨y, hg, he⟩ := eqPL_true.mp e1 k x hm
    obtain ⟨z, hg', he'⟩ := eqPL_true.mp e2 k y (getP_mem hg)
    exact ⟨z, hg', ih k x hm y z he he'⟩

mutual
/-- `Unf σ v s`: `s` is the unfolding of `v` in the heap of `σ`.  A value has an unfolding iff no container is
    reachable from itself (the derivation is finite). -/
inductive Unf (σ : State) : Val → Tree → Prop
  | null : Unf σ .null .null
  | bool (b : Bool) : Unf σ (.bool b) (.bool b)
  | int (n : Int) : Unf σ (.int n) (.int n)
  | str (bs : Bytes) : Unf σ (.str bs) (.str bs)
  | list {a : Addr} {items : List SVal} {ts : Trees} : σ.getList a = some items → UnfL σ items ts → Unf σ (.list a) (.list ts)
  | obj {a : Addr} {props : ObjMap} {ps : Props} : σ.getObj a = some props → UnfP σ props ps → Unf σ (.obj a) (.obj ps)
  | fn (a : Addr) : Unf σ (.func a) (.fn a)
  | builtin (name : List Char) (f : BuiltinId) : Unf σ (.builtin name f) (.builtin name f)
inductive UnfL (σ : State) : List SVal → Trees → Prop
  | nil : UnfL σ [] .nil
  | cons {x : SVal} {xs : List SVal} {t : Tree} {ts : Trees} : Unf σ x.v t → UnfL σ xs ts → UnfL σ (x :: xs) (.cons t ts)
inductive UnfP (σ : State) : ObjMap → Props → Prop
  | nil : UnfP σ [] .nil
  | cons {k : List Char} {x : SVal} {xs : ObjMap} {t : Tree} {ts : Props} :
      Unf σ x.v t → UnfP σ xs ts → UnfP σ ((k, x) :: xs) (.cons k t ts)
end

theorem UnfL.length {σ : State} : ∀ {items : List SVal} {ts : Trees}, UnfL σ items ts → items.length = ts.toList.length
  | _, _, .nil => rfl
  | _, _, .cons _ h => congrArg (· + 1) (UnfL.length h)

theorem UnfP.length {σ : State} : ∀ {props : ObjMap} {ps : Props}, UnfP σ props ps → props.length = ps.toList.length
  | _, _, .nil => rfl
  | _, _, .cons _ h => congrArg (· + 1) (UnfP.length h)

theorem UnfP.get {σ : State} (k : List Char) : ∀ {props : ObjMap} {ps : Props}, UnfP σ props ps →
    (objGet k props = none → getP k ps.toList = none) ∧
    (∀ y, objGet k props = some y → ∃ t, getP k ps.toList = some t ∧ Unf σ y.v t)
  | _, _, .nil => ⟨fun _ => rfl, fun _ h => nomatch h⟩
  | _, _, .cons (k := k') (x := x) (t := t) hx h => by
    rw [objGet, Props.toList, getP]
    by_cases hk : k = k'
    · rw [if_pos hk, if_pos hk]
      refine ⟨nofun, fun y hy => ?_⟩
      cases hy
      exact ⟨t, rfl, hx⟩
    · rw [if_neg hk, if_neg hk]
      exact UnfP.get k h

theorem Unf.det {σ : State} {v : Val} {s : Tree} (h : Unf σ v s) : ∀ {t}, Unf σ v t → s = t := by
  refine Unf.rec (motive_1 := fun v s _ => ∀ {t}, Unf σ v t → s = t)
    (motive_2 := fun xs ss _ => ∀ {ts}, UnfL σ xs ts → ss = ts)
    (motive_3 := fun xs ps _ => ∀ {qs}, UnfP σ xs qs → ps = qs)
    ?null ?bool ?int ?str ?list ?obj ?fn ?builtin ?nil ?cons ?pnil ?pcons h
  case list | obj =>
    intro a xs ts hg _ ih t h
    cases h; rename_i hu' hg'
    cases hg.symm.trans hg'
    rw [ih hu']
  case cons | pcons =>
    intros; rename_i ih1 ih2 _ h
    cases h; rename_i h hs
    rw [ih1 h, ih2 hs]
  all_goals intros; rename_i h; cases h; rfl

def LeT (r r' : EqRes) : Prop := r = .timeout ∨ r = r'

theorem LeT.prefix {r r' : EqRes} (p : List Char) (h : LeT r r') : LeT (r.prefixPath p) (r'.prefixPath p) := by
  rcases h with h | h
  · subst h; exact Or.inl rfl
  · subst h; exact Or.inr rfl

theorem LeT.andThen {r r' rest rest' : EqRes} (p : List Char) (h : LeT r r') (hr : LeT rest rest') :
    LeT (r.andThen p rest) (r'.andThen p rest') := by
  rcases h with rfl | rfl
  · exact Or.inl rfl
  · cases r with
    | ok b => cases b <;> first | exact hr | exact Or.inr rfl
    | _ => exact Or.inr rfl

theorem eqItems_cons (n : Nat) (σ : State) (i : Nat) (x y : SVal) (xs ys : List SVal) :
    eqItems (n + 1) σ i (x :: xs) (y :: ys) =
      (eqVal n σ x.v y.v).andThen (c!"[" ++ natToChars i ++ c!"]") (eqItems n σ (i + 1) xs ys) := by
  rw [eqItems]; rfl

theorem eqProps_cons (n : Nat) (σ : State) (k : List Char) (x : SVal) (xs ys : ObjMap) :
    eqProps (n + 1) σ ((k, x) :: xs) ys =
      match objGet k ys with
      | none => .ok false
      | some y => (eqVal n σ x.v y.v).andThen (c!".'" ++ k ++ c!"'") (eqProps n σ xs ys) := by
  rw [eqProps]; rfl

theorem eqVal_list {σ : State} {x y : Addr} {xs ys : List SVal} (n : Nat) (hx : σ.getList x = some xs)
    (hy : σ.getList y = some ys) : eqVal (n + 1) σ (.list x) (.list y) =
      if x = y then .ok true else if xs.length ≠ ys.length then .ok false else eqItems n σ 0 xs ys := by
  simp only [eqVal, hx, hy]

theorem eqVal_obj {σ : State} {x y : Addr} {xs ys : ObjMap} (n : Nat) (hx : σ.getObj x = some xs)
    (hy : σ.getObj y = some ys) : eqVal (n + 1) σ (.obj x) (.obj y) =
      if x = y then .ok true else if xs.length ≠ ys.length then .ok false else eqProps n σ xs ys := by
  simp only [eqVal, hx, hy]

/-- **the tie between `eq` on the heap and `eqT` on unfoldings**: with any fuel, `eqVal` either runs out of fuel
    or answers exactly what the structural comparison of the unfoldings answers — in particular the identity and
    length short-cuts, the addresses and the way the values were built do not change the answer. -/
theorem eq_link (σ : State) : ∀ n : Nat,
    (∀ a b s t, Unf σ a s → Unf σ b t → s.FnFree → s.KO → LeT (eqVal n σ a b) (eqT s t)) ∧
    (∀ i xs ys ss ts, UnfL σ xs ss → UnfL σ ys ts → ss.FnFree → ss.KO →
      LeT (eqItems n σ i xs ys) (eqL i ss.toList ts.toList)) ∧
    (∀ xs ys ps qs, UnfP σ xs ps → UnfP σ ys qs → ps.FnFree → ps.KO →
      LeT (eqProps n σ xs ys) (eqPL ps.toList qs.toList)) := by
  intro n
  induction n with
  | zero => exact ⟨fun _ _ _ _ _ _ _ _ => Or.inl rfl, fun _ _ _ _ _ _ _ _ _ => Or.inl rfl, fun _ _ _ _ _ _ _ _ => Or.inl rfl⟩
  | succ n ih =>
    obtain ⟨ihV, ihI, ihP⟩ := ih
    refine ⟨?_, ?_, ?_⟩
    · intro a b s t ha hb hf hk
      cases ha <;> cases hb
      -- outside list/list and object/object both sides compute to the same answer
      all_goals first | exact Or.inr rfl | skip
      · rename_i x items ss hga hua y items' ts hgb hub
        rw [eqVal_list n hga hgb]
        split
        · -- the identity short-cut: one value, so one unfolding
          subst y
          cases Unf.det (.list hga hua) (.list hgb hub)
          exact Or.inr (eqT_refl _ hf hk).symm
        · by_cases hl : items.length = items'.length
          · rw [if_neg (not_not_intro hl), eqT_list_eq (hua.length ▸ hub.length ▸ hl)]
            exact ihI 0 items items' ss ts hua hub hf hk
          · rw [if_pos hl, eqT_list_ne (hua.length ▸ hub.length ▸ hl)]
            exact Or.inr rfl
      · rename_i x props ps hga hua y props' qs hgb hub
        rw [eqVal_obj n hga hgb]
        split
        · subst y
          cases Unf.det (.obj hga hua) (.obj hgb hub)
          exact Or.inr (eqT_refl _ hf hk).symm
        · by_cases hl : props.length = props'.length
          · rw [if_neg (not_not_intro hl), eqT_obj_eq (hua.length ▸ hub.length ▸ hl)]
            exact ihP props props' ps qs hua hub hf hk.2
          · rw [if_pos hl, eqT_obj_ne (hua.length ▸ hub.length ▸ hl)]
            exact Or.inr rfl
    · intro i xs ys ss ts hx hy hf hk
      cases hx with
      | nil => exact Or.inr rfl
      | cons hx0 hxs =>
        cases hy with
        | nil => exact Or.inr rfl
        | cons hy0 hys =>
          rw [eqItems_cons]
          exact (ihV _ _ _ _ hx0 hy0 hf.1 hk.1).andThen _ (ihI _ _ _ _ _ hxs hys hf.2 hk.2)
    · intro xs ys ps qs hx hy hf hk
      cases hx with
      | nil => exact Or.inr rfl
      | cons hx0 hxs =>
        rename_i k x xs' t0 ps0
        rw [eqProps_cons, Props.toList, eqPL]
        cases hg : objGet k ys with
        | none => rw [(UnfP.get k hy).1 hg]; exact Or.inr rfl
        | some y =>
          obtain ⟨u, hgu, hyu⟩ := (UnfP.get k hy).2 y hg
          rw [hgu]
          exact (ihV _ _ _ _ hx0 hyu hf.1 hk.1).andThen _ (ihP _ _ _ _ hxs hy hf.2 hk.2)

theorem eqT_of_eqVal {σ : State} {a b : Val} {s t : Tree} {r : EqRes} (n : Nat) (ha : Unf σ a s) (hb : Unf σ b t)
    (hf : s.FnFree) (hk : s.KO) (h : eqVal n σ a b = r) (hr : r ≠ .timeout) : eqT s t = r := by
  rcases (eq_link σ n).1 a b s t ha hb hf hk with h' | h'
  · exact absurd (h.symm.trans h') hr
  · exact h'.symm.trans h

/-- an answer that is a boolean, or a mismatch naming two different kinds (or two functions) -/
def Good (r : EqRes) : Prop :=
  (∃ b, r = .ok b) ∨
  (∃ p k1 k2, r = .mismatch p (Gen.typeNameDiag k1) (Gen.typeNameDiag k2) ∧ (k1 ≠ k2 ∨ k1 = .Func ∨ k1 = .BuiltinFunc))

theorem Good.prefix {r : EqRes} (p : List Char) (h : Good r) : Good (r.prefixPath p) := by
  rcases h with ⟨b, rfl⟩ | ⟨q, k1, k2, rfl, hk⟩
  · exact Or.inl ⟨b, rfl⟩
  · exact Or.inr ⟨p ++ q, k1, k2, rfl, hk⟩

theorem Good.andThen {r rest : EqRes} (p : List Char) (h : Good r) (hr : Good rest) : Good (r.andThen p rest) := by
  cases r with
  | ok b => cases b <;> first | exact hr | exact Or.inl ⟨false, rfl⟩
  | _ => exact h.prefix p

theorem goodL : ∀ (xs ys : List Tree) (i : Nat), (∀ a ∈ xs, ∀ t, Good (eqT a t)) → Good (eqL i xs ys)
  | [], _, _, _ => Or.inl ⟨true, rfl⟩
  | _ :: _, [], _, _ => Or.inl ⟨true, rfl⟩
  | a :: xs, b :: ys, i, h =>
    (h a List.mem_cons_self b).andThen _ (goodL xs ys (i + 1) fun c hc => h c (List.mem_cons_of_mem _ hc))

theorem goodPL : ∀ (xs ys : List (List Char × Tree)), (∀ k a, (k, a) ∈ xs → ∀ t, Good (eqT a t)) → Good (eqPL xs ys)
  | [], _, _ => Or.inl ⟨true, rfl⟩
  | (k, a) :: xs, ys, h => by
    rw [eqPL]
    cases getP k ys with
    | none => exact Or.inl ⟨false, rfl⟩
    | some b =>
      exact (h k a List.mem_cons_self b).andThen _ (goodPL xs ys fun k' c hc => h k' c (List.mem_cons_of_mem _ hc))

/-- for totality it is enough to look at two trees of the same non-function kind: the other pairs are mismatches -/
theorem Good.of_same_kind {s t : Tree}
    (h : s.kind = t.kind → ¬ (s.kind ≠ t.kind ∨ s.kind = .Func ∨ s.kind = .BuiltinFunc) → Good (eqT s t)) : Good (eqT s t) := by
  by_cases hm : s.kind ≠ t.kind ∨ s.kind = .Func ∨ s.kind = .BuiltinFunc
  · exact eqT_mismatch s t hm ▸ Or.inr ⟨[], _, _, rfl, hm⟩
  · exact h (Decidable.byContradiction fun e => hm (Or.inl e)) hm

theorem eqT_good : ∀ s t : Tree, Good (eqT s t) := by
  intro s
  induction s using Tree.induct with
  | leaf s hl ho =>
    intro t
    refine Good.of_same_kind fun _ hm => ?_
    obtain ⟨b, hb, _⟩ := eqT_scalar hl ho hm
    exact Or.inl ⟨b, hb⟩
  | list xs ih =>
    intro t
    refine Good.of_same_kind fun hk _ => ?_
    obtain ⟨ys, rfl⟩ := Tree.kind_list hk.symm
    by_cases hl : xs.toList.length = ys.toList.length
    · exact eqT_list_eq hl ▸ goodL _ _ 0 ih
    · exact Or.inl ⟨false, eqT_list_ne hl⟩
  | obj ps ih =>
    intro t
    refine Good.of_same_kind fun hk _ => ?_
    obtain ⟨qs, rfl⟩ := Tree.kind_obj hk.symm
    by_cases hl : ps.toList.length = qs.toList.length
    · exact eqT_obj_eq hl ▸ goodPL _ _ ih
    · exact Or.inl ⟨false, eqT_obj_ne hl⟩

/-! ### `true` only on equal trees (objects in canonical key order, as `BTreeMap` keeps them) -/

def KeysSorted (ps : List (List Char × Tree)) : Prop := (keysOf ps).Pairwise (fun a b => keyLt a b = true)

theorem KeysSorted.nodup {ps : List (List Char × Tree)} (h : KeysSorted ps) : (keysOf ps).Nodup :=
  List.Pairwise.imp (fun hab he => by subst he; cases hab.symm.trans (keyLt_asymm hab)) h

mutual
def Tree.Canon : Tree → Prop
  | .list xs => xs.Canon
  | .obj ps => KeysSorted ps.toList ∧ ps.Canon
  | _ => True
def Trees.Canon : Trees → Prop
  | .nil => True
  | .cons t r => t.Canon ∧ r.Canon
def Props.Canon : Props → Prop
  | .nil => True
  | .cons _ t r => t.Canon ∧ r.Canon
end

theorem Trees.Canon_iff : ∀ xs : Trees, xs.Canon ↔ ∀ t ∈ xs.toList, t.Canon := Trees.forall_iff trivial fun _ _ => Iff.rfl
theorem Props.Canon_iff : ∀ ps : Props, ps.Canon ↔ ∀ k t, (k, t) ∈ ps.toList → t.Canon :=
  Props.forall_iff trivial fun _ _ _ => Iff.rfl

theorem Trees.toList_inj : ∀ xs ys : Trees, xs.toList = ys.toList → xs = ys
  | .nil, .nil, _ => rfl
  | .nil, .cons _ _, h => nomatch h
  | .cons _ _, .nil, h => nomatch h
  | .cons a xs, .cons b ys, h => by
    cases List.cons.inj h with
    | intro h1 h2 => rw [h1, Trees.toList_inj xs ys h2]

theorem Props.toList_inj : ∀ xs ys : Props, xs.toList = ys.toList → xs = ys
  | .nil, .nil, _ => rfl
  | .nil, .cons _ _ _, h => nomatch h
  | .cons _ _ _, .nil, h => nomatch h
  | .cons k a xs, .cons l b ys, h => by
    cases List.cons.inj h with
    | intro h1 h2 => cases h1; rw [Props.toList_inj xs ys h2]

theorem sorted_ext {xs ys : List (List Char × Tree)} (hx : KeysSorted xs) (hy : KeysSorted ys)
    (hl : xs.length = ys.length) (hsub : ∀ p ∈ xs, p ∈ ys) : xs = ys := by
  -- distinct keys, so distinct entries
  have nodup : ∀ {l : List (List Char × Tree)}, KeysSorted l → l.Nodup :=
    fun h => h.nodup.of_map Prod.fst fun _ _ hne e => hne (congrArg Prod.fst e)
  refine List.Perm.eq_of_pairwise (fun a b _ _ hab hba => by rw [keyLt_asymm hab] at hba; cases hba)
    (List.pairwise_map.mp hx) (List.pairwise_map.mp hy)
    ((List.perm_ext_iff_of_nodup (nodup hx) (nodup hy)).mpr fun p => ⟨hsub p, ?_⟩)
  exact subset_of_nodup_of_length_le (nodup hx) hsub (Nat.le_of_eq hl.symm) p

def TrueEqAt (s : Tree) : Prop := ∀ t, s.Canon → t.Canon → eqT s t = .ok true → s = t

theorem trueEqL : ∀ (xs ys : List Tree) (i : Nat), (∀ a ∈ xs, ∀ b ∈ ys, eqT a b = .ok true → a = b) →
    xs.length = ys.length → eqL i xs ys = .ok true → xs = ys
  | [], [], _, _, _, _ => rfl
  | [], _ :: _, _, _, h, _ => nomatch h
  | _ :: _, [], _, _, h, _ => nomatch h
  | a :: xs, b :: ys, i, ih, hl, h => by
    obtain ⟨hab, h⟩ := eqL_true_cons h
    rw [ih a List.mem_cons_self b List.mem_cons_self hab, trueEqL xs ys (i + 1)
      (fun c hc d hd => ih c (List.mem_cons_of_mem _ hc) d (List.mem_cons_of_mem _ hd)) (Nat.succ.inj hl) h]

theorem eqT_true_eq : ∀ s, TrueEqAt s := by
  intro s
  induction s using Tree.induct with
  | leaf s hl ho => exact fun t _ _ h => (eqT_leaf_ok hl ho h).mp rfl
  | list xs ih =>
    intro t hs ht h
    obtain ⟨ys, rfl⟩ := Tree.kind_list (eqT_ok_kind h).symm
    obtain ⟨hl, he⟩ := eqT_list_true h
    rw [Trees.toList_inj xs ys (trueEqL _ _ 0
      (fun a ha b hb => ih a ha b ((Trees.Canon_iff xs).mp hs a ha) ((Trees.Canon_iff ys).mp ht b hb)) hl he)]
  | obj ps ih =>
    intro t hs ht h
    obtain ⟨qs, rfl⟩ := Tree.kind_obj (eqT_ok_kind h).symm
    obtain ⟨hl, he⟩ := eqT_obj_true h
    refine congrArg Tree.obj (Props.toList_inj ps qs (sorted_ext hs.1 ht.1 hl fun (k, x) hp => ?_))
    -- the entry found under the key on the right is equal to `x` by induction
    obtain ⟨y, hg, hxy⟩ := eqPL_true.mp he k x hp
    have hm := getP_mem hg
    cases ih k x hp y ((Props.Canon_iff ps).mp hs.2 k x hp) ((Props.Canon_iff qs).mp ht.2 k y hm) hxy
    exact hm

theorem Tree.Canon.KO : ∀ s : Tree, s.Canon → s.KO :=
  Tree.rec (motive_1 := fun s => s.Canon → s.KO) (motive_2 := fun xs => xs.Canon → xs.KO)
    (motive_3 := fun ps => ps.Canon → ps.KO)
    (fun _ => trivial) (fun _ _ => trivial) (fun _ _ => trivial) (fun _ _ => trivial)
    (fun _ ih h => ih h) (fun _ ih h => ⟨h.1.nodup, ih h.2⟩) (fun _ _ => trivial) (fun _ _ _ => trivial)
    (fun _ => trivial) (fun _ _ iht ihr h => ⟨iht h.1, ihr h.2⟩)
    (fun _ => trivial) (fun _ _ _ iht ihr h => ⟨iht h.1, ihr h.2⟩)

end Seed.C10
