/-
  C11Prog1.lean — reading sequences through the evaluator: the index expression `e[i]`, the slice `e[a:b]` with
  present / omitted bounds, `+` on two list- or string-valued expressions, with the sub-evaluations as hypotheses
  and exact fuel.  Used by the end-to-end part of C11.
-/
import SeedProofs.Lemmas.C14This
namespace Seed
open Gen (Leaf)

theorem evalToIndex_int {n : Nat} {σ σ' : State} {sc : List Addr} {e : Expr} {k : Int} {s : Option Val}
    (h : evalExpr n σ sc e = .ok ⟨.int k, s⟩ σ') :
    evalToIndex (n + 2) σ sc e = if k < 0 then errAt e.loc (Leaf.NegativeIndex k) σ' else .ok k.toNat σ' := by
  rw [evalToIndex, evalToInt, h]
  simp only [Res.bind]

theorem evalToIndex_non_int {n : Nat} {σ σ' : State} {sc : List Addr} {e : Expr} {v : SVal} (hv : ∀ k, v.v ≠ .int k)
    (h : evalExpr n σ sc e = .ok v σ') :
    evalToIndex (n + 2) σ sc e = errAt e.loc (Leaf.IncorrectType c!"index" c!"int" v.v.kind) σ' := by
  have hint : evalToInt (n + 1) σ sc c!"index" e = errAt e.loc (Leaf.IncorrectType c!"index" c!"int" v.v.kind) σ' := by
    rw [evalToInt, h]
    -- `simp` picks the catch-all arm of the match on `v.v`: its side condition "not an `.int`" is `hv`, in the context
    simp only [Res.bind]
  rw [evalToIndex, hint]
  rfl

/-- a range bound: omitted (`none`, nothing is evaluated), or an expression that evaluates to the integer `k` -/
inductive Bound (n : Nat) (sc : List Addr) : State → Option Expr → Option Int → State → Prop
  | omitted (σ : State) : Bound n sc σ none none σ
  | given {σ σ' : State} {e : Expr} {k : Int} {s : Option Val} (h : evalExpr n σ sc e = .ok ⟨.int k, s⟩ σ') :
      Bound n sc σ (some e) (some k) σ'

def NonNeg (r : Option Int) : Prop := ∀ k, r = some k → 0 ≤ k

instance (r : Option Int) : Decidable (NonNeg r) := by
  unfold NonNeg
  cases r with
  | none => exact isTrue (fun _ h => by cases h)
  | some k =>
    by_cases h : 0 ≤ k
    · exact isTrue (fun _ e => by cases e; exact h)
    · exact isFalse (fun f => h (f k rfl))

def rangeLo (ra : Option Int) : Nat := (ra.map Int.toNat).getD 0

def rangeHi (rb : Option Int) (len : Nat) : Nat := (rb.map Int.toNat).getD len

theorem rangeLo_spec (k : Int) : rangeLo none = 0 ∧ rangeLo (some k) = k.toNat := ⟨rfl, rfl⟩
theorem rangeHi_spec (k : Int) (len : Nat) : rangeHi none len = len ∧ rangeHi (some k) len = k.toNat := ⟨rfl, rfl⟩

theorem evalOptIndex_bound {n : Nat} {σ σ' : State} {sc : List Addr} {b : Option Expr} {r : Option Int}
    (h : Bound n sc σ b r σ') (hr : NonNeg r) :
    evalOptIndex (n + 3) σ sc b = .ok (r.map Int.toNat) σ' := by
  cases h with
  | omitted => rw [evalOptIndex]; rfl
  | given h =>
    rename_i e k s
    have hk : ¬ k < 0 := Int.not_lt.mpr (hr k rfl)
    rw [evalOptIndex, evalToIndex_int h]
    simp only [hk, if_false, Res.map, Option.map]

theorem evalOptIndex_bound_neg {n : Nat} {σ σ' : State} {sc : List Addr} {e : Expr} {k : Int}
    (h : Bound n sc σ (some e) (some k) σ') (hk : k < 0) :
    evalOptIndex (n + 3) σ sc (some e) = errAt e.loc (Leaf.NegativeIndex k) σ' := by
  cases h with
  | given h =>
    rw [evalOptIndex, evalToIndex_int h]
    simp only [hk, if_true, Res.map, errAt]

theorem evalExpr_index_list {n : Nat} {σ σ1 σ2 : State} {sc : List Addr} {e i : Expr} (loc : Loc) {a : Addr}
    {s si : Option Val} {k : Int} {xs : List SVal}
    (he : evalExpr n σ sc e = .ok ⟨.list a, s⟩ σ1) (hi : evalExpr n σ1 sc i = .ok ⟨.int k, si⟩ σ2)
    (hxs : σ2.getList a = some xs) :
    evalExpr (n + 3) σ sc (.mk (.Index e i) loc) =
      if k < 0 then errAt i.loc (Leaf.NegativeIndex k) σ2
      else match xs[k.toNat]? with
        | some v => .ok v σ2
        | none => errAt loc (Leaf.OutOfListBounds k.toNat) σ2 := by
  rw [evalExpr, evalExpr_fuel_mono he (by simp) (Nat.le_add_right n 2)]
  simp only [Res.bind_ok, evalToIndex_int hi, Res.bind_ite, hxs]
  rfl

theorem evalExpr_index_str {n : Nat} {σ σ1 σ2 : State} {sc : List Addr} {e i : Expr} (loc : Loc) {bs : Bytes}
    {s si : Option Val} {k : Int}
    (he : evalExpr n σ sc e = .ok ⟨.str bs, s⟩ σ1) (hi : evalExpr n σ1 sc i = .ok ⟨.int k, si⟩ σ2) :
    evalExpr (n + 3) σ sc (.mk (.Index e i) loc) =
      if k < 0 then errAt i.loc (Leaf.NegativeIndex k) σ2
      else match bs[k.toNat]? with
        | some b => .ok (SVal.plain (.str [b])) σ2
        | none => errAt loc (Leaf.OutOfStringBounds k.toNat) σ2 := by
  rw [evalExpr, evalExpr_fuel_mono he (by simp) (Nat.le_add_right n 2)]
  simp only [Res.bind_ok, evalToIndex_int hi, Res.bind_ite]
  rfl

theorem evalExpr_range_list {n : Nat} {σ σ1 σ2 σ3 : State} {sc : List Addr} {e : Expr} {start stop : Option Expr}
    (loc : Loc) {ra rb : Option Int} {a : Addr} {s : Option Val} {xs : List SVal}
    (hA : Bound n sc σ start ra σ1) (hB : Bound n sc σ1 stop rb σ2) (hra : NonNeg ra) (hrb : NonNeg rb)
    (he : evalExpr n σ2 sc e = .ok ⟨.list a, s⟩ σ3) (hxs : σ3.getList a = some xs) :
    evalExpr (n + 4) σ sc (.mk (.RangeIndex e start stop) loc) =
      if rangeLo ra ≤ rangeHi rb xs.length ∧ rangeHi rb xs.length ≤ xs.length
      then .ok (SVal.plain (.list σ3.heap.size))
            (σ3.alloc (.list ((xs.drop (rangeLo ra)).take
              (rangeHi rb xs.length - rangeLo ra)))).2
      else errAt loc (Leaf.RangeOutOfListBounds (rangeLo ra) (rangeHi rb xs.length)) σ3 := by
  rw [evalExpr]
  simp only [evalOptIndex_bound hA hra, evalOptIndex_bound hB hrb, evalExpr_fuel_mono he (by simp) (Nat.le_add_right n 3),
    Res.bind_ok, hxs, Bool.and_eq_true, decide_eq_true_eq]
  rfl

theorem evalExpr_range_str {n : Nat} {σ σ1 σ2 σ3 : State} {sc : List Addr} {e : Expr} {start stop : Option Expr}
    (loc : Loc) {ra rb : Option Int} {s : Option Val} {bs : Bytes}
    (hA : Bound n sc σ start ra σ1) (hB : Bound n sc σ1 stop rb σ2) (hra : NonNeg ra) (hrb : NonNeg rb)
    (he : evalExpr n σ2 sc e = .ok ⟨.str bs, s⟩ σ3) :
    evalExpr (n + 4) σ sc (.mk (.RangeIndex e start stop) loc) =
      if rangeLo ra ≤ rangeHi rb bs.length ∧ rangeHi rb bs.length ≤ bs.length
      then .ok (SVal.plain (.str ((bs.drop (rangeLo ra)).take
              (rangeHi rb bs.length - rangeLo ra)))) σ3
      else errAt loc (Leaf.RangeOutOfStringBounds (rangeLo ra) (rangeHi rb bs.length)) σ3 := by
  rw [evalExpr]
  simp only [evalOptIndex_bound hA hra, evalOptIndex_bound hB hrb, evalExpr_fuel_mono he (by simp) (Nat.le_add_right n 3),
    Res.bind_ok, Bool.and_eq_true, decide_eq_true_eq]
  rfl

theorem evalExpr_range_neg_start {n : Nat} {σ σ1 : State} {sc : List Addr} {e es : Expr} {stop : Option Expr}
    (loc : Loc) {k : Int} (hA : Bound n sc σ (some es) (some k) σ1) (hk : k < 0) :
    evalExpr (n + 4) σ sc (.mk (.RangeIndex e (some es) stop) loc) = errAt es.loc (Leaf.NegativeIndex k) σ1 := by
  rw [evalExpr, evalOptIndex_bound_neg hA hk]
  rfl

theorem evalExpr_range_neg_stop {n : Nat} {σ σ1 σ2 : State} {sc : List Addr} {e ee : Expr} {start : Option Expr}
    (loc : Loc) {ra : Option Int} {k : Int} (hA : Bound n sc σ start ra σ1) (hra : NonNeg ra)
    (hB : Bound n sc σ1 (some ee) (some k) σ2) (hk : k < 0) :
    evalExpr (n + 4) σ sc (.mk (.RangeIndex e start (some ee)) loc) = errAt ee.loc (Leaf.NegativeIndex k) σ2 := by
  rw [evalExpr]
  simp only [evalOptIndex_bound hA hra, Res.bind_ok, evalOptIndex_bound_neg hB hk]
  rfl

theorem applyBinOp_sum_lists (n : Nat) {σ : State} (loc : Loc) {x y : Addr} {xs ys : List SVal}
    (hx : σ.getList x = some xs) (hy : σ.getList y = some ys) :
    applyBinOp n σ .Sum loc (.list x) (.list y) = .ok (.list σ.heap.size) (σ.alloc (.list (xs ++ ys))).2 := by
  unfold applyBinOp
  simp only [hx, hy]
  rfl

theorem applyBinOp_sum_strs (n : Nat) (σ : State) (loc : Loc) (x y : Bytes) :
    applyBinOp n σ .Sum loc (.str x) (.str y) = .ok (.str (x ++ y)) σ := by
  unfold applyBinOp
  rfl

theorem evalExpr_sum_lists {n : Nat} {σ σ1 σ2 : State} {sc : List Addr} {e1 e2 : Expr} (opLoc loc : Loc) {a b : Addr}
    {s t : Option Val} {xs ys : List SVal}
    (h1 : evalExpr n σ sc e1 = .ok ⟨.list a, s⟩ σ1) (h2 : evalExpr n σ1 sc e2 = .ok ⟨.list b, t⟩ σ2)
    (hxs : σ2.getList a = some xs) (hys : σ2.getList b = some ys) :
    evalExpr (n + 1) σ sc (.mk (.BinaryOp .Sum opLoc e1 e2) loc) =
      .ok (SVal.plain (.list σ2.heap.size)) (σ2.alloc (.list (xs ++ ys))).2 := by
  rw [evalExpr, h1]
  simp only [Res.bind, h2, applyBinOp_sum_lists n opLoc hxs hys]

theorem evalExpr_sum_strs {n : Nat} {σ σ1 σ2 : State} {sc : List Addr} {e1 e2 : Expr} (opLoc loc : Loc)
    {s t : Option Val} {xs ys : Bytes}
    (h1 : evalExpr n σ sc e1 = .ok ⟨.str xs, s⟩ σ1) (h2 : evalExpr n σ1 sc e2 = .ok ⟨.str ys, t⟩ σ2) :
    evalExpr (n + 1) σ sc (.mk (.BinaryOp .Sum opLoc e1 e2) loc) = .ok (SVal.plain (.str (xs ++ ys))) σ2 := by
  rw [evalExpr, h1]
  simp only [Res.bind, h2, applyBinOp_sum_strs]

theorem getList_alloc_old {σ : State} (c : Cell) {a : Addr} {xs : List SVal} (h : σ.getList a = some xs) :
    (σ.alloc c).2.getList a = some xs :=
  ScopeL.getList_alloc c h

theorem getList_alloc_new (σ : State) (xs : List SVal) : (σ.alloc (.list xs)).2.getList σ.heap.size = some xs :=
  ScopeL.getList_alloc_new σ xs

theorem scopeGet_alloc {σ : State} (c : Cell) {sc : List Addr} {x : List Char} {v : SVal}
    (h : scopeGet σ sc x = some v) : scopeGet (σ.alloc c).2 sc x = some v :=
  C05P.scopeGet_alloc c h

end Seed
