/-
  C11Prog2.lean — the sequence laws as evaluations: `(x[:k] + x[k:]) == x` is `true`, `(x + y)[i]` reads `x` or `y`.
-/
import SeedProofs.Lemmas.C11Prog1
namespace Seed
open Gen (Leaf)

/-- not a function: the values `==` can compare with themselves (two functions are an error by definition) -/
def Val.NotFn : Val → Prop
  | .builtin _ _ => False
  | .func _ => False
  | _ => True

instance (v : Val) : Decidable v.NotFn := by
  cases v <;> unfold Val.NotFn <;> infer_instance

/-- a non-function value is equal to itself — containers by the identity short-cut, whatever they contain -/
theorem eqVal_self (n : Nat) (σ : State) (v : Val) (h : v.NotFn) : eqVal (n + 1) σ v v = .ok true := by
  cases v with
  | builtin _ _ => exact h.elim
  | func _ => exact h.elim
  | _ => simp [eqVal]

theorem eqItems_self (σ : State) (xs : List SVal) (h : ∀ v ∈ xs, v.v.NotFn) :
    ∀ n i, xs.length + 1 ≤ n → eqItems n σ i xs xs = .ok true := by
  induction xs with
  | nil =>
    intro n i hn
    obtain ⟨m, rfl⟩ : ∃ m, n = m + 1 := ⟨n - 1, by omega⟩
    simp [eqItems]
  | cons x r ih =>
    intro n i hn
    simp only [List.length_cons] at hn
    obtain ⟨m, rfl⟩ : ∃ m, n = m + 2 := ⟨n - 2, by omega⟩
    rw [eqItems, eqVal_self m σ x.v (h x List.mem_cons_self)]
    exact ih (fun v hv => h v (List.mem_cons_of_mem _ hv)) (m + 1) (i + 1) (by omega)

theorem eqVal_same_items {σ : State} {a b : Addr} {xs : List SVal} (n : Nat) (ha : σ.getList a = some xs)
    (hb : σ.getList b = some xs) (h : ∀ v ∈ xs, v.v.NotFn) (hn : xs.length + 2 ≤ n) :
    eqVal n σ (.list a) (.list b) = .ok true := by
  obtain ⟨m, rfl⟩ : ∃ m, n = m + 1 := ⟨n - 1, by omega⟩
  rw [eqVal]
  by_cases hab : a = b
  · simp only [hab, if_true]
  · simp only [hab, if_false, ha, hb, ne_eq, not_true_eq_false]
    exact eqItems_self σ xs h m 0 (by omega)

theorem evalExpr_int (n : Nat) (σ : State) (sc : List Addr) (k : Int) (l : Loc) :
    evalExpr (n + 1) σ sc (.mk (.Int k) l) = .ok ⟨.int k, none⟩ σ := by
  rw [evalExpr]; rfl

/-- the state after evaluating `(x[:k] + x[k:])`: three new cells (the two slices and their concatenation) -/
def splitJoinState (σ : State) (xs : List SVal) (k : Nat) : State :=
  (((σ.alloc (.list (xs.take k))).2.alloc (.list (xs.drop k))).2.alloc (.list xs)).2

theorem evalExpr_prefix_var {n : Nat} {σ : State} {sc : List Addr} {x : List Char} {a : Addr} {s s1 : Option Val}
    {xs : List SVal} {k : Int} {k1 : Expr} (lx ls : Loc)
    (hx : scopeGet σ sc x = some ⟨.list a, s⟩) (hxs : σ.getList a = some xs) (hk0 : 0 ≤ k) (hk : k.toNat ≤ xs.length)
    (hk1 : evalExpr n σ sc k1 = .ok ⟨.int k, s1⟩ σ) :
    evalExpr (n + 4) σ sc (.mk (.RangeIndex (.mk (.Var x) lx) none (some k1)) ls) =
      .ok (SVal.plain (.list σ.heap.size)) (σ.alloc (.list (xs.take k.toNat))).2 := by
  obtain ⟨m, rfl⟩ := evalExpr_ok_pos hk1
  rw [evalExpr_range_list ls (Bound.omitted σ) (Bound.given hk1) (fun _ h => by cases h)
    (fun _ h => by cases h; exact hk0) (evalExpr_var m lx hx) hxs]
  simp only [rangeLo, rangeHi, Option.map, Option.getD, Nat.zero_le, true_and, hk, if_true, List.drop_zero, Nat.sub_zero]

theorem evalExpr_suffix_var {n : Nat} {σ : State} {sc : List Addr} {x : List Char} {a : Addr} {s s2 : Option Val}
    {xs : List SVal} {k : Int} {k2 : Expr} (lx ls : Loc)
    (hx : scopeGet σ sc x = some ⟨.list a, s⟩) (hxs : σ.getList a = some xs) (hk0 : 0 ≤ k) (hk : k.toNat ≤ xs.length)
    (hk2 : evalExpr n σ sc k2 = .ok ⟨.int k, s2⟩ σ) :
    evalExpr (n + 4) σ sc (.mk (.RangeIndex (.mk (.Var x) lx) (some k2) none) ls) =
      .ok (SVal.plain (.list σ.heap.size)) (σ.alloc (.list (xs.drop k.toNat))).2 := by
  obtain ⟨m, rfl⟩ := evalExpr_ok_pos hk2
  rw [evalExpr_range_list ls (Bound.given hk2) (Bound.omitted σ) (fun _ h => by cases h; exact hk0)
    (fun _ h => by cases h) (evalExpr_var m lx hx) hxs]
  have h : (xs.drop k.toNat).take (xs.length - k.toNat) = xs.drop k.toNat := List.take_of_length_le (by simp)
  simp only [rangeLo, rangeHi, Option.map, Option.getD, hk, Nat.le_refl, and_self, if_true, h]

theorem evalExpr_split_join {n : Nat} {σ : State} {sc : List Addr} {x : List Char} {a : Addr} {s s1 s2 : Option Val}
    {xs : List SVal} {k : Int} {k1 k2 : Expr} (l1 l2 l3 l4 l5 lp le lo : Loc)
    (hx : scopeGet σ sc x = some ⟨.list a, s⟩) (hxs : σ.getList a = some xs) (hfn : ∀ v ∈ xs, v.v.NotFn)
    (hk0 : 0 ≤ k) (hk : k.toNat ≤ xs.length)
    (hk1 : evalExpr n σ sc k1 = .ok ⟨.int k, s1⟩ σ)
    (hk2 : evalExpr n (σ.alloc (.list (xs.take k.toNat))).2 sc k2 =
      .ok ⟨.int k, s2⟩ (σ.alloc (.list (xs.take k.toNat))).2)
    {m : Nat} (hm : n + xs.length + 6 ≤ m) :
    evalExpr m σ sc
        (.mk (.BinaryOp .Eq lo
          (.mk (.BinaryOp .Sum lp (.mk (.RangeIndex (.mk (.Var x) l1) none (some k1)) l2)
            (.mk (.RangeIndex (.mk (.Var x) l3) (some k2) none) l4)) l5)
          (.mk (.Var x) le)) l5) =
      .ok (SVal.plain (.bool true)) (splitJoinState σ xs k.toNat) := by
  have hA := evalExpr_prefix_var l1 l2 hx hxs hk0 hk hk1
  have hB := evalExpr_suffix_var l3 l4 (scopeGet_alloc (.list (xs.take k.toNat)) hx)
    (getList_alloc_old (.list (xs.take k.toNat)) hxs) hk0 hk hk2
  have hS := evalExpr_sum_lists lp l5 hA hB
    (getList_alloc_old _ (getList_alloc_new σ (xs.take k.toNat)))
    (getList_alloc_new (σ.alloc (.list (xs.take k.toNat))).2 (xs.drop k.toNat))
  rw [List.take_append_drop] at hS
  -- in the state with the three new cells: `x` still names the cell `a`, which holds `xs` like the newest cell
  have hx3 := scopeGet_alloc (.list xs) (scopeGet_alloc (.list (xs.drop k.toNat)) (scopeGet_alloc (.list (xs.take k.toNat)) hx))
  have hcmp := eqVal_same_items (n + xs.length + 5) (getList_alloc_new _ xs)
    (getList_alloc_old (.list xs) (getList_alloc_old (.list (xs.drop k.toNat)) (getList_alloc_old (.list (xs.take k.toNat)) hxs)))
    hfn (by omega)
  refine evalExpr_fuel_mono (n := n + xs.length + 6) ?_ (by simp) hm
  rw [evalExpr, evalExpr_fuel_mono hS (by simp) (by omega : n + 4 + 1 ≤ n + xs.length + 5)]
  simp only [Res.bind]
  rw [evalExpr_var (n + xs.length + 4) le hx3]
  unfold applyBinOp
  simp only [SVal.plain, hcmp]
  rfl

theorem evalExpr_concat_index {n : Nat} {σ σ1 σ2 σ4 : State} {sc : List Addr} {e1 e2 i : Expr} (lp ls loc : Loc)
    {a b : Addr} {s t si : Option Val} {xs ys : List SVal} {k : Int}
    (h1 : evalExpr n σ sc e1 = .ok ⟨.list a, s⟩ σ1) (h2 : evalExpr n σ1 sc e2 = .ok ⟨.list b, t⟩ σ2)
    (hxs : σ2.getList a = some xs) (hys : σ2.getList b = some ys)
    (hi : evalExpr (n + 1) (σ2.alloc (.list (xs ++ ys))).2 sc i = .ok ⟨.int k, si⟩ σ4)
    (hstill : σ4.getList σ2.heap.size = some (xs ++ ys)) :
    evalExpr (n + 4) σ sc (.mk (.Index (.mk (.BinaryOp .Sum lp e1 e2) ls) i) loc) =
      if k < 0 then errAt i.loc (Leaf.NegativeIndex k) σ4
      else match (if k.toNat < xs.length then xs[k.toNat]? else ys[k.toNat - xs.length]?) with
        | some v => .ok v σ4
        | none => errAt loc (Leaf.OutOfListBounds k.toNat) σ4 := by
  rw [evalExpr_index_list loc (evalExpr_sum_lists lp ls h1 h2 hxs hys) hi hstill, List.getElem?_append]
  rfl

theorem evalExpr_concat_index_str {n : Nat} {σ σ1 σ2 σ4 : State} {sc : List Addr} {e1 e2 i : Expr} (lp ls loc : Loc)
    {s t si : Option Val} {xs ys : Bytes} {k : Int}
    (h1 : evalExpr n σ sc e1 = .ok ⟨.str xs, s⟩ σ1) (h2 : evalExpr n σ1 sc e2 = .ok ⟨.str ys, t⟩ σ2)
    (hi : evalExpr (n + 1) σ2 sc i = .ok ⟨.int k, si⟩ σ4) :
    evalExpr (n + 4) σ sc (.mk (.Index (.mk (.BinaryOp .Sum lp e1 e2) ls) i) loc) =
      if k < 0 then errAt i.loc (Leaf.NegativeIndex k) σ4
      else match (if k.toNat < xs.length then xs[k.toNat]? else ys[k.toNat - xs.length]?) with
        | some b => .ok (SVal.plain (.str [b])) σ4
        | none => errAt loc (Leaf.OutOfStringBounds k.toNat) σ4 := by
  rw [evalExpr_index_str loc (evalExpr_sum_strs lp ls h1 h2) hi, List.getElem?_append]
  rfl

end Seed
