/-
  C11Prog3.lean — writing sequences through the evaluator: the statements `x[i] = e` and `x[a:b] = e` for a list
  variable `x`, with the sub-evaluations as hypotheses and exact fuel, and what `x[j]` reads afterwards.
-/
import SeedProofs.Lemmas.C11Prog2
import SeedProofs.Lemmas.ListSet
namespace Seed
open Gen (Leaf)

theorem listSplice_getElem? {α} (xs vals : List α) (start j : Nat) (h : start + vals.length ≤ xs.length) :
    (listSplice xs start vals)[j]? =
      if j < start then xs[j]? else if j < start + vals.length then vals[j - start]? else xs[j]? := by
  have hlen : (xs.take start).length = start := List.length_take_of_le (Nat.le_trans (Nat.le_add_right _ _) h)
  rw [listSplice, List.append_assoc, List.getElem?_append, hlen]
  by_cases h1 : j < start
  · rw [if_pos h1, if_pos h1, List.getElem?_take_of_lt h1]
  · have hsub := Nat.sub_lt_iff_lt_add' (c := vals.length) (Nat.le_of_not_lt h1)
    rw [if_neg h1, if_neg h1, List.getElem?_append]
    by_cases h2 : j < start + vals.length
    · rw [if_pos h2, if_pos (hsub.mpr h2)]
    · rw [if_neg h2, if_neg (mt hsub.mp h2), List.getElem?_drop, Nat.sub_sub, Nat.add_sub_cancel' (Nat.le_of_not_lt h2)]

theorem listSplice_len {α} (xs vals : List α) (start : Nat) (h : start + vals.length ≤ xs.length) :
    (listSplice xs start vals).length = xs.length := by
  rw [listSplice, List.length_append, List.length_append, List.length_drop,
    List.length_take_of_le (Nat.le_trans (Nat.le_add_right _ _) h), Nat.add_sub_cancel' h]

theorem add_of_sub_eq {a b m : Nat} (hab : a < b) (h : b - a = m) : a + m = b := by
  rw [← h, Nat.add_sub_cancel' (Nat.le_of_lt hab)]

theorem listSplice_eq {α} (xs ys : List α) {a b : Nat} (hb : a + ys.length = b) :
    listSplice xs a ys = xs.take a ++ ys ++ xs.drop b := by
  rw [listSplice, hb]

theorem slice_len {α} (xs : List α) (a : Nat) {b : Nat} (hb : b ≤ xs.length) :
    ((xs.drop a).take (b - a)).length = b - a := by
  rw [List.length_take, List.length_drop]
  exact Nat.min_eq_left (Nat.sub_le_sub_right hb a)

theorem evalStmt_assign {n : Nat} {σ σ1 : State} {sc : List Addr} {rhs : Expr} {v : SVal} (lhs : Expr)
    (hr : evalExpr n σ sc rhs = .ok v σ1) :
    evalStmt (n + 1) σ sc (.Assign lhs rhs) = (bindNext n σ1 sc [] lhs v none false).bind fun _ σ2 => .ok .none σ2 := by
  rw [evalStmt, hr]; rfl

theorem assign_index_stmt {n : Nat} {σ σ1 σ2 : State} {sc : List Addr} {x : List Char} {ie rhs : Expr} (lx li : Loc)
    {v : SVal} {a : Addr} {s si : Option Val} {k : Int} {xs : List SVal}
    (hr : evalExpr n σ sc rhs = .ok v σ1) (hx : scopeGet σ1 sc x = some ⟨.list a, s⟩)
    (hi : evalExpr n σ1 sc ie = .ok ⟨.int k, si⟩ σ2) (hxs : σ2.getList a = some xs) :
    evalStmt (n + 4) σ sc (.Assign (.mk (.Index (.mk (.Var x) lx) ie) li) rhs) =
      if k < 0 then errAt ie.loc (Leaf.NegativeIndex k) σ2
      else if k.toNat < xs.length then .ok .none (σ2.set a (.list (listSet xs k.toNat v)))
      else errAt li (Leaf.OutOfListBounds k.toNat) σ2 := by
  rw [evalStmt_assign _ (evalExpr_fuel_mono hr (by simp) (Nat.le_add_right n 3)), bindNext, evalExpr_var _ lx hx]
  simp only [Res.bind, evalToIndex_int hi]
  by_cases hk : k < 0
  · simp only [hk, if_true, errAt]
  · simp only [hk, if_false, hxs]
    by_cases hlt : k.toNat < xs.length
    · simp only [hlt, if_true, List.getElem?_eq_getElem hlt, opAssignValue, hxs]
    · simp only [hlt, if_false, List.getElem?_eq_none (Nat.le_of_not_lt hlt)]
      rfl

theorem set_list_facts {σ : State} {a : Addr} {xs : List SVal} (ys : List SVal) (hxs : σ.getList a = some xs) :
    (σ.set a (.list ys)).getList a = some ys ∧
    (∀ b, b ≠ a → (σ.set a (.list ys)).heap[b]? = σ.heap[b]?) ∧
    (σ.set a (.list ys)).heap.size = σ.heap.size ∧ (σ.set a (.list ys)).out = σ.out ∧
    (∀ sc x, scopeGet (σ.set a (.list ys)) sc x = scopeGet σ sc x) :=
  ⟨getList_set_same (getList_lt hxs) ys, fun _ hb => σ.heap_set_other _ hb, σ.size_set _ _, rfl,
    fun sc x => scopeGet_set_list ys hxs sc x⟩

theorem index_after_set {m : Nat} {σ : State} {sc : List Addr} {x : List Char} {je : Expr} (lx lj : Loc)
    {a : Addr} {s sj : Option Val} {kj : Int} {xs : List SVal} (ys : List SVal)
    (hx : scopeGet σ sc x = some ⟨.list a, s⟩) (hxs : σ.getList a = some xs)
    (hj : evalExpr m (σ.set a (.list ys)) sc je = .ok ⟨.int kj, sj⟩ (σ.set a (.list ys))) :
    evalExpr (m + 3) (σ.set a (.list ys)) sc (.mk (.Index (.mk (.Var x) lx) je) lj) =
      if kj < 0 then errAt je.loc (Leaf.NegativeIndex kj) (σ.set a (.list ys))
      else match ys[kj.toNat]? with
        | some w => .ok w (σ.set a (.list ys))
        | none => errAt lj (Leaf.OutOfListBounds kj.toNat) (σ.set a (.list ys)) := by
  obtain ⟨m', rfl⟩ := evalExpr_ok_pos hj
  exact evalExpr_index_list lj (evalExpr_var m' lx ((scopeGet_set_list ys hxs sc x).trans hx)) hj
    (getList_set_same (getList_lt hxs) ys)

theorem index_after_assign {m : Nat} {σ2 : State} {sc : List Addr} {x : List Char} {je : Expr} (lx lj : Loc)
    {a : Addr} {s sj : Option Val} {i : Nat} {kj : Int} {xs : List SVal} (v : SVal)
    (hx : scopeGet σ2 sc x = some ⟨.list a, s⟩) (hxs : σ2.getList a = some xs) (hi : i < xs.length)
    (hj : evalExpr m (σ2.set a (.list (listSet xs i v))) sc je = .ok ⟨.int kj, sj⟩ (σ2.set a (.list (listSet xs i v)))) :
    evalExpr (m + 3) (σ2.set a (.list (listSet xs i v))) sc (.mk (.Index (.mk (.Var x) lx) je) lj) =
      if kj < 0 then errAt je.loc (Leaf.NegativeIndex kj) (σ2.set a (.list (listSet xs i v)))
      else match (if kj.toNat = i then some v else xs[kj.toNat]?) with
        | some w => .ok w (σ2.set a (.list (listSet xs i v)))
        | none => errAt lj (Leaf.OutOfListBounds kj.toNat) (σ2.set a (.list (listSet xs i v))) := by
  rw [index_after_set lx lj _ hx hxs hj, listSet_getElem? xs i _ v hi]

/-- the items a value contributes as the right-hand side of a range assignment: the items of a list, the bytes of a
    string as one-byte strings; nothing else is accepted -/
def rangeRhs (σ : State) : Val → Option (List SVal)
  | .list b => σ.getList b
  | .str bs => some (bs.map fun b => SVal.plain (.str [b]))
  | _ => none

theorem assign_range_stmt {n : Nat} {σ σ1 σ2 σ3 : State} {sc : List Addr} {x : List Char} {rhs : Expr}
    {start stop : Option Expr} (lx lr : Loc) {rv : SVal} {a : Addr} {s : Option Val} {ra rb : Option Int}
    {xs ys : List SVal}
    (hr : evalExpr n σ sc rhs = .ok rv σ1) (hys : rangeRhs σ1 rv.v = some ys)
    (hx : scopeGet σ1 sc x = some ⟨.list a, s⟩)
    (hA : Bound n sc σ1 start ra σ2) (hB : Bound n sc σ2 stop rb σ3) (hra : NonNeg ra) (hrb : NonNeg rb)
    (hxs : σ3.getList a = some xs) :
    evalStmt (n + 6) σ sc (.Assign (.mk (.RangeIndex (.mk (.Var x) lx) start stop) lr) rhs) =
      if rangeLo ra > xs.length then
        errAt lr (Leaf.RangeStartOutOfListBounds (rangeLo ra) xs.length) σ3
      else if rangeLo ra ≥ rangeHi rb xs.length then
        errAt lr (Leaf.RangeStartNotBeforeEnd (rangeLo ra) (rangeHi rb xs.length)) σ3
      else if rangeHi rb xs.length > xs.length then
        errAt lr (Leaf.RangeEndOutOfListBounds (rangeHi rb xs.length) xs.length) σ3
      else if rangeHi rb xs.length - rangeLo ra ≠ ys.length then
        errAt lr (Leaf.RangeIndexItemMismatch (rangeHi rb xs.length - rangeLo ra) ys.length) σ3
      else .ok .none (σ3.set a (.list (listSplice xs (rangeLo ra) ys))) := by
  have hb : bindNext (n + 5) σ1 sc [] (.mk (.RangeIndex (.mk (.Var x) lx) start stop) lr) rv none false =
      bindRangeIndex (n + 4) σ1 sc a start stop lr ys [] := by
    rw [bindNext, evalExpr_var _ lx hx]
    cases hv : rv.v with
    | list b => rw [hv] at hys; simp only [Res.bind, show σ1.getList b = some ys from hys]
    | str bs => rw [hv] at hys; cases hys; simp only [Res.bind]
    | _ => rw [hv] at hys; cases hys
  rw [evalStmt_assign _ (evalExpr_fuel_mono hr (by simp) (Nat.le_add_right n 5)), hb]
  -- both bounds, the target's items, then the closing bind pushed through the four checks of `bind_range_index`
  unfold bindRangeIndex
  simp only [evalOptIndex_bound hA hra, evalOptIndex_bound hB hrb, Res.bind_ok, hxs, Res.bind_ite]
  rfl

theorem range_checks_ok {α} {lo hi len m : Nat} (e1 e2 e3 e4 r : α) (h1 : lo < hi) (h2 : hi ≤ len) (h3 : hi - lo = m) :
    (if lo > len then e1 else if lo ≥ hi then e2 else if hi > len then e3 else if hi - lo ≠ m then e4 else r) = r := by
  rw [if_neg (Nat.not_lt.mpr (Nat.le_trans (Nat.le_of_lt h1) h2)), if_neg (Nat.not_le.mpr h1),
    if_neg (Nat.not_lt.mpr h2), if_neg (fun h => h h3)]

theorem assign_range_bad_rhs {n : Nat} {σ σ1 : State} {sc : List Addr} {x : List Char} {rhs : Expr}
    {start stop : Option Expr} (lx lr : Loc) {rv : SVal} {a : Addr} {s : Option Val}
    (hr : evalExpr (n + 1) σ sc rhs = .ok rv σ1) (hx : scopeGet σ1 sc x = some ⟨.list a, s⟩)
    (hl : ∀ b, rv.v ≠ .list b) (hs : ∀ bs, rv.v ≠ .str bs) :
    evalStmt (n + 3) σ sc (.Assign (.mk (.RangeIndex (.mk (.Var x) lx) start stop) lr) rhs) =
      errAt lr (Leaf.RangeIndexAssignOnNonIndexable rv.v.kind) σ1 := by
  rw [evalStmt_assign _ (evalExpr_fuel_mono hr (by simp) (Nat.le_succ _)), bindNext, evalExpr_var _ lx hx]
  simp only [Res.bind]
  cases hv : rv.v with
  | list b => exact absurd hv (hl b)
  | str bs => exact absurd hv (hs bs)
  | _ => rfl

theorem index_after_range_assign {m : Nat} {σ3 : State} {sc : List Addr} {x : List Char} {je : Expr} (lx lj : Loc)
    {a : Addr} {s sj : Option Val} {lo : Nat} {kj : Int} {xs : List SVal} (ys : List SVal)
    (hx : scopeGet σ3 sc x = some ⟨.list a, s⟩) (hxs : σ3.getList a = some xs) (hfit : lo + ys.length ≤ xs.length)
    (hj : evalExpr m (σ3.set a (.list (listSplice xs lo ys))) sc je =
      .ok ⟨.int kj, sj⟩ (σ3.set a (.list (listSplice xs lo ys)))) :
    evalExpr (m + 3) (σ3.set a (.list (listSplice xs lo ys))) sc (.mk (.Index (.mk (.Var x) lx) je) lj) =
      if kj < 0 then errAt je.loc (Leaf.NegativeIndex kj) (σ3.set a (.list (listSplice xs lo ys)))
      else match (if kj.toNat < lo then xs[kj.toNat]?
                  else if kj.toNat < lo + ys.length then ys[kj.toNat - lo]? else xs[kj.toNat]?) with
        | some w => .ok w (σ3.set a (.list (listSplice xs lo ys)))
        | none => errAt lj (Leaf.OutOfListBounds kj.toNat) (σ3.set a (.list (listSplice xs lo ys))) := by
  rw [index_after_set lx lj _ hx hxs hj, listSplice_getElem? xs ys lo _ hfit]

theorem evalStmts_after {n : Nat} {σ σ' : State} {sc : List Addr} {st : Stmt} (rest : List Stmt)
    (h : evalStmt n σ sc st = .ok .none σ') : evalStmts (n + 1) σ sc (st :: rest) = evalStmts n σ' sc rest :=
  evalStmts_cons_ok rest h

theorem evalStmts_stmt_err {n : Nat} {σ σ' : State} {sc : List Addr} {st : Stmt} (rest : List Stmt) {e : Err}
    (h : evalStmt n σ sc st = .err e σ') : evalStmts (n + 1) σ sc (st :: rest) = .err e σ' := by
  rw [evalStmts_cons, h]; rfl

end Seed
