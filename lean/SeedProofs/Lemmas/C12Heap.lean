/-
  C12Heap.lean — reading and writing heap cells (`State.set`, `State.alloc`, `getObj`, `getList`, …): the facts of
  C04Scope.lean under the names and with the argument conventions of C11 – C14.
-/
import SeedProofs.Lemmas.C04Scope
namespace Seed

theorem State.heap_set_other (σ : State) {a b : Addr} (c : Cell) (h : b ≠ a) : (σ.set a c).heap[b]? = σ.heap[b]? :=
  ScopeL.set_other σ a c h

theorem State.heap_set_same (σ : State) {a : Addr} (c : Cell) (h : a < σ.heap.size) : (σ.set a c).heap[a]? = some c :=
  ScopeL.set_same σ a c h

theorem State.size_set (σ : State) (a : Addr) (c : Cell) : (σ.set a c).heap.size = σ.heap.size :=
  ScopeL.set_size σ a c

theorem State.out_set (σ : State) (a : Addr) (c : Cell) : (σ.set a c).out = σ.out := rfl

theorem heap_lt_of_some {σ : State} {a : Addr} {c : Cell} (h : σ.heap[a]? = some c) : a < σ.heap.size :=
  ScopeL.heap_lt_of_some h

theorem getObj_eq_some {σ : State} {a : Addr} {m : ObjMap} : σ.getObj a = some m ↔ σ.heap[a]? = some (.obj m) :=
  ScopeL.getObj_heap

theorem getList_eq_some {σ : State} {a : Addr} {xs : List SVal} : σ.getList a = some xs ↔ σ.heap[a]? = some (.list xs) :=
  ScopeL.getList_heap

theorem getScope_eq_some {σ : State} {a : Addr} {m : ScopeMap} : σ.getScope a = some m ↔ σ.heap[a]? = some (.scope m) :=
  ScopeL.getScope_heap

theorem getFunc_eq_some {σ : State} {a : Addr} {f : FuncRec} : σ.getFunc a = some f ↔ σ.heap[a]? = some (.func f) :=
  ScopeL.getFunc_heap

theorem getObj_lt {σ : State} {a : Addr} {m : ObjMap} (h : σ.getObj a = some m) : a < σ.heap.size :=
  ScopeL.getObj_lt h

theorem getList_lt {σ : State} {a : Addr} {xs : List SVal} (h : σ.getList a = some xs) : a < σ.heap.size :=
  ScopeL.getList_lt h

theorem getScope_lt {σ : State} {a : Addr} {m : ScopeMap} (h : σ.getScope a = some m) : a < σ.heap.size :=
  ScopeL.getScope_lt h

theorem getObj_set_same {σ : State} {a : Addr} (h : a < σ.heap.size) (m : ObjMap) : (σ.set a (.obj m)).getObj a = some m :=
  getObj_eq_some.mpr (σ.heap_set_same _ h)

theorem getList_set_same {σ : State} {a : Addr} (h : a < σ.heap.size) (xs : List SVal) :
    (σ.set a (.list xs)).getList a = some xs :=
  getList_eq_some.mpr (σ.heap_set_same _ h)

theorem getScope_set_same {σ : State} {a : Addr} (h : a < σ.heap.size) (m : ScopeMap) :
    (σ.set a (.scope m)).getScope a = some m :=
  ScopeL.getScope_set_same m h

theorem getFunc_set_other {σ : State} {a b : Addr} (c : Cell) (h : b ≠ a) : (σ.set a c).getFunc b = σ.getFunc b :=
  ScopeL.getFunc_congr (ScopeL.set_other σ a c h)

theorem getScope_set_other {σ : State} {a b : Addr} (c : Cell) (h : b ≠ a) : (σ.set a c).getScope b = σ.getScope b :=
  ScopeL.getScope_set_other c h

theorem getList_set_scope {σ : State} {a b : Addr} {m m' : ScopeMap} (h : σ.getScope a = some m) :
    (σ.set a (.scope m')).getList b = σ.getList b :=
  ScopeL.getList_set_scope σ a m' b h

theorem getObj_set_scope {σ : State} {a b : Addr} {m m' : ScopeMap} (h : σ.getScope a = some m) :
    (σ.set a (.scope m')).getObj b = σ.getObj b :=
  ScopeL.getObj_set_scope σ a m' b h

theorem State.alloc_fst (σ : State) (c : Cell) : (σ.alloc c).1 = σ.heap.size := rfl

theorem State.alloc_heap_old (σ : State) (c : Cell) {b : Addr} (h : b < σ.heap.size) :
    (σ.alloc c).2.heap[b]? = σ.heap[b]? :=
  ScopeL.alloc_old σ c h

theorem State.alloc_heap_new (σ : State) (c : Cell) : (σ.alloc c).2.heap[σ.heap.size]? = some c :=
  ScopeL.alloc_new σ c

theorem State.alloc_size (σ : State) (c : Cell) : (σ.alloc c).2.heap.size = σ.heap.size + 1 :=
  ScopeL.alloc_size σ c

end Seed
