/-
  C12Lit.lean — a whole object literal of `name: value` entries whose names and values evaluate without side
  effects builds `insertAll acc pairs`.
-/
import SeedProofs.Lemmas.C12Map
import SeedProofs.Lemmas.C15Utf8
namespace Seed

/-- entries `nameE: valE` that evaluate, at every fuel ≥ k, to `(name, v)` without changing the state -/
def PureProps (k : Nat) (σ : State) (sc : List Addr) : List PropItem → List (List Char × SVal) → Prop
  | [], [] => True
  | .Pair nameE valE :: r, (name, v) :: ps =>
    (∀ m, k ≤ m → evalToStr m σ sc c!"property name" nameE = .ok name σ) ∧
    (∀ m, k ≤ m → evalExpr m σ sc valE = .ok v σ) ∧ PureProps k σ sc r ps
  | _, _ => False

theorem evalProps_pure {k : Nat} {σ : State} {sc : List Addr} {props : List PropItem} {pairs : List (List Char × SVal)}
    (h : PureProps k σ sc props pairs) (l : Loc) (d : Nat) (acc : ObjMap) :
    evalProps (k + props.length + 1 + d) σ sc l props acc = .ok (insertAll acc pairs) σ := by
  induction props generalizing pairs acc with
  | nil =>
    cases pairs with
    | nil =>
      have e1 : k + ([] : List PropItem).length + 1 + d = (k + d) + 1 := by simp only [List.length_nil]; omega
      rw [e1, evalProps]; rfl
    | cons _ _ => exact absurd h id
  | cons it r ih =>
    cases pairs with
    | nil => cases it <;> exact absurd h id
    | cons p ps =>
      obtain ⟨name, v⟩ := p
      cases it with
      | Single e s c => exact absurd h id
      | Pair nameE valE =>
        obtain ⟨h1, h2, h3⟩ := h
        have e1 : k + (PropItem.Pair nameE valE :: r).length + 1 + d = (k + r.length + 1 + d) + 1 := by
          simp only [List.length_cons]; omega
        rw [e1, evalProps, h1 _ (by omega)]
        simp only [Res.bind]
        rw [h2 _ (by omega)]
        simp only
        rw [ih h3]
        rfl

def IsAscii (cs : List Char) : Prop := ∀ c ∈ cs, c.toNat < 128

end Seed
