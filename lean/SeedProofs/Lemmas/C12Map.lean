/-
  C12Map.lean — object maps as strictly sorted association lists: the order `keyLt`, the invariant
  `Sorted`, and the finite-map laws of `objGet` / `objInsert` / `objRemove`.
-/
import SeedModel.Eval
namespace Seed

theorem keyLt_irrefl (a : List Char) : keyLt a a = false := by
  induction a with
  | nil => rfl
  | cons c cs ih => simp [keyLt, ih]

theorem keyLt_cons (x y : Char) (xs ys : List Char) :
    keyLt (x :: xs) (y :: ys) = true ↔ x.toNat < y.toNat ∨ x.toNat = y.toNat ∧ keyLt xs ys = true := by
  rw [keyLt]
  by_cases h1 : x.toNat < y.toNat
  · simp [h1]
  · by_cases h2 : y.toNat < x.toNat
    · have : x.toNat ≠ y.toNat := by omega
      simp [h1, h2, this]
    · have : x.toNat = y.toNat := by omega
      simp [this]

theorem keyLt_trans {a b c : List Char} (h1 : keyLt a b = true) (h2 : keyLt b c = true) : keyLt a c = true := by
  induction a generalizing b c with
  | nil => cases b <;> cases c <;> simp_all [keyLt]
  | cons x xs ih =>
    cases b with
    | nil => simp [keyLt] at h1
    | cons y ys =>
      cases c with
      | nil => simp [keyLt] at h2
      | cons z zs =>
        rw [keyLt_cons] at h1 h2 ⊢
        rcases h1 with h1 | ⟨e1, h1⟩ <;> rcases h2 with h2 | ⟨e2, h2⟩
        · exact .inl (by omega)
        · exact .inl (by omega)
        · exact .inl (by omega)
        · exact .inr ⟨by omega, ih h1 h2⟩

theorem char_eq_of_toNat_eq {a b : Char} (h : a.toNat = b.toNat) : a = b :=
  Char.ext (UInt32.toNat_inj.mp h)

theorem keyLt_total {a b : List Char} (h1 : keyLt a b = false) (h2 : keyLt b a = false) : a = b := by
  induction a generalizing b with
  | nil => cases b <;> simp_all [keyLt]
  | cons x xs ih =>
    cases b with
    | nil => simp [keyLt] at h2
    | cons y ys =>
      rw [← Bool.not_eq_true, keyLt_cons] at h1 h2
      have e : x.toNat = y.toNat := by
        have := fun h => h1 (.inl h)
        have := fun h => h2 (.inl h)
        omega
      rw [char_eq_of_toNat_eq e, ih (Bool.eq_false_iff.mpr fun h => h1 (.inr ⟨e, h⟩))
        (Bool.eq_false_iff.mpr fun h => h2 (.inr ⟨e.symm, h⟩))]

theorem keyLt_asymm {a b : List Char} (h : keyLt a b = true) : keyLt b a = false := by
  cases h' : keyLt b a with
  | false => rfl
  | true => have := keyLt_trans h h'; rw [keyLt_irrefl] at this; cases this

theorem keyLt_ne {a b : List Char} (h : keyLt a b = true) : a ≠ b := by
  intro e; subst e; rw [keyLt_irrefl] at h; cases h

theorem keyLt_trichotomy (a b : List Char) : keyLt a b = true ∨ a = b ∨ keyLt b a = true := by
  cases h1 : keyLt a b with
  | true => exact .inl rfl
  | false =>
    cases h2 : keyLt b a with
    | true => exact .inr (.inr rfl)
    | false => exact .inr (.inl (keyLt_total h1 h2))

/-- strictly increasing keys (`BTreeMap` iteration order) -/
def Sorted (m : ObjMap) : Prop := m.Pairwise fun p q => keyLt p.1 q.1 = true

theorem Sorted.nil : Sorted [] := List.Pairwise.nil

theorem sorted_cons {p : List Char × SVal} {m : ObjMap} :
    Sorted (p :: m) ↔ (∀ q ∈ m, keyLt p.1 q.1 = true) ∧ Sorted m := List.pairwise_cons

theorem Sorted.tail {p : List Char × SVal} {m : ObjMap} (h : Sorted (p :: m)) : Sorted m := (sorted_cons.mp h).2

theorem objGet_none_of_lt {k : List Char} {m : ObjMap} (h : ∀ q ∈ m, keyLt k q.1 = true) : objGet k m = none := by
  induction m with
  | nil => rfl
  | cons p r ih =>
    obtain ⟨k', v'⟩ := p
    have hk : k ≠ k' := keyLt_ne (h (k', v') (List.mem_cons_self))
    simp only [objGet, hk, if_false]
    exact ih fun q hq => h q (List.mem_cons_of_mem _ hq)

theorem objGet_none_of_lt_head {k k' : List Char} {v' : SVal} {r : ObjMap} (lt : keyLt k k' = true)
    (h : Sorted ((k', v') :: r)) : objGet k ((k', v') :: r) = none :=
  objGet_none_of_lt fun q hq => by
    rcases List.mem_cons.mp hq with e | hq
    · rw [e]; exact lt
    · exact keyLt_trans lt ((sorted_cons.mp h).1 q hq)

theorem objGet_head_tail_none {k : List Char} {v : SVal} {m : ObjMap} (h : Sorted ((k, v) :: m)) : objGet k m = none :=
  objGet_none_of_lt (sorted_cons.mp h).1

theorem mem_objInsert {k : List Char} {v : SVal} {m : ObjMap} {q : List Char × SVal} (h : q ∈ objInsert k v m) :
    q = (k, v) ∨ q ∈ m := by
  induction m with
  | nil => simp [objInsert] at h; exact .inl h
  | cons p r ih =>
    obtain ⟨k', v'⟩ := p
    simp only [objInsert] at h
    split at h
    · rcases List.mem_cons.mp h with h | h
      · exact .inl h
      · exact .inr (List.mem_cons_of_mem _ h)
    · split at h
      · rcases List.mem_cons.mp h with h | h
        · exact .inl h
        · exact .inr h
      · rcases List.mem_cons.mp h with h | h
        · exact .inr (h ▸ List.mem_cons_self)
        · rcases ih h with h | h
          · exact .inl h
          · exact .inr (List.mem_cons_of_mem _ h)

theorem objInsert_sorted {k : List Char} {v : SVal} {m : ObjMap} (h : Sorted m) : Sorted (objInsert k v m) := by
  induction m with
  | nil => exact sorted_cons.mpr ⟨by simp, Sorted.nil⟩
  | cons p r ih =>
    obtain ⟨k', v'⟩ := p
    obtain ⟨hlt, hr⟩ := sorted_cons.mp h
    simp only [objInsert]
    split
    · rename_i e
      exact sorted_cons.mpr ⟨fun q hq => by rw [e]; exact hlt q hq, hr⟩
    · rename_i ne
      split
      · rename_i lt
        refine sorted_cons.mpr ⟨fun q hq => ?_, h⟩
        rcases List.mem_cons.mp hq with e | hq
        · rw [e]; exact lt
        · exact keyLt_trans lt (hlt q hq)
      · rename_i nlt
        have hgt : keyLt k' k = true := by
          rcases keyLt_trichotomy k k' with h | h | h
          · exact absurd h nlt
          · exact absurd h ne
          · exact h
        refine sorted_cons.mpr ⟨fun q hq => ?_, ih hr⟩
        rcases mem_objInsert hq with e | hq
        · rw [e]; exact hgt
        · exact hlt q hq

theorem objGet_objInsert (k k' : List Char) (v : SVal) (m : ObjMap) :
    objGet k' (objInsert k v m) = if k' = k then some v else objGet k' m := by
  induction m with
  | nil => simp [objInsert, objGet]
  | cons p r ih =>
    obtain ⟨k1, v1⟩ := p
    simp only [objInsert]
    split
    · rename_i e
      subst e
      simp only [objGet]
      split <;> rfl
    · rename_i ne
      split
      · simp only [objGet]
      · simp only [objGet, ih]
        by_cases h1 : k' = k1
        · have : k' ≠ k := fun e => ne (e.symm.trans h1)
          simp [h1]
          intro e; exact absurd e.symm ne
        · simp [h1]

theorem objGet_objInsert_same (k : List Char) (v : SVal) (m : ObjMap) : objGet k (objInsert k v m) = some v := by
  rw [objGet_objInsert]; simp

theorem objGet_objInsert_other {k k' : List Char} (h : k' ≠ k) (v : SVal) (m : ObjMap) :
    objGet k' (objInsert k v m) = objGet k' m := by
  rw [objGet_objInsert]; simp [h]

theorem objInsert_length (k : List Char) (v : SVal) {m : ObjMap} (h : Sorted m) :
    (objInsert k v m).length = m.length + (if (objGet k m).isSome then 0 else 1) := by
  induction m with
  | nil => simp [objInsert, objGet]
  | cons p r ih =>
    obtain ⟨k1, v1⟩ := p
    simp only [objInsert]
    split
    · rename_i e; simp [objGet, e]
    · rename_i ne
      split
      · rename_i lt
        have : objGet k r = none :=
          objGet_none_of_lt fun q hq => keyLt_trans lt ((sorted_cons.mp h).1 q hq)
        simp [objGet, ne, this]
      · simp only [List.length_cons, ih h.tail, objGet, ne, if_false]; omega

theorem sorted_ext {m m' : ObjMap} (h : Sorted m) (h' : Sorted m') (e : ∀ k, objGet k m = objGet k m') : m = m' := by
  induction m generalizing m' with
  | nil =>
    cases m' with
    | nil => rfl
    | cons p r => obtain ⟨k, v⟩ := p; have := e k; simp [objGet] at this
  | cons p r ih =>
    obtain ⟨k, v⟩ := p
    cases m' with
    | nil => have := e k; simp [objGet] at this
    | cons p' r' =>
      obtain ⟨k', v'⟩ := p'
      have hk : k = k' := by
        rcases keyLt_trichotomy k k' with lt | eq | gt
        · have := e k; rw [objGet_none_of_lt_head lt h'] at this; simp [objGet] at this
        · exact eq
        · have := e k'; rw [objGet_none_of_lt_head gt h] at this; simp [objGet] at this
      subst hk
      have hv : v = v' := by have := e k; simpa [objGet] using this
      subst hv
      have : r = r' := by
        apply ih h.tail h'.tail
        intro x
        by_cases hx : x = k
        · subst hx; rw [objGet_head_tail_none h, objGet_head_tail_none h']
        · have := e x; simpa [objGet, hx] using this
      rw [this]

theorem objInsert_comm {k1 k2 : List Char} (hne : k1 ≠ k2) (v1 v2 : SVal) {m : ObjMap} (h : Sorted m) :
    objInsert k1 v1 (objInsert k2 v2 m) = objInsert k2 v2 (objInsert k1 v1 m) := by
  apply sorted_ext (objInsert_sorted (objInsert_sorted h)) (objInsert_sorted (objInsert_sorted h))
  intro k
  simp only [objGet_objInsert]
  by_cases a : k = k1
  · have : k ≠ k2 := fun e => hne (a.symm.trans e)
    simp [a, hne]
  · simp [a]

theorem objInsert_overwrite (k : List Char) (v1 v2 : SVal) {m : ObjMap} (h : Sorted m) :
    objInsert k v2 (objInsert k v1 m) = objInsert k v2 m := by
  apply sorted_ext (objInsert_sorted (objInsert_sorted h)) (objInsert_sorted h)
  intro x
  simp only [objGet_objInsert]
  split <;> rfl

def insertAll (acc : ObjMap) (ps : List (List Char × SVal)) : ObjMap :=
  ps.foldl (fun acc kv => objInsert kv.1 kv.2 acc) acc

theorem insertAll_sorted {acc : ObjMap} (h : Sorted acc) (ps : List (List Char × SVal)) : Sorted (insertAll acc ps) := by
  induction ps generalizing acc with
  | nil => exact h
  | cons p r ih => exact ih (objInsert_sorted h)

def DistinctKeys (ps : List (List Char × SVal)) : Prop := ps.Pairwise fun p q => p.1 ≠ q.1

theorem Sorted.distinct {m : ObjMap} (h : Sorted m) : DistinctKeys m :=
  List.Pairwise.imp (fun h => keyLt_ne h) h

theorem DistinctKeys.perm {ps qs : List (List Char × SVal)} (p : ps.Perm qs) (h : DistinctKeys ps) : DistinctKeys qs :=
  List.Perm.pairwise p h (fun h => Ne.symm h)

theorem insertAll_perm {ps qs : List (List Char × SVal)} (p : ps.Perm qs) (hd : DistinctKeys ps)
    {acc : ObjMap} (h : Sorted acc) : insertAll acc ps = insertAll acc qs := by
  induction p generalizing acc with
  | nil => rfl
  | cons x _ ih =>
    exact ih (List.Pairwise.of_cons hd) (objInsert_sorted h)
  | swap x y l =>
    simp only [insertAll, List.foldl_cons]
    have hne : y.1 ≠ x.1 := (List.pairwise_cons.mp hd).1 x (List.mem_cons_self)
    rw [objInsert_comm hne.symm _ _ h]
  | trans p1 _ ih1 ih2 =>
    exact (ih1 hd h).trans (ih2 (hd.perm p1) h)

theorem objGet_insertAll_sorted (k : List Char) {m : ObjMap} (hm : Sorted m) (acc : ObjMap) :
    objGet k (insertAll acc m) = match objGet k m with | some v => some v | none => objGet k acc := by
  induction m generalizing acc with
  | nil => rfl
  | cons p r ih =>
    obtain ⟨k1, v1⟩ := p
    simp only [insertAll, List.foldl_cons]
    have := ih hm.tail (objInsert k1 v1 acc)
    simp only [insertAll] at this
    rw [this, objGet_objInsert]
    by_cases e : k = k1
    · subst e; simp [objGet, objGet_head_tail_none hm]
    · simp [objGet, e]

theorem insertAll_self {m : ObjMap} (h : Sorted m) : insertAll [] m = m := by
  apply sorted_ext (insertAll_sorted Sorted.nil m) h
  intro k
  rw [objGet_insertAll_sorted k h]
  cases objGet k m <;> rfl

theorem objGet_filter_key (p : List Char → Bool) (k : List Char) (m : ObjMap) :
    objGet k (m.filter fun kv => p kv.1) = if p k then objGet k m else none := by
  induction m with
  | nil => simp [objGet]
  | cons q r ih =>
    obtain ⟨k1, v1⟩ := q
    simp only [List.filter_cons]
    by_cases hp : p k1 = true
    · simp only [hp, if_true, objGet]
      by_cases e : k = k1
      · subst e; simp [hp]
      · simp [e, ih]
    · simp only [hp, objGet]
      by_cases e : k = k1
      · subst e; simp [hp, ih]
      · simp [e, ih]

theorem Sorted.filter {m : ObjMap} (h : Sorted m) (p : List Char × SVal → Bool) : Sorted (m.filter p) :=
  List.Pairwise.filter p h

theorem objRemove_eq_filter {m : ObjMap} (h : Sorted m) (k : List Char) :
    objRemove k m = m.filter fun kv => kv.1 ≠ k := by
  induction m with
  | nil => rfl
  | cons q r ih =>
    obtain ⟨k1, v1⟩ := q
    simp only [objRemove, List.filter_cons]
    by_cases e : k = k1
    · subst e
      simp only [if_true, ne_eq, not_true_eq_false, decide_false]
      symm
      apply List.filter_eq_self.mpr
      intro q hq
      have := keyLt_ne ((sorted_cons.mp h).1 q hq)
      simp [Ne.symm this]
    · have : k1 ≠ k := Ne.symm e
      simp [e, this, ih h.tail]

end Seed
