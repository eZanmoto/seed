/-
  C13Assign.lean — nested patterns in ASSIGNMENT mode (`lhs = rhs;`, the engine `bindNext … none false`), part 1:

  * the scope chain: `nearest σ sc x` is the innermost scope of the chain that has `x` (address and contents);
    `scopeAssign` writes that cell (`scopeAssign_eq`), `scopeGet` reads it (`scopeGet_eq`); `SameKeys`: two states
    whose scope cells hold the same names — the walk of the chain ends in the same cell in both;
  * `assignAll σ sc bs`: the leaf assignments `x = v` of `bs` one after the other, left to right;
  * `amatch` / `amatchList` / `amatchProps`: the engine in assignment mode without fuel (a total function, every
    located error, the live re-reads of the source cell included);
  * `bindNext_apat`: with fuel at least the size of the pattern the evaluator's engine *is* `amatch`, on every
    outcome, for every scope chain, names-in-binding set and state — no hypothesis at all.
-/
import SeedProofs.Lemmas.C13NestedFuel
namespace Seed.C13N
open Seed Gen

theorem scopeLookup_isSome_iff (y : List Char) : ∀ (m : ScopeMap), (scopeLookup y m).isSome = true ↔ y ∈ m.map Prod.fst
  | [] => by simp [scopeLookup]
  | (k, w, l) :: r => by
    rw [scopeLookup, List.map_cons, List.mem_cons]
    by_cases h : y = k
    · simp [h]
    · simp only [h, if_false, false_or]; exact scopeLookup_isSome_iff y r

theorem scopeLookup_setVal (x y : List Char) (v : SVal) : ∀ (m : ScopeMap),
    scopeLookup y (scopeSetVal x v m) = if y = x then (scopeLookup x m).map (fun p => (v, p.2)) else scopeLookup y m
  | [] => by simp [scopeSetVal, scopeLookup]
  | (k, w, l) :: r => by
    have ih := scopeLookup_setVal x y v r
    by_cases hxk : x = k
    · subst hxk
      by_cases hyx : y = x
      · subst hyx; simp [scopeSetVal, scopeLookup]
      · simp [scopeSetVal, scopeLookup, hyx]
    · by_cases hyx : y = x
      · subst hyx
        simp only [scopeSetVal, hxk, if_false, scopeLookup, if_true] at ih ⊢
        exact ih
      · simp only [scopeSetVal, hxk, if_false, scopeLookup, hyx] at ih ⊢
        by_cases hyk : y = k
        · simp [hyk]
        · simp only [hyk, if_false]; exact ih

theorem scopeSetVal_shape (x : List Char) (v : SVal) : ∀ (m : ScopeMap),
    (scopeSetVal x v m).map (fun e => (e.1, e.2.2)) = m.map (fun e => (e.1, e.2.2))
  | [] => rfl
  | (k, w, l) :: r => by
    by_cases hxk : x = k
    · simp [scopeSetVal, hxk]
    · simp [scopeSetVal, hxk, scopeSetVal_shape x v r]

theorem scopeSetVal_keys (x : List Char) (v : SVal) (m : ScopeMap) :
    (scopeSetVal x v m).map Prod.fst = m.map Prod.fst := by
  have h := congrArg (List.map Prod.fst) (scopeSetVal_shape x v m)
  simpa [List.map_map, Function.comp_def] using h

/-- the innermost scope of the chain that has `x` — its address and its contents; the walk of `ScopeStack::get`
    and `ScopeStack::assign` -/
def nearest (σ : State) : List Addr → List Char → Option (Addr × ScopeMap)
  | [], _ => none
  | a :: r, x =>
    match σ.getScope a with
    | none => none
    | some m =>
      match scopeLookup x m with
      | some _ => some (a, m)
      | none => nearest σ r x

theorem scopeAssign_eq (σ : State) (x : List Char) (v : SVal) : ∀ (sc : List Addr),
    scopeAssign σ sc x v = (nearest σ sc x).map fun am => σ.set am.1 (.scope (scopeSetVal x v am.2))
  | [] => rfl
  | a :: r => by
    simp only [scopeAssign, nearest]
    cases σ.getScope a with
    | none => rfl
    | some m =>
      dsimp only
      cases scopeLookup x m with
      | none => exact scopeAssign_eq σ x v r
      | some p => rfl

theorem scopeGet_eq (σ : State) (x : List Char) : ∀ (sc : List Addr),
    scopeGet σ sc x = (nearest σ sc x).bind fun am => (scopeLookup x am.2).map Prod.fst
  | [] => rfl
  | a :: r => by
    simp only [scopeGet, nearest]
    cases σ.getScope a with
    | none => rfl
    | some m =>
      dsimp only
      cases h : scopeLookup x m with
      | none => exact scopeGet_eq σ x r
      | some p => simp [h]

theorem nearest_some {σ : State} {x : List Char} {a : Addr} {m : ScopeMap} : ∀ {sc : List Addr},
    nearest σ sc x = some (a, m) → a ∈ sc ∧ σ.getScope a = some m ∧ ∃ w l, scopeLookup x m = some (w, l)
  | [], h => by cases h
  | c :: r, h => by
    simp only [nearest] at h
    cases hc : σ.getScope c with
    | none => rw [hc] at h; cases h
    | some mc =>
      rw [hc] at h
      dsimp only at h
      cases hl : scopeLookup x mc with
      | none =>
        rw [hl] at h
        obtain ⟨h1, h2⟩ := nearest_some (sc := r) h
        exact ⟨List.mem_cons_of_mem _ h1, h2⟩
      | some p =>
        rw [hl] at h
        cases h
        exact ⟨List.mem_cons_self, hc, p.1, p.2, hl⟩

def Declared (σ : State) (sc : List Addr) (x : List Char) : Prop := ∃ w, scopeGet σ sc x = some w

theorem declared_iff {σ : State} {sc : List Addr} {x : List Char} :
    Declared σ sc x ↔ (nearest σ sc x).isSome = true := by
  unfold Declared
  rw [scopeGet_eq]
  cases hn : nearest σ sc x with
  | none => simp
  | some am =>
    obtain ⟨_, _, w, l, hl⟩ := nearest_some (a := am.1) (m := am.2) hn
    exact ⟨fun _ => rfl, fun _ => ⟨w, by simp [hl]⟩⟩

theorem scopeAssign_isSome_iff {σ : State} {sc : List Addr} {x : List Char} (v : SVal) :
    (∃ σ', scopeAssign σ sc x v = some σ') ↔ Declared σ sc x := by
  rw [declared_iff, scopeAssign_eq, ← Option.isSome_iff_exists, Option.isSome_map]

/-- the scope cells of the two states hold the same names (in particular the same addresses are scope cells) -/
def SameKeys (σ τ : State) : Prop :=
  ∀ b, (σ.getScope b).map (List.map Prod.fst) = (τ.getScope b).map (List.map Prod.fst)

theorem SameKeys.refl (σ : State) : SameKeys σ σ := fun _ => rfl
theorem SameKeys.symm {σ τ : State} (h : SameKeys σ τ) : SameKeys τ σ := fun b => (h b).symm
theorem SameKeys.trans {σ τ υ : State} (h1 : SameKeys σ τ) (h2 : SameKeys τ υ) : SameKeys σ υ :=
  fun b => (h1 b).trans (h2 b)

theorem SameKeys.of_getScope {σ τ : State} (h : ∀ b, τ.getScope b = σ.getScope b) : SameKeys σ τ :=
  fun b => by rw [h b]

theorem SameKeys.set {σ : State} {a : Addr} {m : ScopeMap} (h : σ.getScope a = some m) (x : List Char) (v : SVal) :
    SameKeys σ (σ.set a (.scope (scopeSetVal x v m))) := by
  intro b
  by_cases hb : b = a
  · subst hb
    rw [getScope_set_same (getScope_lt h), h]
    simp [scopeSetVal_keys]
  · rw [getScope_set_other _ hb]

theorem SameKeys.nearest {σ τ : State} (h : SameKeys σ τ) (x : List Char) : ∀ (sc : List Addr),
    (nearest σ sc x).map Prod.fst = (nearest τ sc x).map Prod.fst
  | [] => rfl
  | a :: r => by
    have ha := h a
    simp only [Seed.C13N.nearest]
    cases hs : σ.getScope a with
    | none => cases ht : τ.getScope a <;> rw [hs, ht] at ha <;> cases ha
    | some m =>
      cases ht : τ.getScope a with
      | none => rw [hs, ht] at ha; cases ha
      | some m' =>
        rw [hs, ht] at ha
        have hiff : (scopeLookup x m).isSome = (scopeLookup x m').isSome := by
          rw [Bool.eq_iff_iff, scopeLookup_isSome_iff, scopeLookup_isSome_iff, Option.some.inj ha]
        dsimp only
        cases h1 : scopeLookup x m <;> cases h2 : scopeLookup x m' <;> rw [h1, h2] at hiff <;> cases hiff
        · exact SameKeys.nearest h x r
        · rfl

theorem SameKeys.declared {σ τ : State} (h : SameKeys σ τ) (sc : List Addr) (x : List Char) :
    Declared σ sc x ↔ Declared τ sc x := by
  rw [declared_iff, declared_iff, ← Option.isSome_map (f := Prod.fst), h.nearest x sc, Option.isSome_map]

/-- `x₁ = v₁; …; xₙ = vₙ` on the scope chain (each into the nearest binding of its name); `none` when a name is
    not declared -/
def assignAll (σ : State) (sc : List Addr) : List Bnd → Option State
  | [] => some σ
  | (x, v, _) :: r =>
    match scopeAssign σ sc x v with
    | none => none
    | some σ1 => assignAll σ1 sc r

theorem assignAll_append (sc : List Addr) (bs2 : List Bnd) : ∀ (bs1 : List Bnd) (σ : State),
    assignAll σ sc (bs1 ++ bs2) =
      match assignAll σ sc bs1 with
      | none => none
      | some σ1 => assignAll σ1 sc bs2
  | [], σ => rfl
  | (x, v, l) :: r, σ => by
    simp only [List.cons_append, assignAll]
    cases scopeAssign σ sc x v with
    | none => rfl
    | some σ1 => exact assignAll_append sc bs2 r σ1

theorem scopeAssign_keeps {σ σ' : State} {sc : List Addr} {x : List Char} {v : SVal} (h : scopeAssign σ sc x v = some σ') :
    SameKeys σ σ' ∧ (∀ b, σ'.getList b = σ.getList b) ∧ (∀ b, σ'.getObj b = σ.getObj b) ∧ σ'.out = σ.out ∧
    σ'.heap.size = σ.heap.size := by
  rw [scopeAssign_eq] at h
  cases hn : nearest σ sc x with
  | none => rw [hn] at h; cases h
  | some am =>
    obtain ⟨a, m⟩ := am
    rw [hn] at h
    cases h
    obtain ⟨_, hs, _⟩ := nearest_some hn
    exact ⟨SameKeys.set hs x v, fun b => getList_set_scope hs, fun b => getObj_set_scope hs, rfl, State.size_set _ _ _⟩

theorem assignAll_keeps (sc : List Addr) : ∀ (bs : List Bnd) {σ σ' : State}, assignAll σ sc bs = some σ' →
    SameKeys σ σ' ∧ (∀ b, σ'.getList b = σ.getList b) ∧ (∀ b, σ'.getObj b = σ.getObj b) ∧ σ'.out = σ.out ∧
    σ'.heap.size = σ.heap.size
  | [], σ, σ', h => by cases h; exact ⟨SameKeys.refl _, fun _ => rfl, fun _ => rfl, rfl, rfl⟩
  | (x, v, l) :: r, σ, σ', h => by
    simp only [assignAll] at h
    cases ha : scopeAssign σ sc x v with
    | none => rw [ha] at h; cases h
    | some σ1 =>
      rw [ha] at h
      obtain ⟨k1, l1, o1, p1, s1⟩ := scopeAssign_keeps ha
      obtain ⟨k2, l2, o2, p2, s2⟩ := assignAll_keeps sc r h
      exact ⟨k1.trans k2, fun b => (l2 b).trans (l1 b), fun b => (o2 b).trans (o1 b), p2.trans p1, s2.trans s1⟩

/-- assigning one name: `_` assigns nothing; a name may appear once per pattern and must be declared -/
def aName (sc : List Addr) (names : List (List Char)) (σ : State) (x : List Char) (l : Loc) (v : SVal) :
    Res (List (List Char)) :=
  if x = c!"_" then .ok names σ
  else if names.contains x then errAt l (Leaf.AlreadyInBinding x) σ
  else
    match scopeAssign σ sc x v with
    | some σ2 => .ok (x :: names) σ2
    | none => errAt l (Leaf.Undefined x) σ

theorem bindNextName_assign (f : Nat) (σ : State) (sc : List Addr) (names : List (List Char)) (x : List Char) (l : Loc)
    (v : SVal) : bindNextName f σ sc names x l v none false = aName sc names σ x l v := by
  unfold bindNextName aName
  by_cases hx : x = c!"_"
  · rw [if_pos hx, if_pos hx]
  · rw [if_neg hx, if_neg hx]
    by_cases hc : names.contains x = true
    · rw [if_pos hc, if_pos hc]
    · rw [if_neg hc, if_neg hc]
      simp only [Bool.false_eq_true, if_false]
      cases scopeAssign σ sc x v <;> rfl

mutual
def amatch (sc : List Addr) : Pat → List (List Char) → State → SVal → Res (List (List Char))
  | .var x l, names, σ, v => aName sc names σ x l v
  | .list ps c l, names, σ, v =>
    match v.v with
    | .list b =>
      match σ.getList b with
      | none => crashHeap σ
      | some xs =>
        if c && ps.length - 1 > xs.length then errAt l (Leaf.ListCollectTooFew ps.length xs.length) σ
        else if !c && ps.length ≠ xs.length then errAt l (Leaf.ListDestructureItemMismatch ps.length xs.length) σ
        else amatchList sc ps c l b 0 ps.length names σ
    | w => errAt l (Leaf.ListDestructureOnNonList w.kind) σ
  | .obj pr l, names, σ, v =>
    match v.v with
    | .obj b =>
      match σ.getObj b with
      | none => crashHeap σ
      | some o => amatchProps sc pr b 0 pr.length (o.map Prod.fst) names σ
    | w => errAt l (Leaf.ObjectDestructureOnNonObject w.kind) σ
/-- the item loop; the source cell `b` is read again at every item, as in the code -/
def amatchList (sc : List Addr) : PatList → Bool → Loc → Addr → Nat → Nat → List (List Char) → State → Res (List (List Char))
  | .nil, _, _, _, _, _, names, σ => .ok names σ
  | .cons p r, c, l, b, i, len, names, σ =>
    match σ.getList b with
    | none => crashHeap σ
    | some xs =>
      if c && i = len - 1 then
        (amatch sc p names (σ.alloc (.list (xs.drop (len - 1)))).2 (SVal.plain (.list σ.heap.size))).bind
          fun names' σ' => amatchList sc r c l b (i + 1) len names' σ'
      else
        match xs[i]? with
        | none => .crash c!"index" σ
        | some v => (amatch sc p names σ v).bind fun names' σ' => amatchList sc r c l b (i + 1) len names' σ'
/-- the property loop; the source cell `b` is read again at every property -/
def amatchProps (sc : List Addr) : PatProps → Addr → Nat → Nat → List (List Char) → List (List Char) → State →
    Res (List (List Char))
  | .nil, _, _, _, _, names, σ => .ok names σ
  | .short x l r, b, i, total, rem, names, σ =>
    Res.bind
      (if x = c!"_" then Res.ok names σ
       else
        match σ.getObj b with
        | none => crashHeap σ
        | some o =>
          match objGet x o with
          | none => errAt l (Leaf.PropNotFound x) σ
          | some v => aName sc names σ x l v)
      fun names' σ' => amatchProps sc r b (i + 1) total (rem.filter fun k => k ≠ x) names' σ'
  | .pair k lk p r, b, i, total, rem, names, σ =>
    Res.bind
      (match σ.getObj b with
       | none => crashHeap σ
       | some o =>
        match objGet k o with
        | none => errAt lk (Leaf.PropNotFound k) σ
        | some v => amatch sc p names σ v)
      fun names' σ' => amatchProps sc r b (i + 1) total (rem.filter fun k' => k' ≠ k) names' σ'
  | .rest x l r, b, i, total, rem, names, σ =>
    if i ≠ total - 1 then errAt l Leaf.ObjectCollectIsNotLast σ
    else
      match σ.getObj b with
      | none => crashHeap σ
      | some o =>
        (aName sc names (σ.alloc (.obj (o.filter fun kv => rem.contains kv.1))).2 x l (SVal.plain (.obj σ.heap.size))).bind
          fun names' σ' => amatchProps sc r b i total rem names' σ'
end

mutual
theorem bindNext_apat (sc : List Addr) : (p : Pat) → ∀ (fuel : Nat) (names : List (List Char)) (σ : State) (v : SVal),
    p.size ≤ fuel → bindNext fuel σ sc names p.toExpr v none false = amatch sc p names σ v := fun p fuel names σ v hf => by
  cases p with
  | var x l =>
    obtain ⟨n, rfl, _⟩ := fuel_add 1 hf
    rw [Pat.toExpr, bindNext_var, amatch]
    exact bindNextName_assign n σ sc names x l v
  | list ps c l =>
    obtain ⟨n, rfl, hn⟩ := fuel_add 1 hf
    rw [Pat.toExpr, bindNext, amatch]
    cases v.v with
    | list b =>
      dsimp only
      cases hb : σ.getList b with
      | none => rfl
      | some xs =>
        dsimp only
        rw [PatList.toItems_length]
        by_cases h1 : (c && decide (ps.length - 1 > xs.length)) = true
        · rw [if_pos h1, if_pos h1]
        · rw [if_neg h1, if_neg h1]
          by_cases h2 : (!c && decide (ps.length ≠ xs.length)) = true
          · rw [if_pos h2, if_pos h2]
          · rw [if_neg h2, if_neg h2]
            exact bindList_apat sc ps n c l b 0 ps.length names σ hn
    | _ => rfl
  | obj pr l =>
    obtain ⟨n, rfl, hn⟩ := fuel_add 1 hf
    rw [Pat.toExpr, bindNext, amatch]
    cases v.v with
    | obj b =>
      dsimp only
      cases hb : σ.getObj b with
      | none => rfl
      | some o =>
        dsimp only
        rw [PatProps.toProps_length]
        exact bindObject_apat sc pr n b 0 pr.length (o.map Prod.fst) names σ hn
    | _ => rfl
theorem bindList_apat (sc : List Addr) : (ps : PatList) → ∀ (fuel : Nat) (c : Bool) (l : Loc) (b : Addr)
    (i len : Nat) (names : List (List Char)) (σ : State),
    ps.size ≤ fuel → bindList fuel σ sc names ps.toItems c l b false i len = amatchList sc ps c l b i len names σ := fun ps fuel c l b i len names σ hf => by
  cases ps with
  | nil =>
    obtain ⟨n, rfl, _⟩ := fuel_add 1 hf
    rw [PatList.toItems, bindList, amatchList]
  | cons p r =>
    obtain ⟨n, rfl, hn⟩ := fuel_add 1 hf
    rw [PatList.toItems, bindList, amatchList]
    simp only [Bool.false_eq_true, if_false]
    cases hb : σ.getList b with
    | none => rfl
    | some xs =>
      dsimp only
      by_cases h1 : (c && decide (i = len - 1)) = true
      · rw [if_pos h1, if_pos h1]
        simp only [State.alloc]
        exact Res.bind_congr (bindNext_apat sc p n names _ _ (Nat.le_of_add_right_le hn))
          (fun N S _ => bindList_apat sc r n c l b (i + 1) len N S (Nat.le_of_add_left_le hn))
      · rw [if_neg h1, if_neg h1]
        cases xs[i]? with
        | none => rfl
        | some v =>
          dsimp only
          exact Res.bind_congr (bindNext_apat sc p n names σ v (Nat.le_of_add_right_le hn))
            (fun N S _ => bindList_apat sc r n c l b (i + 1) len N S (Nat.le_of_add_left_le hn))
theorem bindObject_apat (sc : List Addr) : (pr : PatProps) → ∀ (fuel : Nat) (b : Addr)
    (i total : Nat) (rem : List (List Char)) (names : List (List Char)) (σ : State),
    pr.size ≤ fuel → bindObject fuel σ sc names pr.toProps b false i total rem = amatchProps sc pr b i total rem names σ := fun pr fuel b i total rem names σ hf => by
  cases pr with
  | nil =>
    obtain ⟨n, rfl, _⟩ := fuel_add 1 hf
    rw [PatProps.toProps, bindObject, amatchProps]
  | short x l r =>
    obtain ⟨n, rfl, hn⟩ := fuel_add 3 hf
    rw [PatProps.toProps, bindObject, amatchProps]
    simp only [Bool.false_eq_true, if_false, Expr.raw, Expr.loc]
    by_cases hx : x = c!"_"
    · rw [if_pos hx, if_pos hx]
      simp only [Res.bind]
      exact bindObject_apat sc r (n + 2) b (i + 1) total _ names σ (Nat.le_add_right_of_le hn)
    · rw [if_neg hx, if_neg hx]
      refine Res.bind_congr ?_ (fun N S _ => bindObject_apat sc r (n + 2) b (i + 1) total _ N S (Nat.le_add_right_of_le hn))
      rw [bindObjectProp]
      cases σ.getObj b with
      | none => rfl
      | some o =>
        dsimp only
        cases objGet x o with
        | none => rfl
        | some v =>
          dsimp only
          rw [bindNext_var]
          exact bindNextName_assign n σ sc names x l v
  | pair k lk p r =>
    simp only [PatProps.size] at hf
    have hp := Pat.size_pos p
    have hr := PatProps.size_pos r
    obtain ⟨n, rfl⟩ : ∃ n, fuel = n + 3 := ⟨fuel - 3, by omega⟩
    rw [PatProps.toProps, bindObject, amatchProps, evalToStr_lit _ _ _ _ _ _ (C15U.decode_encode k)]
    simp only [Res.bind, Expr.loc]
    refine Res.bind_congr ?_ (fun N S _ => bindObject_apat sc r (n + 2) b (i + 1) total _ N S (by omega))
    rw [bindObjectProp]
    cases σ.getObj b with
    | none => rfl
    | some o =>
      dsimp only
      cases objGet k o with
      | none => rfl
      | some v =>
        dsimp only
        exact bindNext_apat sc p (n + 1) names σ v (by omega)
  | rest x l r =>
    obtain ⟨n, rfl, hn⟩ := fuel_add 1 hf
    rw [PatProps.toProps, bindObject, amatchProps]
    simp only [Bool.false_eq_true, if_false, Expr.raw, Expr.loc, if_true]
    by_cases h1 : i ≠ total - 1
    · rw [if_pos h1, if_pos h1]
    · rw [if_neg h1, if_neg h1]
      cases σ.getObj b with
      | none => rfl
      | some o =>
        dsimp only
        simp only [State.alloc]
        exact Res.bind_congr (bindNextName_assign n _ sc names x l _)
          (fun N S _ => bindObject_apat sc r n b i total rem N S hn)
end

theorem bindNext_apat_any (sc : List Addr) (names : List (List Char)) (p : Pat) (σ : State) (v : SVal) (fuel : Nat) :
    bindNext fuel σ sc names p.toExpr v none false = .timeout ∨
    bindNext fuel σ sc names p.toExpr v none false = amatch sc p names σ v := by
  by_cases ht : bindNext fuel σ sc names p.toExpr v none false = .timeout
  · exact Or.inl ht
  · right
    have h1 := bindNext_stable (Nat.le_max_left fuel p.size) rfl ht
    rw [← h1]
    exact bindNext_apat sc p (max fuel p.size) names σ v (Nat.le_max_right _ _)

end Seed.C13N
