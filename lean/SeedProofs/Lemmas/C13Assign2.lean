/-
  C13Assign2.lean — nested patterns in ASSIGNMENT mode, part 2: the fuel-free engine `amatch` succeeds exactly when
  the value has the shape of the pattern (`proj` is defined), the leaf names are pairwise distinct and not yet
  bound in this pattern, and every leaf name is declared somewhere in the scope chain; its final state is then
  `proj`'s state (the source plus the fresh rest cells) with the leaf assignments made one after the other
  (`assignAll`).

  The engine interleaves assignments (writes into scope cells) with the reads of the source cells and the
  allocation of the rest cells; `proj` does all reads and allocations on the un-assigned state.  The two agree
  because `proj` is blind to scope cells (`proj_set`: rewriting a scope cell commutes with `proj`) and only
  pushes list / object cells (`proj_next`), so that the walk of the scope chain is the same before and after.
-/
import SeedProofs.Lemmas.C13Assign
namespace Seed.C13N
open Seed Gen

def NExt (σ σ' : State) : Prop := PExt σ σ' ∧ ∀ b, σ'.getScope b = σ.getScope b

theorem NExt.refl (σ : State) : NExt σ σ := ⟨PExt.refl σ, fun _ => rfl⟩

theorem NExt.trans {a b c : State} (h1 : NExt a b) (h2 : NExt b c) : NExt a c :=
  ⟨h1.1.trans h2.1, fun x => (h2.2 x).trans (h1.2 x)⟩

theorem NExt.alloc (σ : State) {c : Cell} (hc : ∀ m, c ≠ .scope m) : NExt σ (σ.alloc c).2 := by
  refine ⟨PExt.alloc σ c, fun b => ?_⟩
  simp only [State.getScope, State.alloc, Array.getElem?_push]
  by_cases hb : b = σ.heap.size
  · subst hb
    cases c with
    | scope m => exact absurd rfl (hc m)
    | _ => simp
  · simp [hb]

theorem NExt.allocList (σ : State) (xs : List SVal) : NExt σ (σ.alloc (.list xs)).2 := NExt.alloc σ nofun

theorem NExt.allocObj (σ : State) (o : ObjMap) : NExt σ (σ.alloc (.obj o)).2 := NExt.alloc σ nofun

theorem NExt.sameKeys {σ σ' : State} (h : NExt σ σ') : SameKeys σ σ' := SameKeys.of_getScope h.2

theorem NExt.nearest {σ σ' : State} (h : NExt σ σ') (x : List Char) : ∀ (sc : List Addr),
    nearest σ' sc x = nearest σ sc x
  | [] => rfl
  | a :: r => by
    simp only [Seed.C13N.nearest, h.2 a, NExt.nearest h x r]

theorem nextRel : StRel NExt := ⟨NExt.refl, NExt.trans, NExt.allocList, NExt.allocObj⟩

theorem proj_next {p : Pat} {σ : State} {v : SVal} {bs : List Bnd} {σ' : State} (h : proj p σ v = some (bs, σ')) :
    NExt σ σ' := proj_rel nextRel p σ v bs σ' h

def smap (a : Addr) (m1 : ScopeMap) (q : Option (List Bnd × State)) : Option (List Bnd × State) :=
  q.map fun r => (r.1, r.2.set a (.scope m1))

theorem seqP_set {a : Addr} {m1 : ScopeMap} {q q' : Option (List Bnd × State)} {g : State → Option (List Bnd × State)}
    (hq : q' = smap a m1 q)
    (hg : ∀ bs1 σ1, q = some (bs1, σ1) → g (σ1.set a (.scope m1)) = smap a m1 (g σ1)) :
    seqP q' g = smap a m1 (seqP q g) := by
  subst hq
  cases q with
  | none => rfl
  | some r =>
    obtain ⟨bs1, σ1⟩ := r
    have h := hg bs1 σ1 rfl
    simp only [seqP, smap, Option.map_some] at h ⊢
    rw [h]
    cases g σ1 with
    | none => rfl
    | some r2 => rfl

theorem projName_set (a : Addr) (m1 : ScopeMap) (σ : State) (x : List Char) (l : Loc) (v : SVal) :
    projName (σ.set a (.scope m1)) x l v = smap a m1 (projName σ x l v) := by
  unfold projName
  split <;> rfl

mutual
theorem proj_set (a : Addr) (m1 : ScopeMap) : (p : Pat) → ∀ (σ : State) (v : SVal), IsScope σ a →
    proj p (σ.set a (.scope m1)) v = smap a m1 (proj p σ v) := fun p σ v hs => by
  cases p with
  | var x l =>
    rw [proj, proj]; exact projName_set a m1 σ x l v
  | list ps c l =>
    rw [proj, proj]
    cases v.v with
    | list b =>
      dsimp only
      rw [getList_setScope hs]
      cases σ.getList b with
      | none => rfl
      | some xs =>
        dsimp only
        by_cases h1 : (c && decide (ps.length - 1 > xs.length)) = true
        · rw [if_pos h1, if_pos h1]; rfl
        · rw [if_neg h1, if_neg h1]
          by_cases h2 : (!c && decide (ps.length ≠ xs.length)) = true
          · rw [if_pos h2, if_pos h2]; rfl
          · rw [if_neg h2, if_neg h2]
            exact projList_set a m1 ps c xs 0 ps.length σ hs
    | _ => rfl
  | obj pr l =>
    rw [proj, proj]
    cases v.v with
    | obj b =>
      dsimp only
      rw [getObj_setScope hs]
      cases σ.getObj b with
      | none => rfl
      | some o => exact projProps_set a m1 pr o 0 pr.length (o.map Prod.fst) σ hs
    | _ => rfl
theorem projList_set (a : Addr) (m1 : ScopeMap) : (ps : PatList) → ∀ (c : Bool) (xs : List SVal) (i len : Nat)
    (σ : State), IsScope σ a →
    projList ps c xs i len (σ.set a (.scope m1)) = smap a m1 (projList ps c xs i len σ) := fun ps c xs i len σ hs => by
  cases ps with
  | nil =>
    rw [projList, projList]; rfl
  | cons p r =>
    rw [projList, projList]
    by_cases h1 : (c && decide (i = len - 1)) = true
    · rw [if_pos h1, if_pos h1, alloc_set σ _ _ hs.lt, State.size_set]
      dsimp only
      exact seqP_set (proj_set a m1 p _ _ (hs.alloc _))
        (fun bs1 σ1 e => projList_set a m1 r c xs (i + 1) len σ1 ((hs.alloc _).ext (proj_ext p _ _ _ _ e)))
    · rw [if_neg h1, if_neg h1]
      cases xs[i]? with
      | none => rfl
      | some v =>
        dsimp only
        exact seqP_set (proj_set a m1 p σ v hs)
          (fun bs1 σ1 e => projList_set a m1 r c xs (i + 1) len σ1 (hs.ext (proj_ext p _ _ _ _ e)))
theorem projProps_set (a : Addr) (m1 : ScopeMap) : (pr : PatProps) → ∀ (o : ObjMap) (i total : Nat)
    (rem : List (List Char)) (σ : State), IsScope σ a →
    projProps pr o i total rem (σ.set a (.scope m1)) = smap a m1 (projProps pr o i total rem σ) := fun pr o i total rem σ hs => by
  cases pr with
  | nil =>
    rw [projProps, projProps]; rfl
  | short x l r =>
    rw [projProps, projProps]
    refine seqP_set ?_ (fun bs1 σ1 e => projProps_set a m1 r o (i + 1) total _ σ1 ?_)
    · by_cases hx : x = c!"_"
      · rw [if_pos hx, if_pos hx]; rfl
      · rw [if_neg hx, if_neg hx]
        cases objGet x o with
        | none => rfl
        | some v => exact projName_set a m1 σ x l v
    · exact hs.ext (projShort_rel pextRel e)
  | pair k lk p r =>
    rw [projProps, projProps]
    refine seqP_set ?_ (fun bs1 σ1 e => projProps_set a m1 r o (i + 1) total _ σ1 ?_)
    · cases objGet k o with
      | none => rfl
      | some v => exact proj_set a m1 p σ v hs
    · exact hs.ext (projPair_rel pextRel e)
  | rest x l r =>
    rw [projProps, projProps]
    by_cases h1 : i ≠ total - 1
    · rw [if_pos h1, if_pos h1]; rfl
    · rw [if_neg h1, if_neg h1, alloc_set σ _ _ hs.lt, State.size_set]
      dsimp only
      exact seqP_set (projName_set a m1 _ x l _)
        (fun bs1 σ1 e => projProps_set a m1 r o i total rem σ1 (by rw [projName_state e]; exact hs.alloc _))
end

/-- a piece of `proj`: pushes list / object cells only and does not look at scope cells -/
structure Blind (g : State → Option (List Bnd × State)) : Prop where
  next : ∀ σ bs σ', g σ = some (bs, σ') → NExt σ σ'
  set : ∀ σ a m1, IsScope σ a → g (σ.set a (.scope m1)) = smap a m1 (g σ)

theorem blind_proj (p : Pat) (v : SVal) : Blind (fun σ => proj p σ v) :=
  ⟨fun σ bs σ' h => proj_rel nextRel p σ v bs σ' h, fun σ a m1 hs => proj_set a m1 p σ v hs⟩

theorem blind_projList (ps : PatList) (c : Bool) (xs : List SVal) (i len : Nat) :
    Blind (fun σ => projList ps c xs i len σ) :=
  ⟨fun σ bs σ' h => projList_rel nextRel ps c xs i len σ bs σ' h, fun σ a m1 hs => projList_set a m1 ps c xs i len σ hs⟩

theorem blind_projProps (pr : PatProps) (o : ObjMap) (i total : Nat) (rem : List (List Char)) :
    Blind (fun σ => projProps pr o i total rem σ) :=
  ⟨fun σ bs σ' h => projProps_rel nextRel pr o i total rem σ bs σ' h,
   fun σ a m1 hs => projProps_set a m1 pr o i total rem σ hs⟩

/-- an assignment made before a piece of `proj` can be made after it instead -/
theorem Blind.scopeAssign {g : State → Option (List Bnd × State)} (hb : Blind g) {σ1 S1 : State} {sc : List Addr}
    {x : List Char} {w : SVal} (h : scopeAssign σ1 sc x w = some S1) (bs2 : List Bnd) (S2 : State) :
    g S1 = some (bs2, S2) ↔ ∃ σ2, g σ1 = some (bs2, σ2) ∧ scopeAssign σ2 sc x w = some S2 := by
  rw [scopeAssign_eq] at h
  cases hn : nearest σ1 sc x with
  | none => rw [hn] at h; cases h
  | some am =>
    obtain ⟨a, m⟩ := am
    rw [hn] at h
    cases h
    obtain ⟨_, hs, _⟩ := nearest_some hn
    dsimp only
    rw [hb.set σ1 a _ ⟨m, hs⟩]
    cases hg : g σ1 with
    | none => exact ⟨nofun, fun ⟨_, h, _⟩ => nomatch h⟩
    | some r =>
      have ha : Seed.scopeAssign r.2 sc x w = some (r.2.set a (.scope (scopeSetVal x w m))) := by
        rw [scopeAssign_eq, (hb.next _ _ _ hg).nearest, hn]; rfl
      constructor
      · intro h; cases h; exact ⟨r.2, rfl, ha⟩
      · rintro ⟨σ2, h, e⟩; cases h; rw [ha] at e; cases e; rfl

theorem Blind.assignAll {g : State → Option (List Bnd × State)} (hb : Blind g) (sc : List Addr) :
    ∀ (bs1 : List Bnd) {σ1 S1 : State}, assignAll σ1 sc bs1 = some S1 → ∀ (bs2 : List Bnd) (S2 : State),
    (g S1 = some (bs2, S2) ↔ ∃ σ2, g σ1 = some (bs2, σ2) ∧ assignAll σ2 sc bs1 = some S2)
  | [], σ1, S1, h, bs2, S2 => by
    cases h
    constructor
    · intro h; exact ⟨S2, h, rfl⟩
    · rintro ⟨σ2, h, e⟩; cases e; exact h
  | (x, w, l) :: r, σ1, S1, h, bs2, S2 => by
    simp only [Seed.C13N.assignAll] at h
    cases ha : Seed.scopeAssign σ1 sc x w with
    | none => rw [ha] at h; cases h
    | some T1 =>
      rw [ha] at h
      rw [Blind.assignAll hb sc r h bs2 S2]
      constructor
      · rintro ⟨T2, hg, hr⟩
        obtain ⟨σ2, hg', ha'⟩ := (hb.scopeAssign ha bs2 T2).mp hg
        exact ⟨σ2, hg', by simp only [Seed.C13N.assignAll, ha']; exact hr⟩
      · rintro ⟨σ2, hg, hr⟩
        simp only [Seed.C13N.assignAll] at hr
        cases ha' : Seed.scopeAssign σ2 sc x w with
        | none => rw [ha'] at hr; cases hr
        | some T2 =>
          rw [ha'] at hr
          exact ⟨T2, (hb.scopeAssign ha bs2 T2).mpr ⟨σ2, hg, ha'⟩, hr⟩

/-- the leaf names are pairwise different, none was bound before in this pattern, each satisfies `D`
    (= is declared in the scope chain) -/
def AGood (D : List Char → Prop) (names : List (List Char)) (bs : List Bnd) : Prop :=
  (bs.map Prod.fst).Nodup ∧ ∀ x ∈ bs.map Prod.fst, x ∉ names ∧ D x

theorem AGood_append (D : List Char → Prop) (names : List (List Char)) (bs1 bs2 : List Bnd) :
    AGood D names (bs1 ++ bs2) ↔ AGood D names bs1 ∧ AGood D (bndNames bs1 ++ names) bs2 := by
  unfold AGood bndNames
  simp only [List.map_append, List.nodup_append, List.mem_append, List.mem_reverse]
  constructor
  · rintro ⟨⟨n1, n2, dj⟩, h⟩
    exact ⟨⟨n1, fun x hx => h x (Or.inl hx)⟩, n2, fun x hx =>
      ⟨fun hm => hm.elim (fun h1 => dj x h1 x hx rfl) (h x (Or.inr hx)).1, (h x (Or.inr hx)).2⟩⟩
  · rintro ⟨⟨n1, h1⟩, n2, h2⟩
    exact ⟨⟨n1, n2, fun a ha b hb e => (h2 b hb).1 (Or.inl (e ▸ ha))⟩, fun x hx =>
      hx.elim (h1 x) (fun hb => ⟨fun hn => (h2 x hb).1 (Or.inr hn), (h2 x hb).2⟩)⟩

theorem AGood.congr {D D' : List Char → Prop} (h : ∀ x, D x ↔ D' x) {names : List (List Char)} {bs : List Bnd}
    (hg : AGood D names bs) : AGood D' names bs :=
  ⟨hg.1, fun x hx => ⟨(hg.2 x hx).1, (h x).mp (hg.2 x hx).2⟩⟩

theorem assignAll_of_declared (sc : List Addr) : ∀ (bs : List Bnd) (σ : State),
    (∀ x ∈ bs.map Prod.fst, Declared σ sc x) → ∃ S, assignAll σ sc bs = some S
  | [], σ, _ => ⟨σ, rfl⟩
  | (x, v, l) :: r, σ, h => by
    obtain ⟨σ1, h1⟩ := (scopeAssign_isSome_iff v).mpr (h x (by simp))
    have hk := (scopeAssign_keeps h1).1
    obtain ⟨S, hS⟩ := assignAll_of_declared sc r σ1
      (fun y hy => (hk.declared sc y).mp (h y (by simp only [List.map_cons, List.mem_cons]; exact Or.inr hy)))
    exact ⟨S, by simp only [assignAll, h1]; exact hS⟩

theorem declared_of_assignAll (sc : List Addr) : ∀ (bs : List Bnd) (σ : State) {S : State},
    assignAll σ sc bs = some S → ∀ x ∈ bs.map Prod.fst, Declared σ sc x
  | [], σ, S, _, x, hx => by cases hx
  | (y, v, l) :: r, σ, S, h, x, hx => by
    simp only [assignAll] at h
    cases h1 : scopeAssign σ sc y v with
    | none => rw [h1] at h; cases h
    | some σ1 =>
      rw [h1] at h
      simp only [List.map_cons, List.mem_cons] at hx
      rcases hx with e | e
      · subst e; exact (scopeAssign_isSome_iff v).mp ⟨σ1, h1⟩
      · exact ((scopeAssign_keeps h1).1.declared sc x).mpr (declared_of_assignAll sc r σ1 h x e)

/-- `r` is ok exactly when `q` is defined with good leaves; `r`'s state is then `q`'s with the leaves assigned -/
def AAgree (sc : List Addr) (r : Res (List (List Char))) (names : List (List Char)) (σ : State)
    (q : Option (List Bnd × State)) : Prop :=
  ∀ N S, r = .ok N S ↔
    ∃ bs σp, q = some (bs, σp) ∧ AGood (Declared σ sc) names bs ∧ N = bndNames bs ++ names ∧ assignAll σp sc bs = some S

theorem AAgree.err (sc : List Addr) (loc : Loc) (leaf : Leaf) (σ' : State) (names : List (List Char)) (σ : State) :
    AAgree sc (errAt loc leaf σ') names σ none :=
  fun _ _ => ⟨nofun, fun ⟨_, _, h, _⟩ => nomatch h⟩

theorem AAgree.crash (sc : List Addr) (w : List Char) (σ' : State) (names : List (List Char)) (σ : State) :
    AAgree sc (.crash w σ') names σ none :=
  fun _ _ => ⟨nofun, fun ⟨_, _, h, _⟩ => nomatch h⟩

theorem AAgree.ok_nil (sc : List Addr) (names : List (List Char)) (σ : State) :
    AAgree sc (.ok names σ) names σ (some ([], σ)) := by
  intro N S
  constructor
  · intro h; cases h
    exact ⟨[], σ, rfl, ⟨List.nodup_nil, fun x hx => by cases hx⟩, by simp [bndNames], rfl⟩
  · rintro ⟨bs, σp, h, _, hN, hS⟩
    cases h
    simp only [bndNames, List.map_nil, List.reverse_nil, List.nil_append] at hN
    cases hS
    rw [hN]

/-- the names may be looked up in any state with the same names in its scope cells -/
theorem AAgree.of_sameKeys {sc : List Addr} {r : Res (List (List Char))} {names : List (List Char)} {σ τ : State}
    {q : Option (List Bnd × State)} (hk : SameKeys σ τ) (h : AAgree sc r names τ q) : AAgree sc r names σ q := by
  intro N S
  rw [h N S]
  constructor
  · rintro ⟨bs, σp, e, g, hN, hS⟩
    exact ⟨bs, σp, e, g.congr (fun x => (hk.declared sc x).symm), hN, hS⟩
  · rintro ⟨bs, σp, e, g, hN, hS⟩
    exact ⟨bs, σp, e, g.congr (fun x => hk.declared sc x), hN, hS⟩

theorem agree_aName (sc : List Addr) (names : List (List Char)) (σ : State) (x : List Char) (l : Loc) (v : SVal) :
    AAgree sc (aName sc names σ x l v) names σ (projName σ x l v) := by
  unfold aName projName
  by_cases hx : x = c!"_"
  · rw [if_pos hx, if_pos hx]; exact AAgree.ok_nil sc names σ
  · rw [if_neg hx, if_neg hx]
    intro N S
    by_cases hc : names.contains x = true
    · rw [if_pos hc]
      constructor
      · intro h; cases h
      · rintro ⟨bs, σp, h, hg, _⟩
        cases h
        exact absurd (List.contains_iff_mem.mp hc) (hg.2 x (by simp)).1
    · rw [if_neg hc]
      have hnm : x ∉ names := fun h => hc (List.contains_iff_mem.mpr h)
      cases ha : scopeAssign σ sc x v with
      | none =>
        dsimp only
        constructor
        · intro h; cases h
        · rintro ⟨bs, σp, h, hg, _⟩
          cases h
          obtain ⟨σ', h'⟩ := (scopeAssign_isSome_iff v).mpr (hg.2 x (by simp)).2
          rw [ha] at h'; cases h'
      | some σ2 =>
        dsimp only
        constructor
        · intro h; cases h
          refine ⟨[(x, v, l)], σ, rfl, ⟨by simp, fun y hy => ?_⟩, by simp [bndNames], by simp [assignAll, ha]⟩
          simp only [List.map_cons, List.map_nil, List.mem_singleton] at hy
          subst hy
          exact ⟨hnm, (scopeAssign_isSome_iff v).mp ⟨_, ha⟩⟩
        · rintro ⟨bs, σp, h, _, hN, hS⟩
          cases h
          simp only [assignAll, ha, Option.some.injEq] at hS
          simp only [bndNames, List.map_cons, List.map_nil, List.reverse_cons, List.reverse_nil, List.nil_append,
            List.cons_append] at hN
          rw [hN, hS]

/-- sequencing: the second piece runs on the state the first left, assignments included, on the engine's side and on
    `proj`'s state on the declarative side -/
theorem AAgree.seq {sc : List Addr} {r : Res (List (List Char))} {names : List (List Char)} {σ : State}
    {q : Option (List Bnd × State)} {f : List (List Char) → State → Res (List (List Char))}
    {g : State → Option (List Bnd × State)} (hb : Blind g) (hq : ∀ bs1 σ1, q = some (bs1, σ1) → NExt σ σ1)
    (h1 : AAgree sc r names σ q)
    (h2 : ∀ n1 S1 bs1 σ1, q = some (bs1, σ1) → assignAll σ1 sc bs1 = some S1 → AAgree sc (f n1 S1) n1 S1 (g S1)) :
    AAgree sc (r.bind f) names σ (seqP q g) := by
  intro N S
  constructor
  · intro h
    obtain ⟨n1, S1, rfl, h⟩ := Res.bind_eq_ok h
    obtain ⟨bs1, σ1, e1, g1, rfl, a1⟩ := (h1 n1 S1).mp rfl
    obtain ⟨bs2, S2, e2, g2, rfl, a2⟩ := (h2 _ S1 bs1 σ1 e1 a1 N S).mp h
    obtain ⟨σ2, e2', a1'⟩ := (hb.assignAll sc bs1 a1 bs2 S2).mp e2
    have hk : SameKeys σ S1 := (hq _ _ e1).sameKeys.trans (assignAll_keeps sc bs1 a1).1
    refine ⟨bs1 ++ bs2, σ2, seqP_some.mpr ⟨bs1, σ1, bs2, e1, e2', rfl⟩,
      (AGood_append _ names bs1 bs2).mpr ⟨g1, g2.congr (fun x => (hk.declared sc x).symm)⟩, ?_, ?_⟩
    · rw [bndNames_append, List.append_assoc]
    · rw [assignAll_append, a1']; exact a2
  · rintro ⟨bs, σ2, e, gd, rfl, aa⟩
    obtain ⟨bs1, σ1, bs2, e1, e2, rfl⟩ := seqP_some.mp e
    obtain ⟨g1, g2⟩ := (AGood_append _ names bs1 bs2).mp gd
    have hk1 : SameKeys σ σ1 := (hq _ _ e1).sameKeys
    obtain ⟨S1, a1⟩ := assignAll_of_declared sc bs1 σ1 (fun x hx => (hk1.declared sc x).mp (g1.2 x hx).2)
    rw [assignAll_append] at aa
    cases a1' : assignAll σ2 sc bs1 with
    | none => rw [a1'] at aa; cases aa
    | some S2 =>
      rw [a1'] at aa
      dsimp only at aa
      have e2' := (hb.assignAll sc bs1 a1 bs2 S2).mpr ⟨σ2, e2, a1'⟩
      have hr := (h1 (bndNames bs1 ++ names) S1).mpr ⟨bs1, σ1, e1, g1, rfl, a1⟩
      subst hr
      simp only [Res.bind]
      have hk : SameKeys σ S1 := hk1.trans (assignAll_keeps sc bs1 a1).1
      refine (h2 _ S1 bs1 σ1 e1 a1 _ S).mpr ⟨bs2, S2, e2', g2.congr (fun x => hk.declared sc x), ?_, aa⟩
      rw [bndNames_append, List.append_assoc]

/-- the source cells survive what the engine does between two reads -/
theorem keepList {σ σ1 S1 : State} {sc : List Addr} {bs1 : List Bnd} {b : Addr} {xs : List SVal} (hn : NExt σ σ1)
    (ha : assignAll σ1 sc bs1 = some S1) (hb : σ.getList b = some xs) : S1.getList b = some xs := by
  rw [(assignAll_keeps sc bs1 ha).2.1 b]; exact hn.1.getList hb

theorem keepObj {σ σ1 S1 : State} {sc : List Addr} {bs1 : List Bnd} {b : Addr} {o : ObjMap} (hn : NExt σ σ1)
    (ha : assignAll σ1 sc bs1 = some S1) (hb : σ.getObj b = some o) : S1.getObj b = some o := by
  rw [(assignAll_keeps sc bs1 ha).2.2.1 b]; exact hn.1.getObj hb

mutual
theorem amatch_agree (sc : List Addr) : (p : Pat) → ∀ (names : List (List Char)) (σ : State) (v : SVal),
    AAgree sc (amatch sc p names σ v) names σ (proj p σ v) := fun p names σ v => by
  cases p with
  | var x l =>
    rw [amatch, proj]; exact agree_aName sc names σ x l v
  | list ps c l =>
    rw [amatch, proj]
    cases v.v with
    | list b =>
      dsimp only
      cases hb : σ.getList b with
      | none => exact AAgree.crash _ _ _ _ _
      | some xs =>
        dsimp only
        by_cases h1 : (c && decide (ps.length - 1 > xs.length)) = true
        · rw [if_pos h1, if_pos h1]; exact AAgree.err _ _ _ _ _ _
        · rw [if_neg h1, if_neg h1]
          by_cases h2 : (!c && decide (ps.length ≠ xs.length)) = true
          · rw [if_pos h2, if_pos h2]; exact AAgree.err _ _ _ _ _ _
          · rw [if_neg h2, if_neg h2]; exact amatchList_agree sc ps c l b xs 0 ps.length names σ hb
    | _ => exact AAgree.err _ _ _ _ _ _
  | obj pr l =>
    rw [amatch, proj]
    cases v.v with
    | obj b =>
      dsimp only
      cases hb : σ.getObj b with
      | none => exact AAgree.crash _ _ _ _ _
      | some o => exact amatchProps_agree sc pr b o 0 pr.length (o.map Prod.fst) names σ hb
    | _ => exact AAgree.err _ _ _ _ _ _
theorem amatchList_agree (sc : List Addr) : (ps : PatList) → ∀ (c : Bool) (l : Loc) (b : Addr) (xs : List SVal)
    (i len : Nat) (names : List (List Char)) (σ : State), σ.getList b = some xs →
    AAgree sc (amatchList sc ps c l b i len names σ) names σ (projList ps c xs i len σ) := fun ps c l b xs i len names σ hb => by
  cases ps with
  | nil =>
    rw [amatchList, projList]; exact AAgree.ok_nil sc names σ
  | cons p r =>
    rw [amatchList, projList, hb]
    dsimp only
    by_cases h1 : (c && decide (i = len - 1)) = true
    · rw [if_pos h1, if_pos h1]
      have hn := NExt.allocList σ (xs.drop (len - 1))
      refine AAgree.of_sameKeys hn.sameKeys
        (AAgree.seq (blind_projList r c xs (i + 1) len) (fun _ _ e => proj_next e) (amatch_agree sc p names _ _) ?_)
      intro n1 S1 bs1 σ1 e a
      exact amatchList_agree sc r c l b xs (i + 1) len n1 S1 (keepList (hn.trans (proj_next e)) a hb)
    · rw [if_neg h1, if_neg h1]
      cases xs[i]? with
      | none => exact AAgree.crash _ _ _ _ _
      | some v =>
        dsimp only
        refine AAgree.seq (blind_projList r c xs (i + 1) len) (fun _ _ e => proj_next e) (amatch_agree sc p names σ v) ?_
        intro n1 S1 bs1 σ1 e a
        exact amatchList_agree sc r c l b xs (i + 1) len n1 S1 (keepList (proj_next e) a hb)
theorem amatchProps_agree (sc : List Addr) : (pr : PatProps) → ∀ (b : Addr) (o : ObjMap) (i total : Nat)
    (rem : List (List Char)) (names : List (List Char)) (σ : State), σ.getObj b = some o →
    AAgree sc (amatchProps sc pr b i total rem names σ) names σ (projProps pr o i total rem σ) := fun pr b o i total rem names σ hb => by
  cases pr with
  | nil =>
    rw [amatchProps, projProps]; exact AAgree.ok_nil sc names σ
  | short x l r =>
    rw [amatchProps, projProps]
    refine AAgree.seq (blind_projProps r o (i + 1) total _) (fun _ _ e => projShort_rel nextRel e) ?_ ?_
    · by_cases hx : x = c!"_"
      · rw [if_pos hx, if_pos hx]; exact AAgree.ok_nil sc names σ
      · rw [if_neg hx, if_neg hx, hb]
        dsimp only
        cases objGet x o with
        | none => exact AAgree.err _ _ _ _ _ _
        | some v => exact agree_aName sc names σ x l v
    · intro n1 S1 bs1 σ1 e a
      exact amatchProps_agree sc r b o (i + 1) total _ n1 S1 (keepObj (projShort_rel nextRel e) a hb)
  | pair k lk p r =>
    rw [amatchProps, projProps, hb]
    dsimp only
    refine AAgree.seq (blind_projProps r o (i + 1) total _) (fun _ _ e => projPair_rel nextRel e) ?_ ?_
    · cases objGet k o with
      | none => exact AAgree.err _ _ _ _ _ _
      | some v => exact amatch_agree sc p names σ v
    · intro n1 S1 bs1 σ1 e a
      exact amatchProps_agree sc r b o (i + 1) total _ n1 S1 (keepObj (projPair_rel nextRel e) a hb)
  | rest x l r =>
    rw [amatchProps, projProps]
    by_cases h1 : i ≠ total - 1
    · rw [if_pos h1, if_pos h1]; exact AAgree.err _ _ _ _ _ _
    · rw [if_neg h1, if_neg h1, hb]
      dsimp only
      have hn := NExt.allocObj σ (o.filter fun kv => rem.contains kv.1)
      refine AAgree.of_sameKeys hn.sameKeys
        (AAgree.seq (blind_projProps r o i total rem) (fun _ _ e => by rw [projName_state e]; exact NExt.refl _)
          (agree_aName sc names _ x l _) ?_)
      intro n1 S1 bs1 σ1 e a
      refine amatchProps_agree sc r b o i total rem n1 S1 (keepObj (σ := σ) ?_ a hb)
      rw [projName_state e]; exact hn
end

end Seed.C13N
