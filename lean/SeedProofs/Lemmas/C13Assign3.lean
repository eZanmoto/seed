/-
  C13Assign3.lean — nested patterns in ASSIGNMENT mode, part 3: the theorems about the evaluator.

    assign_nested_exact / _any_fuel   the engine `bindNext … none false` on a nested pattern is the fuel-free `amatch`
                                      on every outcome (fuel ≥ size), resp. that or a time-out (any fuel)
    assign_nested                     ok ↔ `proj` defined ∧ leaf names pairwise distinct ∧ not bound earlier in this
                                      pattern ∧ each declared in the scope chain; the final state is `proj`'s with
                                      the leaf assignments made (`assignAll`)
    assign_nested_succeeds            success (some ok answer) ↔ shape ∧ distinct ∧ declared
    assign_nested_sound               the ⇒ half at any fuel;   assign_nested_not_ok   the failing half
    assign_nested_frame               what the final state is, cell by cell
    assign_nested_nearest / _others   the nearest binding of each leaf has the value at its path (declaration
                                      position kept), every other entry of every scope reads as before
    assign_nested_leaves / _eval      read-back through `scopeGet` / `evalExpr`
    assign_stmt_nested                the statement `p = rhs;`
  and the example `[a, [b, ..c]] = [1, [2, 3, 4]]` with `a`, `b`, `c` declared in three different scopes.
-/
import SeedProofs.Lemmas.C13Assign2
import SeedModel.Run
namespace Seed.C13N
open Seed Gen

/-! ### the fuel-free engine never answers `timeout` -/

theorem bind_nt {α β : Type} {r : Res α} {f : α → State → Res β} (h1 : r ≠ .timeout) (h2 : ∀ a σ, f a σ ≠ .timeout) :
    r.bind f ≠ .timeout := by
  cases r with
  | ok a σ => exact h2 a σ
  | err e σ => nofun
  | crash w σ => nofun
  | timeout => exact absurd rfl h1

theorem aName_nt (sc : List Addr) (names : List (List Char)) (σ : State) (x : List Char) (l : Loc) (v : SVal) :
    aName sc names σ x l v ≠ .timeout := by
  unfold aName
  split
  · nofun
  · split
    · nofun
    · split <;> nofun

mutual
theorem amatch_nt (sc : List Addr) : (p : Pat) → ∀ (names : List (List Char)) (σ : State) (v : SVal),
    amatch sc p names σ v ≠ .timeout := fun p names σ v => by
  cases p with
  | var x l =>
    rw [amatch]; exact aName_nt sc names σ x l v
  | list ps c l =>
    rw [amatch]
    split
    · split
      · nofun
      · split
        · nofun
        · split
          · nofun
          · exact amatchList_nt sc ps _ _ _ _ _ _ _
    · nofun
  | obj pr l =>
    rw [amatch]
    split
    · split
      · nofun
      · exact amatchProps_nt sc pr _ _ _ _ _ _
    · nofun
theorem amatchList_nt (sc : List Addr) : (ps : PatList) → ∀ (c : Bool) (l : Loc) (b : Addr) (i len : Nat)
    (names : List (List Char)) (σ : State), amatchList sc ps c l b i len names σ ≠ .timeout := fun ps c l b i len names σ => by
  cases ps with
  | nil =>
    rw [amatchList]; nofun
  | cons p r =>
    rw [amatchList]
    split
    · nofun
    · split
      · exact bind_nt (amatch_nt sc p _ _ _) (fun _ _ => amatchList_nt sc r _ _ _ _ _ _ _)
      · split
        · nofun
        · exact bind_nt (amatch_nt sc p _ _ _) (fun _ _ => amatchList_nt sc r _ _ _ _ _ _ _)
theorem amatchProps_nt (sc : List Addr) : (pr : PatProps) → ∀ (b : Addr) (i total : Nat) (rem : List (List Char))
    (names : List (List Char)) (σ : State), amatchProps sc pr b i total rem names σ ≠ .timeout := fun pr b i total rem names σ => by
  cases pr with
  | nil =>
    rw [amatchProps]; nofun
  | short x l r =>
    rw [amatchProps]
    refine bind_nt ?_ (fun _ _ => amatchProps_nt sc r _ _ _ _ _ _)
    split
    · nofun
    · split
      · nofun
      · split
        · nofun
        · exact aName_nt sc _ _ _ _ _
  | pair k lk p r =>
    rw [amatchProps]
    refine bind_nt ?_ (fun _ _ => amatchProps_nt sc r _ _ _ _ _ _)
    split
    · nofun
    · split
      · nofun
      · exact amatch_nt sc p _ _ _
  | rest x l r =>
    rw [amatchProps]
    split
    · nofun
    · split
      · nofun
      · exact bind_nt (aName_nt sc _ _ _ _ _) (fun _ _ => amatchProps_nt sc r _ _ _ _ _ _)
end

/-- **every outcome**: with fuel at least the size of the pattern the engine in assignment mode is the fuel-free
    engine `amatch` — success, each located error at whatever depth (with the assignments made before it), crash.
    No hypothesis on the scope chain, the names-in-binding or the state. -/
theorem assign_nested_exact (sc : List Addr) (names : List (List Char)) (p : Pat) (σ : State) (v : SVal) (fuel : Nat)
    (hf : p.size ≤ fuel) : bindNext fuel σ sc names p.toExpr v none false = amatch sc p names σ v :=
  bindNext_apat sc p fuel names σ v hf

/-- … and at any fuel whatsoever it is that answer or a time-out -/
theorem assign_nested_any_fuel (sc : List Addr) (names : List (List Char)) (p : Pat) (σ : State) (v : SVal) (fuel : Nat) :
    bindNext fuel σ sc names p.toExpr v none false = .timeout ∨
    bindNext fuel σ sc names p.toExpr v none false = amatch sc p names σ v :=
  bindNext_apat_any sc names p σ v fuel

/-- an assignment through a pattern of any depth succeeds exactly when the value has the shape of
    the pattern (`proj` is defined), the leaf names are pairwise distinct and not already bound in this binding, and
    every leaf name is declared somewhere in the scope chain.  The names-in-binding then grew by the leaf names, and
    the state is `proj`'s (the source plus the fresh rest cells) with the assignments `x = value at its path` made,
    each into the nearest binding of `x` (`assignAll`, i.e. `scopeAssign` leaf by leaf). -/
theorem assign_nested (sc : List Addr) (names : List (List Char)) (p : Pat) (σ : State) (v : SVal) (fuel : Nat)
    (hf : p.size ≤ fuel) (names' : List (List Char)) (σ' : State) :
    bindNext fuel σ sc names p.toExpr v none false = .ok names' σ' ↔
      ∃ bs σ1, proj p σ v = some (bs, σ1) ∧ (bs.map Prod.fst).Nodup ∧
        (∀ x ∈ bs.map Prod.fst, x ∉ names ∧ Declared σ sc x) ∧
        names' = bndNames bs ++ names ∧ assignAll σ1 sc bs = some σ' := by
  rw [assign_nested_exact sc names p σ v fuel hf, amatch_agree sc p names σ v names' σ']
  simp only [AGood, and_assoc]

/-- success, without mention of the final state: shape, distinct, declared -/
theorem assign_nested_succeeds (sc : List Addr) (names : List (List Char)) (p : Pat) (σ : State) (v : SVal) (fuel : Nat)
    (hf : p.size ≤ fuel) :
    (∃ names' σ', bindNext fuel σ sc names p.toExpr v none false = .ok names' σ') ↔
      ∃ bs σ1, proj p σ v = some (bs, σ1) ∧ (bs.map Prod.fst).Nodup ∧
        ∀ x ∈ bs.map Prod.fst, x ∉ names ∧ Declared σ sc x := by
  constructor
  · rintro ⟨names', σ', h⟩
    obtain ⟨bs, σ1, e, g1, g2, _⟩ := (assign_nested sc names p σ v fuel hf names' σ').mp h
    exact ⟨bs, σ1, e, g1, g2⟩
  · rintro ⟨bs, σ1, e, g1, g2⟩
    have hk := (proj_next e).sameKeys
    obtain ⟨S, hS⟩ := assignAll_of_declared sc bs σ1 (fun x hx => (hk.declared sc x).mp (g2 x hx).2)
    exact ⟨_, S, (assign_nested sc names p σ v fuel hf _ S).mpr ⟨bs, σ1, e, g1, g2, rfl, hS⟩⟩

/-- the soundness half needs no fuel bound -/
theorem assign_nested_sound (sc : List Addr) (names : List (List Char)) (p : Pat) (σ : State) (v : SVal) (fuel : Nat)
    {names' : List (List Char)} {σ' : State} (h : bindNext fuel σ sc names p.toExpr v none false = .ok names' σ') :
    ∃ bs σ1, proj p σ v = some (bs, σ1) ∧ (bs.map Prod.fst).Nodup ∧
      (∀ x ∈ bs.map Prod.fst, x ∉ names ∧ Declared σ sc x) ∧
      names' = bndNames bs ++ names ∧ assignAll σ1 sc bs = some σ' := by
  have h' := bindNext_stable (Nat.le_max_left fuel p.size) h (fun e => by cases e)
  exact (assign_nested sc names p σ v _ (Nat.le_max_right _ _) names' σ').mp h'

/-- when the shape does not match, a name repeats, or a name is not declared, the answer is a located error (which
    one: `amatch`, by `assign_nested_exact`; for a leaf, `aName_dup` / `aName_undefined` below) or — on an ill-typed
    heap only — a crash; never ok, never a time-out -/
theorem assign_nested_not_ok (sc : List Addr) (names : List (List Char)) (p : Pat) (σ : State) (v : SVal) (fuel : Nat)
    (hf : p.size ≤ fuel)
    (hno : ∀ bs σ1, proj p σ v = some (bs, σ1) →
      ¬ ((bs.map Prod.fst).Nodup ∧ ∀ x ∈ bs.map Prod.fst, x ∉ names ∧ Declared σ sc x)) :
    (∃ e σ', bindNext fuel σ sc names p.toExpr v none false = .err e σ') ∨
    (∃ w σ', bindNext fuel σ sc names p.toExpr v none false = .crash w σ') := by
  cases hr : bindNext fuel σ sc names p.toExpr v none false with
  | ok N S =>
    obtain ⟨bs, σ1, e, g1, g2, _⟩ := (assign_nested sc names p σ v fuel hf N S).mp hr
    exact absurd ⟨g1, g2⟩ (hno bs σ1 e)
  | err e S => exact Or.inl ⟨e, S, rfl⟩
  | crash w S => exact Or.inr ⟨w, S, rfl⟩
  | timeout =>
    rw [assign_nested_exact sc names p σ v fuel hf] at hr
    exact absurd hr (amatch_nt sc p names σ v)

/-- a leaf whose name was already bound in this binding -/
theorem aName_dup (sc : List Addr) {names : List (List Char)} (σ : State) {x : List Char} (l : Loc) (v : SVal)
    (hx : x ≠ c!"_") (hm : x ∈ names) : aName sc names σ x l v = errAt l (Leaf.AlreadyInBinding x) σ := by
  unfold aName
  rw [if_neg hx, if_pos (List.contains_iff_mem.mpr hm)]

/-- a leaf whose name is not declared anywhere in the chain -/
theorem aName_undefined (sc : List Addr) {names : List (List Char)} (σ : State) {x : List Char} (l : Loc) (v : SVal)
    (hx : x ≠ c!"_") (hm : x ∉ names) (hd : ¬ Declared σ sc x) : aName sc names σ x l v = errAt l (Leaf.Undefined x) σ := by
  unfold aName
  rw [if_neg hx, if_neg (fun h => hm (List.contains_iff_mem.mp h))]
  cases ha : scopeAssign σ sc x v with
  | none => rfl
  | some σ2 => exact absurd ((scopeAssign_isSome_iff v).mp ⟨σ2, ha⟩) hd

/-- the assignments of `u`, in order, on the contents of one scope cell -/
def setAll (u : List Bnd) (m : ScopeMap) : ScopeMap := u.foldl (fun m e => scopeSetVal e.1 e.2.1 m) m

theorem setAll_cons (e : Bnd) (r : List Bnd) (m : ScopeMap) : setAll (e :: r) m = setAll r (scopeSetVal e.1 e.2.1 m) := rfl

/-- the leaves whose nearest binding is in cell `b` -/
def owned (σ : State) (sc : List Addr) (b : Addr) (bs : List Bnd) : List Bnd :=
  bs.filter fun e => decide ((nearest σ sc e.1).map Prod.fst = some b)

theorem owned_congr {σ τ : State} (h : SameKeys σ τ) (sc : List Addr) (b : Addr) (bs : List Bnd) :
    owned σ sc b bs = owned τ sc b bs := by
  unfold owned
  congr 1
  funext e
  rw [h.nearest]

theorem setAll_shape : ∀ (u : List Bnd) (m : ScopeMap),
    (setAll u m).map (fun e => (e.1, e.2.2)) = m.map (fun e => (e.1, e.2.2))
  | [], m => rfl
  | e :: r, m => by rw [setAll_cons, setAll_shape r, scopeSetVal_shape]

theorem setAll_lookup_other {y : List Char} : ∀ (u : List Bnd) (m : ScopeMap), (∀ e ∈ u, e.1 ≠ y) →
    scopeLookup y (setAll u m) = scopeLookup y m
  | [], m, _ => rfl
  | e :: r, m, h => by
    rw [setAll_cons, setAll_lookup_other r _ (fun e' he' => h e' (List.mem_cons_of_mem _ he')), scopeLookup_setVal,
      if_neg (fun h' => h e List.mem_cons_self h'.symm)]

theorem setAll_lookup_mem {x : List Char} {w : SVal} {l : Loc} : ∀ (u : List Bnd) (m : ScopeMap),
    (u.map Prod.fst).Nodup → (x, w, l) ∈ u → scopeLookup x (setAll u m) = (scopeLookup x m).map (fun p => (w, p.2))
  | [], m, _, hm => by cases hm
  | e :: r, m, hn, hm => by
    obtain ⟨hn1, hn2⟩ := List.nodup_cons.mp hn
    rw [setAll_cons]
    rcases List.mem_cons.mp hm with h | h
    · subst h
      rw [setAll_lookup_other r _ (fun e' he' (hx : e'.1 = x) => hn1 (hx ▸ List.mem_map_of_mem he' : x ∈ r.map Prod.fst)),
        scopeLookup_setVal, if_pos rfl]
    · rw [setAll_lookup_mem r _ hn2 h, scopeLookup_setVal,
        if_neg (fun hx : x = e.1 => hn1 (hx ▸ (List.mem_map_of_mem h : x ∈ r.map Prod.fst)))]

/-- after the assignments every scope cell holds what it held with the values of the leaves it owns replaced;
    every other cell is untouched -/
theorem assignAll_cells (sc : List Addr) : ∀ (bs : List Bnd) {σ σ' : State}, assignAll σ sc bs = some σ' → ∀ b : Addr,
    σ'.heap[b]? =
      match σ.heap[b]? with
      | some (.scope m) => some (.scope (setAll (owned σ sc b bs) m))
      | c => c
  | [], σ, σ', h, b => by
    cases h
    cases σ.heap[b]? with
    | none => rfl
    | some c => cases c <;> rfl
  | (x, v, l) :: r, σ, σ', h, b => by
    simp only [assignAll] at h
    cases ha : scopeAssign σ sc x v with
    | none => rw [ha] at h; cases h
    | some σ1 =>
      rw [ha] at h
      have hk := (scopeAssign_keeps ha).1
      rw [assignAll_cells sc r h b, ← owned_congr hk]
      rw [scopeAssign_eq] at ha
      cases hn : nearest σ sc x with
      | none => rw [hn] at ha; cases ha
      | some am =>
        obtain ⟨a, m⟩ := am
        rw [hn] at ha
        cases ha
        obtain ⟨_, hs, _⟩ := nearest_some hn
        have hcell := getScope_eq_some.mp hs
        by_cases hb : b = a
        · subst hb
          have ho : owned σ sc b ((x, v, l) :: r) = (x, v, l) :: owned σ sc b r := by
            simp [owned, hn]
          rw [State.heap_set_same _ _ (getScope_lt hs), hcell, ho]
          rfl
        · have ho : owned σ sc b ((x, v, l) :: r) = owned σ sc b r := by
            simp [owned, hn, Ne.symm hb]
          rw [State.heap_set_other _ _ hb, ho]

/-- **the frame**.  After a successful nested assignment (`σ1` is `proj`'s state: `σ` plus the fresh rest cells):
    the heap has the size of `σ1`'s and nothing was printed; every cell that is not a scope cell of `σ` — the
    source lists and objects, function cells, and the rest cells beyond the old heap — is as in `σ1` (so, inside
    the old heap, as in `σ`); every scope cell of `σ`, in the chain or not, holds its old contents with the values
    of the leaves whose nearest binding it holds replaced (`setAll`, which keeps names, order and positions) -/
theorem assign_nested_frame {sc : List Addr} {p : Pat} {σ σ1 σ' : State} {v : SVal} {bs : List Bnd}
    (hp : proj p σ v = some (bs, σ1)) (ha : assignAll σ1 sc bs = some σ') :
    σ'.heap.size = σ1.heap.size ∧ σ.heap.size ≤ σ'.heap.size ∧ σ'.out = σ.out ∧
    (∀ b, σ.getScope b = none → σ'.heap[b]? = σ1.heap[b]?) ∧
    (∀ b, b < σ.heap.size → σ.getScope b = none → σ'.heap[b]? = σ.heap[b]?) ∧
    (∀ b m, σ.getScope b = some m → σ'.getScope b = some (setAll (owned σ sc b bs) m)) := by
  have hn := proj_next hp
  obtain ⟨_, _, _, kout, ksize⟩ := assignAll_keeps sc bs ha
  have cells := assignAll_cells sc bs ha
  have h4 : ∀ b, σ.getScope b = none → σ'.heap[b]? = σ1.heap[b]? := by
    intro b hb
    rw [cells b]
    have h1 : σ1.getScope b = none := (hn.2 b).trans hb
    cases hc : σ1.heap[b]? with
    | none => rfl
    | some c =>
      cases c with
      | scope m => rw [getScope_eq_some.mpr hc] at h1; cases h1
      | list _ => rfl
      | obj _ => rfl
      | func _ => rfl
  refine ⟨ksize, ?_, kout.trans hn.1.2.2, h4, fun b hlt hb => (h4 b hb).trans (hn.1.2.1 b hlt), fun b m hs => ?_⟩
  · rw [ksize]; exact hn.1.1
  · have hs1 : σ1.getScope b = some m := (hn.2 b).trans hs
    rw [getScope_eq_some, cells b, getScope_eq_some.mp hs1, owned_congr hn.sameKeys]

theorem final_nearest {sc : List Addr} {p : Pat} {σ σ1 σ' : State} {v : SVal} {bs : List Bnd}
    (hp : proj p σ v = some (bs, σ1)) (ha : assignAll σ1 sc bs = some σ') (y : List Char) :
    nearest σ' sc y = (nearest σ sc y).map fun am => (am.1, setAll (owned σ sc am.1 bs) am.2) := by
  have h1 := ((proj_next hp).sameKeys.trans (assignAll_keeps sc bs ha).1).nearest y sc
  cases hn' : nearest σ' sc y with
  | none => cases hn : nearest σ sc y <;> rw [hn, hn'] at h1 <;> cases h1; rfl
  | some am' =>
    cases hn : nearest σ sc y with
    | none => rw [hn, hn'] at h1; cases h1
    | some am =>
      rw [hn, hn'] at h1
      obtain ⟨_, hs', _⟩ := nearest_some (a := am'.1) (m := am'.2) hn'
      obtain ⟨_, hs, _⟩ := nearest_some (a := am.1) (m := am.2) hn
      rw [← Option.some.inj h1, (assign_nested_frame hp ha).2.2.2.2.2 _ _ hs] at hs'
      exact congrArg some (Prod.ext (Option.some.inj h1).symm (Option.some.inj hs').symm)

theorem owned_nodup {σ : State} {sc : List Addr} {b : Addr} {bs : List Bnd} (h : (bs.map Prod.fst).Nodup) :
    ((owned σ sc b bs).map Prod.fst).Nodup :=
  h.sublist (List.filter_sublist.map Prod.fst)

/-- **the nearest binding is the one that is updated**: for a leaf `x` (bound to `w` by `proj`) whose innermost
    binding in the chain is in cell `a`, that cell — still the innermost one that has `x` — afterwards reads `w` for
    `x`, at the position where `x` was declared; the cell keeps its names, their order and their positions -/
theorem assign_nested_nearest {sc : List Addr} {p : Pat} {σ σ1 σ' : State} {v : SVal} {bs : List Bnd}
    (hp : proj p σ v = some (bs, σ1)) (ha : assignAll σ1 sc bs = some σ') (hnd : (bs.map Prod.fst).Nodup)
    {x : List Char} {w : SVal} {l : Loc} (hm : (x, w, l) ∈ bs) {a : Addr} {m : ScopeMap}
    (hn : nearest σ sc x = some (a, m)) :
    ∃ m', σ'.getScope a = some m' ∧ nearest σ' sc x = some (a, m') ∧
      scopeLookup x m' = (scopeLookup x m).map (fun q => (w, q.2)) ∧
      m'.map (fun e => (e.1, e.2.2)) = m.map (fun e => (e.1, e.2.2)) := by
  obtain ⟨_, hs, _⟩ := nearest_some hn
  refine ⟨_, (assign_nested_frame hp ha).2.2.2.2.2 a m hs, by rw [final_nearest hp ha, hn]; rfl, ?_, setAll_shape _ _⟩
  refine setAll_lookup_mem (l := l) _ _ (owned_nodup hnd) ?_
  exact List.mem_filter.mpr ⟨hm, by simp [hn]⟩

/-- **nothing else changes in the scopes**: in any scope cell, a name that is not a leaf whose nearest binding is
    this very cell reads as before (shadowed outer bindings of a leaf name, all non-leaf names, all scopes outside
    the chain) -/
theorem assign_nested_others {sc : List Addr} {p : Pat} {σ σ1 σ' : State} {v : SVal} {bs : List Bnd}
    (hp : proj p σ v = some (bs, σ1)) (ha : assignAll σ1 sc bs = some σ') {b : Addr} {m : ScopeMap}
    (hs : σ.getScope b = some m) {y : List Char}
    (hy : ∀ w l, (y, w, l) ∈ bs → (nearest σ sc y).map Prod.fst ≠ some b) :
    ∃ m', σ'.getScope b = some m' ∧ scopeLookup y m' = scopeLookup y m ∧
      m'.map (fun e => (e.1, e.2.2)) = m.map (fun e => (e.1, e.2.2)) := by
  refine ⟨_, (assign_nested_frame hp ha).2.2.2.2.2 b m hs, setAll_lookup_other _ _ ?_, setAll_shape _ _⟩
  rintro ⟨x', w', l'⟩ he hey
  obtain ⟨he1, he2⟩ := List.mem_filter.mp he
  simp only at hey
  subst hey
  exact hy w' l' he1 (of_decide_eq_true he2)

/-- after the assignment every leaf name reads as the value at its path, every other name as before -/
theorem assign_nested_leaves {sc : List Addr} {p : Pat} {σ σ1 σ' : State} {v : SVal} {bs : List Bnd}
    (hp : proj p σ v = some (bs, σ1)) (ha : assignAll σ1 sc bs = some σ') (hnd : (bs.map Prod.fst).Nodup) :
    (∀ x w l, (x, w, l) ∈ bs → scopeGet σ' sc x = some w) ∧
    (∀ y, (∀ e ∈ bs, e.1 ≠ y) → scopeGet σ' sc y = scopeGet σ sc y) := by
  constructor
  · intro x w l hm
    have hd1 := declared_of_assignAll sc bs σ1 ha x (List.mem_map_of_mem (f := Prod.fst) hm)
    obtain ⟨⟨a, m⟩, hn⟩ := Option.isSome_iff_exists.mp (declared_iff.mp (((proj_next hp).sameKeys.declared sc x).mpr hd1))
    obtain ⟨m', _, hn', hl, _⟩ := assign_nested_nearest hp ha hnd hm hn
    obtain ⟨_, _, w0, l0, hl0⟩ := nearest_some hn
    rw [scopeGet_eq, hn']
    simp [hl, hl0]
  · intro y hy
    rw [scopeGet_eq, scopeGet_eq, final_nearest hp ha]
    cases nearest σ sc y with
    | none => rfl
    | some am =>
      have : scopeLookup y (setAll (owned σ sc am.1 bs) am.2) = scopeLookup y am.2 :=
        setAll_lookup_other _ _ (fun e he => hy e (List.mem_filter.mp he).1)
      simp [this]

/-- … through the evaluator: the variable `x` evaluates to the value at its path -/
theorem assign_nested_eval {sc : List Addr} {p : Pat} {σ σ1 σ' : State} {v : SVal} {bs : List Bnd}
    (hp : proj p σ v = some (bs, σ1)) (ha : assignAll σ1 sc bs = some σ') (hnd : (bs.map Prod.fst).Nodup)
    {x : List Char} {w : SVal} {l : Loc} (hm : (x, w, l) ∈ bs) (n : Nat) (l' : Loc) :
    evalExpr (n + 1) σ' sc (.mk (.Var x) l') = .ok w σ' := by
  rw [evalExpr, (assign_nested_leaves hp ha hnd).1 x w l hm]

/-- an `=` statement with a nested pattern on the left -/
theorem assign_stmt_nested {n : Nat} {σ σ1 σ2 σ3 : State} {sc : List Addr} {rhs : Expr} {v : SVal} {p : Pat}
    {bs : List Bnd} (he : evalExpr n σ sc rhs = .ok v σ1) (hf : p.size ≤ n) (hp : proj p σ1 v = some (bs, σ2))
    (hnd : (bs.map Prod.fst).Nodup) (hd : ∀ x ∈ bs.map Prod.fst, Declared σ1 sc x)
    (ha : assignAll σ2 sc bs = some σ3) :
    evalStmt (n + 1) σ sc (.Assign p.toExpr rhs) = .ok .none σ3 := by
  rw [evalStmt, he]
  simp only [Res.bind]
  rw [(assign_nested sc [] p σ1 v n hf _ σ3).mpr
    ⟨bs, σ2, hp, hnd, fun x hx => ⟨fun h => (by cases h), hd x hx⟩, rfl, ha⟩]

/-! ### the example `[a, [b, ..c]] = [1, [2, 3, 4]]`, with `a`, `b`, `c` declared in three different scopes -/

/-- `[a, [b, ..c]]`, with the positions the parser gives -/
def pasg : Pat :=
  .list (.cons (.var c!"a" (1, 2))
        (.cons (.list (.cons (.var c!"b" (1, 6)) (.cons (.var c!"c" (1, 11)) .nil)) true (1, 5)) .nil)) false (1, 1)

/-- `Pat.toExpr` is what the parser builds -/
example : parseExprTop c!"[a, [b, ..c]]" = .ok pasg.toExpr := by with_unfolding_all rfl

/-- scope cells 0 (outermost, has `a` and an outer `c`), 1 (has `b` and `xs`, the list of cell 3), 2 (innermost, has `c`); cell 3 =
    `[1, <cell 4>]`, cell 4 = `[2, 3, 4]`; the scope chain is `[2, 1, 0]` -/
def σasg : State :=
  ⟨#[.scope [(c!"a", SVal.plain (.int 0), (1, 1)), (c!"c", SVal.plain (.int 7), (2, 1))],
     .scope [(c!"b", SVal.plain (.int 0), (4, 5)), (c!"xs", SVal.plain (.list 3), (3, 1))],
     .scope [(c!"c", SVal.plain (.int 0), (6, 9))],
     .list [SVal.plain (.int 1), SVal.plain (.list 4)],
     .list [SVal.plain (.int 2), SVal.plain (.int 3), SVal.plain (.int 4)]], []⟩

/-- the leaves, in pattern order; `c` is bound to the fresh cell 5 = `[3, 4]` -/
def bsAsg : List Bnd :=
  [(c!"a", SVal.plain (.int 1), (1, 2)), (c!"b", SVal.plain (.int 2), (1, 6)), (c!"c", SVal.plain (.list 5), (1, 11))]

/-- `proj`'s state: the rest cell pushed -/
def σasg1 : State := ⟨σasg.heap.push (.list [SVal.plain (.int 3), SVal.plain (.int 4)]), []⟩

/-- the final state: each name updated where it is nearest (the outer `c` of cell 0 is shadowed and stays `7`),
    declaration positions kept -/
def σasg2 : State :=
  ⟨#[.scope [(c!"a", SVal.plain (.int 1), (1, 1)), (c!"c", SVal.plain (.int 7), (2, 1))],
     .scope [(c!"b", SVal.plain (.int 2), (4, 5)), (c!"xs", SVal.plain (.list 3), (3, 1))],
     .scope [(c!"c", SVal.plain (.list 5), (6, 9))],
     .list [SVal.plain (.int 1), SVal.plain (.list 4)],
     .list [SVal.plain (.int 2), SVal.plain (.int 3), SVal.plain (.int 4)],
     .list [SVal.plain (.int 3), SVal.plain (.int 4)]], []⟩

/-- the right-hand side of `assign_nested` holds … -/
example : pasg.size = 11 ∧ proj pasg σasg (SVal.plain (.list 3)) = some (bsAsg, σasg1) ∧
    (bsAsg.map Prod.fst).Nodup ∧ (∀ x ∈ bsAsg.map Prod.fst, x ∉ ([] : List (List Char)) ∧ Declared σasg [2, 1, 0] x) ∧
    assignAll σasg1 [2, 1, 0] bsAsg = some σasg2 := by
  refine ⟨by rfl, by rfl, by decide, ?_, by rfl⟩
  intro x hx
  refine ⟨fun h => (by cases h), ?_⟩
  simp only [bsAsg, List.map_cons, List.map_nil, List.mem_cons, List.not_mem_nil, or_false] at hx
  rcases hx with rfl | rfl | rfl
  · exact ⟨SVal.plain (.int 0), by rfl⟩
  · exact ⟨SVal.plain (.int 0), by rfl⟩
  · exact ⟨SVal.plain (.int 0), by rfl⟩

/-- … and this is the engine's answer (the left-hand side), computed by the evaluator itself -/
example : bindNext 11 σasg [2, 1, 0] [] pasg.toExpr (SVal.plain (.list 3)) none false =
    .ok [c!"c", c!"b", c!"a"] σasg2 := by
  with_unfolding_all rfl

/-- hypotheses of `assign_stmt_nested` for the statement `[a, [b, ..c]] = xs;` (the others are those above) … -/
example : evalExpr 11 σasg [2, 1, 0] (.mk (.Var c!"xs") (1, 17)) = .ok (SVal.plain (.list 3)) σasg ∧ pasg.size ≤ 11 :=
  ⟨by with_unfolding_all rfl, by decide⟩

/-- … and its conclusion, computed by the evaluator -/
example : evalStmt 12 σasg [2, 1, 0] (.Assign pasg.toExpr (.mk (.Var c!"xs") (1, 17))) = .ok .none σasg2 := by
  with_unfolding_all rfl

/-- the hypothesis of `assign_nested_not_ok` for `[a, z] = <cell 4>`-like mismatches: here `[a, z]` against the
    two-element list of cell 3 has the right shape, but `z` is declared nowhere in the chain -/
example : ∀ bs σ1,
    proj (.list (.cons (.var c!"a" (1, 2)) (.cons (.var c!"z" (1, 5)) .nil)) false (1, 1)) σasg (SVal.plain (.list 3)) =
      some (bs, σ1) →
    ¬ ((bs.map Prod.fst).Nodup ∧ ∀ x ∈ bs.map Prod.fst, x ∉ ([] : List (List Char)) ∧ Declared σasg [2, 1, 0] x) := by
  intro bs σ1 h
  have h0 : proj (.list (.cons (.var c!"a" (1, 2)) (.cons (.var c!"z" (1, 5)) .nil)) false (1, 1)) σasg
      (SVal.plain (.list 3)) =
      some ([(c!"a", SVal.plain (.int 1), (1, 2)), (c!"z", SVal.plain (.list 4), (1, 5))], σasg) := by rfl
  rw [h0] at h
  cases h
  rintro ⟨_, hall⟩
  obtain ⟨w, hw⟩ := (hall c!"z" (by decide)).2
  cases hw

/-- the nearest bindings: `a` lives in cell 0, `b` in cell 1, `c` in cell 2 (not in cell 0, which also has a `c`) -/
example : (nearest σasg [2, 1, 0] c!"a").map Prod.fst = some 0 ∧ (nearest σasg [2, 1, 0] c!"b").map Prod.fst = some 1 ∧
    (nearest σasg [2, 1, 0] c!"c").map Prod.fst = some 2 := ⟨by rfl, by rfl, by rfl⟩

/-- the whole pipeline on the source text: three nested scopes, one assignment through the nested pattern, and each
    name read back in the scope where it was declared -/
example : (run 100 c!"t.sd"
      c!"a := 0;\n{\n    b := 0;\n    {\n        c := 0;\n        [a, [b, ..c]] = [1, [2, 3, 4]];\n        print(c);\n    }\n    print(b);\n}\nprint(a);\n").out =
    [c!"[\n    3,\n    4,\n]", c!"2", c!"1"] := by
  decide +kernel

/-- a name twice in the pattern, at different depths: `AlreadyInBinding` at the second occurrence; `a` has already
    been assigned when the error is raised (the engine does not roll back) -/
example : amatch [0] (.list (.cons (.var c!"a" (2, 2)) (.cons (.list (.cons (.var c!"a" (2, 6)) .nil) false (2, 5)) .nil)) false (2, 1))
      [] ⟨#[.scope [(c!"a", SVal.plain (.int 0), (1, 1))], .list [SVal.plain (.int 1), SVal.plain (.list 2)],
            .list [SVal.plain (.int 2)]], []⟩ (SVal.plain (.list 1)) =
    errAt (2, 6) (Leaf.AlreadyInBinding c!"a")
      ⟨#[.scope [(c!"a", SVal.plain (.int 1), (1, 1))], .list [SVal.plain (.int 1), SVal.plain (.list 2)],
            .list [SVal.plain (.int 2)]], []⟩ := by
  with_unfolding_all rfl

example : (run 60 c!"e1.sd" c!"a := 0;\n[a, [a]] = [1, [2]];\n").stderr =
    c!"e1.sd:2:6: 'a' is bound multiple times in this binding\n" := by
  decide +kernel

/-- a leaf that is not declared anywhere in the chain: `Undefined` at the leaf -/
example : (run 60 c!"e2.sd" c!"a := 0;\n{\n    [a, z] = [1, 2];\n}\nprint(a);\n").stderr =
    c!"e2.sd:3:9: 'z' is not defined\n" := by
  decide +kernel

/-- hypotheses of `aName_dup` / `aName_undefined` are satisfiable -/
example : c!"a" ≠ c!"_" ∧ c!"a" ∈ [c!"a"] ∧ c!"z" ∉ ([] : List (List Char)) ∧ ¬ Declared σasg [2, 1, 0] c!"z" :=
  ⟨by decide, by decide, by decide, fun ⟨w, h⟩ => by cases h⟩

/-! ### not covered: leaves that are index targets

  Leaves of the form `xs[i]` / `o.k` are outside `Pat` (they evaluate expressions in the middle of the binding), and
  the declarative reading above does not extend to them as it stands: such a leaf writes into a list or object
  cell, and the source cell is read again at every item, so an index leaf can overwrite the very source that later
  items are taken from.  `proj` (all reads on the un-assigned state) would make `[xs[1], xs[0]] = xs` a swap; the
  engine — and the interpreter — produce `[1, 1]`: -/
example : (run 60 c!"s1.sd" c!"xs := [1, 2];\n[xs[1], xs[0]] = xs;\nprint(xs);\n").out = [c!"[\n    1,\n    1,\n]"] := by
  decide +kernel

end Seed.C13N
