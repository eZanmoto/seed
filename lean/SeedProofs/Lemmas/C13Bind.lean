/-
  C13Bind.lean — `bindNextName` case by case, its effect on the heap, and the item loop of `bindList`
  for patterns made of names (and `_`).
-/
import SeedProofs.Lemmas.C12Heap
import SeedProofs.Lemmas.C12Map
import SeedProofs.Lemmas.ResBind
namespace Seed
open Gen (Leaf)

theorem bindNextName_fuel (f1 f2 : Nat) (σ : State) (sc : List Addr) (names : List (List Char)) (name : List Char)
    (loc : Loc) (rhs : SVal) (decl : Bool) :
    bindNextName f1 σ sc names name loc rhs none decl = bindNextName f2 σ sc names name loc rhs none decl := by
  simp only [bindNextName]

theorem bindNextName_underscore (f : Nat) (σ : State) (sc : List Addr) (names : List (List Char)) (loc : Loc) (rhs : SVal)
    (op : Option (BinaryOp × Loc)) (decl : Bool) :
    bindNextName f σ sc names c!"_" loc rhs op decl = .ok names σ := by
  simp [bindNextName]

theorem bindNextName_declare {f : Nat} {σ : State} {a : Addr} {sc : List Addr} {names : List (List Char)} {name : List Char}
    {m : ScopeMap} (loc : Loc) (rhs : SVal)
    (h1 : name ≠ c!"_") (h2 : name ∉ names) (hs : σ.getScope a = some m) (hf : scopeLookup name m = none) :
    bindNextName f σ (a :: sc) names name loc rhs none true =
      .ok (name :: names) (σ.set a (.scope ((name, rhs, loc) :: m))) := by
  simp [bindNextName, h1, h2, scopeDeclare, hs, hf]

theorem bindNextName_redeclare {f : Nat} {σ : State} {a : Addr} {sc : List Addr} {names : List (List Char)} {name : List Char}
    {m : ScopeMap} {v : SVal} {prev : Loc} (loc : Loc) (rhs : SVal)
    (h1 : name ≠ c!"_") (h2 : name ∉ names) (hs : σ.getScope a = some m) (hf : scopeLookup name m = some (v, prev)) :
    bindNextName f σ (a :: sc) names name loc rhs none true = errAt loc (Leaf.AlreadyInScope name prev.1 prev.2) σ := by
  simp [bindNextName, h1, h2, scopeDeclare, hs, hf]

theorem scopeAssign_spec {σ σ' : State} {sc : List Addr} {name : List Char} {v : SVal}
    (h : scopeAssign σ sc name v = some σ') :
    ∃ a m m', a ∈ sc ∧ σ.getScope a = some m ∧ σ' = σ.set a (.scope m') := by
  induction sc with
  | nil => simp [scopeAssign] at h
  | cons a r ih =>
    simp only [scopeAssign] at h
    cases hs : σ.getScope a with
    | none => simp [hs] at h
    | some m =>
      simp only [hs] at h
      cases hl : scopeLookup name m with
      | some p =>
        simp only [hl] at h
        cases h
        exact ⟨a, m, _, List.mem_cons_self, hs, rfl⟩
      | none =>
        simp only [hl] at h
        obtain ⟨a', m', m'', ha, hs', e⟩ := ih h
        exact ⟨a', m', m'', List.mem_cons_of_mem _ ha, hs', e⟩

theorem bindNextName_heap {f : Nat} {σ σ' : State} {sc : List Addr} {names names' : List (List Char)} {name : List Char}
    {loc : Loc} {rhs : SVal} {decl : Bool}
    (h : bindNextName f σ sc names name loc rhs none decl = .ok names' σ') :
    (∀ b, σ'.getList b = σ.getList b) ∧ (∀ b, σ'.getObj b = σ.getObj b) ∧ σ'.out = σ.out := by
  unfold bindNextName at h
  split at h
  · cases h; exact ⟨fun _ => rfl, fun _ => rfl, rfl⟩
  · split at h
    · simp [errAt] at h
    · cases decl with
      | true =>
        simp only [if_true] at h
        unfold scopeDeclare at h
        cases sc with
        | nil => simp at h
        | cons a r =>
          simp only at h
          cases hs : σ.getScope a with
          | none => simp [hs] at h
          | some m =>
            simp only [hs] at h
            cases hl : scopeLookup name m with
            | some p => simp [hl, errAt] at h
            | none =>
              simp only [hl] at h
              cases h
              exact ⟨fun b => getList_set_scope hs, fun b => getObj_set_scope hs, rfl⟩
      | false =>
        simp only [Bool.false_eq_true, if_false] at h
        cases ha : scopeAssign σ sc name rhs with
        | none => simp [ha, errAt] at h
        | some σ2 =>
          simp only [ha] at h
          cases h
          obtain ⟨a, m, m', _, hs, e⟩ := scopeAssign_spec ha
          subst e
          exact ⟨fun b => getList_set_scope hs, fun b => getObj_set_scope hs, rfl⟩

/-- the reference for a row of names: bind them one after the other, left to right, threading the
    names-in-binding set -/
def bindVars (σ : State) (sc : List Addr) (names : List (List Char)) (decl : Bool) :
    List ((List Char × Loc) × SVal) → Res (List (List Char))
  | [] => .ok names σ
  | ((x, l), v) :: r => (bindNextName 0 σ sc names x l v none decl).bind fun names' σ1 => bindVars σ1 sc names' decl r

def varItems (vars : List (List Char × Loc)) : List ListItem :=
  vars.map fun (x, l) => ListItem.mk (Expr.mk (.Var x) l) false

theorem bindNext_var (n : Nat) (σ : State) (sc : List Addr) (names : List (List Char)) (x : List Char) (l : Loc) (rhs : SVal)
    (op : Option (BinaryOp × Loc)) (decl : Bool) :
    bindNext (n + 1) σ sc names (.mk (.Var x) l) rhs op decl = bindNextName n σ sc names x l rhs op decl := by
  rw [bindNext]

theorem bindList_nil (n : Nat) (σ : State) (sc : List Addr) (names : List (List Char)) (c : Bool) (l : Loc) (b : Addr)
    (decl : Bool) (i len : Nat) : bindList (n + 1) σ sc names [] c l b decl i len = .ok names σ := by
  rw [bindList]

theorem bindList_rest {σ : State} {b : Addr} {vals : List SVal} (n : Nat) (sc : List Addr) (lhsLoc : Loc) (decl : Bool)
    (lhsLen : Nat) (names : List (List Char)) (x : List Char) (l : Loc) (hb : σ.getList b = some vals) :
    bindList (n + 3) σ sc names [ListItem.mk (Expr.mk (.Var x) l) false] true lhsLoc b decl (lhsLen - 1) lhsLen =
      bindNextName 0 (σ.alloc (.list (vals.drop (lhsLen - 1)))).2 sc names x l (SVal.plain (.list σ.heap.size)) none decl := by
  rw [bindList]
  simp only [Bool.false_eq_true, if_false, hb, Bool.true_and, decide_true, if_true, State.alloc]
  rw [bindNext_var, bindNextName_fuel _ 0]
  simp only [bindList_nil, Res.bind_pure]

theorem bindVars_heap {σ σ' : State} {sc : List Addr} {names names' : List (List Char)} {decl : Bool}
    {l : List ((List Char × Loc) × SVal)} (h : bindVars σ sc names decl l = .ok names' σ') :
    (∀ b, σ'.getList b = σ.getList b) ∧ (∀ b, σ'.getObj b = σ.getObj b) ∧ σ'.out = σ.out := by
  induction l generalizing σ names with
  | nil => simp only [bindVars] at h; cases h; exact ⟨fun _ => rfl, fun _ => rfl, rfl⟩
  | cons p r ih =>
    obtain ⟨⟨x, lx⟩, v⟩ := p
    obtain ⟨n1, σ1, hres, h⟩ := Res.bind_eq_ok h
    obtain ⟨a1, a2, a3⟩ := bindNextName_heap hres
    obtain ⟨b1, b2, b3⟩ := ih h
    exact ⟨fun b => (b1 b).trans (a1 b), fun b => (b2 b).trans (a2 b), b3.trans a3⟩

/-- a row of names followed by more items (`tail`); `hc`: in a collecting pattern the row ends before the collecting
    position -/
theorem bindList_vars_tail {σ : State} {b : Addr} {vals : List SVal} (sc : List Addr) (lhsLoc : Loc) (decl : Bool)
    (collect : Bool) (lhsLen : Nat) (tail : List ListItem)
    (vars : List (List Char × Loc)) (names : List (List Char)) (i k : Nat)
    (hb : σ.getList b = some vals) (hlen : i + vars.length ≤ vals.length)
    (hc : collect = true → i + vars.length ≤ lhsLen - 1) :
    bindList (vars.length + (k + 1)) σ sc names (varItems vars ++ tail) collect lhsLoc b decl i lhsLen =
      (bindVars σ sc names decl (vars.zip (vals.drop i))).bind fun names' σ1 =>
        bindList (k + 1) σ1 sc names' tail collect lhsLoc b decl (i + vars.length) lhsLen := by
  induction vars generalizing σ names i with
  | nil =>
    simp only [varItems, List.map_nil, List.nil_append, List.length_nil, Nat.zero_add, List.zip_nil_left, bindVars,
      Res.bind, Nat.add_zero]
  | cons p r ih =>
    obtain ⟨x, l⟩ := p
    simp only [List.length_cons] at hlen hc
    have hi : i < vals.length := by omega
    have e1 : (((x, l) :: r).length + (k + 1)) = (r.length + (k + 1)) + 1 := by simp only [List.length_cons]; omega
    have hnc : (collect && decide (i = lhsLen - 1)) = false := by
      cases collect with
      | false => rfl
      | true => have := hc rfl; simp only [Bool.true_and, decide_eq_false_iff_not]; omega
    rw [e1, varItems, List.map_cons, List.cons_append, bindList]
    simp only [Bool.false_eq_true, if_false, hb, hnc, List.getElem?_eq_getElem hi]
    have e2 : r.length + (k + 1) = (r.length + k) + 1 := by omega
    rw [List.drop_eq_getElem_cons hi, List.zip_cons_cons, bindVars, Res.bind_assoc]
    conv => lhs; rw [e2, bindNext_var, bindNextName_fuel _ 0, ← e2]
    refine Res.bind_congr rfl fun names' σ1 hres => ?_
    have hb1 : σ1.getList b = some vals := by rw [(bindNextName_heap hres).1 b]; exact hb
    have := ih names' (i + 1) hb1 (by omega) (fun h => by have := hc h; omega)
    rw [varItems] at this
    rw [this]
    have e3 : i + 1 + r.length = i + (r.length + 1) := by omega
    simp only [e3, List.length_cons]

theorem bindList_vars {σ : State} {b : Addr} {vals : List SVal} (sc : List Addr) (lhsLoc : Loc) (decl : Bool) (lhsLen : Nat)
    (vars : List (List Char × Loc)) (names : List (List Char)) (i d : Nat)
    (hb : σ.getList b = some vals) (hlen : i + vars.length ≤ vals.length) :
    bindList (vars.length + 1 + d) σ sc names (varItems vars) false lhsLoc b decl i lhsLen =
      bindVars σ sc names decl (vars.zip (vals.drop i)) := by
  have := bindList_vars_tail sc lhsLoc decl false lhsLen [] vars names i d hb hlen (fun hc => by cases hc)
  rw [List.append_nil] at this
  rw [Nat.add_assoc, Nat.add_comm 1 d, this]
  simp only [bindList_nil, Res.bind_pure]

/-- names that `m` and `names` do not have, pairwise different, none of them `_` -/
def FreshRow (m : ScopeMap) (names : List (List Char)) : List (List Char × Loc) → Prop
  | [] => True
  | (x, _) :: r => x ≠ c!"_" ∧ x ∉ names ∧ scopeLookup x m = none ∧ (∀ p ∈ r, p.1 ≠ x) ∧ FreshRow m names r

theorem scopeLookup_cons_ne {k x : List Char} {v : SVal} {l : Loc} {m : ScopeMap} (h : k ≠ x) :
    scopeLookup k ((x, v, l) :: m) = scopeLookup k m := by
  simp [scopeLookup, h]

theorem FreshRow.step {m : ScopeMap} {names : List (List Char)} {x : List Char} {v : SVal} {l : Loc}
    {r : List (List Char × Loc)} (h : FreshRow m names r) (hx : ∀ p ∈ r, p.1 ≠ x) :
    FreshRow ((x, v, l) :: m) (x :: names) r := by
  induction r with
  | nil => trivial
  | cons p r ih =>
    obtain ⟨y, ly⟩ := p
    obtain ⟨h1, h2, h3, h4, h5⟩ := h
    have hyx : y ≠ x := hx (y, ly) List.mem_cons_self
    refine ⟨h1, ?_, ?_, h4, ih h5 fun p hp => hx p (List.mem_cons_of_mem _ hp)⟩
    · intro hmem
      rcases List.mem_cons.mp hmem with e | e
      · exact hyx e
      · exact h2 e
    · rw [scopeLookup_cons_ne hyx]; exact h3

end Seed
