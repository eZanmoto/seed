/-
  C13Call.lean — the call site (`evalCall`) as an equation: argument count rule, rest-parameter slice,
  parameter/`this` bindings; and the item loop of `evalListItems`.  Used by C13 and C14.
-/
import SeedProofs.Lemmas.C12Heap
namespace Seed
open Gen (Leaf)

theorem evalListItems_nil (n : Nat) (σ : State) (sc : List Addr) (acc : List SVal) :
    evalListItems (n + 1) σ sc [] acc = .ok acc σ := by
  rw [evalListItems]

theorem evalListItems_cons_plain (n : Nat) (σ : State) (sc : List Addr) (e : Expr) (r : List ListItem) (acc : List SVal) :
    evalListItems (n + 1) σ sc (.mk e false :: r) acc =
      (evalExpr n σ sc e).bind fun v σ1 => evalListItems n σ1 sc r (acc ++ [v]) := by
  rw [evalListItems]; rfl

theorem evalListItems_cons_spread {n : Nat} {σ σ1 : State} {sc : List Addr} {e : Expr} {v : SVal} {a : Addr}
    {xs : List SVal} (r : List ListItem) (acc : List SVal)
    (h : evalExpr n σ sc e = .ok v σ1) (hv : v.v = .list a) (hl : σ1.getList a = some xs) :
    evalListItems (n + 1) σ sc (.mk e true :: r) acc = evalListItems n σ1 sc r (acc ++ xs) := by
  rw [evalListItems, h]
  simp only [Res.bind, Bool.not_true, Bool.false_eq_true, if_false, hv, hl]

theorem evalListItems_cons_err {n : Nat} {σ σ1 : State} {sc : List Addr} {e : Expr} {er : Err} (sp : Bool)
    (r : List ListItem) (acc : List SVal) (h : evalExpr n σ sc e = .err er σ1) :
    evalListItems (n + 1) σ sc (.mk e sp :: r) acc = .err er σ1 := by
  rw [evalListItems, h]; rfl

/-- "pure" items: each evaluates to its value, without changing the state, at every fuel ≥ k -/
def PureItems (k : Nat) (σ : State) (sc : List Addr) : List ListItem → List SVal → Prop
  | [], [] => True
  | it :: r, v :: vs => it.isSpread = false ∧ (∀ m, k ≤ m → evalExpr m σ sc it.e = .ok v σ) ∧ PureItems k σ sc r vs
  | _, _ => False

theorem evalListItems_pure {k : Nat} {σ : State} {sc : List Addr} {items : List ListItem} {vs : List SVal}
    (h : PureItems k σ sc items vs) (d : Nat) (acc : List SVal) :
    evalListItems (k + items.length + 1 + d) σ sc items acc = .ok (acc ++ vs) σ := by
  induction items generalizing vs acc with
  | nil =>
    cases vs with
    | nil =>
      have e1 : k + ([] : List ListItem).length + 1 + d = (k + d) + 1 := by simp only [List.length_nil]; omega
      rw [e1, evalListItems_nil]; simp
    | cons _ _ => exact absurd h id
  | cons it r ih =>
    cases vs with
    | nil => exact absurd h id
    | cons v vs =>
      obtain ⟨e, sp⟩ := it
      obtain ⟨hsp, hev, hr⟩ := h
      simp only [ListItem.isSpread] at hsp
      subst hsp
      simp only [ListItem.e] at hev
      have e1 : k + (ListItem.mk e false :: r).length + 1 + d = (k + r.length + 1 + d) + 1 := by
        simp only [List.length_cons]; omega
      rw [e1, evalListItems_cons_plain, hev _ (by omega)]
      simp only [Res.bind]
      rw [ih hr, List.append_assoc]; rfl

/-- the count rule: exactly `n`, or at least `n - 1` with a rest parameter -/
def arityOk (collect : Bool) (numParams got : Nat) : Bool :=
  if collect then decide (numParams - 1 ≤ got) else decide (numParams = got)

def arityErr (collect : Bool) (numParams got : Nat) : Leaf :=
  if collect then Leaf.TooFewArgs (numParams - 1) got else Leaf.ArgNumMismatch numParams got

/-- the values bound to the parameters: with a rest parameter the surplus goes to a fresh list -/
def callPlainVals (σ : State) (fr : FuncRec) (argVals : List SVal) : List SVal × State :=
  if fr.collect then
    (argVals.take (fr.args.length - 1) ++ [SVal.plain (.list σ.heap.size)],
     (σ.alloc (.list (argVals.drop (fr.args.length - 1)))).2)
  else (argVals, σ)

/-- parameters first, then `this` when (and only when) the callee value has a source -/
def callBindings (fr : FuncRec) (plainVals : List SVal) (src : Option Val) (loc : Loc) : List (Expr × SVal) :=
  match src with
  | some this => fr.args.zip plainVals ++ [(Expr.mk (.Var c!"this") loc, SVal.plain this)]
  | none => fr.args.zip plainVals

def finishCall (esc : Escape) (σ4 : State) : Res SVal :=
  match esc with
  | .none => .ok (SVal.plain .null) σ4
  | .brk l => errAt l Leaf.BreakOutsideLoop σ4
  | .cont l => errAt l Leaf.ContinueOutsideLoop σ4
  | .ret v _ => .ok v σ4

theorem evalCall_func {n : Nat} {σ σ1 σ2 : State} {sc : List Addr} {f : Expr} {args : List ListItem} {loc : Loc}
    {argVals : List SVal} {fv : SVal} {a : Addr} {fr : FuncRec}
    (hargs : evalListItems n σ sc args [] = .ok argVals σ1)
    (hf : evalExpr n σ1 sc f = .ok fv σ2) (hv : fv.v = .func a) (hfr : σ2.getFunc a = some fr) :
    evalCall (n + 1) σ sc f args loc =
      if arityOk fr.collect fr.args.length argVals.length then
        ((evalBlock n (callPlainVals σ2 fr argVals).2 fr.closure
            (callBindings fr (callPlainVals σ2 fr argVals).1 fv.src loc) fr.stmts).mapErr
          (Err.funcCall fr.name loc)).bind finishCall
      else errAt loc (arityErr fr.collect fr.args.length argVals.length) σ2 := by
  rw [evalCall, hargs]
  simp only [Res.bind, hf, hv, hfr]
  cases hc : fr.collect with
  | true =>
    simp only [arityOk, arityErr, callPlainVals, hc, if_true, Bool.true_and, Bool.not_true, Bool.false_and,
      Bool.false_eq_true, if_false, decide_eq_true_eq]
    by_cases hle : fr.args.length - 1 ≤ argVals.length
    · have : ¬ (fr.args.length - 1 > argVals.length) := by omega
      simp only [this, hle, if_true, if_false, State.alloc]
      cases hs : fv.src <;> simp only [callBindings] <;> congr
    · have : fr.args.length - 1 > argVals.length := by omega
      simp only [this, hle, if_true, if_false]
  | false =>
    simp only [arityOk, arityErr, callPlainVals, hc, if_false, Bool.false_and, Bool.false_eq_true, Bool.not_false,
      Bool.true_and, decide_eq_true_eq]
    by_cases he : fr.args.length = argVals.length
    · simp only [he, ne_eq, not_true_eq_false, if_false, if_true]
      cases hs : fv.src <;> simp only [callBindings] <;> congr
    · simp only [he, ne_eq, not_false_eq_true, if_true, if_false]

/-- arguments are evaluated first: a failing argument list means the callee expression is never evaluated -/
theorem evalCall_args_err {n : Nat} {σ σ1 : State} {sc : List Addr} {f : Expr} {args : List ListItem} {loc : Loc} {e : Err}
    (hargs : evalListItems n σ sc args [] = .err e σ1) : evalCall (n + 1) σ sc f args loc = .err e σ1 := by
  rw [evalCall, hargs]; rfl

theorem callPlainVals_no_rest {σ : State} {fr : FuncRec} (argVals : List SVal) (h : fr.collect = false) :
    callPlainVals σ fr argVals = (argVals, σ) := by
  simp [callPlainVals, h]

theorem callPlainVals_rest {σ : State} {fr : FuncRec} (argVals : List SVal) (h : fr.collect = true) :
    callPlainVals σ fr argVals =
      (argVals.take (fr.args.length - 1) ++ [SVal.plain (.list σ.heap.size)],
       (σ.alloc (.list (argVals.drop (fr.args.length - 1)))).2) := by
  simp [callPlainVals, h]

theorem callPlainVals_rest_length {σ : State} {fr : FuncRec} (argVals : List SVal) (h : fr.collect = true)
    (hpos : 0 < fr.args.length) (hok : arityOk fr.collect fr.args.length argVals.length = true) :
    (callPlainVals σ fr argVals).1.length = fr.args.length := by
  rw [callPlainVals_rest argVals h]
  simp only [arityOk, h, if_true, decide_eq_true_eq] at hok
  simp only [List.length_append, List.length_take, List.length_cons, List.length_nil]
  omega

theorem callPlainVals_rest_cell {σ : State} {fr : FuncRec} (argVals : List SVal) (h : fr.collect = true) :
    (callPlainVals σ fr argVals).2.getList σ.heap.size = some (argVals.drop (fr.args.length - 1)) ∧
    (∀ b, b < σ.heap.size → (callPlainVals σ fr argVals).2.heap[b]? = σ.heap[b]?) := by
  rw [callPlainVals_rest argVals h]
  exact ⟨getList_eq_some.mpr (σ.alloc_heap_new _), fun b hb => σ.alloc_heap_old _ hb⟩

end Seed
