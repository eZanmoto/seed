/-
  C13Nested.lean — the evaluator's binding engine on a nested declaration pattern *is* the pure engine `pmatch`:
  with fuel at least the size of the pattern,
      bindNext fuel (σ with scope cell a = m) (a :: sc) names p.toExpr v none true = (pmatch p names m σ v).toRes a
  for patterns of any depth, on every outcome (ok, each located error, crash), partial bindings included.
  Induction over the pattern tree; the only heap facts needed are that writing the scope cell `a` commutes with
  allocation and is invisible to list and object reads.
-/
import SeedProofs.Lemmas.C13NestedSpec
import SeedProofs.Lemmas.C12Lit
namespace Seed.C13N
open Seed Gen

def IsScope (σ : State) (a : Addr) : Prop := ∃ m0, σ.getScope a = some m0

theorem IsScope.lt {σ : State} {a : Addr} (h : IsScope σ a) : a < σ.heap.size := by
  obtain ⟨m0, h⟩ := h; exact getScope_lt h

theorem IsScope.ext {σ σ' : State} {a : Addr} (h : IsScope σ a) (he : PExt σ σ') : IsScope σ' a := by
  obtain ⟨m0, h⟩ := h; exact ⟨m0, he.getScope h⟩

theorem IsScope.alloc {σ : State} {a : Addr} (h : IsScope σ a) (c : Cell) : IsScope (σ.alloc c).2 a :=
  h.ext (PExt.alloc σ c)

theorem set_self {σ : State} {a : Addr} {m : ScopeMap} (h : σ.getScope a = some m) : σ.set a (.scope m) = σ := by
  have h1 := getScope_eq_some.mp h
  have hlt := heap_lt_of_some h1
  cases σ with
  | mk heap out =>
    simp only [State.set]
    congr 1
    apply Array.ext_getElem?
    intro i
    rw [Array.getElem?_setIfInBounds]
    split
    · rename_i e; subst e
      simp only at hlt h1
      rw [h1]
    · rfl

theorem alloc_set (σ : State) {a : Addr} (c c' : Cell) (h : a < σ.heap.size) :
    (σ.set a c).alloc c' = (σ.heap.size, (σ.alloc c').2.set a c) := by
  simp only [State.alloc, State.set, Array.size_setIfInBounds]
  congr 2
  apply Array.ext_getElem?
  intro i
  simp only [Array.getElem?_push, Array.getElem?_setIfInBounds, Array.size_setIfInBounds, Array.size_push]
  by_cases hi : i = σ.heap.size
  · subst hi
    have : a ≠ σ.heap.size := Nat.ne_of_lt h
    simp [this]
  · by_cases ha : a = i
    · subst ha; simp [hi, h, Nat.lt_succ_of_lt h]
    · simp [hi, ha]

theorem getList_setScope {σ : State} {a : Addr} (h : IsScope σ a) (m : ScopeMap) (b : Addr) :
    (σ.set a (.scope m)).getList b = σ.getList b := by
  obtain ⟨m0, h⟩ := h; exact getList_set_scope h

theorem getObj_setScope {σ : State} {a : Addr} (h : IsScope σ a) (m : ScopeMap) (b : Addr) :
    (σ.set a (.scope m)).getObj b = σ.getObj b := by
  obtain ⟨m0, h⟩ := h; exact getObj_set_scope h

theorem getScope_setScope {σ : State} {a : Addr} (h : IsScope σ a) (m : ScopeMap) :
    (σ.set a (.scope m)).getScope a = some m := getScope_set_same h.lt m

theorem bindNextName_set {f : Nat} {σ : State} {a : Addr} (sc : List Addr) (names : List (List Char)) (m : ScopeMap)
    (x : List Char) (l : Loc) (v : SVal) (hs : IsScope σ a) :
    bindNextName f (σ.set a (.scope m)) (a :: sc) names x l v none true = (mName names m σ x l v).toRes a := by
  unfold bindNextName mName
  by_cases hx : x = c!"_"
  · rw [if_pos hx, if_pos hx]; rfl
  · rw [if_neg hx, if_neg hx]
    by_cases hc : names.contains x = true
    · rw [if_pos hc, if_pos hc]; rfl
    · rw [if_neg hc, if_neg hc]
      simp only [if_true, scopeDeclare, getScope_setScope hs]
      cases scopeLookup x m with
      | some pr => rfl
      | none => simp only [MRes.toRes, State.set_set]

theorem toRes_bind' {a : Addr} {R : Res (List (List Char))} {r : MRes}
    {F : List (List Char) → State → Res (List (List Char))} {f : List (List Char) → ScopeMap → State → MRes}
    (h1 : R = r.toRes a) (h2 : ∀ N M S, r = .ok N M S → F N (S.set a (.scope M)) = (f N M S).toRes a) :
    R.bind F = (r.bind f).toRes a := by
  subst h1
  cases r with
  | ok N M S => exact h2 N M S rfl
  | err loc leaf m σ => rfl
  | crash w m σ => rfl

/-- fuel that covers a node covers its parts, one step down -/
theorem fuel_add {k fuel : Nat} (j : Nat) (h : k + j ≤ fuel) : ∃ n, fuel = n + j ∧ k ≤ n := ⟨fuel - j, by omega, by omega⟩

theorem Pat.size_pos : (p : Pat) → 1 ≤ p.size
  | .var _ _ => Nat.le_refl 1
  | .list ps _ _ => Nat.le_add_left 1 ps.size
  | .obj pr _ => Nat.le_add_left 1 pr.size

theorem PatProps.size_pos : (p : PatProps) → 1 ≤ p.size
  | .nil => Nat.le_refl 1
  | .short _ _ r => Nat.le_add_left 1 (r.size + 2)
  | .pair _ _ p r => Nat.le_add_left 1 (p.size + r.size + 1)
  | .rest _ _ r => Nat.le_add_left 1 r.size

mutual
theorem bindNext_pat (a : Addr) (sc : List Addr) : (p : Pat) → ∀ (fuel : Nat) (names : List (List Char)) (m : ScopeMap)
    (σ : State) (v : SVal), p.size ≤ fuel → IsScope σ a →
    bindNext fuel (σ.set a (.scope m)) (a :: sc) names p.toExpr v none true = (pmatch p names m σ v).toRes a := fun p fuel names m σ v hf hs => by
  cases p with
  | var x l =>
    obtain ⟨n, rfl, _⟩ := fuel_add 1 hf
    rw [Pat.toExpr, bindNext_var, pmatch]
    exact bindNextName_set sc names m x l v hs
  | list ps c l =>
    obtain ⟨n, rfl, hn⟩ := fuel_add 1 hf
    rw [Pat.toExpr, bindNext, pmatch]
    cases v.v with
    | list b =>
      dsimp only
      rw [getList_setScope hs]
      cases hb : σ.getList b with
      | none => rfl
      | some xs =>
        dsimp only
        rw [PatList.toItems_length]
        by_cases h1 : (c && decide (ps.length - 1 > xs.length)) = true
        · rw [if_pos h1, if_pos h1]; rfl
        · rw [if_neg h1, if_neg h1]
          by_cases h2 : (!c && decide (ps.length ≠ xs.length)) = true
          · rw [if_pos h2, if_pos h2]; rfl
          · rw [if_neg h2, if_neg h2]
            exact bindList_pat a sc ps n c l b xs 0 ps.length names m σ hn hs hb
    | _ => rfl
  | obj pr l =>
    obtain ⟨n, rfl, hn⟩ := fuel_add 1 hf
    rw [Pat.toExpr, bindNext, pmatch]
    cases v.v with
    | obj b =>
      dsimp only
      rw [getObj_setScope hs]
      cases hb : σ.getObj b with
      | none => rfl
      | some o =>
        dsimp only
        rw [PatProps.toProps_length]
        exact bindObject_pat a sc pr n o b 0 pr.length (o.map Prod.fst) names m σ hn hs hb
    | _ => rfl
theorem bindList_pat (a : Addr) (sc : List Addr) : (ps : PatList) → ∀ (fuel : Nat) (c : Bool) (l : Loc) (b : Addr)
    (xs : List SVal) (i len : Nat) (names : List (List Char)) (m : ScopeMap) (σ : State),
    ps.size ≤ fuel → IsScope σ a → σ.getList b = some xs →
    bindList fuel (σ.set a (.scope m)) (a :: sc) names ps.toItems c l b true i len =
      (pmatchList ps c l xs i len names m σ).toRes a := fun ps fuel c l b xs i len names m σ hf hs hb => by
  cases ps with
  | nil =>
    obtain ⟨n, rfl, _⟩ := fuel_add 1 hf
    rw [PatList.toItems, bindList, pmatchList]; rfl
  | cons p r =>
    obtain ⟨n, rfl, hn⟩ := fuel_add 1 hf
    rw [PatList.toItems, bindList, pmatchList]
    simp only [Bool.false_eq_true, if_false]
    rw [getList_setScope hs, hb]
    dsimp only
    by_cases h1 : (c && decide (i = len - 1)) = true
    · rw [if_pos h1, if_pos h1, alloc_set σ _ _ hs.lt]
      dsimp only
      refine toRes_bind' (bindNext_pat a sc p n names m _ _ (Nat.le_of_add_right_le hn) (hs.alloc _)) ?_
      intro N M S hres
      have he := (PExt.alloc σ (.list (xs.drop (len - 1)))).trans (pmatch_ok_ext hres)
      exact bindList_pat a sc r n c l b xs (i + 1) len N M S (Nat.le_of_add_left_le hn) (hs.ext he) (he.getList hb)
    · rw [if_neg h1, if_neg h1]
      cases xs[i]? with
      | none => rfl
      | some v =>
        dsimp only
        refine toRes_bind' (bindNext_pat a sc p n names m σ v (Nat.le_of_add_right_le hn) hs) ?_
        intro N M S hres
        have he := pmatch_ok_ext hres
        exact bindList_pat a sc r n c l b xs (i + 1) len N M S (Nat.le_of_add_left_le hn) (hs.ext he) (he.getList hb)
theorem bindObject_pat (a : Addr) (sc : List Addr) : (pr : PatProps) → ∀ (fuel : Nat) (o : ObjMap) (b : Addr)
    (i total : Nat) (rem : List (List Char)) (names : List (List Char)) (m : ScopeMap) (σ : State),
    pr.size ≤ fuel → IsScope σ a → σ.getObj b = some o →
    bindObject fuel (σ.set a (.scope m)) (a :: sc) names pr.toProps b true i total rem =
      (pmatchProps pr o i total rem names m σ).toRes a := fun pr fuel o b i total rem names m σ hf hs hb => by
  cases pr with
  | nil =>
    obtain ⟨n, rfl, _⟩ := fuel_add 1 hf
    rw [PatProps.toProps, bindObject, pmatchProps]; rfl
  | short x l r =>
    obtain ⟨n, rfl, hn⟩ := fuel_add 3 hf
    rw [PatProps.toProps, bindObject, pmatchProps]
    simp only [Bool.false_eq_true, if_false, Expr.raw, Expr.loc]
    by_cases hx : x = c!"_"
    · rw [if_pos hx, if_pos hx]
      simp only [MRes.bind]
      exact bindObject_pat a sc r (n + 2) o b (i + 1) total _ names m σ (Nat.le_add_right_of_le hn) hs hb
    · rw [if_neg hx, if_neg hx]
      refine toRes_bind' ?_ ?_
      · rw [bindObjectProp, getObj_setScope hs, hb]
        dsimp only
        cases objGet x o with
        | none => rfl
        | some v =>
          dsimp only
          rw [bindNext_var]
          exact bindNextName_set sc names m x l v hs
      · intro N M S hres
        have hS : S = σ := by
          cases ho : objGet x o with
          | none => rw [ho] at hres; cases hres
          | some v => rw [ho] at hres; exact mName_ok_state hres
        subst hS
        exact bindObject_pat a sc r (n + 2) o b (i + 1) total _ N M S (Nat.le_add_right_of_le hn) hs hb
  | pair k lk p r =>
    simp only [PatProps.size] at hf
    have hp := Pat.size_pos p
    have hr := PatProps.size_pos r
    obtain ⟨n, rfl⟩ : ∃ n, fuel = n + 3 := ⟨fuel - 3, by omega⟩
    rw [PatProps.toProps, bindObject, pmatchProps, evalToStr_lit _ _ _ _ _ _ (C15U.decode_encode k)]
    simp only [Res.bind, Expr.loc]
    refine toRes_bind' ?_ ?_
    · rw [bindObjectProp, getObj_setScope hs, hb]
      dsimp only
      cases objGet k o with
      | none => rfl
      | some v =>
        dsimp only
        exact bindNext_pat a sc p (n + 1) names m σ v (by omega) hs
    · intro N M S hres
      have he : PExt σ S := by
        cases ho : objGet k o with
        | none => rw [ho] at hres; cases hres
        | some v => rw [ho] at hres; exact pmatch_ok_ext hres
      exact bindObject_pat a sc r (n + 2) o b (i + 1) total _ N M S (by omega) (hs.ext he) (he.getObj hb)
  | rest x l r =>
    obtain ⟨n, rfl, hn⟩ := fuel_add 1 hf
    rw [PatProps.toProps, bindObject, pmatchProps]
    simp only [Bool.false_eq_true, if_false, Expr.raw, Expr.loc, if_true]
    by_cases h1 : i ≠ total - 1
    · rw [if_pos h1, if_pos h1]; rfl
    · rw [if_neg h1, if_neg h1, getObj_setScope hs, hb]
      dsimp only
      rw [alloc_set σ _ _ hs.lt]
      dsimp only
      refine toRes_bind' (bindNextName_set sc names m x l _ (hs.alloc _)) ?_
      intro N M S hres
      have hS := mName_ok_state hres
      subst hS
      have he := PExt.alloc σ (.obj (o.filter fun kv => rem.contains kv.1))
      exact bindObject_pat a sc r n o b i total rem N M _ hn (hs.ext he) (he.getObj hb)
end

end Seed.C13N
