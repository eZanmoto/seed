/-
  C13NestedDefs.lean — arbitrarily nested *pure declaration patterns* and their two fuel-free readings.

  * `Pat` / `PatList` / `PatProps`: variables and `_`; list patterns `[p₁, …, pₙ]` and (flag `collect`)
    `[p₁, …, pₙ₋₁, pₙ..]` whose last item takes the rest; object patterns made of shorthand names `x`,
    literal-key pairs `"k": p` and `..x` (allowed anywhere in the syntax; the engine rejects it unless last).
    The shorthand `_` discards (nothing is looked up); a pair `"_": p` is an ordinary key.
    Sub-patterns nest without bound.  `toExpr` is the `Expr` the parser produces for such a pattern.
    Computed keys (`[k]: p`, interpolated strings) and index / property targets are *not* in `Pat`: they
    evaluate expressions in the middle of the binding.
  * `pmatch` — the engine without fuel and without the scope cell: it threads the names-in-binding, the
    contents `m` of the innermost scope cell and a state that only ever *allocates* (the rest cells); it is total
    (`MRes`: ok / located error / crash, each with what had been bound when it stopped).
  * `proj` — the declarative reading: `proj p σ v = some (bs, σ')` says that `v` has the shape of `p` on the
    heap of `σ`, `bs` are the leaf bindings in pattern order (name, the stored value itself, position of the
    name) and `σ'` is `σ` with one fresh cell per `..rest` (holding `drop n` / the filtered map) pushed, in
    pattern order.  Names play no role in `proj`; `FreshBs` is the separate "pairwise distinct and new" condition.
-/
import SeedProofs.Lemmas.C13Obj
import SeedProofs.Lemmas.C15Utf8
namespace Seed.C13N
open Seed Gen

mutual
inductive Pat where
  | var (x : List Char) (l : Loc)
  | list (items : PatList) (collect : Bool) (l : Loc)
  | obj (props : PatProps) (l : Loc)
inductive PatList where
  | nil
  | cons (p : Pat) (r : PatList)
inductive PatProps where
  | nil
  | short (x : List Char) (l : Loc) (r : PatProps)
  | pair (key : List Char) (lk : Loc) (p : Pat) (r : PatProps)
  | rest (x : List Char) (l : Loc) (r : PatProps)
end

def PatList.length : PatList → Nat
  | .nil => 0
  | .cons _ r => r.length + 1

def PatProps.length : PatProps → Nat
  | .nil => 0
  | .short _ _ r => r.length + 1
  | .pair _ _ _ r => r.length + 1
  | .rest _ _ r => r.length + 1

mutual
def Pat.toExpr : Pat → Expr
  | .var x l => .mk (.Var x) l
  | .list ps c l => .mk (.List ps.toItems c) l
  | .obj pr l => .mk (.Object pr.toProps) l
def PatList.toItems : PatList → List ListItem
  | .nil => []
  | .cons p r => .mk p.toExpr false :: r.toItems
def PatProps.toProps : PatProps → List PropItem
  | .nil => []
  | .short x l r => .Single (.mk (.Var x) l) false false :: r.toProps
  | .pair k lk p r => .Pair (.mk (.Str k none) lk) p.toExpr :: r.toProps
  | .rest x l r => .Single (.mk (.Var x) l) false true :: r.toProps
end

-- fuel that suffices for the engine on this pattern (additive, not tight)
mutual
def Pat.size : Pat → Nat
  | .var _ _ => 1
  | .list ps _ _ => ps.size + 1
  | .obj pr _ => pr.size + 1
def PatList.size : PatList → Nat
  | .nil => 1
  | .cons p r => p.size + r.size + 1
def PatProps.size : PatProps → Nat
  | .nil => 1
  | .short _ _ r => r.size + 3
  | .pair _ _ p r => p.size + r.size + 2
  | .rest _ _ r => r.size + 1
end

theorem PatList.toItems_length : (ps : PatList) → ps.toItems.length = ps.length
  | .nil => rfl
  | .cons _ r => congrArg (· + 1) (PatList.toItems_length r)

theorem PatProps.toProps_length : (pr : PatProps) → pr.toProps.length = pr.length
  | .nil => rfl
  | .short _ _ r => congrArg (· + 1) (PatProps.toProps_length r)
  | .pair _ _ _ r => congrArg (· + 1) (PatProps.toProps_length r)
  | .rest _ _ r => congrArg (· + 1) (PatProps.toProps_length r)

/-- outcome of the pure engine: the names-in-binding (on success), the contents of the innermost scope cell and the
    state apart from that cell, as they were when it stopped -/
inductive MRes where
  | ok (names : List (List Char)) (m : ScopeMap) (σ : State)
  | err (loc : Loc) (leaf : Leaf) (m : ScopeMap) (σ : State)
  | crash (why : List Char) (m : ScopeMap) (σ : State)

def MRes.bind (r : MRes) (f : List (List Char) → ScopeMap → State → MRes) : MRes :=
  match r with
  | .ok names m σ => f names m σ
  | .err loc leaf m σ => .err loc leaf m σ
  | .crash w m σ => .crash w m σ

/-- back to a result of the evaluator: the scope contents are written into the scope cell `a` -/
def MRes.toRes (a : Addr) : MRes → Res (List (List Char))
  | .ok names m σ => .ok names (σ.set a (.scope m))
  | .err loc leaf m σ => errAt loc leaf (σ.set a (.scope m))
  | .crash w m σ => .crash w (σ.set a (.scope m))

def MRes.state : MRes → State
  | .ok _ _ σ => σ
  | .err _ _ _ σ => σ
  | .crash _ _ σ => σ

/-- declaring one name: `_` binds nothing; a name may appear once per pattern and must be new in the scope -/
def mName (names : List (List Char)) (m : ScopeMap) (σ : State) (x : List Char) (l : Loc) (v : SVal) : MRes :=
  if x = c!"_" then .ok names m σ
  else if names.contains x then .err l (Leaf.AlreadyInBinding x) m σ
  else
    match scopeLookup x m with
    | some (_, prev) => .err l (Leaf.AlreadyInScope x prev.1 prev.2) m σ
    | none => .ok (x :: names) ((x, v, l) :: m) σ

mutual
def pmatch : Pat → List (List Char) → ScopeMap → State → SVal → MRes
  | .var x l, names, m, σ, v => mName names m σ x l v
  | .list ps c l, names, m, σ, v =>
    match v.v with
    | .list b =>
      match σ.getList b with
      | none => .crash c!"heap" m σ
      | some xs =>
        if c && ps.length - 1 > xs.length then .err l (Leaf.ListCollectTooFew ps.length xs.length) m σ
        else if !c && ps.length ≠ xs.length then .err l (Leaf.ListDestructureItemMismatch ps.length xs.length) m σ
        else pmatchList ps c l xs 0 ps.length names m σ
    | w => .err l (Leaf.ListDestructureOnNonList w.kind) m σ
  | .obj pr l, names, m, σ, v =>
    match v.v with
    | .obj b =>
      match σ.getObj b with
      | none => .crash c!"heap" m σ
      | some o => pmatchProps pr o 0 pr.length (o.map Prod.fst) names m σ
    | w => .err l (Leaf.ObjectDestructureOnNonObject w.kind) m σ
/-- the item loop over the *contents* `xs` of the source list; item `len - 1` of a collecting pattern is matched
    against a fresh list holding `xs.drop (len - 1)` -/
def pmatchList : PatList → Bool → Loc → List SVal → Nat → Nat → List (List Char) → ScopeMap → State → MRes
  | .nil, _, _, _, _, _, names, m, σ => .ok names m σ
  | .cons p r, c, l, xs, i, len, names, m, σ =>
    if c && i = len - 1 then
      (pmatch p names m (σ.alloc (.list (xs.drop (len - 1)))).2 (SVal.plain (.list σ.heap.size))).bind
        fun names' m' σ' => pmatchList r c l xs (i + 1) len names' m' σ'
    else
      match xs[i]? with
      | none => .crash c!"index" m σ
      | some v => (pmatch p names m σ v).bind fun names' m' σ' => pmatchList r c l xs (i + 1) len names' m' σ'
/-- the property loop over the *contents* `o` of the source object; `rem` are the keys not named so far -/
def pmatchProps : PatProps → ObjMap → Nat → Nat → List (List Char) → List (List Char) → ScopeMap → State → MRes
  | .nil, _, _, _, _, names, m, σ => .ok names m σ
  | .short x l r, o, i, total, rem, names, m, σ =>
    MRes.bind
      (if x = c!"_" then MRes.ok names m σ
       else
        match objGet x o with
        | none => MRes.err l (Leaf.PropNotFound x) m σ
        | some v => mName names m σ x l v)
      fun names' m' σ' => pmatchProps r o (i + 1) total (rem.filter fun k => k ≠ x) names' m' σ'
  | .pair k lk p r, o, i, total, rem, names, m, σ =>
    MRes.bind
      (match objGet k o with
       | none => MRes.err lk (Leaf.PropNotFound k) m σ
       | some v => pmatch p names m σ v)
      fun names' m' σ' => pmatchProps r o (i + 1) total (rem.filter fun k' => k' ≠ k) names' m' σ'
  | .rest x l r, o, i, total, rem, names, m, σ =>
    if i ≠ total - 1 then .err l Leaf.ObjectCollectIsNotLast m σ
    else
      (mName names m (σ.alloc (.obj (o.filter fun kv => rem.contains kv.1))).2 x l (SVal.plain (.obj σ.heap.size))).bind
        fun names' m' σ' => pmatchProps r o i total rem names' m' σ'
end

/-- a leaf binding: name, the value bound (the stored value itself, provenance included), position of the name -/
abbrev Bnd := List Char × SVal × Loc

def seqP (q : Option (List Bnd × State)) (g : State → Option (List Bnd × State)) : Option (List Bnd × State) :=
  match q with
  | none => none
  | some (bs1, σ1) =>
    match g σ1 with
    | none => none
    | some (bs2, σ2) => some (bs1 ++ bs2, σ2)

def projName (σ : State) (x : List Char) (l : Loc) (v : SVal) : Option (List Bnd × State) :=
  if x = c!"_" then some ([], σ) else some ([(x, v, l)], σ)

mutual
def proj : Pat → State → SVal → Option (List Bnd × State)
  | .var x l, σ, v => projName σ x l v
  | .list ps c _, σ, v =>
    match v.v with
    | .list b =>
      match σ.getList b with
      | none => none
      | some xs =>
        if c && ps.length - 1 > xs.length then none
        else if !c && ps.length ≠ xs.length then none
        else projList ps c xs 0 ps.length σ
    | _ => none
  | .obj pr _, σ, v =>
    match v.v with
    | .obj b =>
      match σ.getObj b with
      | none => none
      | some o => projProps pr o 0 pr.length (o.map Prod.fst) σ
    | _ => none
def projList : PatList → Bool → List SVal → Nat → Nat → State → Option (List Bnd × State)
  | .nil, _, _, _, _, σ => some ([], σ)
  | .cons p r, c, xs, i, len, σ =>
    if c && i = len - 1 then
      seqP (proj p (σ.alloc (.list (xs.drop (len - 1)))).2 (SVal.plain (.list σ.heap.size)))
        fun σ' => projList r c xs (i + 1) len σ'
    else
      match xs[i]? with
      | none => none
      | some v => seqP (proj p σ v) fun σ' => projList r c xs (i + 1) len σ'
def projProps : PatProps → ObjMap → Nat → Nat → List (List Char) → State → Option (List Bnd × State)
  | .nil, _, _, _, _, σ => some ([], σ)
  | .short x l r, o, i, total, rem, σ =>
    seqP (if x = c!"_" then some ([], σ)
          else
            match objGet x o with
            | none => none
            | some v => projName σ x l v)
      fun σ' => projProps r o (i + 1) total (rem.filter fun k => k ≠ x) σ'
  | .pair k _ p r, o, i, total, rem, σ =>
    seqP (match objGet k o with
          | none => none
          | some v => proj p σ v)
      fun σ' => projProps r o (i + 1) total (rem.filter fun k' => k' ≠ k) σ'
  | .rest x l r, o, i, total, rem, σ =>
    if i ≠ total - 1 then none
    else
      seqP (projName (σ.alloc (.obj (o.filter fun kv => rem.contains kv.1))).2 x l (SVal.plain (.obj σ.heap.size)))
        fun σ' => projProps r o i total rem σ'
end

def shapeOK (p : Pat) (σ : State) (v : SVal) : Prop := (proj p σ v).isSome = true

/-- the bindings are new: each name differs from the names bound before it in this pattern (`names` and the
    earlier leaves) and is not yet declared in the scope (`m`) -/
def FreshBs (names : List (List Char)) (m : ScopeMap) : List Bnd → Prop
  | [] => True
  | (x, v, l) :: r => x ∉ names ∧ scopeLookup x m = none ∧ FreshBs (x :: names) ((x, v, l) :: m) r

/-- names of the bindings, newest first (the order of the engine's names-in-binding list) -/
def bndNames (bs : List Bnd) : List (List Char) := (bs.map Prod.fst).reverse

def PExt (σ σ' : State) : Prop :=
  σ.heap.size ≤ σ'.heap.size ∧ (∀ b, b < σ.heap.size → σ'.heap[b]? = σ.heap[b]?) ∧ σ'.out = σ.out

end Seed.C13N
