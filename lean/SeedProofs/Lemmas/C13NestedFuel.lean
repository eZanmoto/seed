/-
  C13NestedFuel.lean — the nested-pattern theorem at *every* fuel: the engine either runs out of fuel or answers
  as the pure engine `pmatch` does (from `bindNext_pat` and fuel monotonicity `monoAll`).
-/
import SeedProofs.Lemmas.C13Nested
import SeedProofs.Lemmas.EvalMono
namespace Seed.C13N
open Seed Gen

theorem bindNext_stable {k n : Nat} (h : k ≤ n) {σ : State} {sc : List Addr} {names : List (List Char)} {lhs : Expr}
    {rhs : SVal} {op : Option (BinaryOp × Loc)} {decl : Bool} {r : Res (List (List Char))}
    (hr : bindNext k σ sc names lhs rhs op decl = r) (hne : r ≠ .timeout) : bindNext n σ sc names lhs rhs op decl = r := by
  induction h with
  | refl => exact hr
  | step _ ih =>
    rename_i j _
    rcases (monoAll j).bindNext σ sc names lhs rhs op decl with h' | h'
    · rw [ih] at h'; exact absurd h' hne
    · rw [← h', ih]

theorem toRes_ne_timeout (a : Addr) (r : MRes) : r.toRes a ≠ .timeout := by
  cases r <;> (intro h; cases h)

theorem bindNext_pat_any {σ : State} {a : Addr} {m : ScopeMap} (sc : List Addr) (names : List (List Char)) (p : Pat)
    (v : SVal) (hs : σ.getScope a = some m) (fuel : Nat) :
    bindNext fuel σ (a :: sc) names p.toExpr v none true = .timeout ∨
    bindNext fuel σ (a :: sc) names p.toExpr v none true = (pmatch p names m σ v).toRes a := by
  by_cases ht : bindNext fuel σ (a :: sc) names p.toExpr v none true = .timeout
  · exact Or.inl ht
  · right
    have h1 := bindNext_stable (Nat.le_max_left fuel p.size) rfl ht
    have h2 := bindNext_pat a sc p (max fuel p.size) names m σ v (Nat.le_max_right _ _) ⟨m, hs⟩
    rw [set_self hs] at h2
    rw [← h1, h2]

end Seed.C13N
