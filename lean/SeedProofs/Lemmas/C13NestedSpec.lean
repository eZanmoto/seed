/-
  C13NestedSpec.lean — the pure engine `pmatch` succeeds exactly when the value has the shape of the pattern
  (`proj` is defined) and the leaf names are new and pairwise distinct (`FreshBs`); then it has declared
  exactly the leaves of `proj`, in pattern order, and its state is `proj`'s (the source plus the rest cells).
  No fuel, no `Expr`, no scope cell here: induction over the pattern tree only.
-/
import SeedProofs.Lemmas.C13NestedDefs
namespace Seed.C13N
open Seed Gen

theorem PExt.refl (σ : State) : PExt σ σ := ⟨Nat.le_refl _, fun _ _ => rfl, rfl⟩

theorem PExt.trans {a b c : State} (h1 : PExt a b) (h2 : PExt b c) : PExt a c :=
  ⟨Nat.le_trans h1.1 h2.1, fun x hx => by rw [h2.2.1 x (Nat.lt_of_lt_of_le hx h1.1), h1.2.1 x hx],
   h2.2.2.trans h1.2.2⟩

theorem PExt.alloc (σ : State) (c : Cell) : PExt σ (σ.alloc c).2 :=
  ⟨by rw [State.alloc_size]; omega, fun _ hb => State.alloc_heap_old σ c hb, rfl⟩

theorem PExt.getList {σ σ' : State} {b : Addr} {xs : List SVal} (h : PExt σ σ') (hb : σ.getList b = some xs) :
    σ'.getList b = some xs := by
  rw [getList_eq_some] at hb ⊢
  rw [h.2.1 b (heap_lt_of_some hb)]; exact hb

theorem PExt.getObj {σ σ' : State} {b : Addr} {o : ObjMap} (h : PExt σ σ') (hb : σ.getObj b = some o) :
    σ'.getObj b = some o := by
  rw [getObj_eq_some] at hb ⊢
  rw [h.2.1 b (heap_lt_of_some hb)]; exact hb

theorem PExt.getScope {σ σ' : State} {b : Addr} {m : ScopeMap} (h : PExt σ σ') (hb : σ.getScope b = some m) :
    σ'.getScope b = some m := by
  rw [getScope_eq_some] at hb ⊢
  rw [h.2.1 b (heap_lt_of_some hb)]; exact hb

theorem seqP_some {q : Option (List Bnd × State)} {g : State → Option (List Bnd × State)} {bs : List Bnd} {σ' : State} :
    seqP q g = some (bs, σ') ↔ ∃ bs1 σ1 bs2, q = some (bs1, σ1) ∧ g σ1 = some (bs2, σ') ∧ bs = bs1 ++ bs2 := by
  unfold seqP
  constructor
  · intro h
    split at h
    · cases h
    · rename_i bs1 σ1
      split at h
      · cases h
      · rename_i bs2 σ2 hg
        cases h
        exact ⟨bs1, σ1, bs2, rfl, hg, rfl⟩
  · rintro ⟨bs1, σ1, bs2, rfl, hg, rfl⟩
    simp only [hg]

/-! ### every piece of `proj` relates its two states by any relation closed under pushing list / object cells -/

structure StRel (R : State → State → Prop) : Prop where
  refl : ∀ σ, R σ σ
  trans : ∀ {a b c}, R a b → R b c → R a c
  allocList : ∀ σ xs, R σ (σ.alloc (.list xs)).2
  allocObj : ∀ σ o, R σ (σ.alloc (.obj o)).2

theorem seqP_rel {R : State → State → Prop} (hR : StRel R) {σ : State} {q : Option (List Bnd × State)}
    {g : State → Option (List Bnd × State)} {bs : List Bnd}
    {σ' : State} (h : seqP q g = some (bs, σ')) (hq : ∀ bs1 σ1, q = some (bs1, σ1) → R σ σ1)
    (hg : ∀ σ1 bs2 σ2, g σ1 = some (bs2, σ2) → R σ1 σ2) : R σ σ' := by
  obtain ⟨bs1, σ1, bs2, e1, e2, _⟩ := seqP_some.mp h
  exact hR.trans (hq _ _ e1) (hg _ _ _ e2)

theorem projName_state {σ : State} {x : List Char} {l : Loc} {v : SVal} {bs : List Bnd} {σ' : State}
    (h : projName σ x l v = some (bs, σ')) : σ' = σ := by
  unfold projName at h
  split at h <;> (cases h; rfl)

theorem projShort_rel {R : State → State → Prop} (hR : StRel R) {x : List Char} {l : Loc} {o : ObjMap} {σ σ1 : State}
    {bs1 : List Bnd} (e : (if x = c!"_" then some (([] : List Bnd), σ)
      else match objGet x o with
        | none => none
        | some v => projName σ x l v) = some (bs1, σ1)) : R σ σ1 := by
  split at e
  · cases e; exact hR.refl _
  · split at e
    · cases e
    · rw [projName_state e]; exact hR.refl _

mutual
theorem proj_rel {R : State → State → Prop} (hR : StRel R) : (p : Pat) → ∀ (σ : State) (v : SVal) (bs : List Bnd)
    (σ' : State), proj p σ v = some (bs, σ') → R σ σ' := fun p σ v bs σ' h => by
  cases p with
  | var x l =>
    rw [proj] at h; rw [projName_state h]; exact hR.refl _
  | list ps c l =>
    rw [proj] at h
    split at h
    · split at h
      · cases h
      · split at h
        · cases h
        · split at h
          · cases h
          · exact projList_rel hR ps _ _ _ _ _ _ _ h
    · cases h
  | obj pr l =>
    rw [proj] at h
    split at h
    · split at h
      · cases h
      · exact projProps_rel hR pr _ _ _ _ _ _ _ h
    · cases h
theorem projList_rel {R : State → State → Prop} (hR : StRel R) : (ps : PatList) → ∀ (c : Bool) (xs : List SVal)
    (i len : Nat) (σ : State) (bs : List Bnd) (σ' : State), projList ps c xs i len σ = some (bs, σ') → R σ σ' := fun ps c xs i len σ bs σ' h => by
  cases ps with
  | nil =>
    rw [projList] at h; cases h; exact hR.refl _
  | cons p r =>
    rw [projList] at h
    split at h
    · exact hR.trans (hR.allocList σ _)
        (seqP_rel hR h (fun _ _ e => proj_rel hR p _ _ _ _ e) (fun _ _ _ e => projList_rel hR r _ _ _ _ _ _ _ e))
    · split at h
      · cases h
      · exact seqP_rel hR h (fun _ _ e => proj_rel hR p _ _ _ _ e) (fun _ _ _ e => projList_rel hR r _ _ _ _ _ _ _ e)
theorem projProps_rel {R : State → State → Prop} (hR : StRel R) : (pr : PatProps) → ∀ (o : ObjMap) (i total : Nat)
    (rem : List (List Char)) (σ : State) (bs : List Bnd) (σ' : State),
    projProps pr o i total rem σ = some (bs, σ') → R σ σ' := fun pr o i total rem σ bs σ' h => by
  cases pr with
  | nil =>
    rw [projProps] at h; cases h; exact hR.refl _
  | short x l r =>
    rw [projProps] at h
    exact seqP_rel hR h (fun _ _ e => projShort_rel hR e)
      (fun _ _ _ e => projProps_rel hR r _ _ _ _ _ _ _ e)
  | pair k lk p r =>
    rw [projProps] at h
    refine seqP_rel hR h (fun bs1 σ1 e => ?_) (fun _ _ _ e => projProps_rel hR r _ _ _ _ _ _ _ e)
    split at e
    · cases e
    · exact proj_rel hR p _ _ _ _ e
  | rest x l r =>
    rw [projProps] at h
    split at h
    · cases h
    · exact hR.trans (hR.allocObj σ _)
        (seqP_rel hR h (fun _ _ e => by rw [projName_state e]; exact hR.refl _)
          (fun _ _ _ e => projProps_rel hR r _ _ _ _ _ _ _ e))
end

theorem projPair_rel {R : State → State → Prop} (hR : StRel R) {k : List Char} {o : ObjMap} {p : Pat} {σ σ1 : State}
    {bs1 : List Bnd} (e : (match objGet k o with
      | none => none
      | some v => proj p σ v) = some (bs1, σ1)) : R σ σ1 := by
  split at e
  · cases e
  · exact proj_rel hR p _ _ _ _ e

theorem pextRel : StRel PExt := ⟨PExt.refl, @PExt.trans, fun σ _ => PExt.alloc σ _, fun σ _ => PExt.alloc σ _⟩

theorem proj_ext : (p : Pat) → ∀ (σ : State) (v : SVal) (bs : List Bnd) (σ' : State),
    proj p σ v = some (bs, σ') → PExt σ σ' := proj_rel pextRel

theorem projList_ext : (ps : PatList) → ∀ (c : Bool) (xs : List SVal) (i len : Nat) (σ : State) (bs : List Bnd)
    (σ' : State), projList ps c xs i len σ = some (bs, σ') → PExt σ σ' := projList_rel pextRel

theorem projProps_ext : (pr : PatProps) → ∀ (o : ObjMap) (i total : Nat) (rem : List (List Char)) (σ : State)
    (bs : List Bnd) (σ' : State), projProps pr o i total rem σ = some (bs, σ') → PExt σ σ' := projProps_rel pextRel

theorem bndNames_append (bs1 bs2 : List Bnd) : bndNames (bs1 ++ bs2) = bndNames bs2 ++ bndNames bs1 := by
  simp [bndNames]

theorem FreshBs_append (bs1 bs2 : List Bnd) : ∀ (names : List (List Char)) (m : ScopeMap),
    FreshBs names m (bs1 ++ bs2) ↔ FreshBs names m bs1 ∧ FreshBs (bndNames bs1 ++ names) (bs1.reverse ++ m) bs2 := by
  induction bs1 with
  | nil => intro names m; simp [FreshBs, bndNames]
  | cons b r ih =>
    intro names m
    obtain ⟨x, v, l⟩ := b
    simp only [List.cons_append, FreshBs, ih]
    have e1 : bndNames ((x, v, l) :: r) ++ names = bndNames r ++ x :: names := by simp [bndNames]
    have e2 : ((x, v, l) :: r).reverse ++ m = r.reverse ++ (x, v, l) :: m := by simp
    rw [e1, e2]
    constructor
    · rintro ⟨a, b, c, d⟩; exact ⟨⟨a, b, c⟩, d⟩
    · rintro ⟨⟨a, b, c⟩, d⟩; exact ⟨a, b, c, d⟩

theorem scopeLookup_append_none (x : List Char) (m1 m : ScopeMap) :
    scopeLookup x (m1 ++ m) = none ↔ (∀ e ∈ m1, e.1 ≠ x) ∧ scopeLookup x m = none := by
  induction m1 with
  | nil => simp
  | cons e r ih =>
    obtain ⟨k, v, l⟩ := e
    simp only [List.cons_append, scopeLookup]
    by_cases hk : x = k
    · subst hk; simp
    · simp only [hk, if_false, ih, List.mem_cons, forall_eq_or_imp]
      constructor
      · rintro ⟨a, b⟩; exact ⟨⟨fun e => hk e.symm, a⟩, b⟩
      · rintro ⟨⟨_, a⟩, b⟩; exact ⟨a, b⟩

theorem FreshBs_iff (bs : List Bnd) : ∀ (names : List (List Char)) (m : ScopeMap),
    FreshBs names m bs ↔
      (bs.map Prod.fst).Nodup ∧ ∀ x ∈ bs.map Prod.fst, x ∉ names ∧ scopeLookup x m = none := by
  induction bs with
  | nil => intro names m; simp [FreshBs]
  | cons b r ih =>
    intro names m
    obtain ⟨x, v, l⟩ := b
    simp only [FreshBs, ih, List.map_cons, List.nodup_cons, List.mem_cons, forall_eq_or_imp]
    constructor
    · rintro ⟨h1, h2, h3, h4⟩
      refine ⟨⟨fun hx => (h4 x hx).1 (Or.inl rfl), h3⟩, ⟨h1, h2⟩, fun y hy => ?_⟩
      obtain ⟨a, b⟩ := h4 y hy
      refine ⟨fun hn => a (Or.inr hn), ?_⟩
      have hyx : y ≠ x := fun e => a (Or.inl e)
      rw [scopeLookup_cons_ne hyx] at b; exact b
    · rintro ⟨⟨h1, h2⟩, ⟨h3, h4⟩, h5⟩
      refine ⟨h3, h4, h2, fun y hy => ?_⟩
      have hyx : y ≠ x := fun e => h1 (e ▸ hy)
      obtain ⟨a, b⟩ := h5 y hy
      refine ⟨fun hn => ?_, ?_⟩
      · rcases hn with e | e
        · exact hyx e
        · exact a e
      · rw [scopeLookup_cons_ne hyx]; exact b

/-- `r` is ok exactly when `q` is defined with fresh leaves, and then `r` has declared the leaves of `q` -/
def Agree (r : MRes) (names : List (List Char)) (m : ScopeMap) (q : Option (List Bnd × State)) : Prop :=
  ∀ N M S, r = .ok N M S ↔
    ∃ bs, q = some (bs, S) ∧ FreshBs names m bs ∧ N = bndNames bs ++ names ∧ M = bs.reverse ++ m

theorem Agree.err (loc : Loc) (leaf : Leaf) (m' : ScopeMap) (σ : State) (names : List (List Char)) (m : ScopeMap) :
    Agree (.err loc leaf m' σ) names m none :=
  fun _ _ _ => ⟨nofun, fun ⟨_, h, _⟩ => nomatch h⟩

theorem Agree.crash (w : List Char) (m' : ScopeMap) (σ : State) (names : List (List Char)) (m : ScopeMap) :
    Agree (.crash w m' σ) names m none :=
  fun _ _ _ => ⟨nofun, fun ⟨_, h, _⟩ => nomatch h⟩

theorem Agree.ok_nil (names : List (List Char)) (m : ScopeMap) (σ : State) :
    Agree (.ok names m σ) names m (some ([], σ)) := by
  intro N M S
  constructor
  · intro h; cases h; exact ⟨[], rfl, trivial, by simp [bndNames], by simp⟩
  · rintro ⟨bs, h, _, hN, hM⟩
    cases h
    simp only [bndNames, List.map_nil, List.reverse_nil, List.nil_append] at hN hM
    rw [hN, hM]

theorem agree_mName (names : List (List Char)) (m : ScopeMap) (σ : State) (x : List Char) (l : Loc) (v : SVal) :
    Agree (mName names m σ x l v) names m (projName σ x l v) := by
  unfold mName projName
  by_cases hx : x = c!"_"
  · rw [if_pos hx, if_pos hx]; exact Agree.ok_nil names m σ
  · rw [if_neg hx, if_neg hx]
    intro N M S
    by_cases hc : names.contains x = true
    · rw [if_pos hc]
      constructor
      · intro h; cases h
      · rintro ⟨bs, h, hf, _⟩
        cases h
        exact absurd (List.contains_iff_mem.mp hc) hf.1
    · rw [if_neg hc]
      have hnm : x ∉ names := fun h => hc (List.contains_iff_mem.mpr h)
      cases hl : scopeLookup x m with
      | some pr =>
        obtain ⟨w, prev⟩ := pr
        simp only []
        constructor
        · intro h; cases h
        · rintro ⟨bs, h, hf, _⟩
          cases h
          have := hf.2.1
          rw [hl] at this; cases this
      | none =>
        simp only []
        constructor
        · intro h; cases h
          exact ⟨[(x, v, l)], rfl, ⟨hnm, hl, trivial⟩, by simp [bndNames], by simp⟩
        · rintro ⟨bs, h, _, hN, hM⟩
          cases h
          simp only [bndNames, List.map_cons, List.map_nil, List.reverse_cons, List.reverse_nil, List.nil_append,
            List.cons_append] at hN hM
          rw [hN, hM]

theorem Agree.seq {r : MRes} {names : List (List Char)} {m : ScopeMap} {q : Option (List Bnd × State)}
    {f : List (List Char) → ScopeMap → State → MRes} {g : State → Option (List Bnd × State)}
    (h1 : Agree r names m q) (h2 : ∀ n1 m1 σ1, Agree (f n1 m1 σ1) n1 m1 (g σ1)) :
    Agree (r.bind f) names m (seqP q g) := by
  intro N M S
  constructor
  · intro h
    cases r with
    | ok n1 m1 σ1 =>
      simp only [MRes.bind] at h
      obtain ⟨bs1, e1, f1, rfl, rfl⟩ := (h1 n1 m1 σ1).mp rfl
      obtain ⟨bs2, e2, f2, rfl, rfl⟩ := (h2 _ _ σ1 N M S).mp h
      refine ⟨bs1 ++ bs2, seqP_some.mpr ⟨bs1, σ1, bs2, e1, e2, rfl⟩, (FreshBs_append bs1 bs2 names m).mpr ⟨f1, f2⟩, ?_, ?_⟩
      · rw [bndNames_append, List.append_assoc]
      · rw [List.reverse_append, List.append_assoc]
    | err loc leaf m1 σ1 => simp only [MRes.bind] at h; cases h
    | crash w m1 σ1 => simp only [MRes.bind] at h; cases h
  · rintro ⟨bs, e, fr, rfl, rfl⟩
    obtain ⟨bs1, σ1, bs2, e1, e2, rfl⟩ := seqP_some.mp e
    obtain ⟨f1, f2⟩ := (FreshBs_append bs1 bs2 names m).mp fr
    have hr := (h1 (bndNames bs1 ++ names) (bs1.reverse ++ m) σ1).mpr ⟨bs1, e1, f1, rfl, rfl⟩
    subst hr
    simp only [MRes.bind]
    refine (h2 _ _ σ1 _ _ S).mpr ⟨bs2, e2, f2, ?_, ?_⟩
    · rw [bndNames_append, List.append_assoc]
    · rw [List.reverse_append, List.append_assoc]

mutual
theorem pmatch_agree : (p : Pat) → ∀ (names : List (List Char)) (m : ScopeMap) (σ : State) (v : SVal),
    Agree (pmatch p names m σ v) names m (proj p σ v) := fun p names m σ v => by
  cases p with
  | var x l =>
    rw [pmatch, proj]; exact agree_mName names m σ x l v
  | list ps c l =>
    rw [pmatch, proj]
    cases v.v with
    | list b =>
      dsimp only
      cases σ.getList b with
      | none => exact Agree.crash _ _ _ _ _
      | some xs =>
        dsimp only
        by_cases h1 : (c && decide (ps.length - 1 > xs.length)) = true
        · rw [if_pos h1, if_pos h1]; exact Agree.err _ _ _ _ _ _
        · rw [if_neg h1, if_neg h1]
          by_cases h2 : (!c && decide (ps.length ≠ xs.length)) = true
          · rw [if_pos h2, if_pos h2]; exact Agree.err _ _ _ _ _ _
          · rw [if_neg h2, if_neg h2]; exact pmatchList_agree ps _ _ _ _ _ _ _ _
    | _ => exact Agree.err _ _ _ _ _ _
  | obj pr l =>
    rw [pmatch, proj]
    cases v.v with
    | obj b =>
      dsimp only
      cases σ.getObj b with
      | none => exact Agree.crash _ _ _ _ _
      | some o => exact pmatchProps_agree pr _ _ _ _ _ _ _
    | _ => exact Agree.err _ _ _ _ _ _
theorem pmatchList_agree : (ps : PatList) → ∀ (c : Bool) (l : Loc) (xs : List SVal) (i len : Nat)
    (names : List (List Char)) (m : ScopeMap) (σ : State),
    Agree (pmatchList ps c l xs i len names m σ) names m (projList ps c xs i len σ) := fun ps c l xs i len names m σ => by
  cases ps with
  | nil =>
    rw [pmatchList, projList]; exact Agree.ok_nil names m σ
  | cons p r =>
    rw [pmatchList, projList]
    by_cases h1 : (c && decide (i = len - 1)) = true
    · rw [if_pos h1, if_pos h1]
      exact Agree.seq (pmatch_agree p _ _ _ _) (fun _ _ _ => pmatchList_agree r _ _ _ _ _ _ _ _)
    · rw [if_neg h1, if_neg h1]
      cases xs[i]? with
      | none => exact Agree.crash _ _ _ _ _
      | some v => exact Agree.seq (pmatch_agree p _ _ _ _) (fun _ _ _ => pmatchList_agree r _ _ _ _ _ _ _ _)
theorem pmatchProps_agree : (pr : PatProps) → ∀ (o : ObjMap) (i total : Nat) (rem : List (List Char))
    (names : List (List Char)) (m : ScopeMap) (σ : State),
    Agree (pmatchProps pr o i total rem names m σ) names m (projProps pr o i total rem σ) := fun pr o i total rem names m σ => by
  cases pr with
  | nil =>
    rw [pmatchProps, projProps]; exact Agree.ok_nil names m σ
  | short x l r =>
    rw [pmatchProps, projProps]
    refine Agree.seq ?_ (fun _ _ _ => pmatchProps_agree r _ _ _ _ _ _ _)
    by_cases hx : x = c!"_"
    · rw [if_pos hx, if_pos hx]; exact Agree.ok_nil names m σ
    · rw [if_neg hx, if_neg hx]
      cases objGet x o with
      | none => exact Agree.err _ _ _ _ _ _
      | some v => exact agree_mName names m σ x l v
  | pair k lk p r =>
    rw [pmatchProps, projProps]
    refine Agree.seq ?_ (fun _ _ _ => pmatchProps_agree r _ _ _ _ _ _ _)
    cases objGet k o with
    | none => exact Agree.err _ _ _ _ _ _
    | some v => exact pmatch_agree p _ _ _ _
  | rest x l r =>
    rw [pmatchProps, projProps]
    by_cases h1 : i ≠ total - 1
    · rw [if_pos h1, if_pos h1]; exact Agree.err _ _ _ _ _ _
    · rw [if_neg h1, if_neg h1]
      exact Agree.seq (agree_mName _ _ _ _ _ _) (fun _ _ _ => pmatchProps_agree r _ _ _ _ _ _ _)
end

theorem pmatch_ok_ext {p : Pat} {names : List (List Char)} {m : ScopeMap} {σ : State} {v : SVal}
    {N : List (List Char)} {M : ScopeMap} {S : State} (h : pmatch p names m σ v = .ok N M S) : PExt σ S := by
  obtain ⟨bs, e, _⟩ := (pmatch_agree p names m σ v N M S).mp h
  exact proj_ext p _ _ _ _ e

theorem mName_ok_state {names : List (List Char)} {m : ScopeMap} {σ : State} {x : List Char} {l : Loc} {v : SVal}
    {N : List (List Char)} {M : ScopeMap} {S : State} (h : mName names m σ x l v = .ok N M S) : S = σ := by
  obtain ⟨bs, e, _⟩ := (agree_mName names m σ x l v N M S).mp h
  exact projName_state e

theorem scopeLookup_append_of_not_mem {x : List Char} {m1 m : ScopeMap} (h : ∀ e ∈ m1, e.1 ≠ x) :
    scopeLookup x (m1 ++ m) = scopeLookup x m := by
  induction m1 with
  | nil => rfl
  | cons e r ih =>
    obtain ⟨k, v, l⟩ := e
    have hk : x ≠ k := fun e => h (k, v, l) List.mem_cons_self e.symm
    simp only [List.cons_append, scopeLookup, hk, if_false]
    exact ih fun e he => h e (List.mem_cons_of_mem _ he)

theorem FreshBs.lookup {bs : List Bnd} : ∀ {names : List (List Char)} {m : ScopeMap}, FreshBs names m bs →
    ∀ {x : List Char} {v : SVal} {l : Loc}, (x, v, l) ∈ bs → scopeLookup x (bs.reverse ++ m) = some (v, l) := by
  induction bs with
  | nil => intro _ _ _ _ _ _ h; cases h
  | cons b r ih =>
    intro names m hf x v l hm
    obtain ⟨y, w, k⟩ := b
    obtain ⟨_, _, h3⟩ := hf
    rw [List.reverse_cons, List.append_assoc, List.singleton_append]
    rcases List.mem_cons.mp hm with e | e
    · cases e
      have hne : ∀ e ∈ r.reverse, e.1 ≠ x := by
        intro e he hex
        have := ((FreshBs_iff r _ _).mp h3).2 e.1 (List.mem_map_of_mem (List.mem_reverse.mp he))
        exact this.1 (by rw [hex]; exact List.mem_cons_self)
      rw [scopeLookup_append_of_not_mem hne]
      simp [scopeLookup]
    · exact ih h3 e

theorem lookup_other {bs : List Bnd} {m : ScopeMap} {x : List Char} (h : ∀ b ∈ bs, b.1 ≠ x) :
    scopeLookup x (bs.reverse ++ m) = scopeLookup x m :=
  scopeLookup_append_of_not_mem fun e he => h e (List.mem_reverse.mp he)

end Seed.C13N
