/-
  C13Obj.lean — object patterns: the remaining-key bookkeeping, the collected rest, and the property loop
  of `bindObject` for patterns whose targets are names (`{a, "k": b, ..rest}`).
-/
import SeedProofs.Lemmas.C13Bind
namespace Seed

theorem remaining_fold (all used : List (List Char)) :
    used.foldl (fun rem p => rem.filter fun k => k ≠ p) all = all.filter fun k => !used.contains k := by
  induction used generalizing all with
  | nil => exact (List.filter_eq_self.mpr fun _ _ => rfl).symm
  | cons p r ih =>
    rw [List.foldl_cons, ih, List.filter_filter]
    apply List.filter_congr
    intro k _
    by_cases h : k = p <;> simp [h]

def restObj (m : ObjMap) (used : List (List Char)) : ObjMap := m.filter fun kv => !used.contains kv.1

def namedObj (m : ObjMap) (used : List (List Char)) : ObjMap := m.filter fun kv => used.contains kv.1

/-- what `bindObject` computes (a filter by the remaining-key list, itself derived from the keys of `m`) is `restObj` -/
theorem rest_filter_eq (m : ObjMap) (used : List (List Char)) :
    (m.filter fun kv => ((m.map Prod.fst).filter fun k => !used.contains k).contains kv.1) = restObj m used := by
  apply List.filter_congr
  intro kv hkv
  rw [Bool.eq_iff_iff, List.contains_iff_mem, List.mem_filter]
  exact and_iff_right (List.mem_map_of_mem hkv)

theorem objGet_restObj (m : ObjMap) (used : List (List Char)) (k : List Char) :
    objGet k (restObj m used) = if used.contains k then none else objGet k m := by
  have := objGet_filter_key (fun k => !used.contains k) k m
  unfold restObj
  rw [this]
  cases used.contains k <;> simp

theorem objGet_namedObj (m : ObjMap) (used : List (List Char)) (k : List Char) :
    objGet k (namedObj m used) = if used.contains k then objGet k m else none :=
  objGet_filter_key (fun k => used.contains k) k m

theorem restObj_sorted {m : ObjMap} (h : Sorted m) (used : List (List Char)) : Sorted (restObj m used) := h.filter _

/-- a property of a pattern whose target is a name: shorthand `x` or rename `"key": x` -/
inductive NamedProp where
  | short (x : List Char) (l : Loc)
  | pair (key : List Char) (lk : Loc) (x : List Char) (l : Loc)

def NamedProp.key : NamedProp → List Char
  | .short x _ => x
  | .pair k _ _ _ => k
def NamedProp.var : NamedProp → List Char × Loc
  | .short x l => (x, l)
  | .pair _ _ x l => (x, l)
def NamedProp.item : NamedProp → PropItem
  | .short x l => .Single (.mk (.Var x) l) false false
  | .pair k lk x l => .Pair (.mk (.Str k none) lk) (.mk (.Var x) l)

theorem bindObjectProp_var {n : Nat} {σ : State} {b : Addr} {m : ObjMap} {v : SVal} (sc : List Addr) (names : List (List Char))
    (x : List Char) (l : Loc) (pname : List Char) (ploc : Loc) (decl : Bool)
    (hb : σ.getObj b = some m) (hv : objGet pname m = some v) :
    bindObjectProp (n + 2) σ sc names (.mk (.Var x) l) b pname ploc decl = bindNextName 0 σ sc names x l v none decl := by
  rw [bindObjectProp]
  simp only [hb, hv]
  rw [bindNext_var, bindNextName_fuel _ 0]

theorem bindObject_nil (n : Nat) (σ : State) (sc : List Addr) (names : List (List Char)) (b : Addr) (decl : Bool)
    (i total : Nat) (rem : List (List Char)) : bindObject (n + 1) σ sc names [] b decl i total rem = .ok names σ := by
  rw [bindObject]

theorem evalToStr_lit (n : Nat) (σ : State) (sc : List Addr) (d : List Char) (k : List Char) (lk : Loc)
    (hname : utf8Decode (utf8Encode k) = .ok k) :
    evalToStr (n + 2) σ sc d (.mk (.Str k none) lk) = .ok k σ := by
  rw [evalToStr, evalExpr]
  simp only [Res.bind, SVal.plain, hname]

theorem bindObject_named_step {n : Nat} {σ : State} {b : Addr} {m : ObjMap} {v : SVal} (sc : List Addr)
    (names : List (List Char)) (p : NamedProp) (r : List PropItem) (decl : Bool) (i total : Nat) (rem : List (List Char))
    (hk : p.key ≠ c!"_") (hname : utf8Decode (utf8Encode p.key) = .ok p.key)
    (hb : σ.getObj b = some m) (hv : objGet p.key m = some v) :
    bindObject (n + 3) σ sc names (p.item :: r) b decl i total rem =
      (bindNextName 0 σ sc names p.var.1 p.var.2 v none decl).bind fun names' σ1 =>
        bindObject (n + 2) σ1 sc names' r b decl (i + 1) total (rem.filter fun k => k ≠ p.key) := by
  cases p with
  | short x l =>
    simp only [NamedProp.item, NamedProp.key, NamedProp.var] at *
    rw [bindObject]
    simp only [Bool.false_eq_true, if_false, Expr.raw, Expr.loc, hk]
    rw [bindObjectProp_var sc names x l x l decl hb hv]
    rfl
  | pair k lk x l =>
    simp only [NamedProp.item, NamedProp.key, NamedProp.var] at *
    rw [bindObject, evalToStr_lit _ _ _ _ _ _ hname]
    simp only [Res.bind, Expr.loc]
    rw [bindObjectProp_var sc names x l k lk decl hb hv]
    rfl

/-- the reference for a row of named properties: the values are the source's properties under the keys -/
def NamedRow (m : ObjMap) : List NamedProp → List SVal → Prop
  | [], [] => True
  | p :: ps, v :: vs => p.key ≠ c!"_" ∧ utf8Decode (utf8Encode p.key) = .ok p.key ∧ objGet p.key m = some v ∧ NamedRow m ps vs
  | _, _ => False

theorem bindObject_named {σ : State} {b : Addr} {m : ObjMap} (sc : List Addr) (decl : Bool) (total : Nat)
    (ps : List NamedProp) (vals : List SVal) (tail : List PropItem) (names : List (List Char)) (i k : Nat)
    (rem : List (List Char)) (hb : σ.getObj b = some m) (hrow : NamedRow m ps vals) :
    bindObject (ps.length + (k + 2)) σ sc names (ps.map NamedProp.item ++ tail) b decl i total rem =
      (bindVars σ sc names decl ((ps.map NamedProp.var).zip vals)).bind fun names' σ1 =>
        bindObject (k + 2) σ1 sc names' tail b decl (i + ps.length) total
          (rem.filter fun key => !(ps.map NamedProp.key).contains key) := by
  induction ps generalizing σ vals names i rem with
  | nil =>
    cases vals with
    | cons _ _ => exact absurd hrow id
    | nil =>
      simp only [List.map_nil, List.nil_append, List.length_nil, Nat.zero_add, List.zip_nil_left, bindVars, Res.bind,
        Nat.add_zero]
      congr 1
      exact (List.filter_eq_self.mpr fun _ _ => rfl).symm
  | cons p ps ih =>
    cases vals with
    | nil => exact absurd hrow id
    | cons v vs =>
      obtain ⟨hk, hname, hv, hrest⟩ := hrow
      have e1 : (p :: ps).length + (k + 2) = (ps.length + k) + 3 := by simp only [List.length_cons]; omega
      rw [e1, List.map_cons, List.cons_append, bindObject_named_step sc names p _ decl i total rem hk hname hb hv]
      simp only [List.map_cons, List.zip_cons_cons, bindVars]
      rw [Res.bind_assoc]
      refine Res.bind_congr rfl fun names' σ1 hres => ?_
      have hb1 : σ1.getObj b = some m := by rw [(bindNextName_heap hres).2.1 b]; exact hb
      have e2 : ps.length + k + 2 = ps.length + (k + 2) := by omega
      rw [e2, ih vs names' (i + 1) _ hb1 hrest, List.filter_filter]
      have e3 : i + 1 + ps.length = i + (p :: ps).length := by simp only [List.length_cons]; omega
      rw [e3]
      congr 2
      funext names'' σ2
      congr 1
      apply List.filter_congr
      intro key _
      by_cases hkey : key = p.key <;> simp [hkey]

theorem bindObject_collect {n : Nat} {σ : State} {b : Addr} {m : ObjMap} (sc : List Addr) (names : List (List Char))
    (x : List Char) (l : Loc) (decl : Bool) (total : Nat) (rem : List (List Char)) (hb : σ.getObj b = some m) :
    bindObject (n + 2) σ sc names [.Single (.mk (.Var x) l) false true] b decl (total - 1) total rem =
      bindNextName 0 (σ.alloc (.obj (m.filter fun kv => rem.contains kv.1))).2 sc names x l
        (SVal.plain (.obj σ.heap.size)) none decl := by
  rw [bindObject]
  simp only [Bool.false_eq_true, if_false, Expr.raw, if_true, ne_eq, not_true_eq_false, hb, State.alloc, Expr.loc]
  rw [bindNextName_fuel _ 0]
  simp only [bindObject_nil, Res.bind_pure]

end Seed
