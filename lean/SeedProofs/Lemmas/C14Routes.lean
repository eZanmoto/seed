/-
  C14Routes.lean — more routes along which a function value keeps (and a container does NOT lend) its `this`
  provenance (`SVal.src`):

    (1) `xs[i]` on a LIST returns the stored `SVal` — value and `src` — whatever `src` the list value itself carries
        (`b.handlers[0]`: the list was read from `b`, its items get nothing from that);
    (2) a spread item `xs..` of a list literal / an argument list appends the stored items unchanged;
    (4) a range read `xs[a:b]` builds a fresh list of the stored items unchanged;
    `toPairs` on a list pairs every index with the stored item unchanged (used by (3), C14Routes2.lean).

  Each with the call that follows (`callBindings … s …` where `s` is the `src` the item was STORED with: `this := t`
  for `s = some t`, no `this` binding for `s = none`).  The `for` route (3) is in C14Routes2.lean, the composed statements
  (5) and the whole-program examples in C14Routes3.lean.
-/
import SeedProofs.Lemmas.C14This
import SeedProofs.Lemmas.C14ThisPat
import SeedProofs.Lemmas.C11Prog3
import SeedProofs.C11
import SeedProofs.Global
namespace Seed.C14R
open Seed Gen

/-! ## example state -/

/-- `fn who() { return this.name; }` closed over the global scope -/
def frWho : FuncRec :=
  ⟨some c!"who", [], false,
    [.Return (1, 11) (.mk (.Prop (.mk (.Var c!"this") (1, 18)) c!"name" false) (1, 22))], [0]⟩

/-- `fn ap(f) { return f(); }` -/
def frAp : FuncRec :=
  ⟨some c!"ap", [.mk (.Var c!"f") (2, 6)], false,
    [.Return (2, 11) (.mk (.Call (.mk (.Var c!"f") (2, 18)) []) (2, 19))], [0]⟩

def msR : ScopeMap :=
  [(c!"who", SVal.plain (.func 1), (1, 3)), (c!"a", SVal.plain (.obj 2), (3, 0)),
   (c!"queue", SVal.plain (.list 3), (4, 0)), (c!"b", SVal.plain (.obj 4), (5, 0)),
   (c!"ap", SVal.plain (.func 5), (2, 3))]

/-- scope 0: `who ↦ func 1`, `a ↦ object 2`, `queue ↦ list 3`, `b ↦ object 4`, `ap ↦ func 5`;
    object 2 = `a = {"name": "a", "who": who}`;
    list 3 = `queue = [a.who, who]` — the first item was read from `a` (stored with `src = a`), the second never from an
    object (`src = none`);
    object 4 = `b = {"handlers": queue, "name": "b"}` -/
def σr : State :=
  ⟨#[.scope msR,
     .func frWho,
     .obj [(c!"name", SVal.plain (.str (utf8Encode c!"a"))), (c!"who", ⟨.func 1, none⟩)],
     .list [⟨.func 1, some (.obj 2)⟩, ⟨.func 1, none⟩],
     .obj [(c!"handlers", SVal.plain (.list 3)), (c!"name", SVal.plain (.str (utf8Encode c!"b")))],
     .func frAp], []⟩

def eB : Expr := .mk (.Var c!"b") (6, 0)
def eQ : Expr := .mk (.Var c!"queue") (6, 0)
def eHandlers : Expr := .mk (.Prop eB c!"handlers" false) (6, 1)
def eInt (k : Int) : Expr := .mk (.Int k) (6, 11)

theorem σr_b (n : Nat) : evalExpr (n + 1) σr [0] eB = .ok (SVal.plain (.obj 4)) σr := by
  rw [eB, evalExpr]; rfl
theorem σr_q (n : Nat) : evalExpr (n + 1) σr [0] eQ = .ok (SVal.plain (.list 3)) σr := by
  rw [eQ, evalExpr]; rfl
theorem σr_list : σr.getList 3 = some [⟨.func 1, some (.obj 2)⟩, ⟨.func 1, none⟩] := by rfl
theorem σr_obj4 : σr.getObj 4 =
    some [(c!"handlers", SVal.plain (.list 3)), (c!"name", SVal.plain (.str (utf8Encode c!"b")))] := by rfl
theorem σr_who : σr.getFunc 1 = some frWho := by rfl

theorem int_index (n : Nat) (σ : State) (sc : List Addr) (k : Nat) (l : Loc) :
    evalToIndex (n + 3) σ sc (.mk (.Int (Int.ofNat k)) l) = .ok k σ := by
  rw [evalToIndex, evalToInt, evalExpr]
  simp [Res.bind, SVal.plain]
  intro h; omega

theorem eInt_index (n : Nat) (σ : State) (sc : List Addr) (k : Nat) :
    evalToIndex (n + 3) σ sc (eInt (Int.ofNat k)) = .ok k σ :=
  int_index n σ sc k (6, 11)

/-- **`e[ix]` on a list**, as one equation: the stored item itself — the `SVal` with the `src` it was stored with — or
    the bounds error.  The list VALUE `lv` enters only through its address: its own `src` (`some b` when the list was
    read as `b.handlers`) is not attached to the item, and the item's `src` is not cleared. -/
theorem index_list_spec {n : Nat} {σ σ1 σ2 : State} {sc : List Addr} {ex ix : Expr} (loc : Loc) {lv : SVal} {a : Addr}
    {items : List SVal} {i : Nat}
    (h : evalExpr n σ sc ex = .ok lv σ1) (hlv : lv.v = .list a)
    (hi : evalToIndex n σ1 sc ix = .ok i σ2) (hl : σ2.getList a = some items) :
    evalExpr (n + 1) σ sc (.mk (.Index ex ix) loc) =
      match items[i]? with
      | some v => .ok v σ2
      | none => errAt loc (Leaf.OutOfListBounds i) σ2 := by
  rw [evalExpr, h]
  simp only [Res.bind, hlv, hi, hl]
  cases items[i]? <;> rfl

/-- **(1) reading `xs[i]` from a list returns exactly the stored `SVal`**: value AND `src` -/
theorem index_list_returns_stored_item {n : Nat} {σ σ1 σ2 : State} {sc : List Addr} {ex ix : Expr} (loc : Loc) {lv : SVal}
    {a : Addr} {items : List SVal} {i : Nat} {v : SVal}
    (h : evalExpr n σ sc ex = .ok lv σ1) (hlv : lv.v = .list a)
    (hi : evalToIndex n σ1 sc ix = .ok i σ2) (hl : σ2.getList a = some items) (hv : items[i]? = some v) :
    evalExpr (n + 1) σ sc (.mk (.Index ex ix) loc) = .ok v σ2 := by
  rw [index_list_spec loc h hlv hi hl, hv]

/-- `queue[0]` is the item stored with source `a`; `queue[1]` the one stored without a source -/
example : evalExpr 5 σr [0] (.mk (.Index eQ (eInt 0)) (6, 5)) = .ok ⟨.func 1, some (.obj 2)⟩ σr ∧
    evalExpr 5 σr [0] (.mk (.Index eQ (eInt 1)) (6, 5)) = .ok ⟨.func 1, none⟩ σr :=
  ⟨index_list_returns_stored_item (6, 5) (σr_q 3) rfl (eInt_index 1 σr [0] 0) σr_list rfl,
   index_list_returns_stored_item (6, 5) (σr_q 3) rfl (eInt_index 1 σr [0] 1) σr_list rfl⟩

/-- **`b.name[ix]`, end to end**: `b.name` is a list cell `a` held by the object `ob`.  The intermediate value — the
    list — carries `src = some ob` (first conjunct), and the item read from it is nevertheless the stored `SVal` `v`,
    with the `src` it was stored with: `some t` for a method read from `t` before it was put in the list, `none` for a
    function that was never read from an object.  The object `ob` is NOT the item's source. -/
theorem index_list_through_prop {n : Nat} {σ σ1 σ2 : State} {sc : List Addr} {eb ix : Expr} (lp loc : Loc) {bv hv : SVal}
    {ob a : Addr} {m : ObjMap} {name : List Char} {items : List SVal} {i : Nat} {v : SVal}
    (hb : evalExpr n σ sc eb = .ok bv σ1) (hbv : bv.v = .obj ob) (hm : σ1.getObj ob = some m)
    (hk : objGet name m = some hv) (hhv : hv.v = .list a)
    (hi : evalToIndex (n + 1) σ1 sc ix = .ok i σ2) (hl : σ2.getList a = some items) (hit : items[i]? = some v) :
    evalExpr (n + 1) σ sc (.mk (.Prop eb name false) lp) = .ok ⟨.list a, some (.obj ob)⟩ σ1 ∧
    evalExpr (n + 2) σ sc (.mk (.Index (.mk (.Prop eb name false) lp) ix) loc) = .ok v σ2 := by
  have hp : evalExpr (n + 1) σ sc (.mk (.Prop eb name false) lp) = .ok ⟨.list a, some (.obj ob)⟩ σ1 := by
    rw [prop_read_src lp hb hbv hm hk, hhv]
  exact ⟨hp, index_list_returns_stored_item loc hp rfl hi hl hit⟩

/-- `b.handlers` has source `b` (object 4); `b.handlers[0]` has source `a` (object 2), `b.handlers[1]` none -/
example : evalExpr 4 σr [0] eHandlers = .ok ⟨.list 3, some (.obj 4)⟩ σr ∧
    evalExpr 5 σr [0] (.mk (.Index eHandlers (eInt 0)) (6, 10)) = .ok ⟨.func 1, some (.obj 2)⟩ σr ∧
    evalExpr 5 σr [0] (.mk (.Index eHandlers (eInt 1)) (6, 10)) = .ok ⟨.func 1, none⟩ σr := by
  have h0 := index_list_through_prop (name := c!"handlers") (6, 1) (6, 10) (σr_b 2) rfl σr_obj4 (by rfl) rfl
    (eInt_index 1 σr [0] 0) σr_list rfl
  have h1 := index_list_through_prop (name := c!"handlers") (6, 1) (6, 10) (σr_b 2) rfl σr_obj4 (by rfl) rfl
    (eInt_index 1 σr [0] 1) σr_list rfl
  exact ⟨h0.1, h0.2, h1.2⟩

/-- what the body of a call sees for a callee value whose source is `s`: `this = t` for `s = some t` (`BodyThis`);
    for `s = none` the binding list is parameters × values only, and — unless a parameter pattern binds the name
    `this` — `this` resolves through the closure chain alone in the state the body starts in -/
def CalleeThis (σ3 : State) (fr : FuncRec) (pv : List SVal) (s : Option Val) (loc : Loc) : Prop :=
  (∀ t, s = some t → BodyThis σ3 fr pv (some t) loc t) ∧
  (s = none →
    callBindings fr pv s loc = fr.args.zip pv ∧
    ((∀ p ∈ fr.args, c!"this" ∉ patVars p) → ∀ k σb,
      declareAll k (σ3.alloc (.scope [])).2 (σ3.heap.size :: fr.closure) (fr.args.zip pv) = .ok () σb →
      scopeGet σb (σ3.heap.size :: fr.closure) c!"this" = scopeGet σb fr.closure c!"this" ∧
      (scopeGet σb fr.closure c!"this" = none → ∀ j l,
        evalExpr (j + 1) σb (σ3.heap.size :: fr.closure) (.mk (.Var c!"this") l) =
          errAt l (Leaf.Undefined c!"this") σb)))

theorem calleeThis (σ3 : State) (fr : FuncRec) (pv : List SVal) (s : Option Val) (loc : Loc) :
    CalleeThis σ3 fr pv s loc := by
  refine ⟨fun t ht => ht ▸ bodyThis σ3 fr pv loc t, fun hs => ?_⟩
  subst hs
  exact ⟨rfl, fun hno k σb hd => ⟨(body_without_this hno hd).1, (body_without_this hno hd).2.1⟩⟩

/-- **`e[ix](args)` with `e` a list.**  Arguments first (`σ → σ1`), then `e` (`σ1 → σ2`, a list cell `a`, carrying ANY
    source), then the index (`σ2 → σ3`).  If position `i` of the list holds a user function stored with source `s`, the
    call runs that function's body with `callBindings … s …`: `this` is the object the function had been read from
    before it was put in the list (`s = some t`), or there is no `this` binding (`s = none`).  The list's own source
    plays no role. -/
theorem call_list_item {n : Nat} {σ σ1 σ2 σ3 : State} {sc : List Addr} {ex ix : Expr} {args : List ListItem}
    {argVals : List SVal} {lv : SVal} {a fa : Addr} {items : List SVal} {i : Nat} {s : Option Val} {fr : FuncRec}
    (l loc : Loc)
    (hargs : evalListItems (n + 1) σ sc args [] = .ok argVals σ1)
    (hx : evalExpr n σ1 sc ex = .ok lv σ2) (hlv : lv.v = .list a)
    (hi : evalToIndex n σ2 sc ix = .ok i σ3) (hl : σ3.getList a = some items) (hit : items[i]? = some ⟨.func fa, s⟩)
    (hfr : σ3.getFunc fa = some fr) (hok : arityOk fr.collect fr.args.length argVals.length = true) :
    evalCall (n + 2) σ sc (.mk (.Index ex ix) l) args loc =
      ((evalBlock (n + 1) (callPlainVals σ3 fr argVals).2 fr.closure
          (callBindings fr (callPlainVals σ3 fr argVals).1 s loc) fr.stmts).mapErr
        (Err.funcCall fr.name loc)).bind finishCall ∧
    CalleeThis (callPlainVals σ3 fr argVals).2 fr (callPlainVals σ3 fr argVals).1 s loc :=
  ⟨evalCall_func_ok loc hargs (index_list_returns_stored_item l hx hlv hi hl hit) rfl hfr hok, calleeThis _ _ _ _ _⟩

/-- **`b.name[ix](args)`**: `this` is NOT `b` — it is what the item was stored with -/
theorem call_handlers_item {n : Nat} {σ σ1 σ2 σ3 : State} {sc : List Addr} {eb ix : Expr} {args : List ListItem}
    {argVals : List SVal} {bv hv : SVal} {ob a fa : Addr} {m : ObjMap} {name : List Char} {items : List SVal} {i : Nat}
    {s : Option Val} {fr : FuncRec} (lp l loc : Loc)
    (hargs : evalListItems (n + 2) σ sc args [] = .ok argVals σ1)
    (hb : evalExpr n σ1 sc eb = .ok bv σ2) (hbv : bv.v = .obj ob) (hm : σ2.getObj ob = some m)
    (hk : objGet name m = some hv) (hhv : hv.v = .list a)
    (hi : evalToIndex (n + 1) σ2 sc ix = .ok i σ3) (hl : σ3.getList a = some items)
    (hit : items[i]? = some ⟨.func fa, s⟩)
    (hfr : σ3.getFunc fa = some fr) (hok : arityOk fr.collect fr.args.length argVals.length = true) :
    evalCall (n + 3) σ sc (.mk (.Index (.mk (.Prop eb name false) lp) ix) l) args loc =
      ((evalBlock (n + 2) (callPlainVals σ3 fr argVals).2 fr.closure
          (callBindings fr (callPlainVals σ3 fr argVals).1 s loc) fr.stmts).mapErr
        (Err.funcCall fr.name loc)).bind finishCall ∧
    CalleeThis (callPlainVals σ3 fr argVals).2 fr (callPlainVals σ3 fr argVals).1 s loc :=
  call_list_item l loc hargs (index_list_through_prop lp l hb hbv hm hk hhv hi hl hit).1 rfl hi hl hit hfr hok

/-- `b.handlers[0]()` runs `who` with `this := a` (object 2); `b.handlers[1]()` runs it with no binding at all -/
example :
    evalCall 6 σr [0] (.mk (.Index eHandlers (eInt 0)) (6, 10)) [] (6, 13) =
      ((evalBlock 5 σr [0] [(.mk (.Var c!"this") (6, 13), SVal.plain (.obj 2))] frWho.stmts).mapErr
        (Err.funcCall (some c!"who") (6, 13))).bind finishCall ∧
    evalCall 6 σr [0] (.mk (.Index eHandlers (eInt 1)) (6, 10)) [] (6, 13) =
      ((evalBlock 5 σr [0] [] frWho.stmts).mapErr (Err.funcCall (some c!"who") (6, 13))).bind finishCall :=
  ⟨(call_handlers_item (6, 1) (6, 10) (6, 13) (evalListItems_nil 4 σr [0] []) (σr_b 2) rfl σr_obj4 (by rfl) rfl
      (eInt_index 1 σr [0] 0) σr_list rfl σr_who (by decide)).1,
   (call_handlers_item (6, 1) (6, 10) (6, 13) (evalListItems_nil 4 σr [0] []) (σr_b 2) rfl σr_obj4 (by rfl) rfl
      (eInt_index 1 σr [0] 1) σr_list rfl σr_who (by decide)).1⟩

/-- … and the results: `"a"` (with source `a`), and `'this' is not defined` -/
example : evalCall 9 σr [0] (.mk (.Index eHandlers (eInt 0)) (6, 10)) [] (6, 13) =
      .ok ⟨.str (utf8Encode c!"a"), some (.obj 2)⟩
        (((σr.alloc (.scope [])).2).set 6 (.scope [(c!"this", SVal.plain (.obj 2), (6, 13))])) ∧
    ∃ σ', evalCall 9 σr [0] (.mk (.Index eHandlers (eInt 1)) (6, 10)) [] (6, 13) =
      .err (.funcCall (some c!"who") (6, 13) (Err.at (1, 18) (Leaf.Undefined c!"this"))) σ' :=
  ⟨by with_unfolding_all rfl, _, by with_unfolding_all rfl⟩

/-- **(2) a spread item `e..` appends the stored items of the list `e` denotes, unchanged** — the `SVal`s themselves,
    value and `src`; nothing is re-wrapped, the list's own source is not attached -/
theorem spread_keeps_item_src {n : Nat} {σ σ1 : State} {sc : List Addr} {e : Expr} {lv : SVal} {a : Addr}
    {xs : List SVal} (r : List ListItem) (acc : List SVal)
    (h : evalExpr n σ sc e = .ok lv σ1) (hlv : lv.v = .list a) (hl : σ1.getList a = some xs) :
    evalListItems (n + 1) σ sc (.mk e true :: r) acc = evalListItems n σ1 sc r (acc ++ xs) ∧
    ∀ j, (acc ++ xs)[acc.length + j]? = xs[j]? :=
  ⟨evalListItems_cons_spread r acc h hlv hl, fun j => by rw [List.getElem?_append_right (by omega)]; congr 1; omega⟩

theorem spread_last {n : Nat} {σ σ1 : State} {sc : List Addr} {e : Expr} {lv : SVal} {a : Addr}
    {xs : List SVal} (acc : List SVal)
    (h : evalExpr n σ sc e = .ok lv σ1) (hlv : lv.v = .list a) (hl : σ1.getList a = some xs) :
    evalListItems (n + 1) σ sc [.mk e true] acc = .ok (acc ++ xs) σ1 := by
  obtain ⟨k, rfl⟩ := evalExpr_ok_pos h
  rw [(spread_keeps_item_src [] acc h hlv hl).1, evalListItems_nil]

/-- `[queue..]` evaluates its items to the two stored values, sources included -/
example : evalListItems 5 σr [0] [.mk eQ true] [] = .ok [⟨.func 1, some (.obj 2)⟩, ⟨.func 1, none⟩] σr :=
  spread_last [] (σr_q 3) rfl σr_list

/-- **`[e..]`**: a fresh list cell holding the stored items of `e`'s list unchanged -/
theorem list_literal_spread {n : Nat} {σ σ1 : State} {sc : List Addr} {e : Expr} {lv : SVal} {a : Addr}
    {xs : List SVal} (loc : Loc)
    (h : evalExpr n σ sc e = .ok lv σ1) (hlv : lv.v = .list a) (hl : σ1.getList a = some xs) :
    evalExpr (n + 2) σ sc (.mk (.List [.mk e true] false) loc) =
      .ok (SVal.plain (.list σ1.heap.size)) (σ1.alloc (.list xs)).2 ∧
    (σ1.alloc (.list xs)).2.getList σ1.heap.size = some xs := by
  refine ⟨?_, getList_alloc_new σ1 xs⟩
  rw [evalExpr]
  simp only [Bool.false_eq_true, if_false]
  rw [spread_last [] h hlv hl]
  rfl

example : evalExpr 6 σr [0] (.mk (.List [.mk eQ true] false) (7, 0)) =
    .ok (SVal.plain (.list 6)) (σr.alloc (.list [⟨.func 1, some (.obj 2)⟩, ⟨.func 1, none⟩])).2 :=
  (list_literal_spread (7, 0) (σr_q 3) rfl σr_list).1

/-- the argument lists `x[0], …, x[c-1]` for a variable `x` (as in C13) -/
def indexArgs (x : List Char) (l : Loc) : Nat → Nat → List ListItem
  | _, 0 => []
  | i, c + 1 => .mk (.mk (.Index (.mk (.Var x) l) (.mk (.Int (Int.ofNat i)) l)) l) false :: indexArgs x l (i + 1) c

theorem indexArgs_eval {σ : State} {sc : List Addr} {x : List Char} {vx : SVal} {ax : Addr} {xs : List SVal} (l : Loc)
    (hx : scopeGet σ sc x = some vx) (hvx : vx.v = .list ax) (hax : σ.getList ax = some xs) (c i d : Nat)
    (hic : i + c ≤ xs.length) (acc : List SVal) :
    evalListItems (c + 5 + d) σ sc (indexArgs x l i c) acc = .ok (acc ++ (xs.drop i).take c) σ := by
  induction c generalizing i acc with
  | zero =>
    have e : 0 + 5 + d = (d + 4) + 1 := by omega
    rw [e, indexArgs, evalListItems_nil]; simp
  | succ c ih =>
    have hi : i < xs.length := by omega
    have e : c + 1 + 5 + d = (c + 5 + d) + 1 := by omega
    have e2 : c + 5 + d = (c + d + 1 + 3) + 1 := by omega
    rw [e, indexArgs, evalListItems_cons_plain]
    conv => lhs; arg 1; rw [e2]
    rw [index_list_returns_stored_item l (evalExpr_var (c + d + 1 + 2) l hx) hvx (int_index (c + d + 1) σ sc i l) hax
      (List.getElem?_eq_getElem hi)]
    simp only [Res.bind]
    rw [ih (i + 1) (by omega), List.append_assoc]
    congr 2
    rw [List.drop_eq_getElem_cons hi, List.take_succ_cons]
    rfl

/-- **`f(x..)` receives the same argument values — the same `SVal`s, `src` included — as `f(x[0], …, x[n-1])`**, for a
    list variable `x`; the state is unchanged by both, so the two calls proceed identically from there.  (This is
    `C13.call_spread` — whose argument values are `SVal`s, hence already include `src` — restated here with the
    per-position reading: argument `j` IS the stored item `j`.) -/
theorem spread_args_eq_index_args {σ : State} {sc : List Addr} {x : List Char} {vx : SVal} {ax : Addr} {xs : List SVal}
    (l : Loc) (d : Nat)
    (hx : scopeGet σ sc x = some vx) (hvx : vx.v = .list ax) (hax : σ.getList ax = some xs) :
    evalListItems (d + 3) σ sc [.mk (.mk (.Var x) l) true] [] = .ok xs σ ∧
    evalListItems (xs.length + 5 + d) σ sc (indexArgs x l 0 xs.length) [] = .ok xs σ := by
  constructor
  · simpa using spread_last [] (evalExpr_var (d + 1) l hx) hvx hax
  · simpa using indexArgs_eval l hx hvx hax xs.length 0 d (by omega) []

/-- `f(queue..)` and `f(queue[0], queue[1])` get the same two argument values: the first with source `a`, the second
    with none -/
example :
    evalListItems 3 σr [0] [.mk (.mk (.Var c!"queue") (8, 2)) true] [] =
      .ok [⟨.func 1, some (.obj 2)⟩, ⟨.func 1, none⟩] σr ∧
    evalListItems 7 σr [0] (indexArgs c!"queue" (8, 2) 0 2) [] = .ok [⟨.func 1, some (.obj 2)⟩, ⟨.func 1, none⟩] σr :=
  spread_args_eq_index_args (vx := SVal.plain (.list 3)) (8, 2) 0 (by rfl) rfl σr_list

/-- **`f(e..)`** (a single spread argument): the callee gets the stored items as its argument values, so a parameter
    bound to item `j` holds the `SVal` item `j` was stored as.  Stated for the call as a whole: with `e` a list of
    items `xs`, `f` a user function taking `xs.length` plain parameters (no rest parameter), the body runs with the
    binding list `params × xs`. -/
theorem call_spread_args {n : Nat} {σ σ1 σ2 : State} {sc : List Addr} {f e : Expr} {lv fv : SVal} {a pa : Addr}
    {xs : List SVal} {fr : FuncRec} (loc : Loc)
    (he : evalExpr n σ sc e = .ok lv σ1) (hlv : lv.v = .list a) (hl : σ1.getList a = some xs)
    (hf : evalExpr (n + 1) σ1 sc f = .ok fv σ2) (hfv : fv.v = .func pa) (hfr : σ2.getFunc pa = some fr)
    (hc : fr.collect = false) (hlen : fr.args.length = xs.length) :
    evalCall (n + 2) σ sc f [.mk e true] loc =
      ((evalBlock (n + 1) σ2 fr.closure (callBindings fr xs fv.src loc) fr.stmts).mapErr
        (Err.funcCall fr.name loc)).bind finishCall := by
  have hargs := spread_last [] he hlv hl
  rw [List.nil_append] at hargs
  rw [evalCall_func_ok loc hargs hf hfv hfr (by simp [arityOk, hc, hlen]), callPlainVals_no_rest xs hc]

example : evalCall 7 σr [0] (.mk (.Var c!"ap") (8, 0)) [.mk (.mk (.RangeIndex eQ none (some (eInt 1))) (8, 3)) true] (8, 2) =
    ((evalBlock 6 (σr.alloc (.list [⟨.func 1, some (.obj 2)⟩])).2 [0]
        [(.mk (.Var c!"f") (2, 6), ⟨.func 1, some (.obj 2)⟩)] frAp.stmts).mapErr
      (Err.funcCall (some c!"ap") (8, 2))).bind finishCall :=
  call_spread_args (xs := [⟨.func 1, some (.obj 2)⟩]) (fv := SVal.plain (.func 5)) (fr := frAp) (8, 2)
    (by with_unfolding_all rfl) rfl (by rfl) (by with_unfolding_all rfl) rfl (by rfl) rfl rfl

theorem slice_item (xs : List SVal) (lo len j : Nat) (hj : j < len) :
    ((xs.drop lo).take len)[j]? = xs[lo + j]? := by
  rw [List.getElem?_take_of_lt hj, List.getElem?_drop]

/-- **(4) `e[a:b]` on a list builds a fresh list whose items are the stored items unchanged** (value and `src`).
    This is `C11.eval_slice` — its items are the `SVal`s `(xs.drop lo).take (hi - lo)` — with the per-item reading:
    position `j` of the new cell is position `lo + j` of the source cell. -/
theorem slice_keeps_item_src {n : Nat} {σ σ1 σ2 σ3 : State} {sc : List Addr} {e : Expr} {start stop : Option Expr}
    (loc : Loc) {ra rb : Option Int} {a : Addr} {s : Option Val} {xs : List SVal}
    (hA : Bound n sc σ start ra σ1) (hB : Bound n sc σ1 stop rb σ2) (hra : NonNeg ra) (hrb : NonNeg rb)
    (he : evalExpr n σ2 sc e = .ok ⟨.list a, s⟩ σ3) (hxs : σ3.getList a = some xs)
    (hin : rangeLo ra ≤ rangeHi rb xs.length ∧ rangeHi rb xs.length ≤ xs.length) :
    evalExpr (n + 4) σ sc (.mk (.RangeIndex e start stop) loc) =
      .ok (SVal.plain (.list σ3.heap.size))
        (σ3.alloc (.list ((xs.drop (rangeLo ra)).take (rangeHi rb xs.length - rangeLo ra)))).2 ∧
    (σ3.alloc (.list ((xs.drop (rangeLo ra)).take (rangeHi rb xs.length - rangeLo ra)))).2.getList
        σ3.heap.size =
      some ((xs.drop (rangeLo ra)).take (rangeHi rb xs.length - rangeLo ra)) ∧
    ∀ j, j < rangeHi rb xs.length - rangeLo ra →
      ((xs.drop (rangeLo ra)).take (rangeHi rb xs.length - rangeLo ra))[j]? = xs[rangeLo ra + j]? := by
  have h := C11.eval_slice loc hA hB hra hrb he hxs
  refine ⟨by rw [h.1, if_pos hin], (h.2.2 _).1, fun j hj => slice_item xs _ _ j hj⟩

theorem eInt_eval (n : Nat) (σ : State) (sc : List Addr) (k : Int) :
    evalExpr (n + 1) σ sc (eInt k) = .ok ⟨.int k, none⟩ σ := by rw [eInt, evalExpr]; rfl

/-- `queue[0:1]` is a new cell 6 holding the first stored item, source `a` included; `queue[1:]` one holding the second,
    which has none -/
example :
    evalExpr 7 σr [0] (.mk (.RangeIndex eQ (some (eInt 0)) (some (eInt 1))) (8, 3)) =
      .ok (SVal.plain (.list 6)) (σr.alloc (.list [⟨.func 1, some (.obj 2)⟩])).2 ∧
    evalExpr 7 σr [0] (.mk (.RangeIndex eQ (some (eInt 1)) none) (8, 3)) =
      .ok (SVal.plain (.list 6)) (σr.alloc (.list [⟨.func 1, none⟩])).2 :=
  ⟨(slice_keeps_item_src (n := 3) (s := none) (8, 3) (.given (eInt_eval 2 σr [0] 0)) (.given (eInt_eval 2 σr [0] 1))
      (by decide) (by decide) (σr_q 2) σr_list (by decide)).1,
   (slice_keeps_item_src (n := 3) (s := none) (8, 3) (.given (eInt_eval 2 σr [0] 1)) (.omitted σr)
      (by decide) (by decide) (σr_q 2) σr_list (by decide)).1⟩

def pairsFrom (k : Nat) (items : List SVal) : List (SVal × SVal) :=
  (enumFrom k items).map fun (i, x) => (SVal.plain (.int (Int.ofNat i)), x)

/-- the pairs a `for` loop walks for a list: `(i, stored item i)` — the item is the stored `SVal` -/
def listPairs (items : List SVal) : List (SVal × SVal) :=
  (enumFrom 0 items).map fun (i, x) => (SVal.plain (.int (Int.ofNat i)), x)

theorem pairsFrom_cons (k : Nat) (x : SVal) (xs : List SVal) :
    pairsFrom k (x :: xs) = (SVal.plain (.int (Int.ofNat k)), x) :: pairsFrom (k + 1) xs := rfl

theorem pairsFrom_snd (k : Nat) (xs : List SVal) : (pairsFrom k xs).map Prod.snd = xs := by
  induction xs generalizing k with
  | nil => rfl
  | cons x r ih => rw [pairsFrom_cons, List.map_cons, ih]

theorem pairsFrom_get (k : Nat) (xs : List SVal) (j : Nat) :
    (pairsFrom k xs)[j]? = xs[j]?.map fun x => (SVal.plain (.int (Int.ofNat (k + j))), x) := by
  induction xs generalizing k j with
  | nil => rfl
  | cons x r ih =>
    cases j with
    | zero => rfl
    | succ j => rw [pairsFrom_cons, List.getElem?_cons_succ, List.getElem?_cons_succ, ih, Nat.add_right_comm, Nat.add_assoc]

/-- **`toPairs` on a list pairs every index with the stored item unchanged**: as many pairs as items, pair `j` is
    `(j, items[j])` with the key a plain integer and the value the stored `SVal` (value and `src`) -/
theorem toPairs_list_keeps_items {σ : State} {a : Addr} {items : List SVal} (h : σ.getList a = some items) :
    toPairs σ (.list a) = some (some (listPairs items)) ∧
    (listPairs items).length = items.length ∧
    (listPairs items).map Prod.snd = items ∧
    ∀ j, (listPairs items)[j]? = items[j]?.map fun x => (SVal.plain (.int (Int.ofNat j)), x) := by
  rw [show listPairs items = pairsFrom 0 items from rfl]
  refine ⟨by simp [toPairs, h, pairsFrom], ?_, pairsFrom_snd 0 items, fun j => ?_⟩
  · simpa using congrArg List.length (pairsFrom_snd 0 items)
  · simpa using pairsFrom_get 0 items j

example : toPairs σr (.list 3) =
    some (some [(SVal.plain (.int 0), ⟨.func 1, some (.obj 2)⟩), (SVal.plain (.int 1), ⟨.func 1, none⟩)]) :=
  (toPairs_list_keeps_items σr_list).1

theorem listPairs_cons (x : SVal) (xs : List SVal) :
    ∃ r, listPairs (x :: xs) = (SVal.plain (.int 0), x) :: r ∧ r.map Prod.snd = xs :=
  ⟨pairsFrom 1 xs, rfl, pairsFrom_snd 1 xs⟩

example : listPairs [⟨.func 1, some (.obj 2)⟩, ⟨.func 1, none⟩] =
    [(SVal.plain (.int 0), ⟨.func 1, some (.obj 2)⟩), (SVal.plain (.int 1), ⟨.func 1, none⟩)] := by decide

end Seed.C14R
