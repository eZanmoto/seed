/-
  C14Routes2.lean — (3) the `for` route: the first iteration of `for [i, v] in xs { … }` binds `v` to the stored `SVal`
  (value and `src`), so calling the loop variable in the body binds `this` to the object the stored function had been
  read from; stated through `evalFor` and through `evalStmt (.For …)`.
-/
import SeedProofs.Lemmas.C14Routes
namespace Seed.C14R
open Seed Gen

def pairPat (i : List Char) (li : Loc) (job : List Char) (lj lp : Loc) : Expr :=
  .mk (.List [.mk (.mk (.Var i) li) false, .mk (.mk (.Var job) lj) false] false) lp

/-- the scope `[i, job]` bound to `[k, v]` produces from the empty scope: `job ↦ v` — the `SVal` itself — and `i ↦ k`
    unless `i` is `_` -/
def pairScope (i : List Char) (li : Loc) (k : SVal) (job : List Char) (lj : Loc) (v : SVal) : ScopeMap :=
  if i = c!"_" then [(job, v, lj)] else [(job, v, lj), (i, k, li)]

theorem pairScope_job (i : List Char) (li : Loc) (k : SVal) (job : List Char) (lj : Loc) (v : SVal) :
    scopeLookup job (pairScope i li k job lj v) = some (v, lj) := by
  unfold pairScope; split <;> simp [scopeLookup]

/-- **binding `[i, job]` to a two-element list `[k, v]`** (declaration, into an empty innermost scope cell `A`): the
    cell becomes `pairScope`; `job` is bound to `v` itself, source included.  `job ≠ _` (otherwise nothing is bound) and
    `i ≠ job` (otherwise the binding fails: `'job' is bound twice`) are what make `job` name the item. -/
theorem bindNext_pair {σ : State} {A pa : Addr} {k v : SVal} (sc : List Addr) (i : List Char) (li : Loc)
    (job : List Char) (lj lp : Loc) (d : Nat)
    (hpa : σ.getList pa = some [k, v]) (hA : σ.getScope A = some []) (hjob : job ≠ c!"_") (hij : i ≠ job) :
    ∃ names, bindNext (d + 5) σ (A :: sc) [] (pairPat i li job lj lp) (SVal.plain (.list pa)) none true =
      .ok names (σ.set A (.scope (pairScope i li k job lj v))) := by
  have h0 : bindNext (d + 5) σ (A :: sc) [] (pairPat i li job lj lp) (SVal.plain (.list pa)) none true =
      bindList (d + 4) σ (A :: sc) [] [.mk (.mk (.Var i) li) false, .mk (.mk (.Var job) lj) false] false lp pa true 0 2 := by
    rw [pairPat, bindNext]
    simp [SVal.plain, hpa]
  have e : d + 4 = [(i, li), (job, lj)].length + 1 + (d + 1) := by simp only [List.length_cons, List.length_nil]; omega
  rw [h0, e, show [ListItem.mk (.mk (.Var i) li) false, .mk (.mk (.Var job) lj) false] = varItems [(i, li), (job, lj)] from rfl,
    bindList_vars (A :: sc) lp true 2 _ [] 0 (d + 1) hpa (by simp)]
  simp only [List.drop_zero, List.zip_cons_cons, List.zip_nil_right, bindVars]
  by_cases hi : i = c!"_"
  · subst hi
    rw [bindNextName_underscore]
    simp only [Res.bind]
    rw [bindNextName_declare lj v hjob (by simp) hA (by rfl)]
    exact ⟨[job], by simp [pairScope]⟩
  · rw [bindNextName_declare li k hi (by simp) hA (by rfl)]
    simp only [Res.bind]
    rw [bindNextName_declare lj v hjob (by simpa using Ne.symm hij) (getScope_set_same (getScope_lt hA) _)
      (by simp [scopeLookup, Ne.symm hij])]
    exact ⟨[job, i], by simp [State.set_set, pairScope, hi]⟩

/-- `[i, job]` against the pair list `[0, ⟨who, some a⟩]` (cell 6 of the state below) into the empty scope cell 7 -/
example : ∃ names,
    bindNext 5 ((σr.alloc (.list [SVal.plain (.int 0), ⟨.func 1, some (.obj 2)⟩])).2.alloc (.scope [])).2 [7, 0] []
        (pairPat c!"i" (9, 5) c!"job" (9, 8) (9, 4)) (SVal.plain (.list 6)) none true =
      .ok names (((σr.alloc (.list [SVal.plain (.int 0), ⟨.func 1, some (.obj 2)⟩])).2.alloc (.scope [])).2.set 7
        (.scope [(c!"job", ⟨.func 1, some (.obj 2)⟩, (9, 8)), (c!"i", SVal.plain (.int 0), (9, 5))])) :=
  bindNext_pair (k := SVal.plain (.int 0)) (v := ⟨.func 1, some (.obj 2)⟩) [0] c!"i" (9, 5) c!"job" (9, 8) (9, 4) 0
    (by rfl) (by rfl) (by decide) (by decide)

/-- without `i ≠ job` the binding fails (and `job` names nothing): `[x, x]` is `'x' is bound twice` -/
example : bindNext 5 ((σr.alloc (.list [SVal.plain (.int 0), ⟨.func 1, some (.obj 2)⟩])).2.alloc (.scope [])).2 [7, 0] []
    (pairPat c!"x" (9, 5) c!"x" (9, 8) (9, 4)) (SVal.plain (.list 6)) none true =
      errAt (9, 8) (Leaf.AlreadyInBinding c!"x")
        (((σr.alloc (.list [SVal.plain (.int 0), ⟨.func 1, some (.obj 2)⟩])).2.alloc (.scope [])).2.set 7
          (.scope [(c!"x", SVal.plain (.int 0), (9, 5))])) := by
  with_unfolding_all rfl

/-- and with `job = _` the item is bound to no name at all: the scope holds `i` only -/
example : ∃ names,
    bindNext 5 ((σr.alloc (.list [SVal.plain (.int 0), ⟨.func 1, some (.obj 2)⟩])).2.alloc (.scope [])).2 [7, 0] []
        (pairPat c!"i" (9, 5) c!"_" (9, 8) (9, 4)) (SVal.plain (.list 6)) none true =
      .ok names (((σr.alloc (.list [SVal.plain (.int 0), ⟨.func 1, some (.obj 2)⟩])).2.alloc (.scope [])).2.set 7
        (.scope [(c!"i", SVal.plain (.int 0), (9, 5))])) :=
  ⟨_, by with_unfolding_all rfl⟩

/-- the state in which the body of the iteration for the pair `(k, v)` starts when the loop is entered from `σ1`: the
    pair list `[k, v]` (cell `σ1.heap.size`), then the iteration's scope cell (`σ1.heap.size + 1`) holding `pairScope` -/
def forEntry (σ1 : State) (i : List Char) (li : Loc) (k : SVal) (job : List Char) (lj : Loc) (v : SVal) : State :=
  ((σ1.alloc (.list [k, v])).2.alloc (.scope [])).2.set (σ1.heap.size + 1) (.scope (pairScope i li k job lj v))

/-- what `evalFor` does with the outcome of an iteration's body -/
def forNext (n : Nat) (sc : List Addr) (lhs : Expr) (r : List (SVal × SVal)) (stmts : List Stmt) (esc : Escape)
    (σ2 : State) : Res Escape :=
  match esc with
  | .none => evalFor n σ2 sc lhs r stmts
  | .brk _ => .ok .none σ2
  | .cont _ => evalFor n σ2 sc lhs r stmts
  | .ret v l => .ok (.ret v l) σ2

theorem forEntry_scope (σ1 : State) (i : List Char) (li : Loc) (k : SVal) (job : List Char) (lj : Loc) (v : SVal) :
    (forEntry σ1 i li k job lj v).getScope (σ1.heap.size + 1) = some (pairScope i li k job lj v) := by
  unfold forEntry
  apply getScope_set_same
  rw [State.alloc_size, State.alloc_size]; exact Nat.lt_succ_self _

theorem forEntry_job (σ1 : State) (sc : List Addr) (i : List Char) (li : Loc) (k : SVal) (job : List Char) (lj : Loc)
    (v : SVal) : scopeGet (forEntry σ1 i li k job lj v) ((σ1.heap.size + 1) :: sc) job = some v :=
  scopeGet_head_hit sc (forEntry_scope σ1 i li k job lj v) (pairScope_job i li k job lj v)

theorem forEntry_old (σ1 : State) (i : List Char) (li : Loc) (k : SVal) (job : List Char) (lj : Loc) (v : SVal)
    {b : Addr} (hb : b < σ1.heap.size) : (forEntry σ1 i li k job lj v).heap[b]? = σ1.heap[b]? := by
  unfold forEntry
  have h1 : b ≠ σ1.heap.size + 1 := fun e => by
    rw [e] at hb; exact absurd hb (Nat.not_lt.mpr (Nat.le_succ _))
  have h2 : b < (σ1.alloc (.list [k, v])).2.heap.size := by
    rw [State.alloc_size]; exact Nat.lt_succ_of_lt hb
  rw [State.heap_set_other _ _ h1, State.alloc_heap_old _ _ h2, State.alloc_heap_old _ _ hb]

theorem forEntry_getFunc {σ1 : State} (i : List Char) (li : Loc) (k : SVal) (job : List Char) (lj : Loc) (v : SVal)
    {fa : Addr} {fr : FuncRec} (h : σ1.getFunc fa = some fr) : (forEntry σ1 i li k job lj v).getFunc fa = some fr := by
  rw [getFunc_eq_some] at h ⊢
  rw [forEntry_old _ _ _ _ _ _ _ (heap_lt_of_some h)]; exact h

/-- **one iteration of `for [i, job] in …`**: for the pair `(k, v)` the body runs in the state `forEntry`, on the chain
    `(σ1.heap.size + 1) :: sc`, where `job` resolves to `v` itself (`forEntry_job`) -/
theorem evalFor_pair_step (d : Nat) (σ1 : State) (sc : List Addr) (i : List Char) (li : Loc) (job : List Char)
    (lj lp : Loc) (k v : SVal) (r : List (SVal × SVal)) (stmts : List Stmt) (hjob : job ≠ c!"_") (hij : i ≠ job) :
    evalFor (d + 8) σ1 sc (pairPat i li job lj lp) ((k, v) :: r) stmts =
      (evalStmts (d + 6) (forEntry σ1 i li k job lj v) ((σ1.heap.size + 1) :: sc) stmts).bind
        (forNext (d + 7) sc (pairPat i li job lj lp) r stmts) := by
  have hsz : (σ1.alloc (.list [k, v])).2.heap.size = σ1.heap.size + 1 := State.alloc_size _ _
  have hpa : ((σ1.alloc (.list [k, v])).2.alloc (.scope [])).2.getList σ1.heap.size = some [k, v] :=
    getList_alloc_old _ (getList_alloc_new σ1 [k, v])
  have hA : ((σ1.alloc (.list [k, v])).2.alloc (.scope [])).2.getScope (σ1.heap.size + 1) = some [] := by
    rw [← hsz]; exact getScope_alloc_new _ []
  obtain ⟨names, hb⟩ := bindNext_pair (k := k) (v := v) sc i li job lj lp d hpa hA hjob hij
  have hstep : evalFor (d + 8) σ1 sc (pairPat i li job lj lp) ((k, v) :: r) stmts =
      (evalBlock (d + 7) (σ1.alloc (.list [k, v])).2 sc
        [(pairPat i li job lj lp, SVal.plain (.list σ1.heap.size))] stmts).bind
        (forNext (d + 7) sc (pairPat i li job lj lp) r stmts) := by
    conv => lhs; unfold evalFor
    rfl
  rw [hstep, evalBlock_succ, hsz, declareAll_cons, hb]
  simp only [Res.bind]
  rw [declareAll_nil]
  rfl

/-- **(3) `for [i, job] in e { body }` over a list of length ≥ 1**: the iterable is evaluated once (`σ → σ1`, a list
    cell `a` holding `x :: xs`); the first iteration runs `body` in the state `forEntry σ1 … x` on the chain
    `(σ1.heap.size + 1) :: sc`, and there `job` resolves to `x` — the stored `SVal`, value AND `src` — whatever source the
    list value `it` itself carries; the remaining iterations walk `pairsFrom 1 xs`, whose values are the stored items
    `xs` unchanged.  Every cell that existed at loop entry is unchanged when the body starts. -/
theorem for_item_keeps_src {n : Nat} {σ σ1 : State} {sc : List Addr} {iter : Expr} {it : SVal} {a : Addr} {x : SVal}
    {xs : List SVal} (i : List Char) (li : Loc) (job : List Char) (lj lp : Loc) (stmts : List Stmt)
    (he : evalExpr n σ sc iter = .ok it σ1) (hit : it.v = .list a) (hl : σ1.getList a = some (x :: xs))
    (hjob : job ≠ c!"_") (hij : i ≠ job) :
    evalStmt (n + 9) σ sc (.For (pairPat i li job lj lp) iter stmts) =
      (evalStmts (n + 6) (forEntry σ1 i li (SVal.plain (.int 0)) job lj x) ((σ1.heap.size + 1) :: sc) stmts).bind
        (forNext (n + 7) sc (pairPat i li job lj lp) (pairsFrom 1 xs) stmts) ∧
    scopeGet (forEntry σ1 i li (SVal.plain (.int 0)) job lj x) ((σ1.heap.size + 1) :: sc) job = some x ∧
    (pairsFrom 1 xs).map Prod.snd = xs ∧
    (∀ b, b < σ1.heap.size → (forEntry σ1 i li (SVal.plain (.int 0)) job lj x).heap[b]? = σ1.heap[b]?) := by
  refine ⟨?_, forEntry_job _ _ _ _ _ _ _ _, pairsFrom_snd 1 xs, fun b hb => forEntry_old _ _ _ _ _ _ _ hb⟩
  have hp : toPairs σ1 it.v = some (some ((SVal.plain (.int 0), x) :: pairsFrom 1 xs)) := by
    rw [hit]; exact (toPairs_list_keeps_items hl).1
  rw [C07.for_enters (n + 8) σ σ1 sc _ iter stmts it _ (evalExpr_fuel_mono he (by simp) (by omega)) hp]
  exact evalFor_pair_step n σ1 sc i li job lj lp _ x _ stmts hjob hij

/-- `for [_, job] in queue { }` in the example state: the body starts with `job ↦ ⟨who, some a⟩` in cell 7 -/
example :
    evalStmt 12 σr [0] (.For (pairPat c!"_" (9, 5) c!"job" (9, 8) (9, 4)) eQ []) =
      (evalStmts 9 (forEntry σr c!"_" (9, 5) (SVal.plain (.int 0)) c!"job" (9, 8) ⟨.func 1, some (.obj 2)⟩) [7, 0] []).bind
        (forNext 10 [0] (pairPat c!"_" (9, 5) c!"job" (9, 8) (9, 4)) (pairsFrom 1 [⟨.func 1, none⟩]) []) ∧
    scopeGet (forEntry σr c!"_" (9, 5) (SVal.plain (.int 0)) c!"job" (9, 8) ⟨.func 1, some (.obj 2)⟩) [7, 0] c!"job" =
      some ⟨.func 1, some (.obj 2)⟩ := by
  have h := for_item_keeps_src c!"_" (9, 5) c!"job" (9, 8) (9, 4) [] (σr_q 2) rfl σr_list (by decide) (by decide)
  exact ⟨h.1, h.2.1⟩

/-- **`for [i, job] in e { job(args); rest… }`**: if the first item of the list is a user function stored with source
    `s`, the call in the first iteration runs its body with `callBindings … s …` — `this` is the object the function
    had been read from before it was put in the list (`s = some t`), or nothing is bound (`s = none`).  Between the
    binding of `job` and the call only the argument list runs; as long as `job` still resolves to the item (`hstill`,
    automatic for arguments without effects) this holds. -/
theorem for_item_call {n : Nat} {σ σ1 σ3 : State} {sc : List Addr} {iter : Expr} {it : SVal} {a fa : Addr}
    {s : Option Val} {xs : List SVal} {args : List ListItem} {argVals : List SVal} {fr : FuncRec}
    (i : List Char) (li : Loc) (job : List Char) (lj lp lj2 lc : Loc) (restBody : List Stmt)
    (he : evalExpr n σ sc iter = .ok it σ1) (hit : it.v = .list a) (hl : σ1.getList a = some (⟨.func fa, s⟩ :: xs))
    (hjob : job ≠ c!"_") (hij : i ≠ job)
    (hargs : evalListItems (n + 2) (forEntry σ1 i li (SVal.plain (.int 0)) job lj ⟨.func fa, s⟩)
      ((σ1.heap.size + 1) :: sc) args [] = .ok argVals σ3)
    (hstill : scopeGet σ3 ((σ1.heap.size + 1) :: sc) job = some ⟨.func fa, s⟩)
    (hfr : σ3.getFunc fa = some fr) (hok : arityOk fr.collect fr.args.length argVals.length = true) :
    evalStmt (n + 9) σ sc
        (.For (pairPat i li job lj lp) iter (.Expr (.mk (.Call (.mk (.Var job) lj2) args) lc) :: restBody)) =
      (((((evalBlock (n + 2) (callPlainVals σ3 fr argVals).2 fr.closure
              (callBindings fr (callPlainVals σ3 fr argVals).1 s lc) fr.stmts).mapErr
            (Err.funcCall fr.name lc)).bind finishCall).bind fun _ σ5 =>
          evalStmts (n + 5) σ5 ((σ1.heap.size + 1) :: sc) restBody).bind
        (forNext (n + 7) sc (pairPat i li job lj lp) (pairsFrom 1 xs)
          (.Expr (.mk (.Call (.mk (.Var job) lj2) args) lc) :: restBody))) ∧
    CalleeThis (callPlainVals σ3 fr argVals).2 fr (callPlainVals σ3 fr argVals).1 s lc := by
  refine ⟨?_, calleeThis _ _ _ _ _⟩
  rw [(for_item_keeps_src i li job lj lp _ he hit hl hjob hij).1, call_stmt_then,
    evalCall_func_ok lc hargs (evalExpr_var _ lj2 hstill) rfl hfr hok]

/-- `for [_, job] in queue { job(); }` in the example state: the first call runs `who` with `this := a` (object 2) -/
example :
    evalStmt 12 σr [0]
        (.For (pairPat c!"_" (9, 5) c!"job" (9, 8) (9, 4)) eQ [.Expr (.mk (.Call (.mk (.Var c!"job") (9, 24)) []) (9, 27))]) =
      (((((evalBlock 5 (forEntry σr c!"_" (9, 5) (SVal.plain (.int 0)) c!"job" (9, 8) ⟨.func 1, some (.obj 2)⟩) [0]
              [(.mk (.Var c!"this") (9, 27), SVal.plain (.obj 2))] frWho.stmts).mapErr
            (Err.funcCall (some c!"who") (9, 27))).bind finishCall).bind fun _ σ5 => evalStmts 8 σ5 [7, 0] []).bind
        (forNext 10 [0] (pairPat c!"_" (9, 5) c!"job" (9, 8) (9, 4)) (pairsFrom 1 [⟨.func 1, none⟩])
          [.Expr (.mk (.Call (.mk (.Var c!"job") (9, 24)) []) (9, 27))])) :=
  (for_item_call (n := 3) (argVals := []) (fr := frWho) c!"_" (9, 5) c!"job" (9, 8) (9, 4) (9, 24) (9, 27) []
    (σr_q 2) rfl σr_list (by decide) (by decide) (evalListItems_nil 4 _ _ [])
    (forEntry_job σr [0] c!"_" (9, 5) _ c!"job" (9, 8) _) (forEntry_getFunc _ _ _ _ _ _ σr_who) (by decide)).1

end Seed.C14R
