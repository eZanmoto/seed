/-
  C14Routes3.lean — (5) the routes composed, in the style of `C14.stored_method_keeps_this_list`: a function value
  `⟨fa, s⟩` (read as `o.name`, so `s = some (that object)`; or never read from an object, `s = none`) is stored in a
  list `q := [e]` and then reached and called

    * as the item of `for [i, job] in q { job(args); … }`                         (`queue_for_call`),
    * through a spread argument `g(q..)` with `fn g(f) { return f(); }`             (`queue_spread_call`),
    * through `b.hn[0]()` where `b := {"hn": q}` holds that list                  (`queue_handlers_call`);

  each time the body of `fa` runs with `callBindings … s …`: `this` = the object the value was read from BEFORE it
  was stored — not the list, not `b`, not the loop — and no `this` binding at all for `s = none`.  Then the
  whole-program examples through `Seed.run` (lex, parse, evaluate).
-/
import SeedProofs.Lemmas.C14Routes2
import SeedModel.Run
import SeedProofs.Lemmas.C12Lit
namespace Seed.C14R
open Seed Gen

/-- how `evalStmts` continues after a statement -/
def stmtsNext (n : Nat) (sc : List Addr) (rest : List Stmt) (esc : Escape) (σ1 : State) : Res Escape :=
  match esc with
  | .none => evalStmts n σ1 sc rest
  | other => .ok other σ1

theorem evalStmts_cons' (n : Nat) (σ : State) (sc : List Addr) (st : Stmt) (r : List Stmt) :
    evalStmts (n + 1) σ sc (st :: r) = (evalStmt n σ sc st).bind (stmtsNext n sc r) := by
  rw [evalStmts_cons]; rfl

/-- the state after `q := [e]` in a state `σ1` (the one `e` leaves) whose innermost scope cell `A0` holds `ms`: a new
    list cell (address `σ1.heap.size`) holding `[v]` — `v` the value of `e`, source included — and `q ↦` that list -/
def listDeclared (σ1 : State) (A0 : Addr) (q : List Char) (lx : Loc) (ms : ScopeMap) (v : SVal) : State :=
  (σ1.alloc (.list [v])).2.set A0 (.scope ((q, SVal.plain (.list σ1.heap.size), lx) :: ms))

theorem declare_singleton_list {n : Nat} {σ σ1 : State} {A0 : Addr} {sc' : List Addr} {e : Expr} {v : SVal}
    {ms : ScopeMap} {q : List Char} (lx ll : Loc)
    (he : evalExpr (n + 1) σ (A0 :: sc') e = .ok v σ1) (hq : q ≠ c!"_") (hs : σ1.getScope A0 = some ms)
    (hfresh : scopeLookup q ms = none) :
    evalStmt (n + 4) σ (A0 :: sc') (.Declare (.mk (.Var q) lx) (.mk (.List [.mk e false] false) ll)) =
      .ok .none (listDeclared σ1 A0 q lx ms v) ∧
    (listDeclared σ1 A0 q lx ms v).getScope A0 = some ((q, SVal.plain (.list σ1.heap.size), lx) :: ms) ∧
    scopeGet (listDeclared σ1 A0 q lx ms v) (A0 :: sc') q = some (SVal.plain (.list σ1.heap.size)) ∧
    (listDeclared σ1 A0 q lx ms v).getList σ1.heap.size = some [v] ∧
    (∀ fa fr, σ1.getFunc fa = some fr → (listDeclared σ1 A0 q lx ms v).getFunc fa = some fr) := by
  have hlist : evalExpr (n + 3) σ (A0 :: sc') (.mk (.List [.mk e false] false) ll) =
      .ok (SVal.plain (.list σ1.heap.size)) (σ1.alloc (.list [v])).2 := by
    rw [evalExpr]
    simp only [Bool.false_eq_true, if_false]
    rw [evalListItems_single [] he]; rfl
  have hs' := getScope_alloc_old (.list [v]) hs
  refine ⟨declare_var_stmt lx hlist hq hs' hfresh, getScope_set_same (getScope_lt hs') _,
    scopeGet_declared sc' q _ lx hs', ?_, fun fa fr h => ?_⟩
  · unfold listDeclared
    rw [getList_set_scope hs']; exact getList_alloc_new σ1 [v]
  · exact funcsStable_good.setScope _ _ ms _ hs' fa fr (funcsStable_good.alloc σ1 _ fa fr h)

/-- **`q := [e]; for [i, job] in q { job(args); restBody }; rest`.**  `e` evaluates to the function value `⟨fa, s⟩`.
    In the (only) iteration the call `job(args)` runs `fa`'s body with `callBindings … s …`: the source the value had
    when it was stored in the list. -/
theorem queue_for_call {n : Nat} {σ σ1 σ3 σL : State} {A0 : Addr} {sc' : List Addr} {e : Expr} {fa : Addr}
    {s : Option Val} {ms : ScopeMap} {q : List Char} {args : List ListItem} {argVals : List SVal} {fr : FuncRec}
    (lx ll lq2 : Loc) (i : List Char) (li : Loc) (job : List Char) (lj lp lj2 lc : Loc) (restBody rest : List Stmt)
    (he : evalExpr (n + 1) σ (A0 :: sc') e = .ok ⟨.func fa, s⟩ σ1)
    (hq : q ≠ c!"_") (hs : σ1.getScope A0 = some ms) (hfresh : scopeLookup q ms = none)
    (hjob : job ≠ c!"_") (hij : i ≠ job)
    (hσL : σL = listDeclared σ1 A0 q lx ms ⟨.func fa, s⟩)
    (hargs : evalListItems (n + 3) (forEntry σL i li (SVal.plain (.int 0)) job lj ⟨.func fa, s⟩)
      ((σL.heap.size + 1) :: A0 :: sc') args [] = .ok argVals σ3)
    (hstill : scopeGet σ3 ((σL.heap.size + 1) :: A0 :: sc') job = some ⟨.func fa, s⟩)
    (hfr : σ3.getFunc fa = some fr) (hok : arityOk fr.collect fr.args.length argVals.length = true) :
    evalStmts (n + 12) σ (A0 :: sc')
        (.Declare (.mk (.Var q) lx) (.mk (.List [.mk e false] false) ll) ::
         .For (pairPat i li job lj lp) (.mk (.Var q) lq2)
           (.Expr (.mk (.Call (.mk (.Var job) lj2) args) lc) :: restBody) :: rest) =
      ((((((evalBlock (n + 3) (callPlainVals σ3 fr argVals).2 fr.closure
                (callBindings fr (callPlainVals σ3 fr argVals).1 s lc) fr.stmts).mapErr
              (Err.funcCall fr.name lc)).bind finishCall).bind fun _ σ5 =>
            evalStmts (n + 6) σ5 ((σL.heap.size + 1) :: A0 :: sc') restBody).bind
          (forNext (n + 8) (A0 :: sc') (pairPat i li job lj lp) []
            (.Expr (.mk (.Call (.mk (.Var job) lj2) args) lc) :: restBody))).bind
        (stmtsNext (n + 10) (A0 :: sc') rest)) ∧
    CalleeThis (callPlainVals σ3 fr argVals).2 fr (callPlainVals σ3 fr argVals).1 s lc := by
  subst hσL
  obtain ⟨hd, _, hget, hlst, _⟩ := declare_singleton_list lx ll he hq hs hfresh
  have h := for_item_call (n := n + 1) i li job lj lp lj2 lc restBody (evalExpr_var _ lq2 hget) rfl hlst hjob hij hargs hstill
    hfr hok
  refine ⟨?_, h.2⟩
  rw [evalStmts_cons_ok_le _ hd (by omega : n + 4 ≤ n + 11), evalStmts_cons', h.1]
  rfl

/-- **`q := [o.name]; for [i, job] in q { job(args); … }`: the call runs with `this = a`**, the object `o` evaluated to
    when the method was read — the list it was stored in and the loop it is reached through add and remove nothing -/
theorem stored_method_keeps_this_for {n : Nat} {σ σ1 σ3 σL : State} {A0 : Addr} {sc' : List Addr} {o : Expr} {ov : SVal}
    {a fa : Addr} {m : ObjMap} {name : List Char} {s : Option Val} {ms : ScopeMap} {q : List Char}
    {args : List ListItem} {argVals : List SVal} {fr : FuncRec}
    (lx ll lpr lq2 : Loc) (i : List Char) (li : Loc) (job : List Char) (lj lp lj2 lc : Loc) (restBody rest : List Stmt)
    (ho : evalExpr n σ (A0 :: sc') o = .ok ov σ1) (hov : ov.v = .obj a)
    (hm : σ1.getObj a = some m) (hk : objGet name m = some ⟨.func fa, s⟩)
    (hq : q ≠ c!"_") (hs : σ1.getScope A0 = some ms) (hfresh : scopeLookup q ms = none)
    (hjob : job ≠ c!"_") (hij : i ≠ job)
    (hσL : σL = listDeclared σ1 A0 q lx ms ⟨.func fa, some (.obj a)⟩)
    (hargs : evalListItems (n + 3) (forEntry σL i li (SVal.plain (.int 0)) job lj ⟨.func fa, some (.obj a)⟩)
      ((σL.heap.size + 1) :: A0 :: sc') args [] = .ok argVals σ3)
    (hstill : scopeGet σ3 ((σL.heap.size + 1) :: A0 :: sc') job = some ⟨.func fa, some (.obj a)⟩)
    (hfr : σ3.getFunc fa = some fr) (hok : arityOk fr.collect fr.args.length argVals.length = true) :
    evalStmts (n + 12) σ (A0 :: sc')
        (.Declare (.mk (.Var q) lx) (.mk (.List [.mk (.mk (.Prop o name false) lpr) false] false) ll) ::
         .For (pairPat i li job lj lp) (.mk (.Var q) lq2)
           (.Expr (.mk (.Call (.mk (.Var job) lj2) args) lc) :: restBody) :: rest) =
      ((((((evalBlock (n + 3) (callPlainVals σ3 fr argVals).2 fr.closure
                (callBindings fr (callPlainVals σ3 fr argVals).1 (some (.obj a)) lc) fr.stmts).mapErr
              (Err.funcCall fr.name lc)).bind finishCall).bind fun _ σ5 =>
            evalStmts (n + 6) σ5 ((σL.heap.size + 1) :: A0 :: sc') restBody).bind
          (forNext (n + 8) (A0 :: sc') (pairPat i li job lj lp) []
            (.Expr (.mk (.Call (.mk (.Var job) lj2) args) lc) :: restBody))).bind
        (stmtsNext (n + 10) (A0 :: sc') rest)) ∧
    BodyThis (callPlainVals σ3 fr argVals).2 fr (callPlainVals σ3 fr argVals).1 (some (.obj a)) lc (.obj a) := by
  have h := queue_for_call lx ll lq2 i li job lj lp lj2 lc restBody rest (prop_read_src lpr ho hov hm hk) hq hs hfresh
    hjob hij hσL hargs hstill hfr hok
  exact ⟨h.1, h.2.1 _ rfl⟩

/-- the state in which the body of `fn g(f) { … }` starts when it is called from `σ2` with the one argument `v` -/
def apEntry (σ2 : State) (f : List Char) (lf : Loc) (v : SVal) : State :=
  (σ2.alloc (.scope [])).2.set σ2.heap.size (.scope [(f, v, lf)])

/-- **`g(args)` with `fn g(f) { return f(); }`** (`g`: any plain function value of exactly that shape) when the argument
    list — however it is written — evaluates to the single value `⟨fa, s⟩`: inside `g` the call `f()` runs `fa`'s body
    with `callBindings … s …`; the result of the whole call is that of the inner call, its error wrapped in `g`'s
    frame. -/
theorem ap_call {k : Nat} {σ σ1 σ2 : State} {sc clo : List Addr} {g : Expr} {args : List ListItem} {fa pa : Addr}
    {f : List Char} {s : Option Val} {fr : FuncRec} {apName : Option (List Char)} (lf lr lf2 lc2 loc : Loc)
    (hargs : evalListItems (k + 6) σ sc args [] = .ok [⟨.func fa, s⟩] σ1)
    (hg : evalExpr (k + 6) σ1 sc g = .ok ⟨.func pa, none⟩ σ2)
    (hap : σ2.getFunc pa =
      some ⟨apName, [.mk (.Var f) lf], false, [.Return lr (.mk (.Call (.mk (.Var f) lf2) []) lc2)], clo⟩)
    (hf : f ≠ c!"_") (hfr : σ2.getFunc fa = some fr) (hok : arityOk fr.collect fr.args.length 0 = true) :
    evalCall (k + 7) σ sc g args loc =
      (((evalBlock (k + 1) (callPlainVals (apEntry σ2 f lf ⟨.func fa, s⟩) fr []).2 fr.closure
            (callBindings fr (callPlainVals (apEntry σ2 f lf ⟨.func fa, s⟩) fr []).1 s lc2) fr.stmts).mapErr
          (Err.funcCall fr.name lc2)).bind finishCall).mapErr (Err.funcCall apName loc) ∧
    CalleeThis (callPlainVals (apEntry σ2 f lf ⟨.func fa, s⟩) fr []).2 fr
      (callPlainVals (apEntry σ2 f lf ⟨.func fa, s⟩) fr []).1 s lc2 := by
  refine ⟨?_, calleeThis _ _ _ _ _⟩
  have hsA := getScope_alloc_new σ2 []
  have hfr3 : (apEntry σ2 f lf ⟨.func fa, s⟩).getFunc fa = some fr :=
    funcsStable_good.setScope _ _ [] _ hsA fa fr (funcsStable_good.alloc σ2 _ fa fr hfr)
  have hcall := evalCall_func_ok lc2
    (evalListItems_nil k (apEntry σ2 f lf ⟨.func fa, s⟩) (σ2.heap.size :: clo) [])
    (evalExpr_var k lf2 (scopeGet_declared clo f ⟨.func fa, s⟩ lf hsA)) rfl hfr3 hok
  suffices H : ∀ X : Res SVal,
      evalCall (k + 2) (apEntry σ2 f lf ⟨.func fa, s⟩) (σ2.heap.size :: clo) (.mk (.Var f) lf2) [] lc2 = X →
      evalCall (k + 7) σ sc g args loc = X.mapErr (Err.funcCall apName loc) from
    H _ hcall
  intro X hX
  rw [evalCall_func_ok loc hargs hg rfl hap (by rfl), callPlainVals_no_rest _ rfl]
  simp only [callBindings, List.zip_cons_cons, List.zip_nil_left]
  rw [evalBlock_succ, declareAll_single lf _ _ hf hsA (by rfl)]
  simp only [Res.bind]
  rw [evalStmts_cons, evalStmt, evalExpr]
  show ((((evalCall (k + 2) (apEntry σ2 f lf ⟨.func fa, s⟩) (σ2.heap.size :: clo) (.mk (.Var f) lf2) [] lc2).bind
    _).bind _).mapErr _).bind _ = _
  rw [hX]
  cases X <;> rfl

/-- **`g(e..)`** where `e` is a list holding the one item `⟨fa, s⟩`: the parameter gets the stored item, and `f()`
    inside runs with the item's stored source -/
theorem spread_arg_call {k : Nat} {σ σ1 σ2 : State} {sc clo : List Addr} {g e : Expr} {lv : SVal} {a fa pa : Addr}
    {f : List Char} {s : Option Val} {fr : FuncRec} {apName : Option (List Char)} (lf lr lf2 lc2 loc : Loc)
    (he : evalExpr (k + 5) σ sc e = .ok lv σ1) (hlv : lv.v = .list a) (hl : σ1.getList a = some [⟨.func fa, s⟩])
    (hg : evalExpr (k + 6) σ1 sc g = .ok ⟨.func pa, none⟩ σ2)
    (hap : σ2.getFunc pa =
      some ⟨apName, [.mk (.Var f) lf], false, [.Return lr (.mk (.Call (.mk (.Var f) lf2) []) lc2)], clo⟩)
    (hf : f ≠ c!"_") (hfr : σ2.getFunc fa = some fr) (hok : arityOk fr.collect fr.args.length 0 = true) :
    evalCall (k + 7) σ sc g [.mk e true] loc =
      (((evalBlock (k + 1) (callPlainVals (apEntry σ2 f lf ⟨.func fa, s⟩) fr []).2 fr.closure
            (callBindings fr (callPlainVals (apEntry σ2 f lf ⟨.func fa, s⟩) fr []).1 s lc2) fr.stmts).mapErr
          (Err.funcCall fr.name lc2)).bind finishCall).mapErr (Err.funcCall apName loc) ∧
    CalleeThis (callPlainVals (apEntry σ2 f lf ⟨.func fa, s⟩) fr []).2 fr
      (callPlainVals (apEntry σ2 f lf ⟨.func fa, s⟩) fr []).1 s lc2 :=
  ap_call lf lr lf2 lc2 loc (by simpa using spread_last [] he hlv hl) hg hap hf hfr hok

/-- **`q := [e]; g(q..); rest`** -/
theorem queue_spread_call {n : Nat} {σ σ1 σ2 σL : State} {A0 : Addr} {sc' clo : List Addr} {e g : Expr} {fa pa : Addr}
    {s : Option Val} {ms : ScopeMap} {q f : List Char} {fr : FuncRec} {apName : Option (List Char)}
    (lx ll lq2 lf lr lf2 lc2 lc : Loc) (rest : List Stmt)
    (he : evalExpr (n + 1) σ (A0 :: sc') e = .ok ⟨.func fa, s⟩ σ1)
    (hq : q ≠ c!"_") (hs : σ1.getScope A0 = some ms) (hfresh : scopeLookup q ms = none)
    (hσL : σL = listDeclared σ1 A0 q lx ms ⟨.func fa, s⟩)
    (hg : evalExpr (n + 6) σL (A0 :: sc') g = .ok ⟨.func pa, none⟩ σ2)
    (hap : σ2.getFunc pa =
      some ⟨apName, [.mk (.Var f) lf], false, [.Return lr (.mk (.Call (.mk (.Var f) lf2) []) lc2)], clo⟩)
    (hf : f ≠ c!"_") (hfr : σ2.getFunc fa = some fr) (hok : arityOk fr.collect fr.args.length 0 = true) :
    evalStmts (n + 11) σ (A0 :: sc')
        (.Declare (.mk (.Var q) lx) (.mk (.List [.mk e false] false) ll) ::
         .Expr (.mk (.Call g [.mk (.mk (.Var q) lq2) true]) lc) :: rest) =
      (((((evalBlock (n + 1) (callPlainVals (apEntry σ2 f lf ⟨.func fa, s⟩) fr []).2 fr.closure
              (callBindings fr (callPlainVals (apEntry σ2 f lf ⟨.func fa, s⟩) fr []).1 s lc2) fr.stmts).mapErr
            (Err.funcCall fr.name lc2)).bind finishCall).mapErr (Err.funcCall apName lc)).bind fun _ σ5 =>
        evalStmts (n + 9) σ5 (A0 :: sc') rest) ∧
    CalleeThis (callPlainVals (apEntry σ2 f lf ⟨.func fa, s⟩) fr []).2 fr
      (callPlainVals (apEntry σ2 f lf ⟨.func fa, s⟩) fr []).1 s lc2 := by
  subst hσL
  obtain ⟨hd, _, hget, hlst, _⟩ := declare_singleton_list lx ll he hq hs hfresh
  have h := spread_arg_call (k := n) lf lr lf2 lc2 lc (evalExpr_var (n + 4) lq2 hget) rfl hlst hg hap hf hfr hok
  refine ⟨?_, h.2⟩
  rw [evalStmts_cons_ok_le _ hd (by omega : n + 4 ≤ n + 10), call_stmt_then, h.1]

/-- **`q := [o.name]; g(q..)` with `fn g(f) { return f(); }`: `f()` runs with `this = a`** -/
theorem stored_method_keeps_this_spread {n : Nat} {σ σ1 σ2 σL : State} {A0 : Addr} {sc' clo : List Addr} {o g : Expr}
    {ov : SVal} {a fa pa : Addr} {m : ObjMap} {name : List Char} {s : Option Val} {ms : ScopeMap} {q f : List Char}
    {fr : FuncRec} {apName : Option (List Char)} (lx ll lpr lq2 lf lr lf2 lc2 lc : Loc) (rest : List Stmt)
    (ho : evalExpr n σ (A0 :: sc') o = .ok ov σ1) (hov : ov.v = .obj a)
    (hm : σ1.getObj a = some m) (hk : objGet name m = some ⟨.func fa, s⟩)
    (hq : q ≠ c!"_") (hs : σ1.getScope A0 = some ms) (hfresh : scopeLookup q ms = none)
    (hσL : σL = listDeclared σ1 A0 q lx ms ⟨.func fa, some (.obj a)⟩)
    (hg : evalExpr (n + 6) σL (A0 :: sc') g = .ok ⟨.func pa, none⟩ σ2)
    (hap : σ2.getFunc pa =
      some ⟨apName, [.mk (.Var f) lf], false, [.Return lr (.mk (.Call (.mk (.Var f) lf2) []) lc2)], clo⟩)
    (hf : f ≠ c!"_") (hfr : σ2.getFunc fa = some fr) (hok : arityOk fr.collect fr.args.length 0 = true) :
    evalStmts (n + 11) σ (A0 :: sc')
        (.Declare (.mk (.Var q) lx) (.mk (.List [.mk (.mk (.Prop o name false) lpr) false] false) ll) ::
         .Expr (.mk (.Call g [.mk (.mk (.Var q) lq2) true]) lc) :: rest) =
      (((((evalBlock (n + 1) (callPlainVals (apEntry σ2 f lf ⟨.func fa, some (.obj a)⟩) fr []).2 fr.closure
              (callBindings fr (callPlainVals (apEntry σ2 f lf ⟨.func fa, some (.obj a)⟩) fr []).1 (some (.obj a)) lc2)
              fr.stmts).mapErr
            (Err.funcCall fr.name lc2)).bind finishCall).mapErr (Err.funcCall apName lc)).bind fun _ σ5 =>
        evalStmts (n + 9) σ5 (A0 :: sc') rest) ∧
    BodyThis (callPlainVals (apEntry σ2 f lf ⟨.func fa, some (.obj a)⟩) fr []).2 fr
      (callPlainVals (apEntry σ2 f lf ⟨.func fa, some (.obj a)⟩) fr []).1 (some (.obj a)) lc2 (.obj a) := by
  have h := queue_spread_call lx ll lq2 lf lr lf2 lc2 lc rest (prop_read_src lpr ho hov hm hk) hq hs hfresh hσL hg hap
    hf hfr hok
  exact ⟨h.1, h.2.1 _ rfl⟩

/-- the state after `b := {"hn": q}` in a state `σL` whose innermost scope cell `A0` holds `msL` and where `q` is `lv`:
    a new object cell (address `σL.heap.size`) holding `hn ↦ lv` and `b ↦` that object -/
def objDeclared (σL : State) (A0 : Addr) (b : List Char) (lb : Loc) (msL : ScopeMap) (hn : List Char) (lv : SVal) :
    State :=
  (σL.alloc (.obj [(hn, lv)])).2.set A0 (.scope ((b, SVal.plain (.obj σL.heap.size), lb) :: msL))

theorem declare_object_pair {n : Nat} {σL : State} {A0 : Addr} {sc' : List Addr} {q b hn : List Char} {lv : SVal}
    {msL : ScopeMap} (lb lo lk lq2 : Loc)
    (hqv : scopeGet σL (A0 :: sc') q = some lv) (hb : b ≠ c!"_") (hsL : σL.getScope A0 = some msL)
    (hbfresh : scopeLookup b msL = none) :
    evalStmt (n + 5) σL (A0 :: sc')
        (.Declare (.mk (.Var b) lb) (.mk (.Object [.Pair (.mk (.Str hn none) lk) (.mk (.Var q) lq2)]) lo)) =
      .ok .none (objDeclared σL A0 b lb msL hn lv) ∧
    scopeGet (objDeclared σL A0 b lb msL hn lv) (A0 :: sc') b = some (SVal.plain (.obj σL.heap.size)) ∧
    (objDeclared σL A0 b lb msL hn lv).getObj σL.heap.size = some [(hn, lv)] ∧
    (∀ a xs, σL.getList a = some xs → (objDeclared σL A0 b lb msL hn lv).getList a = some xs) ∧
    (∀ fa fr, σL.getFunc fa = some fr → (objDeclared σL A0 b lb msL hn lv).getFunc fa = some fr) := by
  have hobj : evalExpr (n + 4) σL (A0 :: sc') (.mk (.Object [.Pair (.mk (.Str hn none) lk) (.mk (.Var q) lq2)]) lo) =
      .ok (SVal.plain (.obj σL.heap.size)) (σL.alloc (.obj [(hn, lv)])).2 := by
    rw [evalExpr, evalProps, evalToStr, evalExpr]
    simp only [Res.bind, SVal.plain, C15U.decode_encode hn]
    rw [evalExpr_var _ lq2 hqv]
    simp only []
    rw [evalProps]
    rfl
  have hs' := getScope_alloc_old (.obj [(hn, lv)]) hsL
  refine ⟨declare_var_stmt lb hobj hb hs' hbfresh, scopeGet_declared sc' b _ lb hs', ?_, fun a xs h => ?_,
    fun fa fr h => ?_⟩
  · unfold objDeclared
    rw [getObj_set_scope hs', getObj_eq_some]; exact σL.alloc_heap_new _
  · unfold objDeclared
    rw [getList_set_scope hs']; exact getList_alloc_old _ h
  · exact funcsStable_good.setScope _ _ msL _ hs' fa fr (funcsStable_good.alloc σL _ fa fr h)

/-- **`q := [e]; b := {"hn": q}; b.hn[0](); rest`.**  `e` evaluates to the function value `⟨fa, s⟩`.  The call runs
    `fa`'s body with `callBindings … s …`, from the state `σO` the two declarations leave: NOT with `this = b`, although
    the callee expression starts with a property read on `b` (that read gives the LIST the source `b`; the list does
    not pass it on, `index_list_through_prop`). -/
theorem queue_handlers_call {n : Nat} {σ σ1 σL σO : State} {A0 : Addr} {sc' : List Addr} {e : Expr} {fa : Addr}
    {s : Option Val} {ms : ScopeMap} {q b hn : List Char} {fr : FuncRec}
    (lx ll lq2 lb lo lk lb2 lp l0 li lc : Loc) (rest : List Stmt)
    (he : evalExpr (n + 1) σ (A0 :: sc') e = .ok ⟨.func fa, s⟩ σ1)
    (hq : q ≠ c!"_") (hs : σ1.getScope A0 = some ms) (hfresh : scopeLookup q ms = none)
    (hb : b ≠ c!"_") (hbq : b ≠ q) (hbfresh : scopeLookup b ms = none)
    (hfr : σ1.getFunc fa = some fr) (hok : arityOk fr.collect fr.args.length 0 = true)
    (hσL : σL = listDeclared σ1 A0 q lx ms ⟨.func fa, s⟩)
    (hσO : σO = objDeclared σL A0 b lb ((q, SVal.plain (.list σ1.heap.size), lx) :: ms) hn
      (SVal.plain (.list σ1.heap.size))) :
    evalStmts (n + 10) σ (A0 :: sc')
        (.Declare (.mk (.Var q) lx) (.mk (.List [.mk e false] false) ll) ::
         .Declare (.mk (.Var b) lb) (.mk (.Object [.Pair (.mk (.Str hn none) lk) (.mk (.Var q) lq2)]) lo) ::
         .Expr (.mk (.Call (.mk (.Index (.mk (.Prop (.mk (.Var b) lb2) hn false) lp) (.mk (.Int 0) l0)) li) []) lc) ::
         rest) =
      ((((evalBlock (n + 4) (callPlainVals σO fr []).2 fr.closure
            (callBindings fr (callPlainVals σO fr []).1 s lc) fr.stmts).mapErr
          (Err.funcCall fr.name lc)).bind finishCall).bind fun _ σ5 => evalStmts (n + 7) σ5 (A0 :: sc') rest) ∧
    CalleeThis (callPlainVals σO fr []).2 fr (callPlainVals σO fr []).1 s lc := by
  subst hσL
  obtain ⟨hd, hscL, hget, hlst, hfnL⟩ := declare_singleton_list lx ll he hq hs hfresh
  have hbf : scopeLookup b ((q, SVal.plain (.list σ1.heap.size), lx) :: ms) = none := by
    rw [scopeLookup_cons_ne hbq]; exact hbfresh
  obtain ⟨hd2, hgetb, hobj, hlists, hfnO⟩ :=
    declare_object_pair (n := n) (sc' := sc') (hn := hn) lb lo lk lq2 hget hb hscL hbf
  rw [← hσO] at hd2 hgetb hobj hlists hfnO
  have hcall := call_handlers_item (n := n + 2) (argVals := []) (name := hn) (i := 0) (s := s)
    (hv := SVal.plain (.list σ1.heap.size)) lp li lc
    (evalListItems_nil (n + 3) σO (A0 :: sc') []) (evalExpr_var (n + 1) lb2 hgetb) rfl hobj
    (by simp [objGet]) rfl (int_index n σO (A0 :: sc') 0 l0) (hlists _ _ hlst) rfl (hfnO _ _ (hfnL _ _ hfr)) hok
  refine ⟨?_, hcall.2⟩
  rw [evalStmts_cons_ok_le _ hd (by omega : n + 4 ≤ n + 9),
    evalStmts_cons_ok_le _ hd2 (by omega : n + 5 ≤ n + 8), call_stmt_then]
  exact congrArg (fun r : Res SVal => r.bind fun _ σ5 => evalStmts (n + 7) σ5 (A0 :: sc') rest) hcall.1

/-- **`q := [o.name]; b := {"hn": q}; b.hn[0]()` runs with `this = a`** — the object the method was read from — **not
    `b`** -/
theorem stored_method_keeps_this_handlers {n : Nat} {σ σ1 σL σO : State} {A0 : Addr} {sc' : List Addr} {o : Expr}
    {ov : SVal} {a fa : Addr} {m : ObjMap} {name : List Char} {s : Option Val} {ms : ScopeMap} {q b hn : List Char}
    {fr : FuncRec} (lx ll lpr lq2 lb lo lk lb2 lp l0 li lc : Loc) (rest : List Stmt)
    (ho : evalExpr n σ (A0 :: sc') o = .ok ov σ1) (hov : ov.v = .obj a)
    (hm : σ1.getObj a = some m) (hk : objGet name m = some ⟨.func fa, s⟩)
    (hq : q ≠ c!"_") (hs : σ1.getScope A0 = some ms) (hfresh : scopeLookup q ms = none)
    (hb : b ≠ c!"_") (hbq : b ≠ q) (hbfresh : scopeLookup b ms = none)
    (hfr : σ1.getFunc fa = some fr) (hok : arityOk fr.collect fr.args.length 0 = true)
    (hσL : σL = listDeclared σ1 A0 q lx ms ⟨.func fa, some (.obj a)⟩)
    (hσO : σO = objDeclared σL A0 b lb ((q, SVal.plain (.list σ1.heap.size), lx) :: ms) hn
      (SVal.plain (.list σ1.heap.size))) :
    evalStmts (n + 10) σ (A0 :: sc')
        (.Declare (.mk (.Var q) lx) (.mk (.List [.mk (.mk (.Prop o name false) lpr) false] false) ll) ::
         .Declare (.mk (.Var b) lb) (.mk (.Object [.Pair (.mk (.Str hn none) lk) (.mk (.Var q) lq2)]) lo) ::
         .Expr (.mk (.Call (.mk (.Index (.mk (.Prop (.mk (.Var b) lb2) hn false) lp) (.mk (.Int 0) l0)) li) []) lc) ::
         rest) =
      ((((evalBlock (n + 4) (callPlainVals σO fr []).2 fr.closure
            (callBindings fr (callPlainVals σO fr []).1 (some (.obj a)) lc) fr.stmts).mapErr
          (Err.funcCall fr.name lc)).bind finishCall).bind fun _ σ5 => evalStmts (n + 7) σ5 (A0 :: sc') rest) ∧
    BodyThis (callPlainVals σO fr []).2 fr (callPlainVals σO fr []).1 (some (.obj a)) lc (.obj a) := by
  have h := queue_handlers_call lx ll lq2 lb lo lk lb2 lp l0 li lc rest (prop_read_src lpr ho hov hm hk) hq hs hfresh hb
    hbq hbfresh hfr hok hσL hσO
  exact ⟨h.1, h.2.1 _ rfl⟩

/-- **a function that was never read from an object** (`e` evaluates to `⟨fa, none⟩`: the name of a `fn` statement, a
    function literal), **stored in `b.hn` and called as `b.hn[0]()`, has no `this` of its own**: the binding list is
    parameters × values — `b` is not bound as `this` — and (for parameter patterns that do not themselves bind the
    name) `this` resolves through the closure chain only in the state the body starts in -/
theorem plain_function_in_handlers_has_no_this {n : Nat} {σ σ1 σL σO : State} {A0 : Addr} {sc' : List Addr} {e : Expr}
    {fa : Addr} {ms : ScopeMap} {q b hn : List Char} {fr : FuncRec}
    (lx ll lq2 lb lo lk lb2 lp l0 li lc : Loc) (rest : List Stmt)
    (he : evalExpr (n + 1) σ (A0 :: sc') e = .ok ⟨.func fa, none⟩ σ1)
    (hq : q ≠ c!"_") (hs : σ1.getScope A0 = some ms) (hfresh : scopeLookup q ms = none)
    (hb : b ≠ c!"_") (hbq : b ≠ q) (hbfresh : scopeLookup b ms = none)
    (hfr : σ1.getFunc fa = some fr) (hok : arityOk fr.collect fr.args.length 0 = true)
    (hσL : σL = listDeclared σ1 A0 q lx ms ⟨.func fa, none⟩)
    (hσO : σO = objDeclared σL A0 b lb ((q, SVal.plain (.list σ1.heap.size), lx) :: ms) hn
      (SVal.plain (.list σ1.heap.size))) :
    evalStmts (n + 10) σ (A0 :: sc')
        (.Declare (.mk (.Var q) lx) (.mk (.List [.mk e false] false) ll) ::
         .Declare (.mk (.Var b) lb) (.mk (.Object [.Pair (.mk (.Str hn none) lk) (.mk (.Var q) lq2)]) lo) ::
         .Expr (.mk (.Call (.mk (.Index (.mk (.Prop (.mk (.Var b) lb2) hn false) lp) (.mk (.Int 0) l0)) li) []) lc) ::
         rest) =
      ((((evalBlock (n + 4) (callPlainVals σO fr []).2 fr.closure (fr.args.zip (callPlainVals σO fr []).1)
            fr.stmts).mapErr
          (Err.funcCall fr.name lc)).bind finishCall).bind fun _ σ5 => evalStmts (n + 7) σ5 (A0 :: sc') rest) ∧
    ((∀ p ∈ fr.args, c!"this" ∉ patVars p) → ∀ k σb,
      declareAll k ((callPlainVals σO fr []).2.alloc (.scope [])).2 ((callPlainVals σO fr []).2.heap.size :: fr.closure)
          (fr.args.zip (callPlainVals σO fr []).1) = .ok () σb →
      scopeGet σb ((callPlainVals σO fr []).2.heap.size :: fr.closure) c!"this" = scopeGet σb fr.closure c!"this" ∧
      (scopeGet σb fr.closure c!"this" = none → ∀ j l,
        evalExpr (j + 1) σb ((callPlainVals σO fr []).2.heap.size :: fr.closure) (.mk (.Var c!"this") l) =
          errAt l (Leaf.Undefined c!"this") σb)) := by
  have h := queue_handlers_call lx ll lq2 lb lo lk lb2 lp l0 li lc rest he hq hs hfresh hb hbq hbfresh hfr hok
    hσL hσO
  exact ⟨h.1, (h.2.2 rfl).2⟩

def msE : ScopeMap :=
  [(c!"who", SVal.plain (.func 1), (1, 3)), (c!"a", SVal.plain (.obj 2), (2, 0)), (c!"ap", SVal.plain (.func 3), (2, 3))]

def objA : ObjMap := [(c!"name", SVal.plain (.str (utf8Encode c!"a"))), (c!"who", ⟨.func 1, none⟩)]

/-- scope 0: `who ↦ func 1` (`fn who() { return this.name; }`), `a ↦ object 2` (`{"name": "a", "who": who}`),
    `ap ↦ func 3` (`fn ap(f) { return f(); }`) -/
def σe : State := ⟨#[.scope msE, .func frWho, .obj objA, .func frAp], []⟩

def eA : Expr := .mk (.Var c!"a") (4, 10)
def eWho : Expr := .mk (.Var c!"who") (4, 10)

/-- after `queue := [a.who]`: cell 4 = `[⟨who, some a⟩]` -/
def σLe : State := listDeclared σe 0 c!"queue" (4, 0) msE ⟨.func 1, some (.obj 2)⟩
/-- … and the state the body of `for [_, job] in queue` starts in: cells 5 (`[0, ⟨who, some a⟩]`) and 6 (`job ↦ ⟨who, some a⟩`) -/
def σFe : State := forEntry σLe c!"_" (5, 5) (SVal.plain (.int 0)) c!"job" (5, 8) ⟨.func 1, some (.obj 2)⟩

/-- `queue := [a.who]; for [_, job] in queue { job(); }` — `who` runs with `this := a` (object 2) -/
example :
    evalStmts 13 σe [0]
        [.Declare (.mk (.Var c!"queue") (4, 0)) (.mk (.List [.mk (.mk (.Prop eA c!"who" false) (4, 11)) false] false) (4, 9)),
         .For (pairPat c!"_" (5, 5) c!"job" (5, 8) (5, 4)) (.mk (.Var c!"queue") (5, 16))
           [.Expr (.mk (.Call (.mk (.Var c!"job") (5, 24)) []) (5, 27))]] =
      ((((((evalBlock 4 σFe [0] [(.mk (.Var c!"this") (5, 27), SVal.plain (.obj 2))] frWho.stmts).mapErr
              (Err.funcCall (some c!"who") (5, 27))).bind finishCall).bind fun _ σ5 =>
            evalStmts 7 σ5 [6, 0] []).bind
          (forNext 9 [0] (pairPat c!"_" (5, 5) c!"job" (5, 8) (5, 4)) []
            [.Expr (.mk (.Call (.mk (.Var c!"job") (5, 24)) []) (5, 27))])).bind
        (stmtsNext 11 [0] [])) ∧
    BodyThis σFe frWho [] (some (.obj 2)) (5, 27) (.obj 2) :=
  stored_method_keeps_this_for (σL := σLe) (argVals := []) (fr := frWho)
    (4, 0) (4, 9) (4, 11) (5, 16) c!"_" (5, 5) c!"job" (5, 8) (5, 4) (5, 24) (5, 27) [] []
    (by with_unfolding_all rfl) rfl (by rfl) (by rfl) (by decide) (by rfl) (by rfl) (by decide) (by decide) rfl
    (by with_unfolding_all rfl) (by rfl) (by rfl) (by decide)

/-- `queue := [a.who]; ap(queue..);` — inside `ap`, `f()` runs `who` with `this := a` -/
example :
    evalStmts 12 σe [0]
        [.Declare (.mk (.Var c!"queue") (4, 0)) (.mk (.List [.mk (.mk (.Prop eA c!"who" false) (4, 11)) false] false) (4, 9)),
         .Expr (.mk (.Call (.mk (.Var c!"ap") (5, 0)) [.mk (.mk (.Var c!"queue") (5, 3)) true]) (5, 2))] =
      (((((evalBlock 2 (apEntry σLe c!"f" (2, 6) ⟨.func 1, some (.obj 2)⟩) [0]
              [(.mk (.Var c!"this") (2, 19), SVal.plain (.obj 2))] frWho.stmts).mapErr
            (Err.funcCall (some c!"who") (2, 19))).bind finishCall).mapErr (Err.funcCall (some c!"ap") (5, 2))).bind
        fun _ σ5 => evalStmts 10 σ5 [0] []) ∧
    BodyThis (apEntry σLe c!"f" (2, 6) ⟨.func 1, some (.obj 2)⟩) frWho [] (some (.obj 2)) (2, 19) (.obj 2) :=
  stored_method_keeps_this_spread (σL := σLe) (fr := frWho)
    (4, 0) (4, 9) (4, 11) (5, 3) (2, 6) (2, 11) (2, 18) (2, 19) (5, 2) []
    (by with_unfolding_all rfl) rfl (by rfl) (by rfl) (by decide) (by rfl) (by rfl) rfl
    (by with_unfolding_all rfl) (by rfl) (by decide) (by rfl) (by decide)

/-- after `b := {"handlers": queue}`: cell 5 = `{"handlers": list 4}` -/
def σOe : State :=
  objDeclared σLe 0 c!"b" (5, 0) ((c!"queue", SVal.plain (.list 4), (4, 0)) :: msE) c!"handlers" (SVal.plain (.list 4))

/-- `queue := [a.who]; b := {"handlers": queue}; b.handlers[0]();` — `who` runs with `this := a` (object 2), not `b`
    (object 5) -/
example :
    evalStmts 11 σe [0]
        [.Declare (.mk (.Var c!"queue") (4, 0)) (.mk (.List [.mk (.mk (.Prop eA c!"who" false) (4, 11)) false] false) (4, 9)),
         .Declare (.mk (.Var c!"b") (5, 0))
           (.mk (.Object [.Pair (.mk (.Str c!"handlers" none) (5, 6)) (.mk (.Var c!"queue") (5, 18))]) (5, 5)),
         .Expr (.mk (.Call (.mk (.Index (.mk (.Prop (.mk (.Var c!"b") (6, 0)) c!"handlers" false) (6, 1))
           (.mk (.Int 0) (6, 11))) (6, 10)) []) (6, 13))] =
      ((((evalBlock 5 σOe [0] [(.mk (.Var c!"this") (6, 13), SVal.plain (.obj 2))] frWho.stmts).mapErr
          (Err.funcCall (some c!"who") (6, 13))).bind finishCall).bind fun _ σ5 => evalStmts 8 σ5 [0] []) ∧
    BodyThis σOe frWho [] (some (.obj 2)) (6, 13) (.obj 2) :=
  stored_method_keeps_this_handlers (σL := σLe) (σO := σOe) (fr := frWho)
    (4, 0) (4, 9) (4, 11) (5, 18) (5, 0) (5, 5) (5, 6) (6, 0) (6, 1) (6, 11) (6, 10) (6, 13) []
    (by with_unfolding_all rfl) rfl (by rfl) (by rfl) (by decide) (by rfl) (by rfl) (by decide) (by decide)
    (by rfl) (by rfl) (by decide) rfl rfl

/-- `queue := [who]; b := {"handlers": queue}; b.handlers[0]();` — `who` was never read from an object: its body runs
    with NO binding (`[]`), `b` is not its `this` -/
example :
    evalStmts 11 σe [0]
        [.Declare (.mk (.Var c!"queue") (4, 0)) (.mk (.List [.mk eWho false] false) (4, 9)),
         .Declare (.mk (.Var c!"b") (5, 0))
           (.mk (.Object [.Pair (.mk (.Str c!"handlers" none) (5, 6)) (.mk (.Var c!"queue") (5, 18))]) (5, 5)),
         .Expr (.mk (.Call (.mk (.Index (.mk (.Prop (.mk (.Var c!"b") (6, 0)) c!"handlers" false) (6, 1))
           (.mk (.Int 0) (6, 11))) (6, 10)) []) (6, 13))] =
      ((((evalBlock 5
            (objDeclared (listDeclared σe 0 c!"queue" (4, 0) msE ⟨.func 1, none⟩) 0 c!"b" (5, 0)
              ((c!"queue", SVal.plain (.list 4), (4, 0)) :: msE) c!"handlers" (SVal.plain (.list 4)))
            [0] [] frWho.stmts).mapErr
          (Err.funcCall (some c!"who") (6, 13))).bind finishCall).bind fun _ σ5 => evalStmts 8 σ5 [0] []) :=
  (plain_function_in_handlers_has_no_this (fr := frWho)
    (4, 0) (4, 9) (5, 18) (5, 0) (5, 5) (5, 6) (6, 0) (6, 1) (6, 11) (6, 10) (6, 13) []
    (by with_unfolding_all rfl) (by decide) (by rfl) (by rfl) (by decide) (by decide) (by rfl)
    (by rfl) (by decide) rfl rfl).1

def progWho : List Char := c!"fn who() { return this.name; }\na := {\"name\": \"a\", \"who\": who};\n"

/-- (1) `b.handlers[0]()`: the list was read from `b`, the item keeps the source `a` it was stored with — through `.` and
    through `["…"]` -/
example : (run 100 c!"t.sd" (progWho ++
    c!"queue := [a.who];\nb := {\"name\": \"b\", \"handlers\": queue};\nprint(b.handlers[0]());\nprint(b[\"handlers\"][0]());\n")).out =
    [c!"a", c!"a"] := by decide +kernel

/-- (1) a function never read from an object, stored in `b.handlers`, has no `this` (it is not `b`) -/
example : (run 100 c!"t.sd" (progWho ++ c!"b := {\"name\": \"b\", \"handlers\": [who]};\nprint(b.handlers[0]());\n")).stderr =
    c!"t.sd:1:19: in 'who': 'this' is not defined\nStacktrace:\n  t.sd:4:7: in '<root>'\n" := by decide +kernel

/-- (2) through a spread argument and a spread list item -/
example : (run 100 c!"t.sd" (progWho ++
    c!"queue := [a.who];\nfn ap(f) { return f(); }\nprint(ap(queue..));\nxs := [queue..];\nprint(xs[0]());\n")).out =
    [c!"a", c!"a"] := by decide +kernel

/-- (3) as the item of a `for` loop -/
example : (run 100 c!"t.sd" (progWho ++ c!"queue := [a.who];\nfor [_, job] in queue { print(job()); }\n")).out =
    [c!"a"] := by decide +kernel

/-- (3) each item with its own source; the third (never read from an object) with none -/
example : (run 100 c!"t.sd" (progWho ++
    c!"c := {\"name\": \"c\", \"who\": who};\nqueue := [a.who, c.who, who];\nfor [i, job] in queue { print(job()); }\n")).out =
      [c!"a", c!"c"] ∧
    (run 100 c!"t.sd" (progWho ++
    c!"c := {\"name\": \"c\", \"who\": who};\nqueue := [a.who, c.who, who];\nfor [i, job] in queue { print(job()); }\n")).stderr =
      c!"t.sd:1:19: in 'who': 'this' is not defined\nStacktrace:\n  t.sd:5:31: in '<root>'\n" := by decide +kernel

/-- the hypotheses `i ≠ job` (of the `for` theorems) and `b ≠ q` (of the `handlers` theorems) are needed: without them the
    program stops before any call -/
example : (run 100 c!"t.sd" (progWho ++ c!"queue := [a.who];\nfor [job, job] in queue { print(job()); }\n")).stderr =
      c!"t.sd:4:11: 'job' is bound multiple times in this binding\n" ∧
    (run 100 c!"t.sd" (progWho ++
      c!"queue := [a.who];\nqueue := {\"handlers\": queue};\nprint(queue.handlers[0]());\n")).stderr =
      c!"t.sd:4:1: 'queue' is already defined in the current scope at [3:1]\n" := by decide +kernel

/-- (4) through a range read -/
example : (run 100 c!"t.sd" (progWho ++ c!"queue := [who, a.who];\nprint(queue[1:][0]());\nprint(queue[:1][0]());\n")).out =
      [c!"a"] ∧
    (run 100 c!"t.sd" (progWho ++ c!"queue := [who, a.who];\nprint(queue[1:][0]());\nprint(queue[:1][0]());\n")).stderr =
      c!"t.sd:1:19: in 'who': 'this' is not defined\nStacktrace:\n  t.sd:5:7: in '<root>'\n" := by decide +kernel

end Seed.C14R
