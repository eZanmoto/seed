/-
  C14Scope.lean — scope chains: lookups and assignments against writes to other cells.
-/
import SeedProofs.Lemmas.C12Heap
import SeedProofs.Lemmas.C05ProgFrame
namespace Seed

theorem getScope_alloc_old {σ : State} (c : Cell) {a : Addr} {m : ScopeMap} (h : σ.getScope a = some m) :
    (σ.alloc c).2.getScope a = some m :=
  ScopeL.getScope_alloc c h

theorem getScope_alloc_new (σ : State) (m : ScopeMap) : (σ.alloc (.scope m)).2.getScope σ.heap.size = some m :=
  ScopeL.getScope_alloc_new σ m

theorem scopeGet_set_other {σ : State} {a : Addr} (c : Cell) {sc : List Addr} (h : a ∉ sc) (k : List Char) :
    scopeGet (σ.set a c) sc k = scopeGet σ sc k :=
  ScopeL.scopeGet_frame k fun _ hb => ScopeL.set_other σ a c fun e => h (e ▸ hb)

/-- writing a list cell changes no lookup at all (a list cell is never a scope) -/
theorem scopeGet_set_list {σ : State} {b : Addr} {xs : List SVal} (ys : List SVal) (h : σ.getList b = some xs)
    (sc : List Addr) (k : List Char) : scopeGet (σ.set b (.list ys)) sc k = scopeGet σ sc k :=
  C05P.scopeGet_set_list ys h sc k

theorem scopeGet_set_obj {σ : State} {b : Addr} {m : ObjMap} (m' : ObjMap) (h : σ.getObj b = some m)
    (sc : List Addr) (k : List Char) : scopeGet (σ.set b (.obj m')) sc k = scopeGet σ sc k :=
  C05P.scopeGet_set_obj m' h sc k

theorem scopeAssign_head {σ : State} {a : Addr} {m : ScopeMap} {name : List Char} {p : SVal × Loc} (r : List Addr) (v : SVal)
    (hs : σ.getScope a = some m) (hl : scopeLookup name m = some p) :
    scopeAssign σ (a :: r) name v = some (σ.set a (.scope (scopeSetVal name v m))) := by
  simp only [scopeAssign, hs, hl]

theorem scopeGet_head_miss {σ : State} {a : Addr} {m : ScopeMap} {name : List Char} (r : List Addr)
    (hs : σ.getScope a = some m) (hl : scopeLookup name m = none) :
    scopeGet σ (a :: r) name = scopeGet σ r name := by
  simp only [scopeGet, hs, hl]

theorem scopeGet_head_hit {σ : State} {a : Addr} {m : ScopeMap} {name : List Char} {v : SVal} {l : Loc} (r : List Addr)
    (hs : σ.getScope a = some m) (hl : scopeLookup name m = some (v, l)) :
    scopeGet σ (a :: r) name = some v :=
  ScopeL.scopeGet_hit hs hl r

theorem scopeLookup_setVal_same {name : List Char} {v : SVal} {m : ScopeMap} {p : SVal × Loc}
    (h : scopeLookup name m = some p) : scopeLookup name (scopeSetVal name v m) = some (v, p.2) :=
  ScopeL.lookup_setVal_same h

theorem scopeLookup_setVal_other {name k : List Char} (v : SVal) (m : ScopeMap) (h : k ≠ name) :
    scopeLookup k (scopeSetVal name v m) = scopeLookup k m :=
  ScopeL.lookup_setVal_other h m

end Seed
