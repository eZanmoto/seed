/-
  C14This.lean — what a call's body sees as `this`: the binding list of a call (`callBindings`) run through
  `evalBlock` / `declareAll`, the scope-chain facts needed to follow a function value from the place it was read to
  the place it is called, and the single steps (`x := …`, `x = …`, `fn x(…) {…}`, a call) with their exact fuel
  (the reads `e.k` / `e[k]` are in C05ProgStep.lean).  Used by the end-to-end theorems of C14.
-/
import SeedProofs.Lemmas.C13Call
import SeedProofs.Lemmas.C13Bind
import SeedProofs.Lemmas.C14Scope
import SeedProofs.Lemmas.Instances
import SeedProofs.Lemmas.C07Loops
namespace Seed
open Gen (Leaf)

theorem evalToStr_mono {n m : Nat} {σ sc d e} {r : Res (List Char)} (h : evalToStr n σ sc d e = r) (hr : r ≠ .timeout)
    (hnm : n ≤ m) : evalToStr m σ sc d e = r :=
  fuel_stable (f := fun k => evalToStr k σ sc d e) (fun k => (monoAll k).evalToStr σ sc d e) h hr hnm

theorem evalToIndex_mono {n m : Nat} {σ sc e} {r : Res Nat} (h : evalToIndex n σ sc e = r) (hr : r ≠ .timeout)
    (hnm : n ≤ m) : evalToIndex m σ sc e = r :=
  C05P.toIndex_mono h hr hnm

theorem evalListItems_single {n : Nat} {σ σ1 : State} {sc : List Addr} {e : Expr} {v : SVal} (acc : List SVal)
    (h : evalExpr (n + 1) σ sc e = .ok v σ1) : evalListItems (n + 2) σ sc [.mk e false] acc = .ok (acc ++ [v]) σ1 := by
  rw [evalListItems_cons_plain, h]
  simp only [Res.bind]
  rw [evalListItems_nil]

theorem scopeGet_congr {σ σ' : State} {sc : List Addr} (h : ∀ b ∈ sc, σ'.heap[b]? = σ.heap[b]?) (k : List Char) :
    scopeGet σ' sc k = scopeGet σ sc k :=
  ScopeL.scopeGet_frame k h

theorem scopeAssign_hit {σ σ' : State} {sc : List Addr} {k : List Char} {v : SVal}
    (h : scopeAssign σ sc k v = some σ') :
    ∃ a m p, a ∈ sc ∧ σ.getScope a = some m ∧ scopeLookup k m = some p ∧
      σ' = σ.set a (.scope (scopeSetVal k v m)) := by
  obtain ⟨pre, a, post, m, w, l, rfl, _, hs, hl, e⟩ := ScopeL.scopeAssign_some_iff.mp h
  exact ⟨a, m, (w, l), List.mem_append_right _ List.mem_cons_self, hs, hl, e⟩

theorem scopeAssign_get {σ σ' : State} {sc : List Addr} {k : List Char} {v : SVal}
    (h : scopeAssign σ sc k v = some σ') : scopeGet σ' sc k = some v :=
  HeapL.scopeGet_assigned h

theorem scopeAssign_of_get {σ : State} {sc : List Addr} {k : List Char} {w : SVal} (v : SVal)
    (h : scopeGet σ sc k = some w) : ∃ σ', scopeAssign σ sc k v = some σ' :=
  Option.isSome_iff_exists.mp (by rw [ScopeL.scopeAssign_isSome, h]; rfl)

theorem scopeGet_declared {σ : State} {a : Addr} {m : ScopeMap} (r : List Addr) (k : List Char) (v : SVal) (l : Loc)
    (hs : σ.getScope a = some m) :
    scopeGet (σ.set a (.scope ((k, v, l) :: m))) (a :: r) k = some v :=
  C05P.scopeGet_declared r k v l hs

/-! ### the binding list of a call ends with `this` -/

theorem declareAll_this_last {n : Nat} {σ σ' : State} {a : Addr} {sc : List Addr} {bs : List (Expr × SVal)} {loc : Loc}
    {v : SVal} (h : declareAll n σ (a :: sc) (bs ++ [(Expr.mk (.Var c!"this") loc, v)]) = .ok () σ') :
    ∃ m, σ'.getScope a = some m ∧ scopeLookup c!"this" m = some (v, loc) := by
  induction bs generalizing n σ with
  | nil =>
    match n with
    | 0 => rw [declareAll] at h; cases h
    | 1 =>
      rw [List.nil_append, declareAll_cons, bindNext] at h; cases h
    | k + 2 =>
      rw [List.nil_append, declareAll_cons, bindNext_var] at h
      cases hs : σ.getScope a with
      | none =>
        simp [bindNextName, scopeDeclare, hs, Res.bind] at h
      | some m =>
        cases hl : scopeLookup c!"this" m with
        | some p =>
          obtain ⟨w, prev⟩ := p
          rw [bindNextName_redeclare loc v (by decide) (by simp) hs hl] at h
          cases h
        | none =>
          rw [bindNextName_declare loc v (by decide) (by simp) hs hl] at h
          simp only [Res.bind] at h
          rw [declareAll_nil] at h
          cases h
          exact ⟨_, getScope_set_same (getScope_lt hs) _, by simp [scopeLookup]⟩
  | cons b r ih =>
    obtain ⟨lhs, rhs⟩ := b
    match n with
    | 0 => rw [declareAll] at h; cases h
    | k + 1 =>
      rw [List.cons_append, declareAll_cons] at h
      cases hb : bindNext k σ (a :: sc) [] lhs rhs none true with
      | ok x σ1 => rw [hb] at h; exact ih h
      | err e σ1 => rw [hb] at h; cases h
      | crash w σ1 => rw [hb] at h; cases h
      | timeout => rw [hb] at h; cases h

/-- **What the body of a call sees.**  `BodyThis σ3 fr pv src loc t`: running `fr`'s body as a call at `loc` from
    state `σ3` with parameter values `pv` and callee source `src` (that is `evalBlock _ σ3 fr.closure
    (callBindings fr pv src loc) fr.stmts`, the instance `evalCall` reduces to) allocates the fresh scope cell
    `σ3.heap.size`, declares the bindings there, and runs the statements on the chain `σ3.heap.size :: fr.closure`;
    and whenever the bindings can be declared, that chain resolves `this` to `t` in the state the statements start
    in — so the expression `this` evaluates to `t` there, at every position and fuel. -/
def BodyThis (σ3 : State) (fr : FuncRec) (pv : List SVal) (src : Option Val) (loc : Loc) (t : Val) : Prop :=
  ∀ k,
    evalBlock (k + 1) σ3 fr.closure (callBindings fr pv src loc) fr.stmts =
      ((declareAll k (σ3.alloc (.scope [])).2 (σ3.heap.size :: fr.closure) (callBindings fr pv src loc)).bind
        fun _ σb => evalStmts k σb (σ3.heap.size :: fr.closure) fr.stmts) ∧
    ∀ σb, declareAll k (σ3.alloc (.scope [])).2 (σ3.heap.size :: fr.closure) (callBindings fr pv src loc) = .ok () σb →
      scopeGet σb (σ3.heap.size :: fr.closure) c!"this" = some (SVal.plain t) ∧
      ∀ j l, evalExpr (j + 1) σb (σ3.heap.size :: fr.closure) (.mk (.Var c!"this") l) = .ok (SVal.plain t) σb

/-- a callee value with source `t` makes the body see `this = t`, whatever the function, its closure, its
    parameters and the arguments are -/
theorem bodyThis (σ3 : State) (fr : FuncRec) (pv : List SVal) (loc : Loc) (t : Val) :
    BodyThis σ3 fr pv (some t) loc t := by
  intro k
  refine ⟨evalBlock_succ k σ3 fr.closure _ fr.stmts, fun σb hb => ?_⟩
  obtain ⟨m, hs, hl⟩ := declareAll_this_last (bs := fr.args.zip pv) hb
  have hg := scopeGet_head_hit fr.closure hs hl
  refine ⟨hg, fun j l => ?_⟩
  rw [evalExpr, hg]

theorem head_without_this {σ : State} {a : Addr} {m : ScopeMap} (closure : List Addr)
    (hs : σ.getScope a = some m) (hl : scopeLookup c!"this" m = none) :
    scopeGet σ (a :: closure) c!"this" = scopeGet σ closure c!"this" ∧
    (scopeGet σ closure c!"this" = none → ∀ j l,
      evalExpr (j + 1) σ (a :: closure) (.mk (.Var c!"this") l) = errAt l (Leaf.Undefined c!"this") σ) ∧
    (∀ w, scopeGet σ closure c!"this" = some w → ∀ j l,
      evalExpr (j + 1) σ (a :: closure) (.mk (.Var c!"this") l) = .ok w σ) := by
  have hget := scopeGet_head_miss closure hs hl
  refine ⟨hget, fun hnone j l => ?_, fun w hw j l => ?_⟩
  · rw [evalExpr, hget, hnone]
  · rw [evalExpr, hget, hw]

def varExprs (vars : List (List Char × Loc)) : List Expr := vars.map fun p => Expr.mk (.Var p.1) p.2

theorem FreshRow.nil_names {m : ScopeMap} {names : List (List Char)} {r : List (List Char × Loc)}
    (h : FreshRow m names r) : FreshRow m [] r := by
  induction r with
  | nil => trivial
  | cons p r ih =>
    obtain ⟨y, ly⟩ := p
    obtain ⟨h1, _, h3, h4, h5⟩ := h
    exact ⟨h1, by simp, h3, h4, ih h5⟩

/-- declaring a row of fresh, pairwise different plain parameters succeeds at every fuel `≥ length + 2`; the cell then
    maps each name to its value, other names are as before, no other cell has changed -/
theorem declareAll_vars {σ : State} {a : Addr} {m : ScopeMap} (sc : List Addr)
    (vars : List (List Char × Loc)) (vals : List SVal) (d : Nat)
    (hs : σ.getScope a = some m) (hf : FreshRow m [] vars) (hl : vars.length = vals.length) :
    ∃ σ' m', declareAll (vars.length + 2 + d) σ (a :: sc) ((varExprs vars).zip vals) = .ok () σ' ∧
      σ'.getScope a = some m' ∧
      (∀ j (h1 : j < vars.length) (h2 : j < vals.length), (scopeLookup vars[j].1 m').map Prod.fst = some vals[j]) ∧
      (∀ k, (∀ p ∈ vars, p.1 ≠ k) → scopeLookup k m' = scopeLookup k m) ∧
      (∀ b, b ≠ a → σ'.heap[b]? = σ.heap[b]?) := by
  induction vars generalizing σ m vals with
  | nil =>
    refine ⟨σ, m, ?_, hs, fun j h1 => absurd h1 (Nat.not_lt_zero _), fun _ _ => rfl, fun _ _ => rfl⟩
    have e : ([] : List (List Char × Loc)).length + 2 + d = (d + 1) + 1 := by simp only [List.length_nil]; omega
    rw [e, varExprs, List.map_nil, List.zip_nil_left, declareAll_nil]
  | cons p r ih =>
    obtain ⟨x, l⟩ := p
    cases vals with
    | nil => simp at hl
    | cons v vs =>
      obtain ⟨h1, h2, h3, h4, h5⟩ := hf
      have hs1 : (σ.set a (.scope ((x, v, l) :: m))).getScope a = some ((x, v, l) :: m) :=
        getScope_set_same (getScope_lt hs) _
      obtain ⟨σ', m', hres, hsc, hlook, hother, hheap⟩ :=
        ih vs hs1 ((h5.step h4).nil_names) (by simpa using hl)
      refine ⟨σ', m', ?_, hsc, ?_, ?_, ?_⟩
      · have e : ((x, l) :: r).length + 2 + d = ((r.length + 1 + d) + 1) + 1 := by
          simp only [List.length_cons]; omega
        rw [e, varExprs, List.map_cons, List.zip_cons_cons, declareAll_cons, bindNext_var,
          bindNextName_declare l v h1 h2 hs h3]
        simp only [Res.bind]
        have e2 : r.length + 1 + d + 1 = r.length + 2 + d := by omega
        rw [e2]
        exact hres
      · intro j hj1 hj2
        cases j with
        | zero =>
          simp only [List.getElem_cons_zero]
          rw [hother x h4]
          simp [scopeLookup]
        | succ j =>
          simp only [List.getElem_cons_succ]
          exact hlook j (by simpa using hj1) (by simpa using hj2)
      · intro k hk
        rw [hother k fun p hp => hk p (List.mem_cons_of_mem _ hp)]
        exact scopeLookup_cons_ne (Ne.symm (hk (x, l) List.mem_cons_self))
      · intro b hb
        rw [hheap b hb, State.heap_set_other _ _ hb]

/-- `x := rhs` with a fresh name: the innermost cell gets `x ↦` the value of `rhs`, source included -/
theorem declare_var_stmt {n : Nat} {σ σ1 : State} {a : Addr} {sc : List Addr} {x : List Char} {rhs : Expr} {v : SVal}
    {m : ScopeMap} (lx : Loc)
    (hr : evalExpr (n + 1) σ (a :: sc) rhs = .ok v σ1) (hx : x ≠ c!"_")
    (hs : σ1.getScope a = some m) (hf : scopeLookup x m = none) :
    evalStmt (n + 2) σ (a :: sc) (.Declare (.mk (.Var x) lx) rhs) =
      .ok .none (σ1.set a (.scope ((x, v, lx) :: m))) :=
  C05P.declare_var_stmt lx hr hx hs hf

/-- `x = rhs` for a defined name: afterwards the chain resolves `x` to the value of `rhs`, source included — the
    previous value and its source are gone -/
theorem assign_var_stmt {n : Nat} {σ σ1 : State} {sc : List Addr} {x : List Char} {rhs : Expr} {v old : SVal} (lx : Loc)
    (hr : evalExpr (n + 1) σ sc rhs = .ok v σ1) (hx : x ≠ c!"_") (hold : scopeGet σ1 sc x = some old) :
    ∃ σ2, scopeAssign σ1 sc x v = some σ2 ∧
      evalStmt (n + 2) σ sc (.Assign (.mk (.Var x) lx) rhs) = .ok .none σ2 ∧
      scopeGet σ2 sc x = some v := by
  obtain ⟨σ2, h2⟩ := scopeAssign_of_get v hold
  exact ⟨σ2, h2, C05P.assign_var_step lx hr hx h2, scopeAssign_get h2⟩

/-- `fn x(params) { body }` with a fresh name and valid parameters: `x ↦` a new function cell closed over the
    current chain, with no source -/
theorem func_stmt {n : Nat} {σ : State} {a : Addr} {sc : List Addr} {x : List Char} {m : ScopeMap} (lx : Loc)
    (args : List Expr) (collect : Bool) (stmts : List Stmt)
    (hv : validateArgs (n + 1) args [] = some none) (hx : x ≠ c!"_")
    (hs : σ.getScope a = some m) (hf : scopeLookup x m = none) :
    evalStmt (n + 2) σ (a :: sc) (.Func x lx args collect stmts) =
      .ok .none ((σ.alloc (.func ⟨some x, args, collect, stmts, a :: sc⟩)).2.set a
        (.scope ((x, ⟨.func σ.heap.size, none⟩, lx) :: m))) := by
  rw [evalStmt]
  simp only [validateArgsRes, hv, Res.bind]
  rw [bindNextName_declare lx _ hx (by simp) (getScope_alloc_old _ hs) hf]
  rfl

theorem zip_take_left {α β} (l1 : List α) (l2 : List β) : l1.zip l2 = l1.zip (l2.take l1.length) := by
  induction l1 generalizing l2 with
  | nil => simp
  | cons x r ih =>
    cases l2 with
    | nil => simp
    | cons y t => simp only [List.zip_cons_cons, List.length_cons, List.take_succ_cons]; rw [← ih]

theorem callPlainVals_length_ge {σ : State} {fr : FuncRec} {argVals : List SVal}
    (hok : arityOk fr.collect fr.args.length argVals.length = true) :
    fr.args.length ≤ (callPlainVals σ fr argVals).1.length := by
  cases hc : fr.collect with
  | true =>
    rw [callPlainVals_rest argVals hc]
    simp only [arityOk, hc, if_true, decide_eq_true_eq] at hok
    simp only [List.length_append, List.length_take, List.length_cons, List.length_nil]
    omega
  | false =>
    rw [callPlainVals_no_rest argVals hc]
    simp only [arityOk, hc, Bool.false_eq_true, if_false, decide_eq_true_eq] at hok
    show fr.args.length ≤ argVals.length
    omega

theorem callPlainVals_heap_old {σ : State} {fr : FuncRec} (argVals : List SVal) {b : Addr} (hb : b < σ.heap.size) :
    (callPlainVals σ fr argVals).2.heap[b]? = σ.heap[b]? ∧ σ.heap.size ≤ (callPlainVals σ fr argVals).2.heap.size := by
  cases hc : fr.collect with
  | true =>
    rw [callPlainVals_rest argVals hc]
    exact ⟨σ.alloc_heap_old _ hb, by rw [State.alloc_size]; omega⟩
  | false =>
    rw [callPlainVals_no_rest argVals hc]
    exact ⟨rfl, Nat.le_refl _⟩

theorem evalCall_func_ok {n : Nat} {σ σ1 σ2 : State} {sc : List Addr} {f : Expr} {args : List ListItem} (loc : Loc)
    {argVals : List SVal} {fv : SVal} {a : Addr} {fr : FuncRec}
    (hargs : evalListItems n σ sc args [] = .ok argVals σ1)
    (hf : evalExpr n σ1 sc f = .ok fv σ2) (hv : fv.v = .func a) (hfr : σ2.getFunc a = some fr)
    (hok : arityOk fr.collect fr.args.length argVals.length = true) :
    evalCall (n + 1) σ sc f args loc =
      ((evalBlock n (callPlainVals σ2 fr argVals).2 fr.closure
          (callBindings fr (callPlainVals σ2 fr argVals).1 fv.src loc) fr.stmts).mapErr
        (Err.funcCall fr.name loc)).bind finishCall := by
  rw [evalCall_func hargs hf hv hfr, if_pos hok]

theorem call_stmt_then {n : Nat} (σ : State) (sc : List Addr) (f : Expr) (args : List ListItem) (lc : Loc)
    (rest : List Stmt) :
    evalStmts (n + 3) σ sc (.Expr (.mk (.Call f args) lc) :: rest) =
      (evalCall n σ sc f args lc).bind fun _ σ5 => evalStmts (n + 2) σ5 sc rest := by
  rw [evalStmts_cons, evalStmt, evalExpr]
  cases evalCall n σ sc f args lc <;> rfl

/-- function cells are never written: a function known before an evaluation is the same function after it -/
theorem getFunc_after_items {n : Nat} {σ σ' : State} {sc : List Addr} {items : List ListItem} {acc vals : List SVal}
    (h : evalListItems n σ sc items acc = .ok vals σ') {a : Addr} {fr : FuncRec} (hf : σ.getFunc a = some fr) :
    σ'.getFunc a = some fr := by
  have := (relAll funcsStable_good n).evalListItems σ σ sc items acc (funcsStable_good.refl σ)
  rw [h] at this
  exact this a fr hf

theorem getFunc_after_expr {n : Nat} {σ σ' : State} {sc : List Addr} {e : Expr} {v : SVal}
    (h : evalExpr n σ sc e = .ok v σ') {a : Addr} {fr : FuncRec} (hf : σ.getFunc a = some fr) :
    σ'.getFunc a = some fr := by
  have := (relAll funcsStable_good n).evalExpr σ σ sc e (funcsStable_good.refl σ)
  rw [h] at this
  exact this a fr hf

end Seed
