/-
  C14ThisPat.lean — parameter *patterns* and `this`: binding a pattern declares, in the innermost scope cell, only
  names that occur in the pattern as variables (`patVars`).  Proved as an invariant over all 23 evaluator functions:
  for a scope cell `A` that does not have the name `k`, no evaluation gives it `k` — except a statement run with `A`
  as its innermost scope, or a pattern bound there that mentions `k`.  (Statements only ever run on a chain whose head
  was allocated for them by `evalBlock`, so evaluating the expressions inside a pattern never declares into `A`.)
-/
import SeedProofs.Lemmas.C14This
import SeedProofs.Lemmas.C20Bind
namespace Seed
open Gen (Leaf)

mutual
/-- the names a declaration / parameter pattern binds: its variables, through list and object patterns -/
def patVars : Expr → List (List Char)
  | .mk raw _ => rawPatVars raw
def rawPatVars : RawExpr → List (List Char)
  | .Var x => [x]
  | .List items _ => itemsVars items
  | .Object props => propsVars props
  | _ => []
def itemsVars : List ListItem → List (List Char)
  | [] => []
  | .mk e _ :: r => patVars e ++ itemsVars r
def propsVars : List PropItem → List (List Char)
  | [] => []
  | .Single e _ _ :: r => patVars e ++ propsVars r
  | .Pair _ v :: r => patVars v ++ propsVars r
end

def bindingsVars : List (Expr × SVal) → List (List Char)
  | [] => []
  | (lhs, _) :: r => patVars lhs ++ bindingsVars r

theorem patVars_var (x : List Char) (l : Loc) : patVars (.mk (.Var x) l) = [x] := by simp [patVars, rawPatVars]
theorem patVars_list (items : List ListItem) (c : Bool) (l : Loc) : patVars (.mk (.List items c) l) = itemsVars items := by
  simp [patVars, rawPatVars]
theorem patVars_object (props : List PropItem) (l : Loc) : patVars (.mk (.Object props) l) = propsVars props := by
  simp [patVars, rawPatVars]
theorem patVars_of_raw_var {e : Expr} {x : List Char} (h : e.raw = .Var x) : patVars e = [x] := by
  obtain ⟨raw, l⟩ := e
  simp only [Expr.raw] at h
  subst h
  exact patVars_var x l
theorem itemsVars_cons (e : Expr) (sp : Bool) (r : List ListItem) : itemsVars (.mk e sp :: r) = patVars e ++ itemsVars r := by
  simp [itemsVars]
theorem propsVars_single (e : Expr) (sp c : Bool) (r : List PropItem) :
    propsVars (.Single e sp c :: r) = patVars e ++ propsVars r := by
  simp [propsVars]
theorem propsVars_pair (ne v : Expr) (r : List PropItem) : propsVars (.Pair ne v :: r) = patVars v ++ propsVars r := by
  simp [propsVars]

theorem bindingsVars_zip_varExprs (vars : List (List Char × Loc)) (vals : List SVal) (k : List Char)
    (h : ∀ p ∈ vars, p.1 ≠ k) : k ∉ bindingsVars ((varExprs vars).zip vals) := by
  induction vars generalizing vals with
  | nil => simp [varExprs, bindingsVars]
  | cons p r ih =>
    cases vals with
    | nil => simp [bindingsVars]
    | cons v vs =>
      have h1 : p.1 ≠ k := h p List.mem_cons_self
      have h2 := ih vs (fun q hq => h q (List.mem_cons_of_mem _ hq))
      simp only [varExprs, List.map_cons, List.zip_cons_cons, bindingsVars, patVars_var, List.mem_append,
        List.mem_singleton, not_or]
      exact ⟨fun e => h1 e.symm, h2⟩

def Free (A : Addr) (k : List Char) (σ : State) : Prop := ∃ m, σ.getScope A = some m ∧ scopeLookup k m = none

def OkF (A : Addr) (k : List Char) {α} : Res α → Prop
  | .ok _ σ' => Free A k σ'
  | _ => True

def Side (A : Addr) (k : List Char) (sc : List Addr) (names : List (List Char)) : Prop :=
  sc.head? ≠ some A ∨ k ∉ names

section
variable {A : Addr} {k : List Char}

theorem Free.lt {σ : State} (h : Free A k σ) : A < σ.heap.size := by
  obtain ⟨m, hm, _⟩ := h; exact getScope_lt hm

theorem Free.alloc {σ : State} (c : Cell) (h : Free A k σ) : Free A k (σ.alloc c).2 := by
  obtain ⟨m, hm, hl⟩ := h
  exact ⟨m, getScope_alloc_old c hm, hl⟩

theorem Free.alloc_eq {σ σ' : State} {c : Cell} {a : Addr} (he : σ.alloc c = (a, σ')) (h : Free A k σ) : Free A k σ' := by
  have := h.alloc c; rw [he] at this; exact this

theorem Free.print {σ : State} (l : List Char) (h : Free A k σ) : Free A k (σ.print l) := h

theorem Free.set_other {σ : State} {a : Addr} (c : Cell) (hne : A ≠ a) (h : Free A k σ) : Free A k (σ.set a c) := by
  obtain ⟨m, hm, hl⟩ := h
  exact ⟨m, by rw [getScope_set_other _ hne]; exact hm, hl⟩

theorem Free.setList {σ : State} {a : Addr} {xs : List SVal} (ys : List SVal) (hg : σ.getList a = some xs)
    (h : Free A k σ) : Free A k (σ.set a (.list ys)) := by
  refine h.set_other _ ?_
  rintro rfl
  obtain ⟨m, hm, _⟩ := h
  rw [getScope_eq_some] at hm
  rw [getList_eq_some, hm] at hg
  cases hg

theorem Free.setObj {σ : State} {a : Addr} {m0 : ObjMap} (m' : ObjMap) (hg : σ.getObj a = some m0)
    (h : Free A k σ) : Free A k (σ.set a (.obj m')) := by
  refine h.set_other _ ?_
  rintro rfl
  obtain ⟨m, hm, _⟩ := h
  rw [getScope_eq_some] at hm
  rw [getObj_eq_some, hm] at hg
  cases hg

namespace OkF
theorem bind {α β} {r : Res α} {f : α → State → Res β} (h : OkF A k r)
    (hf : ∀ a σ1, Free A k σ1 → OkF A k (f a σ1)) : OkF A k (r.bind f) := by
  cases r with
  | ok a σ1 => exact hf a σ1 h
  | err e σ1 => trivial
  | crash w σ1 => trivial
  | timeout => trivial
theorem map {α β} {r : Res α} (f : α → β) (h : OkF A k r) : OkF A k (r.map f) := by
  cases r <;> first | exact h | trivial
theorem mapErr {α} {r : Res α} (f : Err → Err) (h : OkF A k r) : OkF A k (r.mapErr f) := by
  cases r <;> first | exact h | trivial
theorem ok {α} {a : α} {σ : State} (h : Free A k σ) : OkF A k (.ok a σ) := h
theorem ite {α} {c : Prop} [Decidable c] {x y : Res α} (hx : OkF A k x) (hy : OkF A k y) :
    OkF A k (if c then x else y) := by
  split <;> assumption
end OkF

namespace Side
theorem head {sc : List Addr} {names : List (List Char)} (h : sc.head? ≠ some A) : Side A k sc names := Or.inl h
theorem app_left {sc : List Addr} {l1 l2 : List (List Char)} (h : Side A k sc (l1 ++ l2)) : Side A k sc l1 :=
  h.imp id fun hn hm => hn (List.mem_append_left _ hm)
theorem app_right {sc : List Addr} {l1 l2 : List (List Char)} (h : Side A k sc (l1 ++ l2)) : Side A k sc l2 :=
  h.imp id fun hn hm => hn (List.mem_append_right _ hm)
theorem pat_var {sc : List Addr} {x : List Char} {l : Loc} (h : Side A k sc (patVars (.mk (.Var x) l))) : Side A k sc [x] := by
  rw [patVars_var] at h; exact h
theorem pat_list {sc : List Addr} {items : List ListItem} {c : Bool} {l : Loc}
    (h : Side A k sc (patVars (.mk (.List items c) l))) : Side A k sc (itemsVars items) := by
  rw [patVars_list] at h; exact h
theorem pat_object {sc : List Addr} {props : List PropItem} {l : Loc}
    (h : Side A k sc (patVars (.mk (.Object props) l))) : Side A k sc (propsVars props) := by
  rw [patVars_object] at h; exact h
theorem items_head {sc : List Addr} {e : Expr} {sp : Bool} {r : List ListItem}
    (h : Side A k sc (itemsVars (.mk e sp :: r))) : Side A k sc (patVars e) := by
  rw [itemsVars_cons] at h; exact h.app_left
theorem items_tail {sc : List Addr} {e : Expr} {sp : Bool} {r : List ListItem}
    (h : Side A k sc (itemsVars (.mk e sp :: r))) : Side A k sc (itemsVars r) := by
  rw [itemsVars_cons] at h; exact h.app_right
theorem single_head {sc : List Addr} {e : Expr} {sp c : Bool} {r : List PropItem}
    (h : Side A k sc (propsVars (.Single e sp c :: r))) : Side A k sc (patVars e) := by
  rw [propsVars_single] at h; exact h.app_left
theorem single_var {sc : List Addr} {e : Expr} {sp c : Bool} {r : List PropItem} {x : List Char} (he : e.raw = .Var x)
    (h : Side A k sc (propsVars (.Single e sp c :: r))) : Side A k sc [x] := by
  have := h.single_head; rw [patVars_of_raw_var he] at this; exact this
theorem single_tail {sc : List Addr} {e : Expr} {sp c : Bool} {r : List PropItem}
    (h : Side A k sc (propsVars (.Single e sp c :: r))) : Side A k sc (propsVars r) := by
  rw [propsVars_single] at h; exact h.app_right
theorem pair_head {sc : List Addr} {ne v : Expr} {r : List PropItem}
    (h : Side A k sc (propsVars (.Pair ne v :: r))) : Side A k sc (patVars v) := by
  rw [propsVars_pair] at h; exact h.app_left
theorem pair_tail {sc : List Addr} {ne v : Expr} {r : List PropItem}
    (h : Side A k sc (propsVars (.Pair ne v :: r))) : Side A k sc (propsVars r) := by
  rw [propsVars_pair] at h; exact h.app_right
theorem bindings_head {sc : List Addr} {lhs : Expr} {rhs : SVal} {r : List (Expr × SVal)}
    (h : Side A k sc (bindingsVars ((lhs, rhs) :: r))) : Side A k sc (patVars lhs) := h.app_left
theorem bindings_tail {sc : List Addr} {lhs : Expr} {rhs : SVal} {r : List (Expr × SVal)}
    (h : Side A k sc (bindingsVars ((lhs, rhs) :: r))) : Side A k sc (bindingsVars r) := h.app_right
end Side

/-- `Free A k σ'` for a state obtained from one already known to be free -/
macro "free_state" : tactic =>
  `(tactic| with_reducible first
    | assumption
    | exact Free.alloc_eq ‹_› ‹_›
    | exact Free.alloc _ ‹_›
    | exact Free.print _ ‹_›
    | exact Free.setList _ ‹_› ‹_›
    | exact Free.setObj _ ‹_› ‹_›)

/-- `OkF A k body` for the unfolded body of an evaluator function.  Inner nodes first: `bind` and `if` by their lemmas,
    `match` by `split`, `let`s reduced once they are outermost.  What is left is a leaf: an error or a timeout (`True`),
    an `.ok` (by `free_state`), a `map` / `mapErr` around a call, or a call, which `leaf` closes.  (Leaf lemmas tried
    first would each be unified with the whole remaining body at every inner node; `split` on an `if` simplifies the
    whole goal where the lemma does nothing.) -/
macro "free_auto " leaf:tacticSeq : tactic =>
  `(tactic| repeat' first
    | with_reducible apply OkF.bind
    | intro _ _ _
    | with_reducible apply OkF.ite
    | split
    | (dsimp only [])
    | exact True.intro
    | ((with_reducible apply OkF.ok); free_state)
    | with_reducible apply OkF.map
    | with_reducible apply OkF.mapErr
    | ($leaf))

theorem applyBinOp_free (n : Nat) {σ : State} (op : BinaryOp) (loc : Loc) (a b : Val) (h : Free A k σ) :
    OkF A k (applyBinOp n σ op loc a b) := by
  cases hr : applyBinOp n σ op loc a b with
  | ok v σ' =>
    rcases BindL.applyBinOp_state hr with rfl | ⟨xs, rfl⟩
    · exact h
    · exact h.alloc _
  | _ => trivial

theorem callBuiltin_free (n : Nat) {σ : State} (f : BuiltinId) (this : Option SVal) (args : List SVal) (h : Free A k σ) :
    OkF A k (callBuiltin n σ f this args) := by
  unfold callBuiltin
  repeat' first | split | exact True.intro | exact h | exact h.print _

theorem opAssignValue_free (n : Nat) {σ : State} (cur rhs : SVal) (op : Option (BinaryOp × Loc)) (h : Free A k σ) :
    OkF A k (opAssignValue n σ cur rhs op) := by
  unfold opAssignValue
  split
  · exact h
  · exact OkF.map _ (applyBinOp_free n _ _ _ _ h)

theorem validateArgsRes_free (n : Nat) {σ : State} (args : List Expr) (h : Free A k σ) :
    OkF A k (validateArgsRes n args σ) := by
  unfold validateArgsRes
  split <;> first | exact h | trivial

theorem scopeAssign_free {σ σ' : State} {sc : List Addr} {name : List Char} {v : SVal}
    (he : scopeAssign σ sc name v = some σ') (h : Free A k σ) : Free A k σ' := by
  obtain ⟨a, m, p, _, hs, hl, e⟩ := scopeAssign_hit he
  subst e
  by_cases hA : A = a
  · subst hA
    obtain ⟨m0, hm0, hl0⟩ := h
    rw [hs] at hm0
    cases hm0
    refine ⟨_, getScope_set_same (getScope_lt hs) _, ?_⟩
    by_cases hk : k = name
    · subst hk; rw [hl0] at hl; cases hl
    · rw [scopeLookup_setVal_other _ _ hk]; exact hl0
  · exact h.set_other _ hA

theorem scopeDeclare_free {σ σ' : State} {sc : List Addr} {name : List Char} {loc : Loc} {v : SVal}
    (he : scopeDeclare σ sc name loc v = .ok σ') (h : Free A k σ) (hs : Side A k sc [name]) : Free A k σ' := by
  unfold scopeDeclare at he
  split at he
  · cases he
  split at he
  · cases he
  split at he
  · cases he
  cases he
  rename_i a _ _ m hsa _ hl
  by_cases hA : A = a
  · subst hA
    have hk : k ≠ name := by
      rcases hs with hs | hs
      · exact absurd rfl hs
      · intro e; exact hs (by simp [e])
    obtain ⟨m0, hm0, hl0⟩ := h
    rw [hsa] at hm0
    cases hm0
    exact ⟨_, getScope_set_same (getScope_lt hsa) _, by rw [scopeLookup_cons_ne hk]; exact hl0⟩
  · exact h.set_other _ hA

theorem bindNextName_free (n : Nat) {σ : State} (sc : List Addr) (names : List (List Char)) (name : List Char) (loc : Loc)
    (rhs : SVal) (op : Option (BinaryOp × Loc)) (decl : Bool) (h : Free A k σ) (hs : Side A k sc [name]) :
    OkF A k (bindNextName n σ sc names name loc rhs op decl) := by
  unfold bindNextName
  free_auto first
    | exact scopeDeclare_free ‹_› h hs
    | exact scopeAssign_free ‹_› ‹_›
    | exact applyBinOp_free _ _ _ _ _ h

structure FreeAll (A : Addr) (k : List Char) (n : Nat) : Prop where
  evalExpr : ∀ σ sc e, Free A k σ → OkF A k (evalExpr n σ sc e)
  evalOptIndex : ∀ σ sc e, Free A k σ → OkF A k (evalOptIndex n σ sc e)
  evalListItems : ∀ σ sc items acc, Free A k σ → OkF A k (evalListItems n σ sc items acc)
  evalProps : ∀ σ sc l props acc, Free A k σ → OkF A k (evalProps n σ sc l props acc)
  evalCall : ∀ σ sc f args loc, Free A k σ → OkF A k (evalCall n σ sc f args loc)
  evalToStr : ∀ σ sc d e, Free A k σ → OkF A k (evalToStr n σ sc d e)
  evalToBool : ∀ σ sc d e, Free A k σ → OkF A k (evalToBool n σ sc d e)
  evalToInt : ∀ σ sc d e, Free A k σ → OkF A k (evalToInt n σ sc d e)
  evalToIndex : ∀ σ sc e, Free A k σ → OkF A k (evalToIndex n σ sc e)
  interpolate : ∀ σ sc s slots loc last acc, Free A k σ → OkF A k (interpolate n σ sc s slots loc last acc)
  evalBlock : ∀ σ sc bs stmts, Free A k σ → OkF A k (evalBlock n σ sc bs stmts)
  declareAll : ∀ σ sc bs, Free A k σ → Side A k sc (bindingsVars bs) → OkF A k (declareAll n σ sc bs)
  evalStmts : ∀ σ sc stmts, Free A k σ → sc.head? ≠ some A → OkF A k (evalStmts n σ sc stmts)
  evalStmt : ∀ σ sc st, Free A k σ → sc.head? ≠ some A → OkF A k (evalStmt n σ sc st)
  evalIf : ∀ σ sc bs els, Free A k σ → OkF A k (evalIf n σ sc bs els)
  evalWhile : ∀ σ sc c stmts, Free A k σ → OkF A k (evalWhile n σ sc c stmts)
  evalFor : ∀ σ sc lhs pairs stmts, Free A k σ → OkF A k (evalFor n σ sc lhs pairs stmts)
  bindNext : ∀ σ sc names lhs rhs op decl, Free A k σ → Side A k sc (patVars lhs) →
    OkF A k (bindNext n σ sc names lhs rhs op decl)
  bindProp : ∀ σ a name loc rhs op names vi, Free A k σ → OkF A k (bindProp n σ a name loc rhs op names vi)
  bindRangeIndex : ∀ σ sc a start stop loc rhsItems names, Free A k σ →
    OkF A k (bindRangeIndex n σ sc a start stop loc rhsItems names)
  bindList : ∀ σ sc names items collect lhsLoc b decl i lhsLen, Free A k σ → Side A k sc (itemsVars items) →
    OkF A k (bindList n σ sc names items collect lhsLoc b decl i lhsLen)
  bindObject : ∀ σ sc names props b decl i total remaining, Free A k σ → Side A k sc (propsVars props) →
    OkF A k (bindObject n σ sc names props b decl i total remaining)
  bindObjectProp : ∀ σ sc names lhs b pname ploc decl, Free A k σ → Side A k sc (patVars lhs) →
    OkF A k (bindObjectProp n σ sc names lhs b pname ploc decl)

end

/-- a call of one of the functions whose lemmas are listed first: the state it starts in is free by `free_state`, its
    side condition follows from the one in the context by one of the lemmas after `side` -/
syntax "free_call " term,+ (" side " term,+)? : tactic
macro_rules
  | `(tactic| free_call $ts,*) => `(tactic| (with_reducible first $[| apply $ts]*) <;> free_state)
  | `(tactic| free_call $ts,* side $ss,*) =>
    `(tactic| (with_reducible first $[| apply $ts]*) <;> first | free_state $[| with_reducible exact $ss ‹_›]*)

theorem freeAll_zero {A : Addr} {k : List Char} : FreeAll A k 0 := by
  constructor <;> intros <;> with_unfolding_all exact True.intro

theorem freeAll_succ {A : Addr} {k : List Char} (n : Nat) (ih : FreeAll A k n) : FreeAll A k (n + 1) := by
  constructor
  · intro σ sc e h; unfold evalExpr
    free_auto free_call ih.evalExpr, ih.evalToIndex, ih.evalOptIndex, ih.evalToInt, ih.interpolate, applyBinOp_free,
      ih.evalListItems, ih.evalToStr, ih.evalProps, ih.evalCall
  · intro σ sc e h; unfold evalOptIndex; free_auto free_call ih.evalToIndex
  · intro σ sc items acc h; unfold evalListItems; free_auto free_call ih.evalListItems, ih.evalExpr
  · intro σ sc l props acc h; unfold evalProps; free_auto free_call ih.evalProps, ih.evalExpr, ih.evalToStr
  · intro σ sc f args loc h; unfold evalCall
    -- the parameter values and the state they are bound in come as one pair
    free_auto first
      | free_call ih.evalBlock, ih.evalListItems, ih.evalExpr, callBuiltin_free
      | cases ‹(_, _) = (_, _)›
  · intro σ sc d e h; unfold evalToStr; free_auto free_call ih.evalExpr
  · intro σ sc d e h; unfold evalToBool; free_auto free_call ih.evalExpr
  · intro σ sc d e h; unfold evalToInt; free_auto free_call ih.evalExpr
  · intro σ sc e h; unfold evalToIndex; free_auto free_call ih.evalToInt
  · intro σ sc s slots loc last acc h; unfold interpolate; free_auto free_call ih.evalExpr, ih.interpolate
  · intro σ sc bs stmts h
    rw [evalBlock_succ]
    have hd : (σ.heap.size :: sc).head? ≠ some A := by
      have := h.lt
      simp only [List.head?_cons, ne_eq, Option.some.injEq]
      intro e
      exact Nat.lt_irrefl _ (e ▸ this)
    apply OkF.bind (ih.declareAll _ _ _ (h.alloc _) (Side.head hd))
    intro _ σ2 h2
    exact ih.evalStmts _ _ _ h2 hd
  · intro σ sc bs h hs; unfold declareAll; free_auto free_call ih.bindNext, ih.declareAll side Side.bindings_head, Side.bindings_tail
  · intro σ sc stmts h hd; unfold evalStmts; free_auto free_call ih.evalStmt, ih.evalStmts
  · intro σ sc st h hd; unfold evalStmt
    free_auto free_call ih.evalExpr, ih.bindNext, ih.evalBlock, ih.evalIf, ih.evalWhile, ih.evalFor, validateArgsRes_free,
      bindNextName_free side Side.head
  · intro σ sc bs els h; unfold evalIf; free_auto free_call ih.evalBlock, ih.evalToBool, ih.evalIf
  · intro σ sc c stmts h; unfold evalWhile; free_auto free_call ih.evalWhile, ih.evalToBool, ih.evalBlock
  · intro σ sc lhs pairs stmts h; unfold evalFor; free_auto free_call ih.evalFor, ih.evalBlock
  · intro σ sc names lhs rhs op decl h hs; unfold bindNext
    free_auto free_call ih.evalExpr, ih.bindProp, ih.bindRangeIndex, bindNextName_free, ih.evalToIndex, opAssignValue_free,
      ih.evalToStr, ih.bindObject, ih.bindList side Side.pat_var, Side.pat_object, Side.pat_list
  · intro σ a name loc rhs op names vi h; unfold bindProp; free_auto free_call opAssignValue_free
  · intro σ sc a start stop loc rhsItems names h; unfold bindRangeIndex; free_auto free_call ih.evalOptIndex
  · intro σ sc names items collect lhsLoc b decl i lhsLen h hs; unfold bindList
    free_auto free_call ih.bindNext, ih.bindList side Side.items_head, Side.items_tail
  · intro σ sc names props b decl i total remaining h hs; unfold bindObject
    free_auto free_call ih.bindObject, ih.bindObjectProp, bindNextName_free, ih.evalToStr
      side Side.single_tail, Side.single_var ‹_›, Side.single_head, Side.pair_head, Side.pair_tail
  · intro σ sc names lhs b pname ploc decl h hs; unfold bindObjectProp; free_auto free_call ih.bindNext

theorem freeAll (A : Addr) (k : List Char) (n : Nat) : FreeAll A k n := by
  induction n with
  | zero => exact freeAll_zero
  | succ n ih => exact freeAll_succ n ih

/-- **Binding parameter patterns that do not mention `k` never declares `k`.**  If the bindings can be declared into
    the cell `a` (which had no `k`), the cell still has no `k` — whatever the patterns' target expressions evaluate. -/
theorem declareAll_keeps_free {n : Nat} {σ σ' : State} {a : Addr} {sc : List Addr} {bs : List (Expr × SVal)} {k : List Char}
    {m : ScopeMap} (hs : σ.getScope a = some m) (hl : scopeLookup k m = none) (hk : k ∉ bindingsVars bs)
    (h : declareAll n σ (a :: sc) bs = .ok () σ') :
    ∃ m', σ'.getScope a = some m' ∧ scopeLookup k m' = none := by
  have := (freeAll a k n).declareAll σ (a :: sc) bs ⟨m, hs, hl⟩ (Or.inr hk)
  rw [h] at this
  exact this

theorem not_mem_bindingsVars_zip {k : List Char} (params : List Expr) (vals : List SVal)
    (h : ∀ p ∈ params, k ∉ patVars p) : k ∉ bindingsVars (params.zip vals) := by
  induction params generalizing vals with
  | nil => simp [bindingsVars]
  | cons p r ih =>
    cases vals with
    | nil => simp [bindingsVars]
    | cons v vs =>
      simp only [List.zip_cons_cons, bindingsVars, List.mem_append, not_or]
      exact ⟨h p List.mem_cons_self, ih vs fun q hq => h q (List.mem_cons_of_mem _ hq)⟩

/-- **A body entered without a `this` binding.**  Parameters `params` (arbitrary patterns, none of which binds the name
    `this`) bound to `pv` in the fresh cell `σ3.heap.size` on top of `closure`: whenever that succeeds, `this` resolves
    through the closure chain only in the state the body starts in. -/
theorem body_without_this {σ3 σb : State} {closure : List Addr} {params : List Expr} {pv : List SVal} {n : Nat}
    (hno : ∀ p ∈ params, c!"this" ∉ patVars p)
    (h : declareAll n (σ3.alloc (.scope [])).2 (σ3.heap.size :: closure) (params.zip pv) = .ok () σb) :
    scopeGet σb (σ3.heap.size :: closure) c!"this" = scopeGet σb closure c!"this" ∧
    (scopeGet σb closure c!"this" = none → ∀ j l,
      evalExpr (j + 1) σb (σ3.heap.size :: closure) (.mk (.Var c!"this") l) = errAt l (Leaf.Undefined c!"this") σb) ∧
    (∀ w, scopeGet σb closure c!"this" = some w → ∀ j l,
      evalExpr (j + 1) σb (σ3.heap.size :: closure) (.mk (.Var c!"this") l) = .ok w σb) := by
  obtain ⟨m', hs', hl'⟩ := declareAll_keeps_free (getScope_alloc_new σ3 []) (by rfl) (not_mem_bindingsVars_zip params pv hno) h
  exact head_without_this closure hs' hl'

end Seed
