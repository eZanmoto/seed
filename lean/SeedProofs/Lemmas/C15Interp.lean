/-
  `interpolate` (SeedModel/Eval.lean) equals concatenation of the pieces of the literal and
  the slot values, in order; and the pieces/slot texts that the evaluator cuts out of a lexed literal with
  `sliceChars` are exactly the ones it was written with (`SlotsOK`).
-/
import SeedModel.Eval
import SeedProofs.Global
import SeedProofs.Lemmas.C15Lex
namespace Seed.C15
open Seed

theorem sliceChars_mid (a b c : List Char) (i j : Nat) (hi : i = a.length) (hj : j = a.length + b.length) :
    sliceChars (a ++ b ++ c) i j = b := by
  subst hi hj
  simp [sliceChars, List.append_assoc]

/-- how `interpolate` reads a literal: starting at `last`, the text up to the first slot is the piece `p0`,
    the text inside the braces of the slot is `e`, and so on from the end of the slot -/
def SlotsOK (s : List Char) : Nat → List Char → List (List Char × List Char) → List (Nat × Nat) → Prop
  | last, p0, [], slots => slots = [] ∧ s.drop last = p0
  | last, p0, (e, p) :: r, slots =>
    ∃ start stop rest, slots = (start, stop) :: rest ∧ sliceChars s last start = p0 ∧
      sliceChars s (start + 2) (stop - 1) = e ∧ SlotsOK s stop p r rest

theorem slotsOK_decoded (segs : List (List Char × List Char)) : ∀ (pre p0 : List Char),
    SlotsOK (pre ++ decoded p0 segs) pre.length p0 segs (slotsOf pre.length p0 segs) := by
  induction segs with
  | nil => intro pre p0; simp [SlotsOK, slotsOf, decoded]
  | cons x r ih =>
    obtain ⟨e, p⟩ := x
    intro pre p0
    refine ⟨pre.length + p0.length, pre.length + p0.length + e.length + 3, _, rfl, ?_, ?_, ?_⟩
    · have : pre ++ decoded p0 ((e, p) :: r) = pre ++ p0 ++ (('$' :: '{' :: e ++ ['}']) ++ decoded p r) := by
        simp [decoded]
      rw [this]; exact sliceChars_mid _ _ _ _ _ rfl rfl
    · have : pre ++ decoded p0 ((e, p) :: r) = (pre ++ p0 ++ ['$', '{']) ++ e ++ ('}' :: decoded p r) := by
        simp [decoded]
      rw [this]; exact sliceChars_mid _ _ _ _ _ (by simp; omega) (by simp; omega)
    · have h := ih (pre ++ p0 ++ ('$' :: '{' :: e ++ ['}'])) p
      have e1 : (pre ++ p0 ++ ('$' :: '{' :: e ++ ['}'])).length = pre.length + p0.length + e.length + 3 := by
        simp; omega
      have e2 : pre ++ p0 ++ ('$' :: '{' :: e ++ ['}']) ++ decoded p r = pre ++ decoded p0 ((e, p) :: r) := by
        simp [decoded]
      rw [e1, e2] at h
      exact h

/-- slots are evaluated left to right in the caller's scope chain `sc`, threading the state; the `i`-th slot
    gets fuel `n - i - 1`, exactly as `interpolate n` hands it out; `vs` are the decoded slot values -/
inductive SlotsEval (sc : List Addr) (s : List Char) :
    Nat → State → List (Nat × Nat) → List (List Char) → State → Prop where
  | nil (n : Nat) (σ : State) : SlotsEval sc s n σ [] [] σ
  | cons {n : Nat} {σ σ1 σ2 : State} {start stop : Nat} {r : List (Nat × Nat)} {ast : Expr} {v : SVal}
      {bs : Bytes} {cs : List Char} {vs : List (List Char)} :
      parseExprTop (sliceChars s (start + 2) (stop - 1)) = .ok ast →
      evalExpr n σ sc ast = .ok v σ1 → v.v = .str bs → utf8Decode bs = .ok cs →
      SlotsEval sc s n σ1 r vs σ2 →
      SlotsEval sc s (n + 1) σ ((start, stop) :: r) (cs :: vs) σ2

/-- the same with one fuel `m` for every slot -/
inductive SlotsEvalU (sc : List Addr) (s : List Char) (m : Nat) :
    State → List (Nat × Nat) → List (List Char) → State → Prop where
  | nil (σ : State) : SlotsEvalU sc s m σ [] [] σ
  | cons {σ σ1 σ2 : State} {start stop : Nat} {r : List (Nat × Nat)} {ast : Expr} {v : SVal}
      {bs : Bytes} {cs : List Char} {vs : List (List Char)} :
      parseExprTop (sliceChars s (start + 2) (stop - 1)) = .ok ast →
      evalExpr m σ sc ast = .ok v σ1 → v.v = .str bs → utf8Decode bs = .ok cs →
      SlotsEvalU sc s m σ1 r vs σ2 →
      SlotsEvalU sc s m σ ((start, stop) :: r) (cs :: vs) σ2

theorem SlotsEvalU.toEval {sc : List Addr} {s : List Char} {m : Nat} {σ σ' : State} {slots : List (Nat × Nat)}
    {vs : List (List Char)} (h : SlotsEvalU sc s m σ slots vs σ') :
    ∀ n, m + slots.length ≤ n → SlotsEval sc s n σ slots vs σ' := by
  induction h with
  | nil σ => intro n _; exact .nil n σ
  | cons hp he hv hd _ ih =>
    intro n hn
    obtain ⟨k, rfl⟩ : ∃ k, n = k + 1 := ⟨n - 1, by simp at hn; omega⟩
    exact .cons hp (evalExpr_fuel_mono he (by simp) (by simp at hn; omega)) hv hd (ih k (by simp at hn; omega))

/-- pieces before and between the first slots, with the slot values in between -/
def joinPre (s : List Char) : Nat → List (Nat × Nat) → List (List Char) → List Char
  | _, [], _ => []
  | _, _ :: _, [] => []
  | last, (start, stop) :: r, v :: vs => sliceChars s last start ++ v ++ joinPre s stop r vs

/-- `last_slot_end` after the given slots -/
def lastAfter : Nat → List (Nat × Nat) → Nat
  | last, [] => last
  | _, (_, stop) :: r => lastAfter stop r

/-- the whole result: `piece_0 ++ v_1 ++ piece_1 ++ … ++ v_k ++ piece_k` -/
def joinPieces (s : List Char) (last : Nat) (slots : List (Nat × Nat)) (vs : List (List Char)) : List Char :=
  joinPre s last slots vs ++ s.drop (lastAfter last slots)

theorem interpolate_nil (n : Nat) (σ : State) (sc : List Addr) (s : List Char) (loc : Loc) (last : Nat)
    (acc : List Char) : interpolate (n + 1) σ sc s [] loc last acc = .ok (acc ++ s.drop last) σ := by
  rw [interpolate]

theorem interpolate_cons_ok {n : Nat} {σ σ1 : State} {sc : List Addr} {s : List Char} {start stop : Nat}
    {r : List (Nat × Nat)} {loc : Loc} {last : Nat} {acc : List Char} {ast : Expr} {v : SVal} {bs : Bytes}
    {cs : List Char}
    (hp : parseExprTop (sliceChars s (start + 2) (stop - 1)) = .ok ast)
    (he : evalExpr n σ sc ast = .ok v σ1) (hv : v.v = .str bs) (hd : utf8Decode bs = .ok cs) :
    interpolate (n + 1) σ sc s ((start, stop) :: r) loc last acc =
      interpolate n σ1 sc s r loc stop (acc ++ sliceChars s last start ++ cs) := by
  rw [interpolate]
  simp only [hp, he, Res.mapErr, Res.bind, hv, hd]

theorem interpolate_cons_not_string {n : Nat} {σ σ1 : State} {sc : List Addr} {s : List Char} {start stop : Nat}
    {r : List (Nat × Nat)} {loc : Loc} {last : Nat} {acc : List Char} {ast : Expr} {v : SVal}
    (hp : parseExprTop (sliceChars s (start + 2) (stop - 1)) = .ok ast)
    (he : evalExpr n σ sc ast = .ok v σ1) (hv : ∀ bs, v.v ≠ .str bs) :
    interpolate (n + 1) σ sc s ((start, stop) :: r) loc last acc =
      .err (.atLoc loc.1 (loc.2 + start + 4) (.leaf (Gen.Leaf.InterpolatedValueNotString v.v.kind))) σ1 := by
  rw [interpolate]
  simp only [hp, he, Res.mapErr, Res.bind]

theorem interpolate_cons_err {n : Nat} {σ σ1 : State} {sc : List Addr} {s : List Char} {start stop : Nat}
    {r : List (Nat × Nat)} {loc : Loc} {last : Nat} {acc : List Char} {ast : Expr} {e : Err}
    (hp : parseExprTop (sliceChars s (start + 2) (stop - 1)) = .ok ast)
    (he : evalExpr n σ sc ast = .err e σ1) :
    interpolate (n + 1) σ sc s ((start, stop) :: r) loc last acc = .err (.atLoc loc.1 (loc.2 + start + 4) e) σ1 := by
  rw [interpolate]
  simp only [hp, he, Res.mapErr, Res.bind]

theorem interpolate_prefix {sc : List Addr} {s : List Char} {n : Nat} {σ σ1 : State} {pre : List (Nat × Nat)}
    {vs : List (List Char)} (h : SlotsEval sc s n σ pre vs σ1) :
    ∀ (rest : List (Nat × Nat)) (loc : Loc) (last : Nat) (acc : List Char),
      interpolate n σ sc s (pre ++ rest) loc last acc =
        interpolate (n - pre.length) σ1 sc s rest loc (lastAfter last pre) (acc ++ joinPre s last pre vs) := by
  induction h with
  | nil n σ => intro rest loc last acc; simp [lastAfter, joinPre]
  | cons hp he hv hd _ ih =>
    intro rest loc last acc
    rw [List.cons_append, interpolate_cons_ok hp he hv hd, ih]
    simp [lastAfter, joinPre, List.append_assoc]

theorem SlotsEval.length_le {sc : List Addr} {s : List Char} {n : Nat} {σ σ1 : State} {pre : List (Nat × Nat)}
    {vs : List (List Char)} (h : SlotsEval sc s n σ pre vs σ1) : pre.length ≤ n ∧ vs.length = pre.length := by
  induction h with
  | nil => simp
  | cons _ _ _ _ _ ih => simp; omega

/-- pieces and slot values, alternating: `p0 ++ v1 ++ p1 ++ … ++ vk ++ pk` -/
def weave : List Char → List (List Char × List Char) → List (List Char) → List Char
  | p0, [], _ => p0
  | p0, _ :: _, [] => p0
  | p0, (_, p) :: r, v :: vs => p0 ++ v ++ weave p r vs

theorem joinPieces_cons (s : List Char) (last start stop : Nat) (r : List (Nat × Nat)) (v : List Char)
    (vs : List (List Char)) :
    joinPieces s last ((start, stop) :: r) (v :: vs) = sliceChars s last start ++ v ++ joinPieces s stop r vs := by
  simp [joinPieces, joinPre, lastAfter, List.append_assoc]

theorem joinPieces_of_slotsOK (s : List Char) (segs : List (List Char × List Char)) :
    ∀ (last : Nat) (p0 : List Char) (slots : List (Nat × Nat)) (vs : List (List Char)),
      SlotsOK s last p0 segs slots → vs.length = segs.length → joinPieces s last slots vs = weave p0 segs vs := by
  induction segs with
  | nil =>
    intro last p0 slots vs h _
    obtain ⟨rfl, h2⟩ := h
    simp [joinPieces, joinPre, lastAfter, weave, h2]
  | cons x r ih =>
    obtain ⟨e, p⟩ := x
    intro last p0 slots vs h hl
    obtain ⟨start, stop, rest, rfl, h1, _, h3⟩ := h
    obtain ⟨v, vs', rfl⟩ : ∃ v vs', vs = v :: vs' := by
      cases vs with
      | nil => simp at hl
      | cons v vs' => exact ⟨v, vs', rfl⟩
    rw [joinPieces_cons, h1, ih stop p rest vs' h3 (by simpa using hl)]
    simp [weave]

end Seed.C15
