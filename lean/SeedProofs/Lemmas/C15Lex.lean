/-
  The string-literal scanner (`strLoop`, SeedModel/Lex.lean) run over whole segments of
  source text.

  `Seg interp src out sl` says: started in the `None` state on source text `src` (followed by anything),
  the loop consumes exactly `src`, appends `out` to the decoded characters and `sl n` to the slot list
  (`n` = number of characters decoded before), and is in the `None` state again.  Segments compose
  (`Seg.append`); the basic ones are an escaped piece of text, a `\xHH` escape, a raw character and a
  brace-balanced `${…}` slot.  `Seg.lexStr` closes a literal.
-/
import SeedModel.Lex
import SeedProofs.Lemmas.Scan
namespace Seed.C15
open Seed

/-- the source spelling of one character of a string literal -/
def escapeChar (c : Char) : List Char :=
  if c = '\\' then ['\\', '\\']
  else if c = '"' then ['\\', '"']
  else if c = '$' then ['\\', '$']
  else if c = '\n' then ['\\', 'n']
  else if c = '\r' then ['\\', 'r']
  else [c]

/-- the source spelling of a text: `\ " $ LF CR` become `\\ \" \$ \n \r`, everything else is itself -/
def escapeChars : List Char → List Char
  | [] => []
  | c :: cs => escapeChar c ++ escapeChars cs

theorem escapeChars_append (a b : List Char) : escapeChars (a ++ b) = escapeChars a ++ escapeChars b := by
  induction a with
  | nil => rfl
  | cons c a ih => simp [escapeChars, ih]

def strLoopS (interp : Bool) (s : Scanner) (a : StrAcc) : Except LexError (StrAcc × Scanner) :=
  strLoop interp s.rest s.line s.col a

theorem strLoopS_step {interp : Bool} {s : Scanner} {a : StrAcc} {ch : Char} {r : List Char}
    (hr : s.rest = ch :: r) :
    strLoopS interp s a =
      match strStep interp a ch (s.line, s.col) with
      | .fail e => .error e
      | .done a' => .ok (a', s.next)
      | .cont a' => strLoopS interp s.next a' := by
  obtain ⟨rest, l, c⟩ := s
  cases hr
  simp only [strLoopS, Scanner.next_mk_cons]
  rw [strLoop]
  rfl

theorem strLoopS_cont {interp : Bool} {s : Scanner} {a a' : StrAcc} {ch : Char} {r : List Char}
    (hr : s.rest = ch :: r) (hs : strStep interp a ch (s.line, s.col) = .cont a') :
    strLoopS interp s a = strLoopS interp s.next a' := by
  rw [strLoopS_step hr, hs]

theorem strLoopS_done {interp : Bool} {s : Scanner} {a a' : StrAcc} {ch : Char} {r : List Char}
    (hr : s.rest = ch :: r) (hs : strStep interp a ch (s.line, s.col) = .done a') :
    strLoopS interp s a = .ok (a', s.next) := by
  rw [strLoopS_step hr, hs]

theorem strLoopS_fail {interp : Bool} {s : Scanner} {a : StrAcc} {ch : Char} {r : List Char} {e : LexError}
    (hr : s.rest = ch :: r) (hs : strStep interp a ch (s.line, s.col) = .fail e) :
    strLoopS interp s a = .error e := by
  rw [strLoopS_step hr, hs]

theorem next_rest_of_cons {s : Scanner} {ch : Char} {r : List Char} (hr : s.rest = ch :: r) : s.next.rest = r := by
  rw [Scanner.next_rest, hr]; rfl

theorem step_plain (interp : Bool) (a : StrAcc) (c : Char) (loc : Loc) (h : a.state = .None)
    (h1 : c ≠ '\\') (h2 : c ≠ '"') (h3 : c ≠ '$') : strStep interp a c loc = .cont (a.push c) := by
  simp [strStep, h, h1, h2, h3]

theorem step_backslash (interp : Bool) (a : StrAcc) (loc : Loc) (h : a.state = .None) :
    strStep interp a '\\' loc = .cont { a with state := .Escape } := by
  simp [strStep, h]

theorem step_quote (interp : Bool) (a : StrAcc) (loc : Loc) (h : a.state = .None) :
    strStep interp a '"' loc = .done a := by
  simp [strStep, h]

theorem unescape_push (a : StrAcc) (c : Char) (h : a.state = .None) :
    ({ ({ a with state := .Escape } : StrAcc) with state := .None } : StrAcc).push c = a.push c := by
  obtain ⟨_, _, st, _, _, _, _⟩ := a
  simp only at h; subst h; rfl

theorem escapeChar_cases (c : Char) :
    (escapeChar c = [c] ∧ c ≠ '\\' ∧ c ≠ '"' ∧ c ≠ '$') ∨
    (∃ e, escapeChar c = ['\\', e] ∧ ∀ (interp : Bool) (a : StrAcc) (loc : Loc), a.state = .Escape →
      strStep interp a e loc = .cont ({ a with state := .None }.push c)) := by
  by_cases h1 : c = '\\'
  · subst h1; exact .inr ⟨'\\', by decide, fun i a loc h => by simp [strStep, h]⟩
  by_cases h2 : c = '"'
  · subst h2; exact .inr ⟨'"', by decide, fun i a loc h => by simp [strStep, h]⟩
  by_cases h3 : c = '$'
  · subst h3; exact .inr ⟨'$', by decide, fun i a loc h => by simp [strStep, h]⟩
  by_cases h4 : c = '\n'
  · subst h4; exact .inr ⟨'n', by decide, fun i a loc h => by simp [strStep, h]⟩
  by_cases h5 : c = '\r'
  · subst h5; exact .inr ⟨'r', by decide, fun i a loc h => by simp [strStep, h]⟩
  exact .inl ⟨by simp [escapeChar, *], h1, h2, h3⟩

def _root_.Seed.StrAcc.pushAll (a : StrAcc) (cs : List Char) : StrAcc :=
  { a with chars := cs.reverse ++ a.chars, n := a.n + cs.length }

theorem pushAll_nil (a : StrAcc) : a.pushAll [] = a := by
  obtain ⟨_, _, _, _, _, _, _⟩ := a; simp [StrAcc.pushAll]

theorem push_pushAll (a : StrAcc) (c : Char) (cs : List Char) : (a.push c).pushAll cs = a.pushAll (c :: cs) := by
  obtain ⟨_, _, _, _, _, _, _⟩ := a
  simp [StrAcc.pushAll, StrAcc.push]; omega

theorem piece_run (interp : Bool) (cs : List Char) : ∀ (s : Scanner) (tail : List Char) (a : StrAcc),
    s.rest = escapeChars cs ++ tail → a.state = .None →
    strLoopS interp s a = strLoopS interp (s.advance (escapeChars cs).length) (a.pushAll cs) := by
  induction cs with
  | nil => intro s tail a _ _; simp [escapeChars, pushAll_nil, Scanner.advance]
  | cons c cs ih =>
    intro s tail a hr hst
    rcases escapeChar_cases c with ⟨he, h1, h2, h3⟩ | ⟨e, he, hstep⟩
    · simp only [escapeChars, he, List.cons_append, List.nil_append] at hr ⊢
      rw [strLoopS_cont hr (step_plain interp a c _ hst h1 h2 h3),
        ih s.next tail (a.push c) (next_rest_of_cons hr) hst, push_pushAll, List.length_cons,
        Scanner.advance_succ]
    · simp only [escapeChars, he, List.cons_append, List.nil_append] at hr ⊢
      have hr2 := next_rest_of_cons hr
      rw [strLoopS_cont hr (step_backslash interp a _ hst),
        strLoopS_cont hr2 (hstep interp _ _ rfl), unescape_push a c hst,
        ih s.next.next tail (a.push c) (next_rest_of_cons hr2) hst, push_pushAll]
      simp only [List.length_cons, Scanner.advance_succ]

/-- the accumulator is between items: `None` state, no pending hex digit, no open brace -/
structure Clean (a : StrAcc) : Prop where
  st : a.state = .None
  hex : a.firstHex = none
  br : a.braces = 0

theorem clean_init : Clean StrAcc.init := ⟨rfl, rfl, rfl⟩

def Seg (interp : Bool) (src out : List Char) (sl : Nat → List (Nat × Nat)) : Prop :=
  ∀ (s : Scanner) (tail : List Char) (a : StrAcc), s.rest = src ++ tail → Clean a →
    ∃ a', strLoopS interp s a = strLoopS interp (s.advance src.length) a' ∧ Clean a' ∧
      a'.chars = out.reverse ++ a.chars ∧ a'.n = a.n + out.length ∧ a'.slots = (sl a.n).reverse ++ a.slots

theorem Seg.nil (interp : Bool) : Seg interp [] [] (fun _ => []) := by
  intro s tail a _ hc
  exact ⟨a, rfl, hc, by simp, by simp, by simp⟩

theorem Seg.append {interp : Bool} {src1 out1 src2 out2 : List Char} {sl1 sl2 : Nat → List (Nat × Nat)}
    (h1 : Seg interp src1 out1 sl1) (h2 : Seg interp src2 out2 sl2) :
    Seg interp (src1 ++ src2) (out1 ++ out2) (fun n => sl1 n ++ sl2 (n + out1.length)) := by
  intro s tail a hr hc
  obtain ⟨a1, e1, c1, ch1, n1, s1⟩ := h1 s (src2 ++ tail) a (by simp [hr]) hc
  obtain ⟨a2, e2, c2, ch2, n2, s2⟩ := h2 (s.advance src1.length) tail a1
    (by rw [Scanner.advance_rest, hr]; simp) c1
  refine ⟨a2, ?_, c2, ?_, ?_, ?_⟩
  · rw [e1, e2, Scanner.advance_add, List.length_append]
  · rw [ch2, ch1]; simp
  · rw [n2, n1, List.length_append]; omega
  · rw [s2, s1, n1]; simp

theorem Seg.congr {interp : Bool} {src out : List Char} {sl sl' : Nat → List (Nat × Nat)}
    (h : Seg interp src out sl) (e : ∀ n, sl n = sl' n) : Seg interp src out sl' := by
  have : sl = sl' := funext e
  exact this ▸ h

theorem Seg.piece (interp : Bool) (cs : List Char) : Seg interp (escapeChars cs) cs (fun _ => []) := by
  intro s tail a hr hc
  refine ⟨a.pushAll cs, piece_run interp cs s tail a hr hc.st, ⟨hc.st, hc.hex, hc.br⟩, rfl, rfl, by simp [StrAcc.pushAll]⟩

theorem Seg.raw (interp : Bool) (c : Char) (h1 : c ≠ '\\') (h2 : c ≠ '"') (h3 : c ≠ '$') :
    Seg interp [c] [c] (fun _ => []) := by
  intro s tail a hr hc
  refine ⟨a.push c, ?_, ⟨hc.st, hc.hex, hc.br⟩, rfl, rfl, by simp [StrAcc.push]⟩
  rw [strLoopS_cont hr (step_plain interp a c _ hc.st h1 h2 h3)]; rfl

theorem Seg.hex (interp : Bool) (h1 h2 : Char) (x y : Nat) (e1 : hexVal h1 = some x) (e2 : hexVal h2 = some y) :
    Seg interp ['\\', 'x', h1, h2] [Char.ofNat (x * 16 + y)] (fun _ => []) := by
  intro s tail a hr hc
  simp only [List.cons_append, List.nil_append] at hr
  have hr1 := next_rest_of_cons hr
  have hr2 := next_rest_of_cons hr1
  have hr3 := next_rest_of_cons hr2
  obtain ⟨chars, n, st, fh, cur, slots, br⟩ := a
  obtain ⟨hst, hfh, hbr⟩ := hc
  simp only at hst hfh hbr; subst hst hfh hbr
  refine ⟨⟨Char.ofNat (x * 16 + y) :: chars, n + 1, .None, none, cur, slots, 0⟩, ?_, ⟨rfl, rfl, rfl⟩, rfl, rfl, rfl⟩
  rw [strLoopS_cont hr (step_backslash interp _ _ rfl),
    strLoopS_cont hr1 (a' := ⟨chars, n, .Hex, none, cur, slots, 0⟩) (by simp [strStep]),
    strLoopS_cont hr2 (a' := ⟨chars, n, .Hex, some x, cur, slots, 0⟩) (by simp [strStep, e1]),
    strLoopS_cont hr3 (a' := ⟨Char.ofNat (x * 16 + y) :: chars, n + 1, .None, none, cur, slots, 0⟩)
      (by simp [strStep, e2, StrAcc.push])]
  rfl

/-- a brace-balanced text: no prefix closes more braces than it opened, and all braces are closed -/
def Balanced (e : List Char) : Prop :=
  (∀ k, (e.take k).count '}' ≤ (e.take k).count '{') ∧ e.count '{' = e.count '}'

theorem balanced_iff_bounded (e : List Char) :
    Balanced e ↔ (∀ k, k ≤ e.length → (e.take k).count '}' ≤ (e.take k).count '{') ∧ e.count '{' = e.count '}' := by
  constructor
  · exact fun ⟨h1, h2⟩ => ⟨fun k _ => h1 k, h2⟩
  · refine fun ⟨h1, h2⟩ => ⟨fun k => ?_, h2⟩
    by_cases hk : k ≤ e.length
    · exact h1 k hk
    · rw [List.take_of_length_le (by omega)]; omega

instance (e : List Char) : Decidable (Balanced e) := decidable_of_iff _ (balanced_iff_bounded e).symm

/-- what one character does to the brace counts and to the nesting depth: `i` opening, `j` closing -/
theorem brace_cases (ch : Char) : ∃ i j : Nat, i + j ≤ 1 ∧
    (∀ l : List Char, (ch :: l).count '{' = l.count '{' + i ∧ (ch :: l).count '}' = l.count '}' + j) ∧
    ∀ b : Nat, (if ch = '{' then b + 1 else if ch = '}' then b - 1 else b) = b + i - j := by
  by_cases ho : ch = '{'
  · subst ho; exact ⟨1, 0, by decide, fun l => by simp, fun b => by simp⟩
  · by_cases hc : ch = '}'
    · subst hc; exact ⟨0, 1, by decide, fun l => by simp, fun b => by simp⟩
    · exact ⟨0, 0, by decide, fun l => by simp [ho, hc], fun b => by simp [ho, hc]⟩

/-- inside a slot at brace depth `b`, text that never brings the depth to 0 is copied raw -/
theorem interp_run (e : List Char) : ∀ (b : Nat) (s : Scanner) (tail : List Char)
    (chars : List Char) (n cur : Nat) (fh : Option Nat) (slots : List (Nat × Nat)),
    s.rest = e ++ tail → cur + 1 < n →
    (∀ k, (e.take k).count '}' < b + (e.take k).count '{') →
    strLoopS true s ⟨chars, n, .Interpolate, fh, cur, slots, b⟩ =
      strLoopS true (s.advance e.length)
        ⟨e.reverse ++ chars, n + e.length, .Interpolate, fh, cur, slots, b + e.count '{' - e.count '}'⟩ := by
  induction e with
  | nil => intro b s tail chars n cur fh slots _ _ _; simp [Scanner.advance]
  | cons ch e ih =>
    intro b s tail chars n cur fh slots hr hcur hbal
    obtain ⟨i, j, hij, hcnt, hb⟩ := brace_cases ch
    have hb1 := hbal 1
    have hfin := hbal (ch :: e).length
    simp only [List.take_succ_cons, List.take_zero, List.take_length, (hcnt _).1, (hcnt _).2, List.count_nil]
      at hb1 hfin
    have hstep : strStep true ⟨chars, n, .Interpolate, fh, cur, slots, b⟩ ch (s.line, s.col) =
        .cont ⟨ch :: chars, n + 1, .Interpolate, fh, cur, slots, b + i - j⟩ := by
      have hne : ¬ (cur + 1 = n) := by omega
      have h0 : ¬ (b + i - j = 0) := by omega
      simp [strStep, hne, StrAcc.push, hb, h0]
    rw [strLoopS_cont hr hstep, ih (b + i - j) s.next tail _ _ _ _ _ (next_rest_of_cons hr) (by omega)
      (fun k => by
        have := hbal (k + 1)
        simp only [List.take_succ_cons, (hcnt _).1, (hcnt _).2] at this
        omega)]
    simp only [List.length_cons, Scanner.advance_succ, List.reverse_cons, List.append_assoc,
      List.singleton_append, (hcnt _).1, (hcnt _).2]
    congr 2 <;> omega

theorem Seg.slot (e : List Char) (hb : Balanced e) :
    Seg true ('$' :: '{' :: e ++ ['}']) ('$' :: '{' :: e ++ ['}']) (fun n => [(n, n + e.length + 3)]) := by
  intro s tail a hr hc
  simp only [List.cons_append, List.append_assoc, List.nil_append] at hr
  have hr1 := next_rest_of_cons hr
  have hr2 := next_rest_of_cons hr1
  obtain ⟨chars, n, st, fh, cur, slots, br⟩ := a
  obtain ⟨hst, hfh, hbr⟩ := hc
  simp only at hst hfh hbr; subst hst hfh hbr
  have hr3 : (s.next.next.advance e.length).rest = '}' :: tail := by
    rw [Scanner.advance_rest, hr2]; simp
  refine ⟨⟨'}' :: (e.reverse ++ '{' :: '$' :: chars), n + e.length + 3, .None, none, n, (n, n + e.length + 3) :: slots, 0⟩,
    ?_, ⟨rfl, rfl, rfl⟩, by simp, by simp; omega, by simp⟩
  rw [strLoopS_cont hr (a' := ⟨'$' :: chars, n + 1, .Interpolate, none, n, slots, 0⟩) (by simp [strStep, StrAcc.push]),
    strLoopS_cont hr1 (a' := ⟨'{' :: '$' :: chars, n + 1 + 1, .Interpolate, none, n, slots, 0 + 1⟩)
      (by simp [strStep, StrAcc.push]),
    interp_run e 1 s.next.next ('}' :: tail) _ _ _ _ _ hr2 (by omega) (fun k => by have := hb.1 k; omega),
    strLoopS_cont hr3 (a' := ⟨'}' :: (e.reverse ++ '{' :: '$' :: chars), n + e.length + 3, .None, none, n,
      (n, n + e.length + 3) :: slots, 0⟩)
      (by
        have := hb.2
        simp [strStep, StrAcc.push, this]
        rw [if_neg (by omega)]
        have e1 : n + 1 + 1 + e.length + 1 = n + e.length + 3 := by omega
        rw [e1])]
  congr 1
  rw [← Scanner.advance_succ', ← Scanner.advance_succ, ← Scanner.advance_succ]
  congr 1
  simp

def strTok (interp : Bool) (out : List Char) (slots : List (Nat × Nat)) : Token :=
  if interp then Token.InterpStrLiteral out slots else Token.StrLiteral out

/-- a literal whose body is a segment: opening character `q` (the scanner is on it), body, closing quote -/
theorem Seg.lexStr {interp : Bool} {src out : List Char} {sl : Nat → List (Nat × Nat)} (h : Seg interp src out sl)
    (q : Char) (rest : List Char) (l c : Nat) :
    lexStr interp ⟨q :: (src ++ '"' :: rest), l, c⟩ =
      .ok (strTok interp out (sl 0), (Scanner.mk (q :: (src ++ '"' :: rest)) l c).advance (src.length + 2)) := by
  generalize hs : Scanner.mk (q :: (src ++ '"' :: rest)) l c = s
  have hr : s.rest = q :: (src ++ '"' :: rest) := by rw [← hs]
  have hr1 := next_rest_of_cons hr
  obtain ⟨a', e1, c1, ch1, n1, s1⟩ := h s.next ('"' :: rest) StrAcc.init hr1 clean_init
  have hr2 : (s.next.advance src.length).rest = '"' :: rest := by rw [Scanner.advance_rest, hr1]; simp
  have e2 := strLoopS_done hr2 (step_quote interp a' _ c1.st)
  unfold Seed.lexStr
  simp only []
  change (match strLoopS interp s.next StrAcc.init with | .error e => _ | .ok (a, s') => _) = _
  rw [e1, e2]
  simp only [ch1, s1, StrAcc.init, List.append_nil, List.reverse_reverse]
  have : (s.next.advance src.length).next = s.advance (src.length + 2) := by
    rw [← Scanner.advance_succ', ← Scanner.advance_succ]
  rw [this]
  cases interp <;> simp [strTok]

/-- source text of a literal body: piece `p0`, then for every `(e, p)` the slot `${e}` and the piece `p` -/
def render : List Char → List (List Char × List Char) → List Char
  | p0, [] => escapeChars p0
  | p0, (e, p) :: r => escapeChars p0 ++ ('$' :: '{' :: e ++ ['}']) ++ render p r

/-- the text the lexer reports for it: decoded pieces, raw slots -/
def decoded : List Char → List (List Char × List Char) → List Char
  | p0, [] => p0
  | p0, (e, p) :: r => p0 ++ ('$' :: '{' :: e ++ ['}']) ++ decoded p r

/-- the slot list: `(offset of "${", offset just past "}")`, in characters of `decoded`, counted from `off` -/
def slotsOf : Nat → List Char → List (List Char × List Char) → List (Nat × Nat)
  | _, _, [] => []
  | off, p0, (e, p) :: r =>
    (off + p0.length, off + p0.length + e.length + 3) :: slotsOf (off + p0.length + e.length + 3) p r

theorem Seg.render (segs : List (List Char × List Char)) : ∀ (p0 : List Char), (∀ x ∈ segs, Balanced x.1) →
    Seg true (render p0 segs) (decoded p0 segs) (fun n => slotsOf n p0 segs) := by
  induction segs with
  | nil => intro p0 _; exact Seg.piece true p0
  | cons x r ih =>
    obtain ⟨e, p⟩ := x
    intro p0 hb
    have h1 := ((Seg.piece true p0).append (Seg.slot e (hb (e, p) (by simp)))).append
      (ih p (fun x hx => hb x (by simp [hx])))
    refine Seg.congr h1 (fun n => ?_)
    simp only [slotsOf, List.nil_append, List.singleton_append, List.length_append, List.length_cons,
      List.length_nil]
    congr 2 <;> omega

theorem nextToken_plain_str {body : List Char} {l c : Nat} {t : Token} {s' : Scanner}
    (h : lexStr false ⟨'"' :: body, l, c⟩ = .ok (t, s')) :
    nextToken ⟨'"' :: body, l, c⟩ = .tok ⟨(l, c), t, endLoc s'⟩ s' := by
  have hsk : (Scanner.mk ('"' :: body) l c).skipWs = ⟨'"' :: body, l, c⟩ := by
    simp [Scanner.skipWs, skipWs, isAsciiWs]
  unfold nextToken
  simp only [hsk]
  simp [isAsciiAlpha, isAsciiDigit, Scanner.loc, h]

theorem nextToken_interp_str {body : List Char} {l c : Nat} {t : Token} {s' : Scanner}
    (h : lexStr true (Scanner.mk ('$' :: body) l c).next = .ok (t, s')) :
    nextToken ⟨'$' :: body, l, c⟩ = .tok ⟨(l, c), t, endLoc s'⟩ s' := by
  have hsk : (Scanner.mk ('$' :: body) l c).skipWs = ⟨'$' :: body, l, c⟩ := by
    simp [Scanner.skipWs, skipWs, isAsciiWs]
  unfold nextToken
  simp only [hsk]
  simp [isAsciiAlpha, isAsciiDigit, Scanner.loc, h]

theorem lexAll_single {src : List Char} {sp : Span} {s' : Scanner} (hn : Scanner.new src = ⟨src, 1, 1⟩)
    (h : nextToken ⟨src, 1, 1⟩ = .tok sp s') (he : s'.rest = []) (ht : sp.tok ≠ Token.StmtEnd) :
    lexAll src = ([sp], none) := by
  unfold lexAll
  rw [hn]
  simp only [lexRaw, h, lexRaw_of_rest_nil _ s' he]
  simp [suppress, ht]

theorem Seg.lexAll_plain {src out : List Char} {sl : Nat → List (Nat × Nat)} (h : Seg false src out sl) :
    (lexAll ('"' :: (src ++ ['"']))).1.map (·.tok) = [Token.StrLiteral out] ∧
    (lexAll ('"' :: (src ++ ['"']))).2 = none := by
  rw [lexAll_single rfl (nextToken_plain_str (h.lexStr '"' [] 1 1))
    (by rw [Scanner.advance_rest]; simp) (by simp [strTok])]
  simp [strTok]

theorem Seg.lexAll_interp {src out : List Char} {sl : Nat → List (Nat × Nat)} (h : Seg true src out sl) :
    (lexAll ('$' :: '"' :: (src ++ ['"']))).1.map (·.tok) = [Token.InterpStrLiteral out (sl 0)] ∧
    (lexAll ('$' :: '"' :: (src ++ ['"']))).2 = none := by
  rw [lexAll_single rfl (nextToken_interp_str (body := '"' :: (src ++ ['"'])) (h.lexStr '"' [] 1 2))
    (by rw [Scanner.advance_rest]; simp) (by simp [strTok])]
  simp [strTok]

end Seed.C15
