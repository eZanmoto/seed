/-
  Lemmas/C16Kinds.lean — the documented operand table (`allowed`, transcribed from the statement of C16) and the
  case analyses of `applyBinOp` over operator × kind × kind.
-/
import SeedModel.Prim
import SeedModel.Eval
namespace Seed.C16
open Seed

/-- the documented operand kinds of every binary operator:
    `+` two ints, two strings or two lists; `- * / %` and `< <= > >=` two ints; `&& ||` two bools;
    `==`/`!=` two values of the same non-function kind; `===`/`!==` two lists, two objects or two user functions -/
def allowed (op : BinaryOp) (l r : Kind) : Bool :=
  match op with
  | .Sum => (l == .Int && r == .Int) || (l == .Str && r == .Str) || (l == .List && r == .List)
  | .Sub | .Mul | .Div | .Mod | .Lt | .Lte | .Gt | .Gte => l == .Int && r == .Int
  | .And | .Or => l == .Bool && r == .Bool
  | .Eq | .Ne => l == r && l != .Func && l != .BuiltinFunc
  | .RefEq | .RefNe => (l == .List && r == .List) || (l == .Object && r == .Object) || (l == .Func && r == .Func)

def resultKind (op : BinaryOp) (l : Kind) : Kind :=
  match op with
  | .Sum => l
  | .Sub | .Mul | .Div | .Mod => .Int
  | _ => .Bool

/-- the number of allowed cells of the 15 × 8 × 8 matrix -/
theorem allowed_count :
    (([BinaryOp.Sum, .Sub, .Mul, .Div, .Mod, .And, .Or, .Eq, .Ne, .Gt, .Gte, .Lt, .Lte, .RefEq, .RefNe].map fun op =>
      ([Kind.Null, .Bool, .Int, .Str, .List, .Object, .BuiltinFunc, .Func].map fun l =>
        ([Kind.Null, .Bool, .Int, .Str, .List, .Object, .BuiltinFunc, .Func].filter fun r => allowed op l r).length).sum).sum) = 31 := by
  decide +kernel

theorem arith_ok_kind {op : BinaryOp} {loc : Loc} {x y : Int} {σ σ' : State} {v : Val}
    (h : arith op loc x y σ = .ok v σ') : v.kind = .Int := by
  unfold arith at h
  dsimp only at h
  repeat' split at h
  all_goals cases h <;> rfl

/-- every arm of the operand match lies inside the domain (there `h` is absurd), the default arm is the mismatch -/
theorem eqVal_mismatch {n : Nat} {σ : State} {a b : Val} (h : allowed .Eq a.kind b.kind = false) :
    eqVal (n + 1) σ a b = .mismatch [] (Gen.typeNameDiag a.kind) (Gen.typeNameDiag b.kind) := by
  simp only [eqVal]
  split <;> first | rfl | cases h

theorem eqVal_ok_kinds {fuel : Nat} {σ : State} {a b : Val} {r : Bool} (h : eqVal fuel σ a b = .ok r) :
    allowed .Eq a.kind b.kind = true := by
  cases hal : allowed .Eq a.kind b.kind
  · cases fuel with
    | zero => rw [eqVal] at h; cases h
    | succ n => rw [eqVal_mismatch hal] at h; cases h
  · rfl

theorem eq_ok {fuel : Nat} {σ σ' : State} {op : BinaryOp} {loc : Loc} {a b v : Val} (hop : op = .Eq ∨ op = .Ne)
    (h : applyBinOp fuel σ op loc a b = .ok v σ') : v.kind = .Bool ∧ ∃ r, eqVal fuel σ a b = .ok r := by
  rcases hop with rfl | rfl
  all_goals
    simp only [applyBinOp] at h
    split at h <;> cases h
    exact ⟨rfl, _, ‹_›⟩

theorem refEq_isSome (a b : Val) : (refEq a b).isSome = allowed .RefEq a.kind b.kind := by
  cases a <;> cases b <;> rfl

/-- operator by operator as in `eqVal_mismatch`: the arms lie inside the domain, the default arm is the diagnostic -/
theorem reject_noneq {op : BinaryOp} {a b : Val} (h : allowed op a.kind b.kind = false)
    (h1 : op ≠ .Eq) (h2 : op ≠ .Ne) (fuel : Nat) (σ : State) (loc : Loc) :
    applyBinOp fuel σ op loc a b = .err (invalidOpTypes op loc a b) σ := by
  cases op <;> first | exact absurd rfl h1 | exact absurd rfl h2 | skip
  case RefEq | RefNe =>
    have hn : refEq a b = none := Option.isNone_iff_eq_none.mp <| Option.isSome_eq_false_iff.mp ((refEq_isSome a b).trans h)
    all_goals simp only [applyBinOp, hn]
  all_goals
    simp only [applyBinOp]
    split <;> first | rfl | cases h

theorem domain_noneq {fuel : Nat} {σ σ' : State} {op : BinaryOp} {loc : Loc} {a b v : Val}
    (h1 : op ≠ .Eq) (h2 : op ≠ .Ne) (h : applyBinOp fuel σ op loc a b = .ok v σ') :
    allowed op a.kind b.kind = true := by
  cases hal : allowed op a.kind b.kind
  · rw [reject_noneq hal h1 h2] at h; cases h
  · rfl

theorem result_kind_noneq {fuel : Nat} {σ σ' : State} {op : BinaryOp} {loc : Loc} {a b v : Val}
    (h1 : op ≠ .Eq) (h2 : op ≠ .Ne) (h : applyBinOp fuel σ op loc a b = .ok v σ') :
    v.kind = resultKind op a.kind := by
  cases op <;> first | exact absurd rfl h1 | exact absurd rfl h2 | skip
  all_goals
    simp only [applyBinOp] at h
    repeat' split at h
    all_goals first | (cases h <;> rfl) | exact arith_ok_kind h

end Seed.C16
