/-
  Lemmas/C16RangeAssign.lean — C16 for the range-assignment statement `t[a:b] = rhs` and for `===` / `!==`.

  `t[a:b] = rhs` (`bindNext` on a `.RangeIndex` target) has two typed operands:
    * the target `t` must be a list — every other kind is `ValueNotRangeIndexAssignable`;
    * the right-hand side must be a list or a string — every other kind `k` is
      `RangeIndexAssignOnNonIndexable k`, at the position of the target, in the state reached by evaluating the target
      expression ONLY: the bounds `a`, `b` have not been evaluated, the length of the range has not been compared
      with anything.  In particular an object with exactly as many properties as the range is long is rejected with
      the type error, not accepted and not a size error; the bounds' effects (prints) do not happen.
  `===` / `!==` are defined exactly on two lists, two objects or two functions; every other pair of kinds — in
  particular a list and an object — is `InvalidOpTypes` naming the operator and both kinds in operand order.
-/
import SeedProofs.C16
namespace Seed
namespace C16R
open Gen (Leaf)

/-- what a range assignment stores for a right-hand side of an accepted kind: the elements of a list, the one-byte
    strings of a string; `none` for every other kind (`some none`: a list value whose cell is missing — unreachable
    from well-formed states, a crash in the model) -/
def rangeItems (σ : State) (rhs : Val) : Option (Option (List SVal)) :=
  match rhs with
  | .list b => some (σ.getList b)
  | .str bs => some (some (bs.map fun b => SVal.plain (.str [b])))
  | _ => none

theorem rangeItems_isSome (σ : State) (rhs : Val) :
    (rangeItems σ rhs).isSome = (rhs.kind == .List || rhs.kind == .Str) := by
  cases rhs <;> rfl

theorem not_list_str_iff (k : Kind) :
    (k ≠ .List ∧ k ≠ .Str) ↔ k = .Null ∨ k = .Bool ∨ k = .Int ∨ k = .Object ∨ k = .Func ∨ k = .BuiltinFunc := by
  cases k <;> simp

/-- **`range_assign_rhs_kinds`.**  `t[a:b] = rhs` where `t` evaluated to the list cell `a` (leaving state `σ1`):
    * a list right-hand side goes on to the bounds / size stage `bindRangeIndex` with its elements,
    * a string right-hand side goes on with its bytes as one-byte strings,
    * every other kind is the located type error carrying that kind, in the state `σ1` — reached by evaluating the target
      only — whatever `start`, `stop` are and whatever the value holds.
    The three cases are exhaustive and exclusive, so the right-hand side is accepted exactly when its kind is list or string. -/
theorem range_assign_rhs_kinds (n : Nat) (σ σ1 : State) (sc : List Addr) (names : List (List Char)) (ex : Expr)
    (start stop : Option Expr) (loc : Loc) (rhs tgt : SVal) (decl : Bool) (a : Addr)
    (h : evalExpr n σ sc ex = .ok tgt σ1) (ht : tgt.v = .list a) :
    (∀ b items, rhs.v = .list b → σ1.getList b = some items →
      bindNext (n + 1) σ sc names (.mk (.RangeIndex ex start stop) loc) rhs none decl =
        bindRangeIndex n σ1 sc a start stop loc items names) ∧
    (∀ bs, rhs.v = .str bs →
      bindNext (n + 1) σ sc names (.mk (.RangeIndex ex start stop) loc) rhs none decl =
        bindRangeIndex n σ1 sc a start stop loc (bs.map fun b => SVal.plain (.str [b])) names) ∧
    (rhs.v.kind ≠ .List → rhs.v.kind ≠ .Str →
      bindNext (n + 1) σ sc names (.mk (.RangeIndex ex start stop) loc) rhs none decl =
        errAt loc (Leaf.RangeIndexAssignOnNonIndexable rhs.v.kind) σ1) := by
  refine ⟨fun b items hb hl => ?_, fun bs hb => ?_, fun h1 h2 => ?_⟩
  · rw [bindNext]; simp only [h, Res.bind, ht, hb, hl]
  · rw [bindNext]; simp only [h, Res.bind, ht, hb]
  · rw [bindNext]; simp only [h, Res.bind, ht]
    cases hv : rhs.v <;> simp_all [Val.kind]

/-- the same as one equation: the statement is the type error exactly when `rangeItems` has no answer (kind not list, not
    string), and otherwise runs the bounds / size stage on the items -/
theorem range_assign_rhs_cases (n : Nat) (σ σ1 : State) (sc : List Addr) (names : List (List Char)) (ex : Expr)
    (start stop : Option Expr) (loc : Loc) (rhs tgt : SVal) (decl : Bool) (a : Addr)
    (h : evalExpr n σ sc ex = .ok tgt σ1) (ht : tgt.v = .list a) :
    bindNext (n + 1) σ sc names (.mk (.RangeIndex ex start stop) loc) rhs none decl =
      match rangeItems σ1 rhs.v with
      | some (some items) => bindRangeIndex n σ1 sc a start stop loc items names
      | some none => crashHeap σ1
      | none => errAt loc (Leaf.RangeIndexAssignOnNonIndexable rhs.v.kind) σ1 := by
  rw [bindNext]; simp only [h, Res.bind, ht]
  cases hv : rhs.v <;> simp only [rangeItems]
  case list b => cases σ1.getList b <;> rfl

/-- the six rejected kinds, one by one — the value's contents (the size of the object, the function) never matter -/
theorem range_assign_rejects (n : Nat) (σ σ1 : State) (sc : List Addr) (names : List (List Char)) (ex : Expr)
    (start stop : Option Expr) (loc : Loc) (tgt : SVal) (decl : Bool) (a : Addr) (s : Option Val)
    (h : evalExpr n σ sc ex = .ok tgt σ1) (ht : tgt.v = .list a) :
    let go (v : Val) := bindNext (n + 1) σ sc names (.mk (.RangeIndex ex start stop) loc) ⟨v, s⟩ none decl
    go .null = errAt loc (Leaf.RangeIndexAssignOnNonIndexable .Null) σ1 ∧
    (∀ b, go (.bool b) = errAt loc (Leaf.RangeIndexAssignOnNonIndexable .Bool) σ1) ∧
    (∀ i, go (.int i) = errAt loc (Leaf.RangeIndexAssignOnNonIndexable .Int) σ1) ∧
    (∀ o, go (.obj o) = errAt loc (Leaf.RangeIndexAssignOnNonIndexable .Object) σ1) ∧
    (∀ f, go (.func f) = errAt loc (Leaf.RangeIndexAssignOnNonIndexable .Func) σ1) ∧
    (∀ nm id, go (.builtin nm id) = errAt loc (Leaf.RangeIndexAssignOnNonIndexable .BuiltinFunc) σ1) := by
  intro go
  have k := fun v => (range_assign_rhs_kinds n σ σ1 sc names ex start stop loc ⟨v, s⟩ tgt decl a h ht).2.2
  exact ⟨k .null nofun nofun, fun b => k (.bool b) nofun nofun,
    fun i => k (.int i) nofun nofun, fun o => k (.obj o) nofun nofun,
    fun f => k (.func f) nofun nofun,
    fun nm id => k (.builtin nm id) nofun nofun⟩

/-- an instance of the hypotheses: the target `xs` holds the list cell 1 -/
def σx : State := ⟨#[.scope [(c!"xs", SVal.plain (.list 1), (1, 0))], .list [SVal.plain (.int 1), SVal.plain (.int 2), SVal.plain (.int 3)],
  .obj [(c!"x", SVal.plain (.int 10)), (c!"y", SVal.plain (.int 20))]], []⟩

example : evalExpr 1 σx [0] (.mk (.Var c!"xs") (2, 0)) = .ok (SVal.plain (.list 1)) σx ∧
    (SVal.plain (.list 1)).v = .list 1 ∧
    (SVal.plain (.obj 2)).v.kind ≠ .List ∧ (SVal.plain (.obj 2)).v.kind ≠ .Str := by
  refine ⟨by rw [evalExpr]; rfl, rfl, by decide, by decide⟩

/-- **size does not matter.**  The object of cell 2 has exactly two properties, the range `[1:3]` is exactly two long, and
    the two bounds are in range: the answer is still the type error (and not `RangeIndexItemMismatch`, and not a store) -/
example :
    bindNext 2 σx [0] [] (.mk (.RangeIndex (.mk (.Var c!"xs") (2, 0)) (some (.mk (.Int 1) (2, 3))) (some (.mk (.Int 3) (2, 5)))) (2, 2))
      (SVal.plain (.obj 2)) none false = errAt (2, 2) (Leaf.RangeIndexAssignOnNonIndexable .Object) σx ∧
    σx.getObj 2 = some [(c!"x", SVal.plain (.int 10)), (c!"y", SVal.plain (.int 20))] :=
  ⟨(range_assign_rhs_kinds 1 σx σx [0] [] _ _ _ (2, 2) (SVal.plain (.obj 2)) (SVal.plain (.list 1)) false 1
      (by rw [evalExpr]; rfl) rfl).2.2 (by decide) (by decide), by decide⟩

/-- **the check precedes the bounds.**  With a rejected kind the result does not depend on the bound expressions at all:
    any two pairs of bounds (diverging, failing, printing, out of range, …) give the same answer -/
theorem range_assign_reject_ignores_bounds (n : Nat) (σ σ1 : State) (sc : List Addr) (names : List (List Char)) (ex : Expr)
    (start stop start' stop' : Option Expr) (loc : Loc) (rhs tgt : SVal) (decl : Bool) (a : Addr)
    (h : evalExpr n σ sc ex = .ok tgt σ1) (ht : tgt.v = .list a) (h1 : rhs.v.kind ≠ .List) (h2 : rhs.v.kind ≠ .Str) :
    bindNext (n + 1) σ sc names (.mk (.RangeIndex ex start stop) loc) rhs none decl =
      bindNext (n + 1) σ sc names (.mk (.RangeIndex ex start' stop') loc) rhs none decl := by
  rw [(range_assign_rhs_kinds n σ σ1 sc names ex start stop loc rhs tgt decl a h ht).2.2 h1 h2,
    (range_assign_rhs_kinds n σ σ1 sc names ex start' stop' loc rhs tgt decl a h ht).2.2 h1 h2]

/-- **`range_assign_target_kinds`.**  A target that is not a list (string, object, int, …) is
    `ValueNotRangeIndexAssignable` at the target's position, in the state after evaluating the target — whatever the
    right-hand side and the bounds are -/
theorem range_assign_target_kinds (n : Nat) (σ σ1 : State) (sc : List Addr) (names : List (List Char)) (ex : Expr)
    (start stop : Option Expr) (loc : Loc) (rhs tgt : SVal) (decl : Bool)
    (h : evalExpr n σ sc ex = .ok tgt σ1) (ht : tgt.v.kind ≠ .List) :
    bindNext (n + 1) σ sc names (.mk (.RangeIndex ex start stop) loc) rhs none decl =
      errAt loc Leaf.ValueNotRangeIndexAssignable σ1 := by
  rw [bindNext]; simp only [h, Res.bind]
  cases hv : tgt.v <;> simp_all [Val.kind]

example : evalExpr 1 State.init [] (.mk (.Str c!"abc" none) (1, 0)) = .ok (SVal.plain (.str (utf8Encode c!"abc"))) State.init ∧
    (SVal.plain (.str (utf8Encode c!"abc"))).v.kind ≠ .List := ⟨by rw [evalExpr], by decide⟩

/-- the order of the two checks: the target's kind is examined first (a non-list target with a non-list right-hand side
    reports the target) — an instance of the theorem above, stated for emphasis -/
theorem range_assign_target_first (n : Nat) (σ σ1 : State) (sc : List Addr) (names : List (List Char)) (ex : Expr)
    (start stop : Option Expr) (loc : Loc) (tgt : SVal) (decl : Bool) (o : Addr)
    (h : evalExpr n σ sc ex = .ok tgt σ1) (ht : tgt.v.kind ≠ .List) :
    bindNext (n + 1) σ sc names (.mk (.RangeIndex ex start stop) loc) (SVal.plain (.obj o)) none decl =
      errAt loc Leaf.ValueNotRangeIndexAssignable σ1 :=
  range_assign_target_kinds n σ σ1 sc names ex start stop loc _ tgt decl h ht

/-- `t[a:b] op= rhs` is rejected before anything is evaluated -/
theorem range_opassign (n : Nat) (σ : State) (sc : List Addr) (names : List (List Char)) (ex : Expr)
    (start stop : Option Expr) (loc : Loc) (rhs : SVal) (decl : Bool) (p : BinaryOp × Loc) :
    bindNext (n + 1) σ sc names (.mk (.RangeIndex ex start stop) loc) rhs (some p) decl = errAt loc Leaf.OpOnRangeIndex σ := by
  rw [bindNext]

/-- the texts: the right-hand-side error names the offending type with the diagnostics table -/
theorem range_assign_msgs (k : Kind) :
    (Leaf.RangeIndexAssignOnNonIndexable k).msg =
      c!"only 'list's or 'string's can be assigned to range indexes, got '" ++ Gen.typeNameDiag k ++ c!"'" ∧
    Leaf.ValueNotRangeIndexAssignable.msg = c!"only 'list's can update range indices" := ⟨rfl, rfl⟩

/-- the documented domain of `===`: both operands of the same kind, which is list, object or (user) function -/
theorem allowed_refEq_iff (l r : Kind) :
    C16.allowed .RefEq l r = true ↔ l = r ∧ (l = .List ∨ l = .Object ∨ l = .Func) := by
  cases l <;> cases r <;> decide

theorem allowed_refNe_eq (l r : Kind) : C16.allowed .RefNe l r = C16.allowed .RefEq l r := rfl

/-- **`ref_eq_kinds`.**  On two lists, two objects or two functions `===` is a boolean (address equality, `C05.refEq_iff_addr`)
    and `!==` its negation, with no state change; on every other pair of kinds both are the located `InvalidOpTypes`
    error carrying the operator and the two kinds in operand order — whatever the fuel and the state. -/
theorem ref_eq_kinds (fuel : Nat) (σ : State) (loc : Loc) (a b : Val) :
    (C16.allowed .RefEq a.kind b.kind = true → ∃ r, refEq a b = some r ∧
      applyBinOp fuel σ .RefEq loc a b = .ok (.bool r) σ ∧ applyBinOp fuel σ .RefNe loc a b = .ok (.bool (!r)) σ) ∧
    (C16.allowed .RefEq a.kind b.kind = false →
      applyBinOp fuel σ .RefEq loc a b = .err (Err.at loc (Leaf.InvalidOpTypes .RefEq a.kind b.kind)) σ ∧
      applyBinOp fuel σ .RefNe loc a b = .err (Err.at loc (Leaf.InvalidOpTypes .RefNe a.kind b.kind)) σ) := by
  constructor
  · intro h
    have hs := C16.refEq_isSome a b
    rw [h] at hs
    obtain ⟨r, hr⟩ := Option.isSome_iff_exists.mp hs
    exact ⟨r, hr, by simp [applyBinOp, hr], by simp [applyBinOp, hr]⟩
  · intro h
    exact ⟨C16.binop_reject h (by decide) (by decide) fuel σ loc,
      C16.binop_reject (op := .RefNe) h (by decide) (by decide) fuel σ loc⟩

example : C16.allowed .RefEq (Val.list 1).kind (Val.list 2).kind = true ∧
    C16.allowed .RefEq (Val.list 1).kind (Val.obj 2).kind = false := by decide

/-- the converse direction is `C16.binop_domain`: a value is answered only on the documented kinds -/
theorem ref_eq_ok_only_on_domain {fuel : Nat} {σ σ' : State} {loc : Loc} {a b v : Val} :
    (applyBinOp fuel σ .RefEq loc a b = .ok v σ' → C16.allowed .RefEq a.kind b.kind = true) ∧
    (applyBinOp fuel σ .RefNe loc a b = .ok v σ' → C16.allowed .RefNe a.kind b.kind = true) :=
  ⟨C16.binop_domain, C16.binop_domain⟩

example : applyBinOp 0 State.init .RefEq (1, 1) (.list 3) (.list 3) = .ok (.bool true) State.init := rfl

/-- a list and an object (either order, any addresses — also equal ones): the type error naming both kinds in order,
    with the documented text -/
theorem ref_eq_list_object (fuel : Nat) (σ : State) (loc : Loc) (x y : Addr) :
    applyBinOp fuel σ .RefEq loc (.list x) (.obj y) = .err (Err.at loc (Leaf.InvalidOpTypes .RefEq .List .Object)) σ ∧
    applyBinOp fuel σ .RefEq loc (.obj y) (.list x) = .err (Err.at loc (Leaf.InvalidOpTypes .RefEq .Object .List)) σ ∧
    applyBinOp fuel σ .RefNe loc (.list x) (.obj y) = .err (Err.at loc (Leaf.InvalidOpTypes .RefNe .List .Object)) σ ∧
    applyBinOp fuel σ .RefNe loc (.obj y) (.list x) = .err (Err.at loc (Leaf.InvalidOpTypes .RefNe .Object .List)) σ ∧
    (Leaf.InvalidOpTypes .RefEq .List .Object).msg = c!"can't apply '===' to 'list' and 'object'" ∧
    (Leaf.InvalidOpTypes .RefNe .Object .List).msg = c!"can't apply '!==' to 'object' and 'list'" :=
  ⟨rfl, rfl, rfl, rfl, rfl, rfl⟩

/-- a user function and a built-in function are different kinds for `===` (both print as `func`) -/
theorem ref_eq_func_builtin (fuel : Nat) (σ : State) (loc : Loc) (f : Addr) (nm : List Char) (id : BuiltinId) :
    applyBinOp fuel σ .RefEq loc (.func f) (.builtin nm id) = .err (Err.at loc (Leaf.InvalidOpTypes .RefEq .Func .BuiltinFunc)) σ ∧
    applyBinOp fuel σ .RefEq loc (.builtin nm id) (.builtin nm id) =
      .err (Err.at loc (Leaf.InvalidOpTypes .RefEq .BuiltinFunc .BuiltinFunc)) σ :=
  ⟨rfl, rfl⟩

/-- the arms of `ref_eq` in the source (extracted table) are this domain (`C16.source_eq_arms_are_the_documented_domain`) -/
theorem ref_eq_source_arms (l r : Kind) :
    Gen.refEqArms.contains (l, r) = C16.allowed .RefEq l r := by
  cases l <;> cases r <;> decide

/-- the expression `l === r` / `l !== r`, one evaluator step deep: both operands are evaluated (left first), then the
    kinds are checked; out of domain the error is at the operator's position in the state after both operands -/
theorem ref_eq_expr (n : Nat) (σ σ1 σ2 : State) (sc : List Addr) (l r : Expr) (ol loc : Loc) (vl vr : SVal)
    (hl : evalExpr n σ sc l = .ok vl σ1) (hr : evalExpr n σ1 sc r = .ok vr σ2)
    (hk : C16.allowed .RefEq vl.v.kind vr.v.kind = false) :
    evalExpr (n + 1) σ sc (.mk (.BinaryOp .RefEq ol l r) loc) =
      errAt ol (Leaf.InvalidOpTypes .RefEq vl.v.kind vr.v.kind) σ2 ∧
    evalExpr (n + 1) σ sc (.mk (.BinaryOp .RefNe ol l r) loc) =
      errAt ol (Leaf.InvalidOpTypes .RefNe vl.v.kind vr.v.kind) σ2 := by
  obtain ⟨h1, h2⟩ := (ref_eq_kinds n σ2 ol vl.v vr.v).2 hk
  constructor
  · rw [evalExpr]; simp only [hl, hr, Res.bind, h1]; rfl
  · rw [evalExpr]; simp only [hl, hr, Res.bind, h2]; rfl

example : evalExpr 1 σx [0] (.mk (.Var c!"xs") (3, 0)) = .ok (SVal.plain (.list 1)) σx ∧
    evalExpr 1 σx [0] (.mk (.Int 1) (3, 7)) = .ok (SVal.plain (.int 1)) σx ∧
    C16.allowed .RefEq (SVal.plain (.list 1)).v.kind (SVal.plain (.int 1)).v.kind = false :=
  ⟨by rw [evalExpr]; rfl, by rw [evalExpr], by decide⟩

/-- an object with exactly as many properties as the range is long: the type error, and nothing was stored -/
example : (run 300 c!"t.sd" c!"xs := [1, 2, 3];\nxs[1:3] = {\"x\": 10, \"y\": 20};\n").stderr =
    c!"t.sd:2:1: only 'list's or 'string's can be assigned to range indexes, got 'object'\n" := by decide +kernel

/-- every rejected kind, named with the `->type()` name -/
example :
    (run 300 c!"t.sd" c!"xs := [1, 2, 3];\nxs[1:3] = null;\n").stderr =
      c!"t.sd:2:1: only 'list's or 'string's can be assigned to range indexes, got 'null'\n" ∧
    (run 300 c!"t.sd" c!"xs := [1, 2, 3];\nxs[1:3] = true;\n").stderr =
      c!"t.sd:2:1: only 'list's or 'string's can be assigned to range indexes, got 'bool'\n" ∧
    (run 300 c!"t.sd" c!"xs := [1, 2, 3];\nxs[1:3] = 7;\n").stderr =
      c!"t.sd:2:1: only 'list's or 'string's can be assigned to range indexes, got 'int'\n" ∧
    (run 300 c!"t.sd" c!"xs := [1, 2, 3];\nxs[1:3] = fn () {};\n").stderr =
      c!"t.sd:2:1: only 'list's or 'string's can be assigned to range indexes, got 'func'\n" ∧
    (run 300 c!"t.sd" c!"xs := [1, 2, 3];\nxs[1:3] = print;\n").stderr =
      c!"t.sd:2:1: only 'list's or 'string's can be assigned to range indexes, got 'func'\n" := by decide +kernel

/-- the accepted kinds: a list and a string of the right length are stored -/
example :
    (run 300 c!"t.sd" c!"xs := [1, 2, 3];\nxs[1:3] = \"ab\";\nprint(xs[1] + xs[2]);\nxs[0:1] = [[]];\nprint(xs[0] == []);\n").out =
      [c!"ab", c!"true"] := by decide +kernel

/-- the kind check precedes the bounds: the bound `f()` prints when the right-hand side is a list (and the size error
    follows), and is never evaluated — nothing printed — when it is an object -/
example :
    let o := run 300 c!"t.sd" c!"fn f() { print(\"bound\"); return 1; }\nxs := [1, 2, 3];\nxs[f():3] = {\"x\": 10, \"y\": 20};\n"
    let l := run 300 c!"t.sd" c!"fn f() { print(\"bound\"); return 1; }\nxs := [1, 2, 3];\nxs[f():3] = [7];\n"
    o.out = [] ∧ o.stderr = c!"t.sd:3:1: only 'list's or 'string's can be assigned to range indexes, got 'object'\n" ∧
    l.out = [c!"bound"] ∧ l.stderr = c!"t.sd:3:1: cannot bind 1 item(s) to 2 index(s)\n" := by decide +kernel

/-- … and an out-of-range bound is not reported either: the type error wins -/
example : (run 300 c!"t.sd" c!"xs := [1, 2, 3];\nxs[5:9] = {\"x\": 10};\n").stderr =
    c!"t.sd:2:1: only 'list's or 'string's can be assigned to range indexes, got 'object'\n" := by decide +kernel

/-- the target: a string or an object cannot be range-assigned, whatever is assigned -/
example :
    (run 300 c!"t.sd" c!"xs := \"abc\";\nxs[1:3] = \"ab\";\n").stderr = c!"t.sd:2:1: only 'list's can update range indices\n" ∧
    (run 300 c!"t.sd" c!"xs := {\"a\": 1};\nxs[1:3] = [1, 2];\n").stderr = c!"t.sd:2:1: only 'list's can update range indices\n" ∧
    (run 300 c!"t.sd" c!"xs := {\"a\": 1};\nxs[1:3] = {\"a\": 1};\n").stderr = c!"t.sd:2:1: only 'list's can update range indices\n" := by
  decide +kernel

/-- `===` / `!==` between a list and an object -/
example :
    (run 300 c!"t.sd" c!"print([] === {});\n").stderr = c!"t.sd:1:10: can't apply '===' to 'list' and 'object'\n" ∧
    (run 300 c!"t.sd" c!"print({} !== []);\n").stderr = c!"t.sd:1:10: can't apply '!==' to 'object' and 'list'\n" ∧
    (run 300 c!"t.sd" c!"a := [];\no := {};\nf := fn () {};\nprint(a === a);\nprint(o === o);\nprint(f === f);\nprint(a !== []);\n").out =
      [c!"true", c!"true", c!"true", c!"true"] := by decide +kernel

end C16R
end Seed
