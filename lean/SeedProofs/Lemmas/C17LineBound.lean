/-
  Lemmas/C17LineBound.lean — C17, lexer part of the line bound for diagnostics that come out of interpolation slots.

  `interpolate` (Eval.lean) cuts the text of a slot out of the *decoded* string literal.  Inside a slot (`StrState.Interpolate`
  of `strStep`) the lexer does no escape processing: every character from `${` up to the matching `}` is copied as it
  stands.  So the text of every slot of an interpolated-literal token is a contiguous piece (`<:+:`) of the source, even
  though the decoded literal as a whole is not (an escape `\n` outside a slot decodes to a line feed the source does not
  have).
-/
import SeedProofs.Lemmas.C18EvalPosProg
namespace Seed

theorem sliceChars_infix (s : List Char) (a b : Nat) : sliceChars s a b <:+: s := by
  unfold sliceChars
  exact (List.take_prefix _ _).isInfix.trans (List.drop_suffix _ _).isInfix

theorem sliceChars_append_left {xs ys : List Char} {a b : Nat} (h : b ≤ xs.length) :
    sliceChars (xs ++ ys) a b = sliceChars xs a b := by
  unfold sliceChars
  by_cases ha : a ≤ xs.length
  · rw [List.drop_append_of_le_length ha, List.take_append_of_le_length (by rw [List.length_drop]; omega)]
  · have : b - a = 0 := by omega
    rw [this]; simp

theorem infix_snoc {x pre : List Char} (c : Char) (h : x <:+: pre) : x <:+: pre ++ [c] :=
  h.trans (List.prefix_append pre [c]).isInfix

/-- `pre` is the part of the source the loop has consumed since the opening quote.  The text of every finished slot
    is a contiguous piece of `pre`; while a slot is open (`state = Interpolate`, its `$` at index `curStart`), what was
    pushed after the `$` is exactly the end of `pre`. -/
structure SlotInv (pre : List Char) (a : StrAcc) : Prop where
  len : a.n = a.chars.length
  fin : ∀ sl, sl ∈ a.slots → sl.2 ≤ a.n ∧ sliceChars a.chars.reverse (sl.1 + 2) (sl.2 - 1) <:+: pre
  cur : a.state = .Interpolate → a.curStart < a.n ∧ a.chars.reverse.drop (a.curStart + 1) <:+ pre

theorem slotInv_init : SlotInv [] StrAcc.init :=
  ⟨rfl, (fun _ h => by cases h), (fun h => by cases h)⟩

namespace SlotInv
variable {pre : List Char} {a a' : StrAcc}

theorem fin_keep (hi : SlotInv pre a) (c : Char) (h1 : a'.chars = a.chars) (h2 : a'.n = a.n) (h3 : a'.slots = a.slots) :
    ∀ sl, sl ∈ a'.slots → sl.2 ≤ a'.n ∧ sliceChars a'.chars.reverse (sl.1 + 2) (sl.2 - 1) <:+: pre ++ [c] := by
  intro sl hsl
  rw [h3] at hsl
  rw [h1, h2]
  exact ⟨(hi.fin sl hsl).1, infix_snoc c (hi.fin sl hsl).2⟩

theorem fin_push (hi : SlotInv pre a) (c c' : Char) (h1 : a'.chars = c' :: a.chars) (h2 : a'.n = a.n + 1)
    (h3 : a'.slots = a.slots) :
    ∀ sl, sl ∈ a'.slots → sl.2 ≤ a'.n ∧ sliceChars a'.chars.reverse (sl.1 + 2) (sl.2 - 1) <:+: pre ++ [c] := by
  intro sl hsl
  rw [h3] at hsl
  have := hi.fin sl hsl
  rw [h1, h2, List.reverse_cons, sliceChars_append_left (by rw [List.length_reverse, ← hi.len]; omega)]
  exact ⟨by omega, infix_snoc c this.2⟩

/-- a step that pushes nothing and leaves the literal outside a slot -/
theorem keep (hi : SlotInv pre a) (c : Char) (h1 : a'.chars = a.chars) (h2 : a'.n = a.n) (h3 : a'.slots = a.slots)
    (h4 : a'.state ≠ .Interpolate) : SlotInv (pre ++ [c]) a' :=
  ⟨by rw [h1, h2]; exact hi.len, hi.fin_keep c h1 h2 h3, fun h => absurd h h4⟩

/-- a step that pushes one (decoded) character and leaves the literal outside a slot -/
theorem pushed (hi : SlotInv pre a) (c c' : Char) (h1 : a'.chars = c' :: a.chars) (h2 : a'.n = a.n + 1)
    (h3 : a'.slots = a.slots) (h4 : a'.state ≠ .Interpolate) : SlotInv (pre ++ [c]) a' :=
  ⟨by rw [h1, h2, hi.len]; rfl, hi.fin_push c c' h1 h2 h3, fun h => absurd h h4⟩

/-- the `$` that opens a slot -/
theorem opened (hi : SlotInv pre a) (c c' : Char) (h1 : a'.chars = c' :: a.chars) (h2 : a'.n = a.n + 1)
    (h3 : a'.slots = a.slots) (h5 : a'.curStart = a.n) : SlotInv (pre ++ [c]) a' := by
  refine ⟨by rw [h1, h2, hi.len]; rfl, hi.fin_push c c' h1 h2 h3, fun _ => ⟨by omega, ?_⟩⟩
  rw [h1, h5, List.reverse_cons, List.drop_of_length_le (by simp [hi.len])]
  exact List.nil_suffix

/-- a character inside an open slot is pushed as it stands -/
theorem inner (hi : SlotInv pre a) (hs : a.state = .Interpolate) (c : Char) (h1 : a'.chars = c :: a.chars)
    (h2 : a'.n = a.n + 1) (h3 : a'.slots = a.slots) (h5 : a'.curStart = a.curStart) : SlotInv (pre ++ [c]) a' := by
  obtain ⟨hlt, hsuf⟩ := hi.cur hs
  refine ⟨by rw [h1, h2, hi.len]; rfl, hi.fin_push c c h1 h2 h3, fun _ => ⟨by omega, ?_⟩⟩
  rw [h1, h5, List.reverse_cons, List.drop_append_of_le_length (by rw [List.length_reverse, ← hi.len]; omega)]
  obtain ⟨t, ht⟩ := hsuf
  exact ⟨t, by rw [← ht, List.append_assoc]⟩

/-- the `}` that closes a slot: the new entry of the slot table cuts out what was pushed after `${` -/
theorem closed (hi : SlotInv pre a) (hs : a.state = .Interpolate) (c : Char) (h1 : a'.chars = c :: a.chars)
    (h2 : a'.n = a.n + 1) (h3 : a'.slots = (a.curStart, a.n + 1) :: a.slots) (h4 : a'.state ≠ .Interpolate) :
    SlotInv (pre ++ [c]) a' := by
  obtain ⟨hlt, hsuf⟩ := hi.cur hs
  refine ⟨by rw [h1, h2, hi.len]; rfl, ?_, fun h => absurd h h4⟩
  intro sl hsl
  rw [h3] at hsl
  rcases List.mem_cons.mp hsl with rfl | hsl
  · refine ⟨by rw [h2]; exact Nat.le_refl _, ?_⟩
    rw [h1, List.reverse_cons, sliceChars_append_left (by rw [List.length_reverse, ← hi.len]; simp)]
    apply infix_snoc
    refine List.IsInfix.trans ?_ hsuf.isInfix
    unfold sliceChars
    have : List.drop (a.curStart + 2) a.chars.reverse = List.drop 1 (List.drop (a.curStart + 1) a.chars.reverse) := by
      rw [List.drop_drop]
    rw [this]
    exact (List.take_prefix _ _).isInfix.trans (List.drop_suffix _ _).isInfix
  · have := hi.fin sl hsl
    rw [h1, h2, List.reverse_cons, sliceChars_append_left (by rw [List.length_reverse, ← hi.len]; omega)]
    exact ⟨by omega, infix_snoc c this.2⟩

end SlotInv

theorem strStep_cont_inv {interp : Bool} {a a' : StrAcc} {c : Char} {loc : Loc} {pre : List Char}
    (h : strStep interp a c loc = .cont a') (hi : SlotInv pre a) : SlotInv (pre ++ [c]) a' := by
  revert h
  unfold strStep
  repeat' first
    | (with_reducible refine iteInduction (motive := fun r => r = StrStep.cont a' → SlotInv _ a') (fun _ => ?_) (fun _ => ?_))
    | split
  all_goals
    intro h
    cases h
  all_goals first
    | exact hi.opened c _ rfl rfl rfl rfl
    | exact hi.inner ‹_› c rfl rfl rfl rfl
    | (refine hi.keep c rfl rfl rfl ?_; simp [*]; done)
    | (refine hi.pushed c _ rfl rfl rfl ?_; simp [StrAcc.push, *]; done)
    | (refine hi.closed ‹_› c rfl rfl rfl ?_; simp [StrAcc.push]; done)

theorem strStep_done {interp : Bool} {a a' : StrAcc} {c : Char} {loc : Loc} (h : strStep interp a c loc = .done a') :
    a' = a := by
  revert h
  unfold strStep
  repeat' first
    | (with_reducible refine iteInduction (motive := fun r => r = StrStep.done a' → a' = a) (fun _ => ?_) (fun _ => ?_))
    | split
  all_goals (intro h; first | (injection h with h; exact h.symm) | cases h)

theorem strLoop_slots {interp : Bool} {r : List Char} {l c : Nat} {a a' : StrAcc} {s' : Scanner}
    (h : strLoop interp r l c a = .ok (a', s')) (pre : List Char) (hi : SlotInv pre a) :
    ∀ sl, sl ∈ a'.slots → sliceChars a'.chars.reverse (sl.1 + 2) (sl.2 - 1) <:+: pre ++ r := by
  induction r generalizing l c a pre with
  | nil =>
    unfold strLoop at h
    injection h with h; injection h with h _
    subst h
    intro sl hsl
    rw [List.append_nil]
    exact (hi.fin sl hsl).2
  | cons ch r ih =>
    unfold strLoop at h
    simp only at h
    split at h
    · cases h
    · next a'' hs =>
      injection h with h; injection h with h _
      subst h
      have := strStep_done hs
      subst this
      intro sl hsl
      exact (hi.fin sl hsl).2.trans (List.prefix_append pre (ch :: r)).isInfix
    · next a'' hs =>
      have := ih h (pre ++ [ch]) (strStep_cont_inv hs hi)
      simpa using this

/-- **the slot texts of an interpolated literal are pieces of the source.**  `s` is the scanner on the opening quote -/
theorem lexStr_slots {s s' : Scanner} {cs : List Char} {slots : List (Nat × Nat)}
    (h : lexStr true s = .ok (.InterpStrLiteral cs slots, s')) : ∀ sl, sl ∈ slots → slotText cs sl <:+: s.rest := by
  unfold lexStr at h
  simp only at h
  split at h
  · cases h
  · next a s'' hl =>
    simp only [if_true, Except.ok.injEq, Prod.mk.injEq, Token.InterpStrLiteral.injEq] at h
    obtain ⟨⟨rfl, rfl⟩, _⟩ := h
    intro sl hsl
    have := strLoop_slots hl [] slotInv_init sl (List.mem_reverse.mp hsl)
    rw [List.nil_append, Scanner.next_rest] at this
    exact this.trans (List.drop_suffix _ _).isInfix

def Token.SlotsIn (src : List Char) : Token → Prop
  | .InterpStrLiteral s slots => ∀ sl, sl ∈ slots → slotText s sl <:+: src
  | _ => _root_.True

def Token.plain : Token → Bool
  | .InterpStrLiteral _ _ => false
  | _ => true

theorem Token.SlotsIn.of_plain {src : List Char} {t : Token} (h : t.plain = true) : t.SlotsIn src := by
  cases t <;> first | exact _root_.True.intro | cases h

theorem Token.SlotsIn.mono {x y : List Char} {t : Token} (hxy : x <:+: y) (h : t.SlotsIn x) : t.SlotsIn y := by
  cases t <;> first | exact _root_.True.intro | exact fun sl hsl => (h sl hsl).trans hxy

theorem keywords_plain : Gen.keywords.all (fun p => p.2.plain) = true := by decide
theorem singleSym_plain : Gen.singleSym.all (fun p => p.2.plain) = true := by decide
theorem doubleSym_plain : Gen.doubleSym.all (fun p => p.2.plain) = true := by decide
theorem tripleSym_plain : Gen.tripleSym.all (fun p => p.2.plain) = true := by decide

theorem keywordOrIdent_plain (w : List Char) : (keywordOrIdent w).plain = true := by
  unfold keywordOrIdent
  split
  · next t ht => exact List.all_eq_true.mp keywords_plain _ (lookupAssoc_mem ht)
  · rfl

theorem matchSingle_plain {c : Char} {t : Token} (h : matchSingle c = some t) : t.plain = true :=
  List.all_eq_true.mp singleSym_plain _ (lookupAssoc_mem h)
theorem matchDouble_plain {a b : Char} {t : Token} (h : matchDouble a b = some t) : t.plain = true :=
  List.all_eq_true.mp doubleSym_plain _ (lookupAssoc_mem h)
theorem matchTriple_plain {a b c : Char} {t : Token} (h : matchTriple a b c = some t) : t.plain = true :=
  List.all_eq_true.mp tripleSym_plain _ (lookupAssoc_mem h)

theorem lexMultiSym_plain {c1 : Char} {s s' : Scanner} {t : Token} (h : lexMultiSym c1 s = (some t, s')) :
    t.plain = true := by
  unfold lexMultiSym at h
  simp only at h
  repeat' split at h
  all_goals
    injection h with h1 h2
    first
      | exact matchTriple_plain h1
      | (injection h1 with h1; subst h1
         first | exact matchDouble_plain ‹_› | exact matchTriple_plain ‹_›)
      | cases h1

theorem lexSym_plain {c1 : Char} {s s' : Scanner} {t : Token} (h : lexSym c1 s = (some t, s')) : t.plain = true := by
  unfold lexSym at h
  split at h
  · exact lexMultiSym_plain h
  · simp only at h
    repeat' split at h
    all_goals
      injection h with h1 h2
      injection h1 with h1; subst h1
      first | exact matchSingle_plain ‹_› | exact matchDouble_plain ‹_› | exact matchTriple_plain ‹_›

theorem nextToken_slotsIn {s0 s' : Scanner} {sp : Span} (h : nextToken s0 = .tok sp s') : sp.tok.SlotsIn s0.rest := by
  obtain ⟨m, hm⟩ := s0.skipWs_advance
  have hsuf : s0.skipWs.rest <:+ s0.rest := by rw [hm, Scanner.advance_rest]; exact List.drop_suffix _ _
  unfold nextToken at h
  simp only at h
  generalize s0.skipWs = s at h hsuf
  split at h
  · cases h
  · next c r hr =>
    split at h
    · cases h
    · next t s'' hres =>
      injection h with h1 h2
      subst h1
      show t.SlotsIn s0.rest
      revert hres
      -- one goal per branch of the `if` chain of `nextToken`, in its order
      repeat' (with_reducible
        refine iteInduction (motive := fun r => r = Except.ok (t, s'') → t.SlotsIn _) (fun _ => ?_) (fun _ => ?_))
      · intro h; cases h; trivial
      · intro h; cases h; exact Token.SlotsIn.of_plain (keywordOrIdent_plain _)
      · unfold lexInt
        simp only
        intro h
        split at h <;> cases h
        trivial
      · unfold lexStr
        simp only [Bool.false_eq_true, if_false]
        intro h
        split at h <;> cases h
        trivial
      · intro h
        cases t with
        | InterpStrLiteral cs slots =>
          intro sl hsl
          refine ((lexStr_slots h sl hsl).trans ?_).trans hsuf.isInfix
          rw [Scanner.next_rest]
          exact (List.drop_suffix _ _).isInfix
        | _ => trivial
      · split <;> intro h <;> cases h
        exact Token.SlotsIn.of_plain (lexSym_plain ‹_›)

/-- **every token of the token stream of `src`**: the texts of the slots of an interpolated literal are contiguous
    pieces of `src` -/
theorem lexAll_slotsIn {src : List Char} {sp : Span} (h : sp ∈ (lexAll src).1) : sp.tok.SlotsIn src := by
  have hraw : sp ∈ (lexRaw (src.length + 1) ((Scanner.new src).advance 0)).1 := suppress_subset _ _ _ h
  obtain ⟨k', s', _, hn⟩ := lexRaw_mem_reach src _ 0 sp hraw
  have := nextToken_slotsIn hn
  rw [scan_rest] at this
  exact this.mono (List.drop_suffix _ _).isInfix

/-- a concrete instance: the slot text keeps the raw line feeds and the raw escape of the source; the decoded
    prefix `a\n` has a line feed the source does not have -/
example : (lexAll c!"$\"a\\n${\n\"\\n\" + x}\"").1.map (·.tok) =
    [Token.InterpStrLiteral c!"a\n${\n\"\\n\" + x}" [(2, 14)]] ∧
    slotText c!"a\n${\n\"\\n\" + x}" (2, 14) = c!"\n\"\\n\" + x" := by decide +kernel

end Seed
