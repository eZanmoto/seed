/-
  Lemmas/C17LineBound2.lean — C17, parser part of the line bound for diagnostics that come out of interpolation slots:
  every interpolated string literal `.Str s (some slots)` of a syntax tree the parser model returns is the payload of a
  token `InterpStrLiteral s slots` of the token list the parse started from (`strAll`; the consequences for `parseProg`
  and `parseExprTop` are drawn in C17LineBound3.lean).

  Architecture of C18NodePos.lean (one structure field per parser function, `_zero`, `_succ`), whose `Suf`, `PRes.PosSat`
  and walk (`possat_auto`) are reused.
-/
import SeedProofs.Lemmas.C17LineBound
namespace Seed

def StrTok (T : List Span) (s : List Char) (slots : List (Nat × Nat)) : Prop :=
  ∃ sp, sp ∈ T ∧ sp.tok = .InterpStrLiteral s slots

mutual
/-- every interpolated string literal in the (raw) expression is a token of `T` -/
inductive RawStrOK (T : List Span) : RawExpr → Prop
  | null : RawStrOK T .Null
  | bool {b : Bool} : RawStrOK T (.Bool b)
  | int {n : Int} : RawStrOK T (.Int n)
  | strPlain {s : List Char} : RawStrOK T (.Str s none)
  | strInterp {s : List Char} {slots : List (Nat × Nat)} : StrTok T s slots → RawStrOK T (.Str s (some slots))
  | var {name : List Char} : RawStrOK T (.Var name)
  | binop {op : BinaryOp} {opLoc : Loc} {lhs rhs : Expr} :
      StrOK T lhs → StrOK T rhs → RawStrOK T (.BinaryOp op opLoc lhs rhs)
  | list {items : List ListItem} {collect : Bool} : (∀ x, x ∈ items → ItemStrOK T x) → RawStrOK T (.List items collect)
  | index {e i : Expr} : StrOK T e → StrOK T i → RawStrOK T (.Index e i)
  | rangeIndex {e : Expr} {start stop : Option Expr} :
      StrOK T e → (∀ x, start = some x → StrOK T x) → (∀ x, stop = some x → StrOK T x) →
      RawStrOK T (.RangeIndex e start stop)
  | range {a b : Expr} : StrOK T a → StrOK T b → RawStrOK T (.Range a b)
  | object {props : List PropItem} : (∀ x, x ∈ props → PropStrOK T x) → RawStrOK T (.Object props)
  | prop {e : Expr} {name : List Char} {tp : Bool} : StrOK T e → RawStrOK T (.Prop e name tp)
  | func {args : List Expr} {collect : Bool} {stmts : List Stmt} :
      (∀ x, x ∈ args → StrOK T x) → (∀ x, x ∈ stmts → StmtStrOK T x) → RawStrOK T (.Func args collect stmts)
  | call {f : Expr} {args : List ListItem} : StrOK T f → (∀ x, x ∈ args → ItemStrOK T x) → RawStrOK T (.Call f args)
inductive StrOK (T : List Span) : Expr → Prop
  | mk {raw : RawExpr} {loc : Loc} : RawStrOK T raw → StrOK T (.mk raw loc)
inductive ItemStrOK (T : List Span) : ListItem → Prop
  | mk {e : Expr} {s : Bool} : StrOK T e → ItemStrOK T (.mk e s)
inductive PropStrOK (T : List Span) : PropItem → Prop
  | pair {n v : Expr} : StrOK T n → StrOK T v → PropStrOK T (.Pair n v)
  | single {e : Expr} {s c : Bool} : StrOK T e → PropStrOK T (.Single e s c)
inductive StmtStrOK (T : List Span) : Stmt → Prop
  | block {b : List Stmt} : (∀ x, x ∈ b → StmtStrOK T x) → StmtStrOK T (.Block b)
  | expr {e : Expr} : StrOK T e → StmtStrOK T (.Expr e)
  | declare {l r : Expr} : StrOK T l → StrOK T r → StmtStrOK T (.Declare l r)
  | assign {l r : Expr} : StrOK T l → StrOK T r → StmtStrOK T (.Assign l r)
  | opAssign {l r : Expr} {op : BinaryOp} {opLoc : Loc} :
      StrOK T l → StrOK T r → StmtStrOK T (.OpAssign l op opLoc r)
  | ifs {bs : List Branch} {els : Option (List Stmt)} :
      (∀ b, b ∈ bs → BranchStrOK T b) → (∀ s, els = some s → ∀ x, x ∈ s → StmtStrOK T x) → StmtStrOK T (.If bs els)
  | whiles {c : Expr} {s : List Stmt} : StrOK T c → (∀ x, x ∈ s → StmtStrOK T x) → StmtStrOK T (.While c s)
  | fors {l i : Expr} {s : List Stmt} : StrOK T l → StrOK T i → (∀ x, x ∈ s → StmtStrOK T x) → StmtStrOK T (.For l i s)
  | brk {loc : Loc} : StmtStrOK T (.Break loc)
  | cont {loc : Loc} : StmtStrOK T (.Continue loc)
  | func {name : List Char} {nameLoc : Loc} {args : List Expr} {collect : Bool} {stmts : List Stmt} :
      (∀ x, x ∈ args → StrOK T x) → (∀ x, x ∈ stmts → StmtStrOK T x) →
      StmtStrOK T (.Func name nameLoc args collect stmts)
  | ret {loc : Loc} {e : Expr} : StrOK T e → StmtStrOK T (.Return loc e)
inductive BranchStrOK (T : List Span) : Branch → Prop
  | mk {c : Expr} {s : List Stmt} : StrOK T c → (∀ x, x ∈ s → StmtStrOK T x) → BranchStrOK T (.mk c s)
end

theorem StmtStrOK.expr_inv {T : List Span} {e : Expr} (h : StmtStrOK T (.Expr e)) : StrOK T e := by
  cases h; assumption

theorem strTok_head {T : List Span} {sp : Span} {r : List Span} {s : List Char} {slots : List (Nat × Nat)}
    (h : Suf T (sp :: r)) (ht : sp.tok = .InterpStrLiteral s slots) : StrTok T s slots :=
  ⟨sp, h.head_mem, ht⟩

structure StrAll (T : List Span) (n : Nat) : Prop where
  parseAtom : ∀ pre ts, Suf T ts → (∀ x, pre = some x → RawStrOK T x) →
    PRes.PosSat (fun a rest => Suf T rest ∧ RawStrOK T a) (parseAtom n pre ts)
  parsePostfix : ∀ l pre ts, Suf T ts → (∀ x, pre = some x → RawStrOK T x) →
    PRes.PosSat (fun a rest => Suf T rest ∧ RawStrOK T a) (parsePostfix n l pre ts)
  postfixLoop : ∀ l acc ts, Suf T ts → RawStrOK T acc →
    PRes.PosSat (fun a rest => Suf T rest ∧ RawStrOK T a) (postfixLoop n l acc ts)
  parseIndexTail : ∀ e ts, Suf T ts → StrOK T e →
    PRes.PosSat (fun a rest => Suf T rest ∧ RawStrOK T a) (parseIndexTail n e ts)
  parseRangeEnd : ∀ e s ts, Suf T ts → StrOK T e → (∀ x, s = some x → StrOK T x) →
    PRes.PosSat (fun a rest => Suf T rest ∧ RawStrOK T a) (parseRangeEnd n e s ts)
  parseTier : ∀ k l pre ts, Suf T ts → (∀ x, pre = some x → RawStrOK T x) →
    PRes.PosSat (fun a rest => Suf T rest ∧ RawStrOK T a) (parseTier n k l pre ts)
  tierLoop : ∀ k l acc ts, Suf T ts → RawStrOK T acc →
    PRes.PosSat (fun a rest => Suf T rest ∧ RawStrOK T a) (tierLoop n k l acc ts)
  parseExpr1 : ∀ s l pre ts, Suf T ts → (∀ x, pre = some x → RawStrOK T x) →
    PRes.PosSat (fun a rest => Suf T rest ∧ RawStrOK T a) (parseExpr1 n s l pre ts)
  rangeLoop : ∀ s l acc ts, Suf T ts → RawStrOK T acc →
    PRes.PosSat (fun a rest => Suf T rest ∧ RawStrOK T a) (rangeLoop n s l acc ts)
  parseExpr : ∀ s ts, Suf T ts → PRes.PosSat (fun a rest => Suf T rest ∧ StrOK T a) (parseExpr n s ts)
  parseArgs : ∀ acc ts, Suf T ts → (∀ x, x ∈ acc → ItemStrOK T x) →
    PRes.PosSat (fun a rest => Suf T rest ∧ ∀ x, x ∈ a → ItemStrOK T x) (parseArgs n acc ts)
  parseExprList : ∀ acc ts, Suf T ts → (∀ x, x ∈ acc → ItemStrOK T x) →
    PRes.PosSat (fun a rest => Suf T rest ∧ ∀ x, x ∈ a.1 → ItemStrOK T x) (parseExprList n acc ts)
  parseParams : ∀ acc ts, Suf T ts → (∀ x, x ∈ acc → StrOK T x) →
    PRes.PosSat (fun a rest => Suf T rest ∧ ∀ x, x ∈ a.1 → StrOK T x) (parseParams n acc ts)
  parsePropItems : ∀ acc ts, Suf T ts → (∀ x, x ∈ acc → PropStrOK T x) →
    PRes.PosSat (fun a rest => Suf T rest ∧ ∀ x, x ∈ a → PropStrOK T x) (parsePropItems n acc ts)
  parsePropTail : ∀ acc ts, Suf T ts → (∀ x, x ∈ acc → PropStrOK T x) →
    PRes.PosSat (fun a rest => Suf T rest ∧ ∀ x, x ∈ a → PropStrOK T x) (parsePropTail n acc ts)
  parseBlock : ∀ ts, Suf T ts →
    PRes.PosSat (fun a rest => Suf T rest ∧ ∀ x, x ∈ a → StmtStrOK T x) (parseBlock n ts)
  parseStmts : ∀ c acc ts, Suf T ts → (∀ x, x ∈ acc → StmtStrOK T x) →
    PRes.PosSat (fun a rest => Suf T rest ∧ ∀ x, x ∈ a → StmtStrOK T x) (parseStmts n c acc ts)
  parseIf : ∀ ts, Suf T ts →
    PRes.PosSat (fun a rest => Suf T rest ∧ (∀ b, b ∈ a.1 → BranchStrOK T b) ∧
      (∀ s, a.2 = some s → ∀ x, x ∈ s → StmtStrOK T x)) (parseIf n ts)
  parseStmtTail : ∀ lhs ts, Suf T ts → StrOK T lhs →
    PRes.PosSat (fun a rest => Suf T rest ∧ StmtStrOK T a) (parseStmtTail n lhs ts)
  parseExprStmt : ∀ amb l pre ts, Suf T ts → (∀ x, pre = some x → RawStrOK T x) →
    PRes.PosSat (fun a rest => Suf T rest ∧ StmtStrOK T a) (parseExprStmt n amb l pre ts)
  parseRawStmt : ∀ amb ts, Suf T ts →
    PRes.PosSat (fun a rest => Suf T rest ∧ StmtStrOK T a) (parseRawStmt n amb ts)
  parseBraceStmt : ∀ amb l ts, Suf T ts →
    PRes.PosSat (fun a rest => Suf T rest ∧ StmtStrOK T a) (parseBraceStmt n amb l ts)

/-- the literal token just matched -/
macro "str_side" : tactic =>
  `(tactic| tree_side [first | exact strTok_head ‹_› ‹_› | exact StmtStrOK.expr_inv ‹_›])

macro "str_auto " ih:ident : tactic => `(tactic| possat_auto $ih [str_side])

theorem strAll_zero (T : List Span) : StrAll T 0 := by
  constructor <;> intros <;> exact True.intro

theorem strAll_succ (T : List Span) (n : Nat) (ih : StrAll T n) : StrAll T (n + 1) := by
  constructor <;> intros
  · unfold parseAtom; str_auto ih
  · unfold parsePostfix; str_auto ih
  · unfold postfixLoop; str_auto ih
  · unfold parseIndexTail; str_auto ih
  · unfold parseRangeEnd; str_auto ih
  · unfold parseTier; str_auto ih
  · unfold tierLoop; str_auto ih
  · unfold parseExpr1; str_auto ih
  · unfold rangeLoop; str_auto ih
  · unfold parseExpr; str_auto ih
  · unfold parseArgs; str_auto ih
  · unfold parseExprList; str_auto ih
  · unfold parseParams; str_auto ih
  · unfold parsePropItems; str_auto ih
  · unfold parsePropTail; str_auto ih
  · unfold parseBlock; str_auto ih
  · unfold parseStmts; str_auto ih
  · unfold parseIf; str_auto ih
  · unfold parseStmtTail; str_auto ih
  · unfold parseExprStmt; str_auto ih
  · unfold parseRawStmt; str_auto ih
  · unfold parseBraceStmt; str_auto ih

theorem strAll (T : List Span) (n : Nat) : StrAll T n := by
  induction n with
  | zero => exact strAll_zero T
  | succ n ih => exact strAll_succ T n ih

end Seed
