/-
  Lemmas/C17LineBound3.lean — C17: **the line of every position of a run-time diagnostic lies in the source, for every
  program, interpolation slots included** (`diag_line_in_source`; C17.lean has the `_partial` form for `NoSlots`).

  Why the bound `l.1 ≤ 1 + src.count '\n'` survives slots although the positions inside a slot are relative to the slot
  text (line 1 = first line of the slot text; known findings K2/K4) and although the decoded literal can have more line
  feeds than the source (escape `\n`):

  * the lexer copies the inside of a slot verbatim, so a slot's text is a contiguous piece of the text the literal was
    lexed from (C17LineBound.lean, `lexAll_slotsIn`);
  * every interpolated literal of a parsed tree is a token of the parsed text (C17LineBound2.lean, `strAll`);
  * hence, by induction over `ProgMark` (the marks reachable by run-time slot parsing, C18EvalPosProg.lean): the text of
    every slot that is ever parsed at run time — at any nesting depth — is a contiguous piece of `src`, and every position
    is a token start of `src` or of such a piece `t`, whose line is at most `1 + t.count '\n' ≤ 1 + src.count '\n'`.
-/
import SeedProofs.Lemmas.C17LineBound2
namespace Seed

theorem parseStmts_str {n : Nat} {c : Bool} {ts rest : List Span} {stmts : List Stmt}
    (h : parseStmts n c [] ts = .ok stmts rest) : ∀ st, st ∈ stmts → StmtStrOK ts st :=
  (((strAll ts n).parseStmts c [] ts (Suf.refl ts) all_nil).elim h).2

theorem parseExpr_str {n : Nat} {s : Bool} {ts rest : List Span} {e : Expr} (h : parseExpr n s ts = .ok e rest) :
    StrOK ts e :=
  (((strAll ts n).parseExpr s ts (Suf.refl ts)).elim h).2

/-- **`str_tok`.**  every interpolated string literal of the syntax tree of a program is (the payload of) a token of
    the program's token stream -/
theorem str_tok {src : List Char} {stmts : List Stmt} (h : parseProg src = .ok stmts) :
    ∀ st, st ∈ stmts → StmtStrOK (lexAll src).1 st :=
  have ⟨_, hp⟩ := parseProg_ok h
  parseStmts_str hp

/-- the same for the expression entry point (interpolation slots) -/
theorem str_tok_expr {src : List Char} {e : Expr} (h : parseExprTop src = .ok e) : StrOK (lexAll src).1 e :=
  parseExpr_str (parseExprTop_ok h)

/-- the hypotheses are satisfiable: a slot text as `interpolate` would parse it, with a literal inside -/
example : ∃ e, parseExprTop c!"f($\"a${x}\") + 1" = .ok e ∧ StrOK (lexAll c!"f($\"a${x}\") + 1").1 e :=
  ⟨_, rfl, str_tok_expr rfl⟩

def StrM (T : List Span) : Mark → Prop
  | .loc _ => True
  | .str s slots _ => StrTok T s slots

mutual
theorem RawStrOK.marks {T : List Span} : ∀ {r : RawExpr}, RawStrOK T r → Marked (StrM T) r.marks
  | _, .null => marked_nil
  | _, .bool => marked_nil
  | _, .int => marked_nil
  | _, .strPlain => marked_nil
  | _, .strInterp _ => marked_nil
  | _, .var => marked_nil
  | _, .binop hl hr => by
    simp only [RawExpr.marks, marked_cons, marked_append]; exact ⟨True.intro, hl.marks, hr.marks⟩
  | _, .list h => by
    simp only [RawExpr.marks]; exact marked_itemsL fun x hx => (h x hx).marks
  | _, .index he hi => by
    simp only [RawExpr.marks, marked_append]; exact ⟨he.marks, hi.marks⟩
  | _, .rangeIndex he ha hb => by
    simp only [RawExpr.marks, marked_append]
    exact ⟨he.marks, marked_optE fun x hx => (ha x hx).marks, marked_optE fun x hx => (hb x hx).marks⟩
  | _, .range ha hb => by
    simp only [RawExpr.marks, marked_append]; exact ⟨ha.marks, hb.marks⟩
  | _, .object h => by
    simp only [RawExpr.marks]; exact marked_propsL fun x hx => (h x hx).marks
  | _, .prop he => by
    simp only [RawExpr.marks]; exact he.marks
  | _, .func ha hs => by
    simp only [RawExpr.marks, marked_append]
    exact ⟨marked_exprsL fun x hx => (ha x hx).marks, marked_stmtsL fun x hx => (hs x hx).marks⟩
  | _, .call hf ha => by
    simp only [RawExpr.marks, marked_append]
    exact ⟨hf.marks, marked_itemsL fun x hx => (ha x hx).marks⟩
theorem StrOK.marks {T : List Span} : ∀ {e : Expr}, StrOK T e → Marked (StrM T) e.marks
  | .mk raw l, .mk hr => by
    simp only [Expr.marks, marked_cons, marked_append]
    refine ⟨True.intro, ?_, hr.marks⟩
    intro m hm
    cases hr <;> simp [RawExpr.strMark] at hm
    subst hm; assumption
theorem ItemStrOK.marks {T : List Span} : ∀ {e : ListItem}, ItemStrOK T e → Marked (StrM T) e.marks
  | _, .mk h => by simp only [ListItem.marks]; exact h.marks
theorem PropStrOK.marks {T : List Span} : ∀ {e : PropItem}, PropStrOK T e → Marked (StrM T) e.marks
  | _, .pair hn hv => by simp only [PropItem.marks, marked_append]; exact ⟨hn.marks, hv.marks⟩
  | _, .single h => by simp only [PropItem.marks]; exact h.marks
theorem StmtStrOK.marks {T : List Span} : ∀ {s : Stmt}, StmtStrOK T s → Marked (StrM T) s.marks
  | _, .block h => by simp only [Stmt.marks]; exact marked_stmtsL fun x hx => (h x hx).marks
  | _, .expr h => by simp only [Stmt.marks]; exact h.marks
  | _, .declare hl hr => by simp only [Stmt.marks, marked_append]; exact ⟨hl.marks, hr.marks⟩
  | _, .assign hl hr => by simp only [Stmt.marks, marked_append]; exact ⟨hl.marks, hr.marks⟩
  | _, .opAssign hl hr => by simp only [Stmt.marks, marked_cons, marked_append]; exact ⟨True.intro, hl.marks, hr.marks⟩
  | .If bs els, .ifs hb he => by
    simp only [Stmt.marks, marked_append]
    exact ⟨marked_branchesL fun x hx => (hb x hx).marks, marked_stmtsLO fun s hs x hx => (he s hs x hx).marks⟩
  | _, .whiles hc hs => by
    simp only [Stmt.marks, marked_append]; exact ⟨hc.marks, marked_stmtsL fun x hx => (hs x hx).marks⟩
  | _, .fors hl hi hs => by
    simp only [Stmt.marks, marked_append]; exact ⟨hl.marks, hi.marks, marked_stmtsL fun x hx => (hs x hx).marks⟩
  | _, .brk => by simp only [Stmt.marks, marked_cons]; exact ⟨True.intro, marked_nil⟩
  | _, .cont => by simp only [Stmt.marks, marked_cons]; exact ⟨True.intro, marked_nil⟩
  | _, .func ha hs => by
    simp only [Stmt.marks, marked_cons, marked_append]
    exact ⟨True.intro, marked_exprsL fun x hx => (ha x hx).marks, marked_stmtsL fun x hx => (hs x hx).marks⟩
  | _, .ret he => by simp only [Stmt.marks, marked_cons]; exact ⟨True.intro, he.marks⟩
theorem BranchStrOK.marks {T : List Span} : ∀ {b : Branch}, BranchStrOK T b → Marked (StrM T) b.marks
  | _, .mk hc hs => by
    simp only [Branch.marks, marked_append]; exact ⟨hc.marks, marked_stmtsL fun x hx => (hs x hx).marks⟩
end

def SlotsM (src : List Char) : Mark → Prop
  | .loc _ => True
  | .str s slots _ => ∀ sl, sl ∈ slots → slotText s sl <:+: src

theorem strM_slotsM {src : List Char} {m : Mark} (h : StrM (lexAll src).1 m) : SlotsM src m := by
  cases m with
  | loc l => exact True.intro
  | str s slots l =>
    obtain ⟨sp, hm, ht⟩ := h
    have := lexAll_slotsIn hm
    rw [ht] at this
    exact this

/-- **every slot of every interpolated literal of a parsed program is a contiguous piece of the source** (function
    bodies, parameter patterns, property names … included) -/
theorem parseProg_strs {src : List Char} {stmts : List Stmt} (h : parseProg src = .ok stmts) :
    Marked (SlotsM src) (Stmt.marksL stmts) :=
  (marked_stmtsL fun x hx => (str_tok h x hx).marks).mono fun _ => strM_slotsM

/-- … and every slot of every literal of an expression parsed at run time is a contiguous piece of the text it was
    parsed from -/
theorem parseExprTop_strs {src : List Char} {e : Expr} (h : parseExprTop src = .ok e) : Marked (SlotsM src) e.marks :=
  (str_tok_expr h).marks.mono fun _ => strM_slotsM

theorem infix_count_le {t src : List Char} (h : t <:+: src) (c : Char) : t.count c ≤ src.count c :=
  h.sublist.count_le c

theorem TokStart.line_of_infix {t src : List Char} {l : Loc} (ht : t <:+: src) (h : TokStart t l) :
    1 ≤ l.1 ∧ l.1 ≤ 1 + src.count '\n' := by
  have h1 := h.line
  have h2 := infix_count_le ht '\n'
  omega

/-- what holds of every mark reachable from a parsed program: its line is a line of the source, and (for a literal)
    its slot texts are contiguous pieces of the source -/
def LineM (src : List Char) (m : Mark) : Prop :=
  (1 ≤ m.pos.1 ∧ m.pos.1 ≤ 1 + src.count '\n') ∧ SlotsM src m

theorem progMark_lineM {src : List Char} {stmts : List Stmt} (hp : parseProg src = .ok stmts) {m : Mark}
    (hm : ProgMark stmts m) : LineM src m := by
  induction hm with
  | tree hm => exact ⟨(locOK_tokStart (parseProg_marks hp _ hm)).line, parseProg_strs hp _ hm⟩
  | slotCol _ _ ih => exact ⟨ih.1, True.intro⟩
  | @slotAst s slots loc sl ast m _ hsl hpe hmem ih =>
    have hpiece : slotText s sl <:+: src := ih.2 sl hsl
    refine ⟨(locOK_tokStart (parseExprTop_marks hpe _ hmem)).line_of_infix hpiece, ?_⟩
    have := parseExprTop_strs hpe _ hmem
    cases m with
    | loc l => exact True.intro
    | str s' slots' l' => exact fun sl' hsl' => (this sl' hsl').trans hpiece

/-- every slot text that `interpolate` can ever hand to `parseExprTop` while the program runs — slots of literals of the
    tree, slots of literals inside slot texts, and so on — is a contiguous piece of the source; in particular it has no
    more line feeds than the source -/
theorem progMark_slot_piece {src : List Char} {stmts : List Stmt} (hp : parseProg src = .ok stmts) {s : List Char}
    {slots : List (Nat × Nat)} {loc : Loc} (hm : ProgMark stmts (.str s slots loc)) {sl : Nat × Nat} (hsl : sl ∈ slots) :
    slotText s sl <:+: src ∧ (slotText s sl).count '\n' ≤ src.count '\n' :=
  ⟨(progMark_lineM hp hm).2 sl hsl, infix_count_le ((progMark_lineM hp hm).2 sl hsl) '\n'⟩

/-- **`diag_line_in_source`.**  a
    source that parses and fails at run time: every position in the error — the `line:col` of every `atLoc` node, the
    call position of every call frame, at any depth, positions produced inside interpolation slots (at any nesting
    depth) included — has a line between 1 and the number of lines of the source (a position in the leaf's payload has
    such a line or is the `0:0` of the built-in `print`) -/
theorem diag_line_in_source {src : List Char} {stmts : List Stmt} {n : Nat} {e : Err} {σ : State}
    (hp : parseProg src = .ok stmts) (h : evalProg n stmts = .err e σ) :
    e.AllPos (fun l => 1 ≤ l.1 ∧ l.1 ≤ 1 + src.count '\n') :=
  (eval_uses_node_pos h).mono fun _ hl => (progMark_lineM hp hl).1

/-- non-vacuity, with nested slots: the outer literal is on line 1, its slot text starts with a line feed, the inner
    literal (line 2 *of the outer slot text*) has three escaped line feeds before its slot, whose text has two raw line
    feeds, and the undefined `y` is on line 3 *of the inner slot text*.  The source has 4 lines. -/
example : ∃ stmts e σ, parseProg c!"print($\"${\n$\"\\n\\n\\n${\n\ny}\"}\");" = .ok stmts ∧ ¬ NoSlots stmts ∧
    evalProg 60 stmts = .err e σ ∧ e.positions = [(1, 11), (2, 8), (3, 1)] ∧
    1 + (c!"print($\"${\n$\"\\n\\n\\n${\n\ny}\"}\");").count '\n' = 4 := by
  obtain ⟨e, σ, he, hpos⟩ := errOf_map (n := 60) (stmts := progOf c!"print($\"${\n$\"\\n\\n\\n${\n\ny}\"}\");")
    (f := Err.positions) (x := [(1, 11), (2, 8), (3, 1)]) (by decide +kernel)
  exact ⟨_, e, σ, parseProg_progOf (by decide +kernel), by decide +kernel, he, hpos, by decide +kernel⟩

/-- the position the diagnostic line starts with has a line of the source -/
theorem diag_head_line_in_source {src : List Char} {stmts : List Stmt} {n : Nat} {e : Err} {σ : State} {l : Loc}
    (hp : parseProg src = .ok stmts) (h : evalProg n stmts = .err e σ) (hl : e.headPos = some l) :
    1 ≤ l.1 ∧ l.1 ≤ 1 + src.count '\n' :=
  (diag_line_in_source hp h).headPos hl

example : ∃ stmts e σ, parseProg c!"x := 1;\nprint($\"a\\n\\n${\n\nx + y}\");" = .ok stmts ∧
    evalProg 60 stmts = .err e σ ∧ e.headPos = some (2, 14) := by
  obtain ⟨e, σ, he, hpos⟩ := errOf_map (n := 60) (stmts := progOf c!"x := 1;\nprint($\"a\\n\\n${\n\nx + y}\");")
    (f := Err.headPos) (x := some (2, 14)) (by decide +kernel)
  exact ⟨_, e, σ, parseProg_progOf (by decide +kernel), he, hpos⟩

/-- the bound is about the *source*, not about the decoded literal: a literal whose decoded text has four line feeds on
    a one-line source; the failure inside its slot is still reported on line 1 -/
example : ∃ stmts e σ, parseProg c!"print($\"a\\n\\n\\n\\n${x}\");" = .ok stmts ∧
    evalProg 60 stmts = .err e σ ∧ e.positions = [(1, 16), (1, 1)] ∧
    (c!"print($\"a\\n\\n\\n\\n${x}\");").count '\n' = 0 ∧
    (Stmt.strsL stmts).map (fun x => x.1.count '\n') = [4] := by
  obtain ⟨e, σ, he, hpos⟩ := errOf_map (n := 60) (stmts := progOf c!"print($\"a\\n\\n\\n\\n${x}\");")
    (f := Err.positions) (x := [(1, 16), (1, 1)]) (by decide +kernel)
  exact ⟨_, e, σ, parseProg_progOf (by decide +kernel), he, hpos, by decide +kernel, by decide +kernel⟩

end Seed
