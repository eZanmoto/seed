/-
  Lemmas/C18Attrib.lean — "attribution": WHICH stored position each kind of run-time diagnostic carries.

  `eval_uses_node_pos` (C18EvalPos*.lean) says every position of a diagnostic is SOME position stored in the tree;
  the theorems here say which one, construct by construct: if the sub-evaluations of a construct succeed and the
  construct itself fails, the error is `Err.at <the construct's own stored position> leaf` (`errAt p leaf σ`).

  Fuel: every theorem takes the sub-evaluations at some fuel `n` and concludes at every fuel `n + k + c`
  (`c` = the number of evaluator frames between the construct and the sub-evaluations), `k` arbitrary: fuel
  monotonicity (`monoAll`) lifts the hypotheses.
-/
import SeedProofs.Global
import SeedProofs.Lemmas.C18EvalPosProg
namespace Seed.C18A
open Seed Gen

theorem up {α} {f : Nat → Res α} (hmono : ∀ j, Res.Le (f j) (f (j + 1))) {n : Nat} {r : Res α}
    (h : f n = r) (hr : r ≠ .timeout) (k : Nat) : f (n + k) = r :=
  fuel_stable hmono h hr (Nat.le_add_right n k)

/-- `.ok … ≠ .timeout`, `.err … ≠ .timeout` -/
macro "nt" : tactic => `(tactic| (intro hnt; cases hnt))

section
variable {n : Nat} {σ : State} {sc : List Addr}

theorem upExpr {e : Expr} {r : Res SVal} (k : Nat) (h : evalExpr n σ sc e = r) (hr : r ≠ .timeout) :
    evalExpr (n + k) σ sc e = r :=
  up (f := fun j => evalExpr j σ sc e) (fun j => (monoAll j).evalExpr σ sc e) h hr k
theorem upToInt {d : List Char} {e : Expr} {r : Res Int} (k : Nat) (h : evalToInt n σ sc d e = r) (hr : r ≠ .timeout) :
    evalToInt (n + k) σ sc d e = r :=
  up (f := fun j => evalToInt j σ sc d e) (fun j => (monoAll j).evalToInt σ sc d e) h hr k
theorem upToIndex {e : Expr} {r : Res Nat} (k : Nat) (h : evalToIndex n σ sc e = r) (hr : r ≠ .timeout) :
    evalToIndex (n + k) σ sc e = r :=
  up (f := fun j => evalToIndex j σ sc e) (fun j => (monoAll j).evalToIndex σ sc e) h hr k
theorem upToStr {d : List Char} {e : Expr} {r : Res (List Char)} (k : Nat) (h : evalToStr n σ sc d e = r)
    (hr : r ≠ .timeout) : evalToStr (n + k) σ sc d e = r :=
  up (f := fun j => evalToStr j σ sc d e) (fun j => (monoAll j).evalToStr σ sc d e) h hr k
theorem upToBool {d : List Char} {e : Expr} {r : Res Bool} (k : Nat) (h : evalToBool n σ sc d e = r)
    (hr : r ≠ .timeout) : evalToBool (n + k) σ sc d e = r :=
  up (f := fun j => evalToBool j σ sc d e) (fun j => (monoAll j).evalToBool σ sc d e) h hr k
theorem upItems {items : List ListItem} {acc : List SVal} {r : Res (List SVal)} (k : Nat)
    (h : evalListItems n σ sc items acc = r) (hr : r ≠ .timeout) : evalListItems (n + k) σ sc items acc = r :=
  up (f := fun j => evalListItems j σ sc items acc) (fun j => (monoAll j).evalListItems σ sc items acc) h hr k
theorem upBlock {bs : List (Expr × SVal)} {ss : List Stmt} {r : Res Escape} (k : Nat)
    (h : evalBlock n σ sc bs ss = r) (hr : r ≠ .timeout) : evalBlock (n + k) σ sc bs ss = r :=
  up (f := fun j => evalBlock j σ sc bs ss) (fun j => (monoAll j).evalBlock σ sc bs ss) h hr k
theorem upStmts {ss : List Stmt} {r : Res Escape} (k : Nat)
    (h : evalStmts n σ sc ss = r) (hr : r ≠ .timeout) : evalStmts (n + k) σ sc ss = r :=
  up (f := fun j => evalStmts j σ sc ss) (fun j => (monoAll j).evalStmts σ sc ss) h hr k
theorem upBinOp {op : BinaryOp} {loc : Loc} {a b : Val} {r : Res Val} (k : Nat)
    (h : applyBinOp n σ op loc a b = r) (hr : r ≠ .timeout) : applyBinOp (n + k) σ op loc a b = r :=
  up (f := fun j => applyBinOp j σ op loc a b) (fun j => applyBinOp_mono j σ op loc a b) h hr k
end

/-! ## a state for the `example`s (each instantiates the hypotheses of the theorem before it)

  scope cell 0: `x = 1`, `s = "a"`, `xs = [5]`, `o = {k: 7}`, `f = fn() { break; }` (the `break` stored at 2:5),
  `g = fn(p) { }`, `h = fn(p, ..q) { }`, `c = fn() { continue; }` (the `continue` stored at 5:5) -/

abbrev V (name : List Char) (loc : Loc) : Expr := .mk (.Var name) loc
abbrev I (k : Int) (loc : Loc) : Expr := .mk (.Int k) loc
abbrev S (s : List Char) (loc : Loc) : Expr := .mk (.Str s none) loc

def frB : FuncRec := ⟨some c!"f", [], false, [.Break (2, 5)], [0]⟩
def frP : FuncRec := ⟨some c!"g", [V c!"p" (3, 6)], false, [], [0]⟩
def frC : FuncRec := ⟨some c!"h", [V c!"p" (4, 6), V c!"q" (4, 11)], true, [], [0]⟩
def frK : FuncRec := ⟨some c!"c", [], false, [.Continue (5, 5)], [0]⟩

def σe : State :=
  ⟨#[.scope [(c!"x", SVal.plain (.int 1), (1, 1)), (c!"s", SVal.plain (.str (utf8Encode c!"a")), (1, 1)),
            (c!"xs", SVal.plain (.list 1), (1, 1)), (c!"o", SVal.plain (.obj 2), (1, 1)),
            (c!"f", SVal.plain (.func 3), (1, 1)), (c!"g", SVal.plain (.func 4), (1, 1)),
            (c!"h", SVal.plain (.func 5), (1, 1)), (c!"c", SVal.plain (.func 6), (1, 1))],
     .list [SVal.plain (.int 5)], .obj [(c!"k", SVal.plain (.int 7))], .func frB, .func frP, .func frC, .func frK], []⟩

theorem ex_x (m : Nat) (l : Loc) : evalExpr (m + 1) σe [0] (V c!"x" l) = .ok (SVal.plain (.int 1)) σe := by
  conv => lhs; unfold evalExpr
  with_unfolding_all rfl
theorem ex_s (m : Nat) (l : Loc) : evalExpr (m + 1) σe [0] (V c!"s" l) = .ok (SVal.plain (.str (utf8Encode c!"a"))) σe := by
  conv => lhs; unfold evalExpr
  with_unfolding_all rfl
theorem ex_xs (m : Nat) (l : Loc) : evalExpr (m + 1) σe [0] (V c!"xs" l) = .ok ⟨.list 1, none⟩ σe := by
  conv => lhs; unfold evalExpr
  with_unfolding_all rfl
theorem ex_o (m : Nat) (l : Loc) : evalExpr (m + 1) σe [0] (V c!"o" l) = .ok ⟨.obj 2, none⟩ σe := by
  conv => lhs; unfold evalExpr
  with_unfolding_all rfl
theorem ex_lit (m : Nat) (t : List Char) (l : Loc) :
    evalExpr (m + 1) σe [0] (S t l) = .ok (SVal.plain (.str (utf8Encode t))) σe := by
  conv => lhs; unfold evalExpr
theorem ex_nope (m : Nat) (l : Loc) : evalExpr (m + 1) σe [0] (V c!"nope" l) = errAt l (Leaf.Undefined c!"nope") σe := by
  conv => lhs; unfold evalExpr
  with_unfolding_all rfl
theorem ex_noargs (m : Nat) : evalListItems (m + 1) σe [0] [] [] = .ok [] σe := by
  conv => lhs; unfold evalListItems

/-! ## (1) binary operations: the OPERATOR's position -/

/-- **every failure of `applyBinOp … loc …` is located at `loc`**, in the state it was called in, with one of the three
    leaves of `OpFailLeaf` -/
theorem applyBinOp_err_at {n : Nat} {σ σ' : State} {op : BinaryOp} {loc : Loc} {a b : Val} {e : Err}
    (h : applyBinOp n σ op loc a b = .err e σ') : σ' = σ ∧ ∃ leaf, e = Err.at loc leaf ∧ OpFailLeaf op a b leaf := by
  have := applyBinOp_out n σ op loc a b
  rwa [h] at this

/-- the same with the failing call rewritten (at every larger fuel) to the error it returns -/
theorem applyBinOp_fails {n : Nat} {σ σ' : State} {op : BinaryOp} {loc : Loc} {a b : Val} {e : Err}
    (h : applyBinOp n σ op loc a b = .err e σ') : ∃ leaf, OpFailLeaf op a b leaf ∧ e = Err.at loc leaf ∧ σ' = σ ∧
      ∀ k, applyBinOp (n + k) σ op loc a b = errAt loc leaf σ := by
  obtain ⟨rfl, leaf, rfl, hl⟩ := applyBinOp_err_at h
  exact ⟨leaf, hl, rfl, rfl, fun k => upBinOp k h (by nt)⟩

/-- the three kinds of failure exist (so the hypotheses below are satisfiable), each located at the `loc` handed in:
    a type mismatch, an overflow, a zero divisor -/
theorem applyBinOp_type_mismatch (n : Nat) (σ : State) (loc : Loc) (x : Int) (s : Bytes) :
    applyBinOp n σ .Sum loc (.int x) (.str s) = .err (Err.at loc (Leaf.InvalidOpTypes .Sum .Int .Str)) σ := rfl
theorem applyBinOp_overflow (n : Nat) (σ : State) (loc : Loc) :
    applyBinOp n σ .Sum loc (.int 9223372036854775807) (.int 1) =
      .err (Err.at loc (Leaf.IntOverflow .Sum 9223372036854775807 1)) σ := by
  simp [applyBinOp, arith, inI64, intOverflow, i64Min, i64MaxI]
theorem applyBinOp_zero_divisor (n : Nat) (σ : State) (loc : Loc) (x : Int) :
    applyBinOp n σ .Div loc (.int x) (.int 0) = .err (Err.at loc (Leaf.IntOverflow .Div x 0)) σ := by
  simp [applyBinOp, arith, intOverflow]

section binop
variable {n : Nat} {σ σ1 σ2 σ3 : State} {sc : List Addr} {op : BinaryOp} {opLoc loc : Loc} {lhs rhs : Expr}
  {l r : SVal} {e : Err}

/-- an error of the left operand passes through the operation unchanged (the outer node adds no position) -/
theorem binop_lhs_err (k : Nat) (h1 : evalExpr n σ sc lhs = .err e σ1) :
    evalExpr (n + k + 1) σ sc (.mk (.BinaryOp op opLoc lhs rhs) loc) = .err e σ1 := by
  conv => lhs; unfold evalExpr
  simp only [upExpr k h1 (by nt), Res.bind]
example (k : Nat) : evalExpr (1 + k + 1) σe [0] (.mk (.BinaryOp .Sum (1, 6) (V c!"nope" (1, 1)) (V c!"x" (1, 8))) (1, 1)) =
    errAt (1, 1) (Leaf.Undefined c!"nope") σe := binop_lhs_err k (ex_nope 0 _)

/-- … and so does an error of the right operand -/
theorem binop_rhs_err (k : Nat) (h1 : evalExpr n σ sc lhs = .ok l σ1) (h2 : evalExpr n σ1 sc rhs = .err e σ2) :
    evalExpr (n + k + 1) σ sc (.mk (.BinaryOp op opLoc lhs rhs) loc) = .err e σ2 := by
  conv => lhs; unfold evalExpr
  simp only [upExpr k h1 (by nt), upExpr k h2 (by nt), Res.bind]
example (k : Nat) : evalExpr (1 + k + 1) σe [0] (.mk (.BinaryOp .Sum (1, 3) (V c!"x" (1, 1)) (V c!"nope" (1, 5))) (1, 1)) =
    errAt (1, 5) (Leaf.Undefined c!"nope") σe := binop_rhs_err k (ex_x 0 _) (ex_nope 0 _)

theorem binop_ok (k : Nat) {v : Val} (h1 : evalExpr n σ sc lhs = .ok l σ1) (h2 : evalExpr n σ1 sc rhs = .ok r σ2)
    (h3 : applyBinOp n σ2 op opLoc l.v r.v = .ok v σ3) :
    evalExpr (n + k + 1) σ sc (.mk (.BinaryOp op opLoc lhs rhs) loc) = .ok (SVal.plain v) σ3 := by
  conv => lhs; unfold evalExpr
  simp only [upExpr k h1 (by nt), upExpr k h2 (by nt), upBinOp k h3 (by nt), Res.bind]
example (k : Nat) : evalExpr (1 + k + 1) σe [0] (.mk (.BinaryOp .Sum (1, 3) (V c!"x" (1, 1)) (V c!"x" (1, 5))) (1, 1)) =
    .ok (SVal.plain (.int 2)) σe :=
  binop_ok k (ex_x 0 _) (ex_x 0 _) (show applyBinOp 1 σe .Sum (1, 3) (.int 1) (.int 1) = .ok (.int 2) σe from by with_unfolding_all rfl)

/-- **(1)** both operands of `lhs op rhs` evaluate, the operation fails (type mismatch, overflow, zero divisor, `==` on
    different types): the diagnostic is located at `opLoc`, the position stored for the OPERATOR — not at the node's own
    `loc` (the start of the left operand), whatever `lhs` and `rhs` are -/
theorem binop_fail_at_opLoc (k : Nat) (h1 : evalExpr n σ sc lhs = .ok l σ1) (h2 : evalExpr n σ1 sc rhs = .ok r σ2)
    (h3 : applyBinOp n σ2 op opLoc l.v r.v = .err e σ3) :
    ∃ leaf, OpFailLeaf op l.v r.v leaf ∧ e = Err.at opLoc leaf ∧ σ3 = σ2 ∧
      evalExpr (n + k + 1) σ sc (.mk (.BinaryOp op opLoc lhs rhs) loc) = errAt opLoc leaf σ2 := by
  obtain ⟨leaf, hl, rfl, rfl, h3⟩ := applyBinOp_fails h3
  refine ⟨leaf, hl, rfl, rfl, ?_⟩
  conv => lhs; unfold evalExpr
  simp only [upExpr k h1 (by nt), upExpr k h2 (by nt), h3 k, Res.bind, errAt]

end binop

/-- `x + s` with `x = 1`, `s = "a"`: the operator stored at `(1,3)`, the node (= its left operand) at `(1,1)` -/
example (k : Nat) : evalExpr (1 + k + 1) σe [0] (.mk (.BinaryOp .Sum (1, 3) (V c!"x" (1, 1)) (V c!"s" (1, 5))) (1, 1)) =
    errAt (1, 3) (Leaf.InvalidOpTypes .Sum .Int .Str) σe := by
  obtain ⟨leaf, _, he, _, h⟩ := binop_fail_at_opLoc (loc := (1, 1)) k (ex_x 0 (1, 1)) (ex_s 0 (1, 5))
    (applyBinOp_type_mismatch 1 σe (1, 3) 1 _)
  have : leaf = Leaf.InvalidOpTypes .Sum .Int .Str := by
    simp only [Err.at, Err.atLoc.injEq, Err.leaf.injEq, true_and] at he; exact he.symm
  rw [← this]; exact h

/-! ### a left-nested chain `a op1 b op2 c` = `BinaryOp op2 p2 (BinaryOp op1 p1 a b) c`: each operator at its own token -/

section chain
variable {n : Nat} {σ σ1 σ2 σ3 σ4 σ5 : State} {sc : List Addr} {op1 op2 : BinaryOp} {p1 p2 l1 l2 : Loc} {a b c : Expr}
  {va vb vc : SVal} {e : Err}

/-- the FIRST (inner) operator fails: reported at `p1`, the first operator's position (and `c` is never evaluated) -/
theorem chain_inner_fails (k : Nat) (ha : evalExpr n σ sc a = .ok va σ1) (hb : evalExpr n σ1 sc b = .ok vb σ2)
    (hop : applyBinOp n σ2 op1 p1 va.v vb.v = .err e σ3) :
    ∃ leaf, OpFailLeaf op1 va.v vb.v leaf ∧
      evalExpr (n + k + 2) σ sc (.mk (.BinaryOp op2 p2 (.mk (.BinaryOp op1 p1 a b) l1) c) l2) = errAt p1 leaf σ2 := by
  obtain ⟨leaf, hl, _, _, h⟩ := binop_fail_at_opLoc (loc := l1) k ha hb hop
  exact ⟨leaf, hl, binop_lhs_err (n := n + k + 1) 0 h⟩
/-- `x + s + x`: the first `+` (at 1:3) fails -/
example (k : Nat) := chain_inner_fails (op2 := .Sum) (p2 := (1, 7)) (l1 := (1, 1)) (l2 := (1, 1)) (c := V c!"x" (1, 9)) k
  (ex_x 0 (1, 1)) (ex_s 0 (1, 5)) (applyBinOp_type_mismatch 1 σe (1, 3) 1 _)

/-- the SECOND (outer) operator fails: reported at `p2`, the second operator's position -/
theorem chain_outer_fails (k : Nat) {v : Val} (ha : evalExpr n σ sc a = .ok va σ1) (hb : evalExpr n σ1 sc b = .ok vb σ2)
    (hop : applyBinOp n σ2 op1 p1 va.v vb.v = .ok v σ3) (hc : evalExpr n σ3 sc c = .ok vc σ4)
    (hop2 : applyBinOp n σ4 op2 p2 v vc.v = .err e σ5) :
    ∃ leaf, OpFailLeaf op2 v vc.v leaf ∧
      evalExpr (n + k + 2) σ sc (.mk (.BinaryOp op2 p2 (.mk (.BinaryOp op1 p1 a b) l1) c) l2) = errAt p2 leaf σ4 := by
  have hi := binop_ok (loc := l1) k ha hb hop
  have hc' : evalExpr (n + k + 1) σ3 sc c = .ok vc σ4 := upExpr (k + 1) hc (by nt)
  have hop2' : applyBinOp (n + k + 1) σ4 op2 p2 (SVal.plain v).v vc.v = .err e σ5 := upBinOp (k + 1) hop2 (by nt)
  obtain ⟨leaf, hl, _, _, h⟩ := binop_fail_at_opLoc (loc := l2) 0 hi hc' hop2'
  exact ⟨leaf, hl, h⟩
/-- `x + x + s`: the first `+` (at 1:3) gives 2, the second (at 1:7) fails -/
example (k : Nat) := chain_outer_fails (l1 := (1, 1)) (l2 := (1, 1)) k (ex_x 0 (1, 1)) (ex_x 0 (1, 5))
  (show applyBinOp 1 σe .Sum (1, 3) (.int 1) (.int 1) = .ok (.int 2) σe from by with_unfolding_all rfl)
  (ex_s 0 (1, 9)) (applyBinOp_type_mismatch 1 σe (1, 7) 2 _)

end chain

/-! ## (2) op-assignment: the op-assign OPERATOR's position, not the target's -/

section opassign
variable {n : Nat} {σ σ1 σ2 σ3 σ4 : State} {sc : List Addr} {op : BinaryOp} {opLoc loc : Loc} {rhs : Expr} {v cur : SVal}
  {e : Err}

theorem opAssign_eq (m : Nat) {lhs : Expr} (h1 : evalExpr m σ sc rhs = .ok v σ1) :
    evalStmt (m + 1) σ sc (.OpAssign lhs op opLoc rhs) =
      (bindNext m σ1 sc [] lhs v (some (op, opLoc)) false).bind fun _ σ2 => .ok .none σ2 := by
  conv => lhs; unfold evalStmt
  simp only [h1, Res.bind]

/-- **(2a)** `x op= rhs`: `rhs` evaluates, `x` is defined, the operation fails: located at `opLoc` (not at `loc`, the
    position of `x`).  `name ≠ "_"` is needed: `_ op= rhs` binds nothing and never applies the operator
    (`opAssign_underscore_no_op` below). -/
theorem opAssign_var_fail_at_opLoc (k : Nat) {name : List Char} (hname : name ≠ c!"_")
    (h1 : evalExpr n σ sc rhs = .ok v σ1) (h2 : scopeGet σ1 sc name = some cur)
    (h3 : applyBinOp n σ1 op opLoc cur.v v.v = .err e σ2) :
    ∃ leaf, OpFailLeaf op cur.v v.v leaf ∧ e = Err.at opLoc leaf ∧
      evalStmt (n + k + 2) σ sc (.OpAssign (.mk (.Var name) loc) op opLoc rhs) = errAt opLoc leaf σ1 := by
  obtain ⟨leaf, hl, rfl, rfl, h3⟩ := applyBinOp_fails h3
  refine ⟨leaf, hl, rfl, (opAssign_eq (n + k + 1) (upExpr (k + 1) h1 (by nt))).trans ?_⟩
  unfold bindNext
  simp only [bindNextName, hname, if_false, List.contains_nil, Bool.false_eq_true, h2, h3 k, Res.bind, errAt]
/-- `x += "b"`: `x` at 1:1, `+=` at 1:3 -/
example (k : Nat) := opAssign_var_fail_at_opLoc (loc := (1, 1)) (name := c!"x") k (by decide) (ex_lit 0 c!"b" (1, 6))
  (show scopeGet σe [0] c!"x" = some (SVal.plain (.int 1)) from by with_unfolding_all rfl)
  (applyBinOp_type_mismatch 1 σe (1, 3) 1 _)

/-- without `name ≠ "_"` the statement is false: whatever the state holds under the name `_`, and whatever the operator
    would do, `_ op= rhs` evaluates `rhs` and succeeds (so it cannot be equal to `errAt opLoc …`) -/
theorem opAssign_underscore_no_op (n : Nat) (σ σ1 : State) (sc : List Addr) (op : BinaryOp) (opLoc loc : Loc) (rhs : Expr)
    (v : SVal) (h1 : evalExpr (n + 1) σ sc rhs = .ok v σ1) :
    evalStmt (n + 2) σ sc (.OpAssign (.mk (.Var c!"_") loc) op opLoc rhs) = .ok .none σ1 := by
  refine (opAssign_eq (n + 1) h1).trans ?_
  unfold bindNext
  simp only [bindNextName, if_true, Res.bind]
example := opAssign_underscore_no_op 0 σe σe [0] .Sum (1, 3) (1, 1) _ _ (ex_lit 0 c!"b" (1, 6))
/-- … through the whole pipeline: `_ += "a";` is accepted and does nothing -/
example : (run 60 c!"t.sd" c!"_ += \"a\";\n").status = .success := by decide +kernel

/-- **(2b)** `xs[i] op= rhs` on a list element: located at `opLoc` (not at `loc`, the position of the target `xs[i]`) -/
theorem opAssign_index_fail_at_opLoc (k : Nat) {ex locat : Expr} {a : Addr} {s : Option Val} {i : Nat} {items : List SVal}
    (h1 : evalExpr n σ sc rhs = .ok v σ1) (h2 : evalExpr n σ1 sc ex = .ok ⟨.list a, s⟩ σ2)
    (h3 : evalToIndex n σ2 sc locat = .ok i σ3) (h4 : σ3.getList a = some items) (h5 : items[i]? = some cur)
    (h6 : applyBinOp n σ3 op opLoc cur.v v.v = .err e σ4) :
    ∃ leaf, OpFailLeaf op cur.v v.v leaf ∧ e = Err.at opLoc leaf ∧
      evalStmt (n + k + 2) σ sc (.OpAssign (.mk (.Index ex locat) loc) op opLoc rhs) = errAt opLoc leaf σ3 := by
  obtain ⟨leaf, hl, rfl, rfl, h6⟩ := applyBinOp_fails h6
  refine ⟨leaf, hl, rfl, (opAssign_eq (n + k + 1) (upExpr (k + 1) h1 (by nt))).trans ?_⟩
  unfold bindNext
  simp only [upExpr k h2 (by nt), upToIndex k h3 (by nt), h4, h5, opAssignValue, h6 k, Res.bind, Res.map, errAt]
/-- `xs[0] += "b"`: target at 1:1, `+=` at 1:7 -/
example (k : Nat) := opAssign_index_fail_at_opLoc (loc := (1, 1)) (op := .Sum) (opLoc := (1, 7)) k
  (ex_lit 3 c!"b" (1, 10)) (ex_xs 3 (1, 1))
  (show evalToIndex 4 σe [0] (I 0 (1, 4)) = .ok 0 σe from by with_unfolding_all rfl)
  (show σe.getList 1 = some [SVal.plain (.int 5)] from by rfl) (show [SVal.plain (.int 5)][0]? = some (SVal.plain (.int 5)) from rfl)
  (applyBinOp_type_mismatch 4 σe (1, 7) 5 _)

theorem bindProp_fail (m : Nat) {a : Addr} {name : List Char} {props : ObjMap} {names : List (List Char)} {vi : Bool}
    {leaf : Leaf} (h4 : σ.getObj a = some props) (h5 : objGet name props = some cur)
    (h6 : applyBinOp m σ op opLoc cur.v v.v = errAt opLoc leaf σ) :
    bindProp (m + 1) σ a name loc v (some (op, opLoc)) names vi = errAt opLoc leaf σ := by
  unfold bindProp
  simp only [h4, h5, opAssignValue, h6, Res.bind, Res.map, errAt]

/-- **(2c)** `o[key] op= rhs` on an object property: located at `opLoc` -/
theorem opAssign_objIndex_fail_at_opLoc (k : Nat) {ex locat : Expr} {a : Addr} {s : Option Val} {name : List Char}
    {props : ObjMap}
    (h1 : evalExpr n σ sc rhs = .ok v σ1) (h2 : evalExpr n σ1 sc ex = .ok ⟨.obj a, s⟩ σ2)
    (h3 : evalToStr n σ2 sc c!"property" locat = .ok name σ3) (h4 : σ3.getObj a = some props)
    (h5 : objGet name props = some cur) (h6 : applyBinOp n σ3 op opLoc cur.v v.v = .err e σ4) :
    ∃ leaf, OpFailLeaf op cur.v v.v leaf ∧ e = Err.at opLoc leaf ∧
      evalStmt (n + k + 3) σ sc (.OpAssign (.mk (.Index ex locat) loc) op opLoc rhs) = errAt opLoc leaf σ3 := by
  obtain ⟨leaf, hl, rfl, rfl, h6⟩ := applyBinOp_fails h6
  have h2' : evalExpr (n + k + 1) σ1 sc ex = _ := upExpr (k + 1) h2 (by nt)
  have h3' : evalToStr (n + k + 1) σ2 sc c!"property" locat = _ := upToStr (k + 1) h3 (by nt)
  refine ⟨leaf, hl, rfl, (opAssign_eq (n + k + 1 + 1) (upExpr (k + 2) h1 (by nt))).trans ?_⟩
  unfold bindNext
  simp only [h2', h3', bindProp_fail (n + k) h4 h5 (h6 k), Res.bind, errAt]
/-- `o["k"] += "b"`: target at 1:1, `+=` at 1:8 -/
example (k : Nat) := opAssign_objIndex_fail_at_opLoc (loc := (1, 1)) (op := .Sum) (opLoc := (1, 8)) (cur := SVal.plain (.int 7)) k
  (ex_lit 2 c!"b" (1, 11)) (ex_o 2 (1, 1))
  (show evalToStr 3 σe [0] c!"property" (S c!"k" (1, 3)) = .ok c!"k" σe from by with_unfolding_all rfl)
  (show σe.getObj 2 = some [(c!"k", SVal.plain (.int 7))] from by rfl) (by decide)
  (applyBinOp_type_mismatch 3 σe (1, 8) 7 _)

/-- **(2d)** `o.name op= rhs`: located at `opLoc` -/
theorem opAssign_prop_fail_at_opLoc (k : Nat) {ex : Expr} {a : Addr} {s : Option Val} {name : List Char} {props : ObjMap}
    (h1 : evalExpr n σ sc rhs = .ok v σ1) (h2 : evalExpr n σ1 sc ex = .ok ⟨.obj a, s⟩ σ2)
    (h4 : σ2.getObj a = some props) (h5 : objGet name props = some cur)
    (h6 : applyBinOp n σ2 op opLoc cur.v v.v = .err e σ4) :
    ∃ leaf, OpFailLeaf op cur.v v.v leaf ∧ e = Err.at opLoc leaf ∧
      evalStmt (n + k + 3) σ sc (.OpAssign (.mk (.Prop ex name false) loc) op opLoc rhs) = errAt opLoc leaf σ2 := by
  obtain ⟨leaf, hl, rfl, rfl, h6⟩ := applyBinOp_fails h6
  have h2' : evalExpr (n + k + 1) σ1 sc ex = _ := upExpr (k + 1) h2 (by nt)
  refine ⟨leaf, hl, rfl, (opAssign_eq (n + k + 1 + 1) (upExpr (k + 2) h1 (by nt))).trans ?_⟩
  unfold bindNext
  simp only [h2', bindProp_fail (n + k) h4 h5 (h6 k), Res.bind, Bool.false_eq_true, if_false, errAt]
/-- `o.k += "b"`: target at 1:1, `+=` at 1:5 -/
example (k : Nat) := opAssign_prop_fail_at_opLoc (loc := (1, 1)) (op := .Sum) (opLoc := (1, 5)) (name := c!"k")
  (cur := SVal.plain (.int 7)) k
  (ex_lit 0 c!"b" (1, 8)) (ex_o 0 (1, 1))
  (show σe.getObj 2 = some [(c!"k", SVal.plain (.int 7))] from by rfl) (by decide)
  (applyBinOp_type_mismatch 1 σe (1, 5) 7 _)

end opassign

/-! ## (3) names, calls, indices, properties: the node's own `loc`; a bad index value: the INDEX EXPRESSION's `loc` -/

section nodes
variable {n : Nat} {σ σ1 σ2 σ3 : State} {sc : List Addr} {loc : Loc}

/-- **(3a)** an undefined variable: at the variable node's own position (any fuel ≥ 1) -/
theorem undefined_var_at_loc (m : Nat) {name : List Char} (h : scopeGet σ sc name = none) :
    evalExpr (m + 1) σ sc (.mk (.Var name) loc) = errAt loc (Leaf.Undefined name) σ := by
  conv => lhs; unfold evalExpr
  simp only [h]
example (m : Nat) := undefined_var_at_loc (σ := σe) (sc := [0]) (loc := (3, 4)) (name := c!"nope") m (by with_unfolding_all rfl)

theorem call_eq (m : Nat) (f : Expr) (args : List ListItem) :
    evalExpr (m + 1) σ sc (.mk (.Call f args) loc) = evalCall m σ sc f args loc := by
  conv => lhs; unfold evalExpr

/-- **(3b)** calling a value that is not a function: at the CALL node's position (`loc` of `.Call`) -/
theorem call_non_func_at_loc (k : Nat) {f : Expr} {args : List ListItem} {argVals : List SVal} {fv : SVal}
    (h1 : evalListItems n σ sc args [] = .ok argVals σ1) (h2 : evalExpr n σ1 sc f = .ok fv σ2)
    (hb : ∀ name id, fv.v ≠ .builtin name id) (hf : ∀ a, fv.v ≠ .func a) :
    evalExpr (n + k + 2) σ sc (.mk (.Call f args) loc) = errAt loc (Leaf.CannotCallNonFunc fv.v.kind) σ2 := by
  show evalExpr (n + k + 1 + 1) _ _ _ = _
  rw [call_eq]
  conv => lhs; unfold evalCall
  simp only [upItems k h1 (by nt), upExpr k h2 (by nt), Res.bind]
/-- `x()` with `x = 1`: at the call node -/
example (k : Nat) := call_non_func_at_loc (loc := (7, 1)) k (ex_noargs 0) (ex_x 0 (7, 1))
  (fun _ _ h => by cases h) (fun _ h => by cases h)

/-- **(3c)** a wrong number of arguments (function without a collector): at the CALL node's position -/
theorem call_arity_mismatch_at_loc (k : Nat) {f : Expr} {args : List ListItem} {argVals : List SVal} {a : Addr}
    {s : Option Val} {fr : FuncRec}
    (h1 : evalListItems n σ sc args [] = .ok argVals σ1) (h2 : evalExpr n σ1 sc f = .ok ⟨.func a, s⟩ σ2)
    (h3 : σ2.getFunc a = some fr) (hc : fr.collect = false) (hne : fr.args.length ≠ argVals.length) :
    evalExpr (n + k + 2) σ sc (.mk (.Call f args) loc) =
      errAt loc (Leaf.ArgNumMismatch fr.args.length argVals.length) σ2 := by
  show evalExpr (n + k + 1 + 1) _ _ _ = _
  rw [call_eq]
  conv => lhs; unfold evalCall
  simp [upItems k h1 (by nt), upExpr k h2 (by nt), Res.bind, h3, hc, hne]
/-- `g()` for `fn g(p)` -/
example (k : Nat) := call_arity_mismatch_at_loc (loc := (7, 1)) k (ex_noargs 0)
  (show evalExpr 1 σe [0] (V c!"g" (7, 1)) = .ok ⟨.func 4, none⟩ σe from by with_unfolding_all rfl)
  (show σe.getFunc 4 = some frP from by rfl) rfl (by decide)

/-- … and too few arguments for a function with a collector: at the CALL node's position -/
theorem call_too_few_args_at_loc (k : Nat) {f : Expr} {args : List ListItem} {argVals : List SVal} {a : Addr}
    {s : Option Val} {fr : FuncRec}
    (h1 : evalListItems n σ sc args [] = .ok argVals σ1) (h2 : evalExpr n σ1 sc f = .ok ⟨.func a, s⟩ σ2)
    (h3 : σ2.getFunc a = some fr) (hc : fr.collect = true) (hlt : fr.args.length - 1 > argVals.length) :
    evalExpr (n + k + 2) σ sc (.mk (.Call f args) loc) =
      errAt loc (Leaf.TooFewArgs (fr.args.length - 1) argVals.length) σ2 := by
  show evalExpr (n + k + 1 + 1) _ _ _ = _
  rw [call_eq]
  conv => lhs; unfold evalCall
  simp [upItems k h1 (by nt), upExpr k h2 (by nt), Res.bind, h3, hc, hlt]
/-- `h()` for `fn h(p, ..q)` -/
example (k : Nat) := call_too_few_args_at_loc (loc := (7, 1)) k (ex_noargs 0)
  (show evalExpr 1 σe [0] (V c!"h" (7, 1)) = .ok ⟨.func 5, none⟩ σe from by with_unfolding_all rfl)
  (show σe.getFunc 5 = some frC from by rfl) rfl (by decide)

/-- **(3d)** a list index past the end: at the INDEX NODE's position (`loc` of `.Index`) -/
theorem index_list_oob_at_loc (k : Nat) {ex locat : Expr} {a : Addr} {s : Option Val} {i : Nat} {items : List SVal}
    (h1 : evalExpr n σ sc ex = .ok ⟨.list a, s⟩ σ1) (h2 : evalToIndex n σ1 sc locat = .ok i σ2)
    (h3 : σ2.getList a = some items) (h4 : items.length ≤ i) :
    evalExpr (n + k + 1) σ sc (.mk (.Index ex locat) loc) = errAt loc (Leaf.OutOfListBounds i) σ2 := by
  conv => lhs; unfold evalExpr
  simp only [upExpr k h1 (by nt), upToIndex k h2 (by nt), h3, Res.bind, List.getElem?_eq_none h4]
/-- `xs[3]` -/
example (k : Nat) := index_list_oob_at_loc (loc := (1, 1)) k (ex_xs 3 (1, 1))
  (show evalToIndex 4 σe [0] (I 3 (1, 4)) = .ok 3 σe from by with_unfolding_all rfl)
  (show σe.getList 1 = some [SVal.plain (.int 5)] from by rfl) (by decide)

/-- … a string index past the end: at the index node's position -/
theorem index_str_oob_at_loc (k : Nat) {ex locat : Expr} {bs : Bytes} {s : Option Val} {i : Nat}
    (h1 : evalExpr n σ sc ex = .ok ⟨.str bs, s⟩ σ1) (h2 : evalToIndex n σ1 sc locat = .ok i σ2) (h4 : bs.length ≤ i) :
    evalExpr (n + k + 1) σ sc (.mk (.Index ex locat) loc) = errAt loc (Leaf.OutOfStringBounds i) σ2 := by
  conv => lhs; unfold evalExpr
  simp only [upExpr k h1 (by nt), upToIndex k h2 (by nt), Res.bind, List.getElem?_eq_none h4]
/-- `s[3]` -/
example (k : Nat) := index_str_oob_at_loc (loc := (1, 1)) k
  (show evalExpr 4 σe [0] (V c!"s" (1, 1)) = .ok ⟨.str (utf8Encode c!"a"), none⟩ σe from ex_s 3 _)
  (show evalToIndex 4 σe [0] (I 3 (1, 3)) = .ok 3 σe from by with_unfolding_all rfl) (by decide)

/-- **(3e)** a missing key `o[key]`: at the index node's position -/
theorem index_prop_missing_at_loc (k : Nat) {ex locat : Expr} {a : Addr} {s : Option Val} {name : List Char} {props : ObjMap}
    (h1 : evalExpr n σ sc ex = .ok ⟨.obj a, s⟩ σ1) (h2 : evalToStr n σ1 sc c!"property" locat = .ok name σ2)
    (h3 : σ2.getObj a = some props) (h4 : objGet name props = none) :
    evalExpr (n + k + 1) σ sc (.mk (.Index ex locat) loc) = errAt loc (Leaf.PropNotFound name) σ2 := by
  conv => lhs; unfold evalExpr
  simp only [upExpr k h1 (by nt), upToStr k h2 (by nt), h3, h4, Res.bind]
/-- `o["z"]` -/
example (k : Nat) := index_prop_missing_at_loc (loc := (1, 1)) k (ex_o 2 (1, 1))
  (show evalToStr 3 σe [0] c!"property" (S c!"z" (1, 3)) = .ok c!"z" σe from by with_unfolding_all rfl)
  (show σe.getObj 2 = some [(c!"k", SVal.plain (.int 7))] from by rfl) (by decide)

/-- … a missing property `o.name`: at the PROPERTY NODE's position (`loc` of `.Prop`) -/
theorem prop_missing_at_loc (k : Nat) {ex : Expr} {a : Addr} {s : Option Val} {name : List Char} {props : ObjMap}
    (h1 : evalExpr n σ sc ex = .ok ⟨.obj a, s⟩ σ1) (h3 : σ1.getObj a = some props) (h4 : objGet name props = none) :
    evalExpr (n + k + 1) σ sc (.mk (.Prop ex name false) loc) = errAt loc (Leaf.PropNotFound name) σ1 := by
  conv => lhs; unfold evalExpr
  simp only [upExpr k h1 (by nt), h3, h4, Res.bind, Bool.false_eq_true, if_false]
/-- `o.z` -/
example (k : Nat) := prop_missing_at_loc (loc := (1, 1)) (name := c!"z") k (ex_o 0 (1, 1))
  (show σe.getObj 2 = some [(c!"k", SVal.plain (.int 7))] from by rfl) (by decide)

/-- … a property of a non-object: at the property node's position -/
theorem prop_on_non_object_at_loc (k : Nat) {ex : Expr} {v : SVal} {name : List Char}
    (h1 : evalExpr n σ sc ex = .ok v σ1) (hv : ∀ a, v.v ≠ .obj a) :
    evalExpr (n + k + 1) σ sc (.mk (.Prop ex name false) loc) = errAt loc (Leaf.PropAccessOnNonObject v.v.kind) σ1 := by
  conv => lhs; unfold evalExpr
  simp only [upExpr k h1 (by nt), Res.bind, Bool.false_eq_true, if_false]
/-- `x.z` -/
example (k : Nat) := prop_on_non_object_at_loc (loc := (1, 1)) (name := c!"z") k (ex_x 0 (1, 1)) (fun _ h => by cases h)

/-- **(3f)** an index expression whose value is not an int: at the INDEX EXPRESSION's position `locat.loc` — not at the
    index node's `loc`, which is the start of the indexed expression.  (`evalToInt`, then through `evalToIndex`.) -/
theorem toInt_non_int_at_expr_loc (k : Nat) {descr : List Char} {e : Expr} {v : SVal}
    (h : evalExpr n σ sc e = .ok v σ1) (hv : ∀ j, v.v ≠ .int j) :
    evalToInt (n + k + 1) σ sc descr e = errAt e.loc (Leaf.IncorrectType descr c!"int" v.v.kind) σ1 := by
  conv => lhs; unfold evalToInt
  simp only [upExpr k h (by nt), Res.bind]
example (k : Nat) := toInt_non_int_at_expr_loc (descr := c!"index") k (ex_s 0 (1, 4)) (fun _ h => by cases h)

theorem toIndex_non_int_at_expr_loc (k : Nat) {e : Expr} {v : SVal}
    (h : evalExpr n σ sc e = .ok v σ1) (hv : ∀ j, v.v ≠ .int j) :
    evalToIndex (n + k + 2) σ sc e = errAt e.loc (Leaf.IncorrectType c!"index" c!"int" v.v.kind) σ1 := by
  show evalToIndex (n + k + 1 + 1) _ _ _ = _
  conv => lhs; unfold evalToIndex
  simp only [toInt_non_int_at_expr_loc k h hv, errAt, Res.bind]
example (k : Nat) := toIndex_non_int_at_expr_loc k (ex_s 0 (1, 4)) (fun _ h => by cases h)

/-- **(3g)** a negative index: at the INDEX EXPRESSION's position -/
theorem toIndex_negative_at_expr_loc (k : Nat) {e : Expr} {s : Option Val} {i : Int}
    (h : evalExpr n σ sc e = .ok ⟨.int i, s⟩ σ1) (hi : i < 0) :
    evalToIndex (n + k + 2) σ sc e = errAt e.loc (Leaf.NegativeIndex i) σ1 := by
  show evalToIndex (n + k + 1 + 1) _ _ _ = _
  conv => lhs; unfold evalToIndex
  have : evalToInt (n + k + 1) σ sc c!"index" e = .ok i σ1 := by
    conv => lhs; unfold evalToInt
    simp only [upExpr k h (by nt), Res.bind]
  simp only [this, Res.bind, hi, if_true]
example (k : Nat) := toIndex_negative_at_expr_loc k
  (show evalExpr 1 σe [0] (I (-1) (1, 4)) = .ok ⟨.int (-1), none⟩ σe from by with_unfolding_all rfl) (by decide)

/-- … seen from the index node `xs[e]` on a list: the error of the index expression is what the node returns, so the
    diagnostic is at `locat.loc` and not at the node's `loc` -/
theorem index_list_bad_index_at_index_expr_loc (k : Nat) {ex locat : Expr} {a : Addr} {s : Option Val} {e : Err}
    (h1 : evalExpr n σ sc ex = .ok ⟨.list a, s⟩ σ1) (h2 : evalToIndex n σ1 sc locat = .err e σ2) :
    evalExpr (n + k + 1) σ sc (.mk (.Index ex locat) loc) = .err e σ2 := by
  conv => lhs; unfold evalExpr
  simp only [upExpr k h1 (by nt), upToIndex k h2 (by nt), Res.bind]
example (k : Nat) := index_list_bad_index_at_index_expr_loc (loc := (1, 1)) k (ex_xs 2 (1, 1))
  (toIndex_non_int_at_expr_loc 0 (ex_s 0 (1, 4)) (fun _ h => by cases h))

/-- `xs[-1]`, `xs["a"]` in one statement each: a list, an index expression evaluating to a negative int / a non-int -/
theorem index_list_negative_at_index_expr_loc (k : Nat) {ex locat : Expr} {a : Addr} {s s' : Option Val} {i : Int}
    (h1 : evalExpr n σ sc ex = .ok ⟨.list a, s⟩ σ1) (h2 : evalExpr n σ1 sc locat = .ok ⟨.int i, s'⟩ σ2) (hi : i < 0) :
    evalExpr (n + k + 3) σ sc (.mk (.Index ex locat) loc) = errAt locat.loc (Leaf.NegativeIndex i) σ2 :=
  index_list_bad_index_at_index_expr_loc (n := n + k + 2) 0 (upExpr (k + 2) h1 (by nt))
    (toIndex_negative_at_expr_loc k h2 hi)
/-- `xs[-1]`: the node at 1:1, the index expression at 1:4 -/
example (k : Nat) : evalExpr (1 + k + 3) σe [0] (.mk (.Index (V c!"xs" (1, 1)) (I (-1) (1, 4))) (1, 1)) =
    errAt (1, 4) (Leaf.NegativeIndex (-1)) σe :=
  index_list_negative_at_index_expr_loc k (ex_xs 0 (1, 1))
    (show evalExpr 1 σe [0] (I (-1) (1, 4)) = .ok ⟨.int (-1), none⟩ σe from by with_unfolding_all rfl) (by decide)

theorem index_list_non_int_at_index_expr_loc (k : Nat) {ex locat : Expr} {a : Addr} {s : Option Val} {v : SVal}
    (h1 : evalExpr n σ sc ex = .ok ⟨.list a, s⟩ σ1) (h2 : evalExpr n σ1 sc locat = .ok v σ2) (hv : ∀ j, v.v ≠ .int j) :
    evalExpr (n + k + 3) σ sc (.mk (.Index ex locat) loc) =
      errAt locat.loc (Leaf.IncorrectType c!"index" c!"int" v.v.kind) σ2 :=
  index_list_bad_index_at_index_expr_loc (n := n + k + 2) 0 (upExpr (k + 2) h1 (by nt))
    (toIndex_non_int_at_expr_loc k h2 hv)
/-- `xs[s]` -/
example (k : Nat) : evalExpr (1 + k + 3) σe [0] (.mk (.Index (V c!"xs" (1, 1)) (V c!"s" (1, 4))) (1, 1)) =
    errAt (1, 4) (Leaf.IncorrectType c!"index" c!"int" .Str) σe :=
  index_list_non_int_at_index_expr_loc k (ex_xs 0 (1, 1)) (ex_s 0 (1, 4)) (fun _ h => by cases h)

end nodes

/-! ## (4) `break` / `continue` / `return` outside their construct: the KEYWORD's position -/

/-- the parameter bindings and the state `evalCall` runs the body with (a copy of the `let`s of `evalCall`) -/
def callFrame (σ2 : State) (fr : FuncRec) (fv : SVal) (argVals : List SVal) (loc : Loc) : List (Expr × SVal) × State :=
  let (plainVals, σ3) :=
    if fr.collect then
      let (ra, σ3) := σ2.alloc (.list (argVals.drop (fr.args.length - 1)))
      (argVals.take (fr.args.length - 1) ++ [SVal.plain (.list ra)], σ3)
    else (argVals, σ2)
  let bindings := fr.args.zip plainVals
  let bindings :=
    match fv.src with
    | some this => bindings ++ [(Expr.mk (.Var c!"this") loc, SVal.plain this)]
    | none => bindings
  (bindings, σ3)

/-- what a call does with the escape its body ends in -/
def callResult (esc : Escape) (σ4 : State) : Res SVal :=
  match esc with
  | .none => .ok (SVal.plain .null) σ4
  | .brk l => errAt l Leaf.BreakOutsideLoop σ4
  | .cont l => errAt l Leaf.ContinueOutsideLoop σ4
  | .ret v _ => .ok v σ4

section calls
variable {n : Nat} {σ σ1 σ2 σ4 : State} {sc : List Addr} {loc : Loc} {f : Expr} {args : List ListItem}
  {argVals : List SVal} {a : Addr} {s : Option Val} {fr : FuncRec}

/-- a call of a user function with an accepted number of arguments whose body runs to the escape `esc` -/
theorem call_body_escape (k : Nat) {esc : Escape}
    (h1 : evalListItems n σ sc args [] = .ok argVals σ1) (h2 : evalExpr n σ1 sc f = .ok ⟨.func a, s⟩ σ2)
    (h3 : σ2.getFunc a = some fr)
    (hA : (fr.collect && decide (fr.args.length - 1 > argVals.length)) = false)
    (hB : (!fr.collect && decide (fr.args.length ≠ argVals.length)) = false)
    (h4 : evalBlock n (callFrame σ2 fr ⟨.func a, s⟩ argVals loc).2 fr.closure (callFrame σ2 fr ⟨.func a, s⟩ argVals loc).1 fr.stmts
      = .ok esc σ4) :
    evalExpr (n + k + 2) σ sc (.mk (.Call f args) loc) = callResult esc σ4 := by
  show evalExpr (n + k + 1 + 1) _ _ _ = _
  rw [call_eq]
  conv => lhs; unfold evalCall
  simp only [upItems k h1 (by nt), upExpr k h2 (by nt), Res.bind, h3, hA, hB, Bool.false_eq_true, if_false]
  have h4' := upBlock k h4 (by nt)
  cases s <;> (simp only [callFrame] at h4'; simp only [h4', Res.mapErr]; cases esc <;> rfl)
/-- `c()` for `fn c() { continue; }` (the body ends in `.cont (5,5)`) -/
example (k : Nat) := call_body_escape (loc := (7, 1)) k (ex_noargs 2)
  (show evalExpr 3 σe [0] (V c!"c" (7, 1)) = .ok ⟨.func 6, none⟩ σe from by with_unfolding_all rfl)
  (show σe.getFunc 6 = some frK from by rfl) rfl rfl
  (show evalBlock 3 (callFrame σe frK ⟨.func 6, none⟩ [] (7, 1)).2 frK.closure (callFrame σe frK ⟨.func 6, none⟩ [] (7, 1)).1 frK.stmts
      = .ok (.cont (5, 5)) (σe.alloc (.scope [])).2 from by with_unfolding_all rfl)

/-- **(4a)** a `break` that escapes the body of a called function: located at the position stored in the `break`
    statement (`.brk l`) — not at the call's `loc`, and without a call frame around it -/
theorem break_escaping_call_at_keyword (k : Nat) {l : Loc}
    (h1 : evalListItems n σ sc args [] = .ok argVals σ1) (h2 : evalExpr n σ1 sc f = .ok ⟨.func a, s⟩ σ2)
    (h3 : σ2.getFunc a = some fr)
    (hA : (fr.collect && decide (fr.args.length - 1 > argVals.length)) = false)
    (hB : (!fr.collect && decide (fr.args.length ≠ argVals.length)) = false)
    (h4 : evalBlock n (callFrame σ2 fr ⟨.func a, s⟩ argVals loc).2 fr.closure (callFrame σ2 fr ⟨.func a, s⟩ argVals loc).1 fr.stmts
      = .ok (.brk l) σ4) :
    evalExpr (n + k + 2) σ sc (.mk (.Call f args) loc) = errAt l Leaf.BreakOutsideLoop σ4 :=
  call_body_escape k h1 h2 h3 hA hB h4
/-- `f()` called at 7:1 for `fn f() { break; }` with the `break` at 2:5: reported at 2:5 -/
example (k : Nat) : evalExpr (3 + k + 2) σe [0] (.mk (.Call (V c!"f" (7, 1)) []) (7, 1)) =
    errAt (2, 5) Leaf.BreakOutsideLoop (σe.alloc (.scope [])).2 :=
  break_escaping_call_at_keyword k (ex_noargs 2)
    (show evalExpr 3 σe [0] (V c!"f" (7, 1)) = .ok ⟨.func 3, none⟩ σe from by with_unfolding_all rfl)
    (show σe.getFunc 3 = some frB from by rfl) rfl rfl
    (show evalBlock 3 (callFrame σe frB ⟨.func 3, none⟩ [] (7, 1)).2 frB.closure (callFrame σe frB ⟨.func 3, none⟩ [] (7, 1)).1 frB.stmts
      = .ok (.brk (2, 5)) (σe.alloc (.scope [])).2 from by with_unfolding_all rfl)

/-- **(4b)** … and a `continue` -/
theorem continue_escaping_call_at_keyword (k : Nat) {l : Loc}
    (h1 : evalListItems n σ sc args [] = .ok argVals σ1) (h2 : evalExpr n σ1 sc f = .ok ⟨.func a, s⟩ σ2)
    (h3 : σ2.getFunc a = some fr)
    (hA : (fr.collect && decide (fr.args.length - 1 > argVals.length)) = false)
    (hB : (!fr.collect && decide (fr.args.length ≠ argVals.length)) = false)
    (h4 : evalBlock n (callFrame σ2 fr ⟨.func a, s⟩ argVals loc).2 fr.closure (callFrame σ2 fr ⟨.func a, s⟩ argVals loc).1 fr.stmts
      = .ok (.cont l) σ4) :
    evalExpr (n + k + 2) σ sc (.mk (.Call f args) loc) = errAt l Leaf.ContinueOutsideLoop σ4 :=
  call_body_escape k h1 h2 h3 hA hB h4
/-- `c()` called at 7:1 for `fn c() { continue; }` with the `continue` at 5:5: reported at 5:5 -/
example (k : Nat) : evalExpr (3 + k + 2) σe [0] (.mk (.Call (V c!"c" (7, 1)) []) (7, 1)) =
    errAt (5, 5) Leaf.ContinueOutsideLoop (σe.alloc (.scope [])).2 :=
  continue_escaping_call_at_keyword k (ex_noargs 2)
    (show evalExpr 3 σe [0] (V c!"c" (7, 1)) = .ok ⟨.func 6, none⟩ σe from by with_unfolding_all rfl)
    (show σe.getFunc 6 = some frK from by rfl) rfl rfl
    (show evalBlock 3 (callFrame σe frK ⟨.func 6, none⟩ [] (7, 1)).2 frK.closure (callFrame σe frK ⟨.func 6, none⟩ [] (7, 1)).1 frK.stmts
      = .ok (.cont (5, 5)) (σe.alloc (.scope [])).2 from by with_unfolding_all rfl)

end calls

/-! where the `.brk l` / `.cont l` of a body comes from: the statement `break` at `l` yields `.brk l` with the position
    stored in it, and a statement list / a block / an `if` hand an escape on unchanged -/

theorem continue_stmt (m : Nat) (σ : State) (sc : List Addr) (l : Loc) :
    evalStmt (m + 1) σ sc (.Continue l) = .ok (.cont l) σ := evalStmt_continue m σ sc l
theorem return_stmt (m : Nat) {σ σ1 : State} {sc : List Addr} {l : Loc} {e : Expr} {v : SVal}
    (h : evalExpr m σ sc e = .ok v σ1) : evalStmt (m + 1) σ sc (.Return l e) = .ok (.ret v l) σ1 := evalStmt_return m h
example := return_stmt 1 (l := (9, 1)) (ex_x 0 (9, 8))

theorem stmts_step (m : Nat) {σ σ1 : State} {sc : List Addr} {st : Stmt} {r : List Stmt}
    (h : evalStmt m σ sc st = .ok .none σ1) : evalStmts (m + 1) σ sc (st :: r) = evalStmts m σ1 sc r := evalStmts_cons_ok r h
example (m : Nat) (r : List Stmt) := evalStmts_cons_esc r (evalStmt_break m σe [0] (2, 5)) (fun h => by cases h)

/-- a concrete family for (4a): a parameterless function whose body starts with `break` (at `l`), called without
    arguments at `loc`: the diagnostic is at `l` -/
theorem call_of_break_body_at_keyword (k : Nat) {n : Nat} {σ σ2 : State} {sc : List Addr} {loc l : Loc} {f : Expr}
    {a : Addr} {fr : FuncRec} {rest : List Stmt}
    (h2 : evalExpr n σ sc f = .ok ⟨.func a, none⟩ σ2) (h3 : σ2.getFunc a = some fr)
    (hargs : fr.args = []) (hc : fr.collect = false) (hbody : fr.stmts = .Break l :: rest) :
    evalExpr (n + k + 5) σ sc (.mk (.Call f []) loc) = errAt l Leaf.BreakOutsideLoop (σ2.alloc (.scope [])).2 := by
  have h1 : evalListItems (n + 3) σ sc [] [] = .ok [] σ := by conv => lhs; unfold evalListItems
  have h2' : evalExpr (n + 3) σ sc f = .ok ⟨.func a, none⟩ σ2 := upExpr 3 h2 (by nt)
  have hfr : callFrame σ2 fr ⟨.func a, none⟩ [] loc = ([], σ2) := by
    simp only [callFrame, hc, hargs, Bool.false_eq_true, if_false, List.zip_nil_left]
  have := break_escaping_call_at_keyword (loc := loc) (l := l) (σ4 := (σ2.alloc (.scope [])).2) k h1 h2' h3
    (by simp [hc]) (by simp [hc, hargs])
    (by rw [hfr, hbody]; show evalBlock (n + 1 + 2) _ _ _ _ = _
        rw [evalBlock_no_binds, evalStmts_cons_esc _ (evalStmt_break n _ _ l) (fun h => by cases h)])
  have e : n + 3 + k + 2 = n + k + 5 := by omega
  rw [e] at this
  exact this
example (k : Nat) := call_of_break_body_at_keyword (loc := (7, 1)) (rest := []) (l := (2, 5)) k
  (show evalExpr 1 σe [0] (V c!"f" (7, 1)) = .ok ⟨.func 3, none⟩ σe from by with_unfolding_all rfl)
  (show σe.getFunc 3 = some frB from by rfl) rfl rfl rfl

/-- what `evalProg` does with the escape the program's statement list ends in -/
def progResult (esc : Escape) (σ : State) : Res Unit :=
  match esc with
  | .none => .ok () σ
  | .brk l => errAt l Leaf.BreakOutsideLoop σ
  | .cont l => errAt l Leaf.ContinueOutsideLoop σ
  | .ret _ l => errAt l Leaf.ReturnOutsideFunction σ

/-- the program's statements run in `progState` (one scope cell holding `print`) under the scope chain `[0]` -/
theorem prog_escape (k : Nat) {n : Nat} {stmts : List Stmt} {esc : Escape} {σ : State}
    (h : evalStmts n progState [0] stmts = .ok esc σ) : evalProg (n + k + 3) stmts = progResult esc σ := by
  have h' : evalStmts (n + k + 2) progState [0] stmts = .ok esc σ := upStmts (k + 2) h (by nt)
  rw [evalProg_eq, h']; cases esc <;> rfl

/-- **(4c)** `break` / `continue` / `return` that escape the whole program: at the keyword's stored position -/
theorem top_level_break_at_keyword (k : Nat) {n : Nat} {stmts : List Stmt} {l : Loc} {σ : State}
    (h : evalStmts n progState [0] stmts = .ok (.brk l) σ) :
    evalProg (n + k + 3) stmts = errAt l Leaf.BreakOutsideLoop σ := prog_escape k h
theorem top_level_continue_at_keyword (k : Nat) {n : Nat} {stmts : List Stmt} {l : Loc} {σ : State}
    (h : evalStmts n progState [0] stmts = .ok (.cont l) σ) :
    evalProg (n + k + 3) stmts = errAt l Leaf.ContinueOutsideLoop σ := prog_escape k h
theorem top_level_return_at_keyword (k : Nat) {n : Nat} {stmts : List Stmt} {l : Loc} {v : SVal} {σ : State}
    (h : evalStmts n progState [0] stmts = .ok (.ret v l) σ) :
    evalProg (n + k + 3) stmts = errAt l Leaf.ReturnOutsideFunction σ := prog_escape k h
example (l : Loc) (rest : List Stmt) (k : Nat) :
    evalProg (2 + k + 3) (.Continue l :: rest) = errAt l Leaf.ContinueOutsideLoop progState :=
  top_level_continue_at_keyword (n := 2) k (evalStmts_cons_esc _ (evalStmt_continue 0 _ _ l) (fun h => by cases h))
example (l l' : Loc) (rest : List Stmt) (k : Nat) :
    evalProg (3 + k + 3) (.Return l (I 1 l') :: rest) = errAt l Leaf.ReturnOutsideFunction progState :=
  top_level_return_at_keyword (n := 3) k (evalStmts_cons_esc _
    (evalStmt_return 1 (show evalExpr 1 progState [0] (I 1 l') = .ok (SVal.plain (.int 1)) progState from by
      conv => lhs; unfold evalExpr)) (fun h => by cases h))

/-- an instance: a program whose first statement is `break` at `l` -/
example (l : Loc) (rest : List Stmt) (k : Nat) :
    evalProg (2 + k + 3) (.Break l :: rest) = errAt l Leaf.BreakOutsideLoop progState :=
  top_level_break_at_keyword (n := 2) k (evalStmts_cons_esc _ (evalStmt_break 0 _ _ l) (fun h => by cases h))

/-! ## (5) `for` over a non-iterable: the iterable expression's position; a non-bool condition: the condition's -/

section ctl
variable {n : Nat} {σ σ1 : State} {sc : List Addr}

theorem for_non_iterable_at_iter_loc (k : Nat) {lhs iter : Expr} {stmts : List Stmt} {it : SVal}
    (h1 : evalExpr n σ sc iter = .ok it σ1) (h2 : toPairs σ1 it.v = some none) :
    evalStmt (n + k + 1) σ sc (.For lhs iter stmts) = errAt iter.loc Leaf.ForIterNotIterable σ1 := by
  conv => lhs; unfold evalStmt
  simp only [upExpr k h1 (by nt), Res.bind, h2]
/-- `for v in x { }` with `x = 1` -/
example (k : Nat) (lhs : Expr) (body : List Stmt) :=
  for_non_iterable_at_iter_loc (lhs := lhs) (stmts := body) k (ex_x 0 (1, 10)) (by rfl)

theorem toPairs_non_iterable (σ : State) (v : Val) (hs : ∀ bs, v ≠ .str bs) (hl : ∀ a, v ≠ .list a) (ho : ∀ a, v ≠ .obj a) :
    toPairs σ v = some none := by
  cases v <;> first | rfl | exact absurd rfl (hs _) | exact absurd rfl (hl _) | exact absurd rfl (ho _)

/-- **(5b)** a condition that is not a bool: at the condition expression's position -/
theorem toBool_non_bool_at_expr_loc (k : Nat) {descr : List Char} {e : Expr} {v : SVal}
    (h : evalExpr n σ sc e = .ok v σ1) (hv : ∀ b, v.v ≠ .bool b) :
    evalToBool (n + k + 1) σ sc descr e = errAt e.loc (Leaf.IncorrectType descr c!"bool" v.v.kind) σ1 := by
  conv => lhs; unfold evalToBool
  simp only [upExpr k h (by nt), Res.bind]
example (k : Nat) := toBool_non_bool_at_expr_loc (descr := c!"condition") k (ex_x 0 (1, 7)) (fun _ h => by cases h)

theorem while_non_bool_cond_at_cond_loc (k : Nat) {cond : Expr} {stmts : List Stmt} {v : SVal}
    (h : evalExpr n σ sc cond = .ok v σ1) (hv : ∀ b, v.v ≠ .bool b) :
    evalStmt (n + k + 3) σ sc (.While cond stmts) =
      errAt cond.loc (Leaf.IncorrectType c!"condition" c!"bool" v.v.kind) σ1 := by
  show evalStmt (n + k + 1 + 1 + 1) _ _ _ = _
  conv => lhs; unfold evalStmt
  unfold evalWhile
  simp only [toBool_non_bool_at_expr_loc k h hv, errAt, Res.bind]
/-- `while x { }` -/
example (k : Nat) (body : List Stmt) := while_non_bool_cond_at_cond_loc (stmts := body) k (ex_x 0 (1, 7)) (fun _ h => by cases h)

theorem if_non_bool_cond_at_cond_loc (k : Nat) {cond : Expr} {stmts : List Stmt} {r : List Branch}
    {els : Option (List Stmt)} {v : SVal}
    (h : evalExpr n σ sc cond = .ok v σ1) (hv : ∀ b, v.v ≠ .bool b) :
    evalStmt (n + k + 3) σ sc (.If (.mk cond stmts :: r) els) =
      errAt cond.loc (Leaf.IncorrectType c!"condition" c!"bool" v.v.kind) σ1 := by
  show evalStmt (n + k + 1 + 1 + 1) _ _ _ = _
  conv => lhs; unfold evalStmt
  unfold evalIf
  simp only [toBool_non_bool_at_expr_loc k h hv, errAt, Res.bind]
/-- `if x { }` -/
example (k : Nat) (body : List Stmt) := if_non_bool_cond_at_cond_loc (stmts := body) (r := []) (els := none) k (ex_x 0 (1, 4))
  (fun _ h => by cases h)

/-! ## (6) the end of a range `a .. b` that is not an int: the END expression's position -/

theorem range_end_non_int_at_end_loc (k : Nat) {σ2 : State} {start stop : Expr} {loc : Loc} {a : Int} {v : SVal}
    (h1 : evalToInt n σ sc c!"range start" start = .ok a σ1) (h2 : evalExpr n σ1 sc stop = .ok v σ2)
    (hv : ∀ j, v.v ≠ .int j) :
    evalExpr (n + k + 2) σ sc (.mk (.Range start stop) loc) =
      errAt stop.loc (Leaf.IncorrectType c!"range end" c!"int" v.v.kind) σ2 := by
  show evalExpr (n + k + 1 + 1) _ _ _ = _
  conv => lhs; unfold evalExpr
  have h1' : evalToInt (n + k + 1) σ sc c!"range start" start = .ok a σ1 := upToInt (k + 1) h1 (by nt)
  simp only [h1', toInt_non_int_at_expr_loc k h2 hv, errAt, Res.bind]
/-- `x .. s`: the range node at 1:1, the end expression at 1:6 -/
example (k : Nat) : evalExpr (2 + k + 2) σe [0] (.mk (.Range (V c!"x" (1, 1)) (V c!"s" (1, 6))) (1, 1)) =
    errAt (1, 6) (Leaf.IncorrectType c!"range end" c!"int" .Str) σe :=
  range_end_non_int_at_end_loc k
    (show evalToInt 2 σe [0] c!"range start" (V c!"x" (1, 1)) = .ok 1 σe from by with_unfolding_all rfl)
    (ex_s 1 (1, 6)) (fun _ h => by cases h)

/-- … and the start: at the START expression's position -/
theorem range_start_non_int_at_start_loc (k : Nat) {start stop : Expr} {loc : Loc} {v : SVal}
    (h1 : evalExpr n σ sc start = .ok v σ1) (hv : ∀ j, v.v ≠ .int j) :
    evalExpr (n + k + 2) σ sc (.mk (.Range start stop) loc) =
      errAt start.loc (Leaf.IncorrectType c!"range start" c!"int" v.v.kind) σ1 := by
  show evalExpr (n + k + 1 + 1) _ _ _ = _
  conv => lhs; unfold evalExpr
  simp only [toInt_non_int_at_expr_loc k h1 hv, errAt, Res.bind]
/-- `s .. x` -/
example (k : Nat) := range_start_non_int_at_start_loc (loc := (1, 1)) (stop := V c!"x" (1, 6)) k (ex_s 0 (1, 1))
  (fun _ h => by cases h)

end ctl

end Seed.C18A
