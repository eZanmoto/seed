/-
  Lemmas/C18Attrib2.lean — attribution on SOURCE TEXT.

  `node_pos` (C18NodePos.lean) says every stored position is the start of SOME token.  Here: WHICH token, for the
  positions that Lemmas/C18Attrib.lean shows the diagnostics of binary operations, op-assignments and stray jumps to
  carry (`node_kw`, one more induction over the 22 parser functions):

    * `opLoc` of `.BinaryOp op …`    is the start of a token `binTok op`     (the operator: `+` for `Sum`, …)
    * `opLoc` of `.OpAssign _ op …`  is the start of a token `assignTok op`  (`+=` for `Sum`, …)
    * the position of `.Break` / `.Continue` / `.Return` is the start of a `break` / `continue` / `return` token
    * `nameLoc` of `.Func name …`    is the start of the token `Ident name`

  and, through the lexer facts of Scan.lean, such a token start is `posOf src i` for the offset `i` of the token's first
  character (`TokIs`, in C18Attrib3.lean, which goes on to the source-level forms of (1), (2), (4) of C18Attrib.lean).
-/
import SeedProofs.Lemmas.C18Attrib
namespace Seed.C18A
open Seed Gen

/-- the token of a binary operator (the inverse of the table `Gen.binOps`) -/
def binTok : BinaryOp → Token
  | .Sum => .Sum | .Sub => .Sub | .Mul => .Mul | .Div => .Div | .Mod => .Mod | .And => .AmpAmp | .Or => .PipePipe
  | .Eq => .EqualsEquals | .Ne => .BangEquals | .Gt => .GreaterThan | .Gte => .GreaterThanEquals | .Lt => .LessThan
  | .Lte => .LessThanEquals | .RefEq => .EqualsEqualsEquals | .RefNe => .BangEqualsEquals

/-- the token of an op-assignment (the inverse of `Gen.assignOps`; only the five arithmetic operators have one) -/
def assignTok : BinaryOp → Token
  | .Sum => .SumEquals | .Sub => .SubEquals | .Mul => .MulEquals | .Div => .DivEquals | .Mod => .ModEquals
  | _ => .Equals

theorem binOps_tok : ∀ x ∈ Gen.binOps, x.1 = binTok x.2.1 := by decide
theorem assignOps_tok : ∀ x ∈ Gen.assignOps, x.1 = assignTok x.2 := by decide

theorem opAt_tok {k : Nat} {t : Token} {op : BinaryOp} (h : opAt k t = some op) : t = binTok op := by
  unfold opAt at h
  split at h
  · rename_i hl
    split at h
    · cases h; exact binOps_tok _ (lookupAssoc_mem hl)
    · cases h
  · cases h

theorem assignOp_tok {t : Token} {op : BinaryOp} (h : assignOpOf t = some op) : t = assignTok op :=
  assignOps_tok _ (lookupAssoc_mem h)

/-- the tables are read in both directions: every operator has its token, at its tier -/
example : ∀ op : BinaryOp, ∃ k, opAt k (binTok op) = some op := by
  intro op; cases op <;> first | exact ⟨2, rfl⟩ | exact ⟨3, rfl⟩ | exact ⟨4, rfl⟩

def TokAt (T : List Span) (P : Token → Prop) (l : Loc) : Prop := ∃ sp, sp ∈ T ∧ sp.start = l ∧ P sp.tok

theorem TokAt.locOK {T : List Span} {P : Token → Prop} {l : Loc} (h : TokAt T P l) : LocOK T l := by
  obtain ⟨sp, hm, hs, _⟩ := h; exact ⟨sp, hm, hs⟩

theorem tokAt_head {T : List Span} {P : Token → Prop} {sp : Span} {r : List Span} (h : Suf T (sp :: r)) (hp : P sp.tok) :
    TokAt T P sp.start :=
  ⟨sp, h.head_mem, rfl, hp⟩

mutual
/-- operator and keyword positions stored in the (raw) expression sit at the tokens that spell them -/
inductive RawKwOK (T : List Span) : RawExpr → Prop
  | null : RawKwOK T .Null
  | bool {b : Bool} : RawKwOK T (.Bool b)
  | int {n : Int} : RawKwOK T (.Int n)
  | str {s : List Char} {slots : Option (List (Nat × Nat))} : RawKwOK T (.Str s slots)
  | var {name : List Char} : RawKwOK T (.Var name)
  | binop {op : BinaryOp} {opLoc : Loc} {lhs rhs : Expr} :
      TokAt T (· = binTok op) opLoc → KwOK T lhs → KwOK T rhs → RawKwOK T (.BinaryOp op opLoc lhs rhs)
  | list {items : List ListItem} {collect : Bool} : (∀ x, x ∈ items → ItemKwOK T x) → RawKwOK T (.List items collect)
  | index {e i : Expr} : KwOK T e → KwOK T i → RawKwOK T (.Index e i)
  | rangeIndex {e : Expr} {start stop : Option Expr} :
      KwOK T e → (∀ x, start = some x → KwOK T x) → (∀ x, stop = some x → KwOK T x) →
      RawKwOK T (.RangeIndex e start stop)
  | range {a b : Expr} : KwOK T a → KwOK T b → RawKwOK T (.Range a b)
  | object {props : List PropItem} : (∀ x, x ∈ props → PropKwOK T x) → RawKwOK T (.Object props)
  | prop {e : Expr} {name : List Char} {tp : Bool} : KwOK T e → RawKwOK T (.Prop e name tp)
  | func {args : List Expr} {collect : Bool} {stmts : List Stmt} :
      (∀ x, x ∈ args → KwOK T x) → (∀ x, x ∈ stmts → StmtKwOK T x) → RawKwOK T (.Func args collect stmts)
  | call {f : Expr} {args : List ListItem} : KwOK T f → (∀ x, x ∈ args → ItemKwOK T x) → RawKwOK T (.Call f args)
inductive KwOK (T : List Span) : Expr → Prop
  | mk {raw : RawExpr} {loc : Loc} : RawKwOK T raw → KwOK T (.mk raw loc)
inductive ItemKwOK (T : List Span) : ListItem → Prop
  | mk {e : Expr} {s : Bool} : KwOK T e → ItemKwOK T (.mk e s)
inductive PropKwOK (T : List Span) : PropItem → Prop
  | pair {n v : Expr} : KwOK T n → KwOK T v → PropKwOK T (.Pair n v)
  | single {e : Expr} {s c : Bool} : KwOK T e → PropKwOK T (.Single e s c)
inductive StmtKwOK (T : List Span) : Stmt → Prop
  | block {b : List Stmt} : (∀ x, x ∈ b → StmtKwOK T x) → StmtKwOK T (.Block b)
  | expr {e : Expr} : KwOK T e → StmtKwOK T (.Expr e)
  | declare {l r : Expr} : KwOK T l → KwOK T r → StmtKwOK T (.Declare l r)
  | assign {l r : Expr} : KwOK T l → KwOK T r → StmtKwOK T (.Assign l r)
  | opAssign {l r : Expr} {op : BinaryOp} {opLoc : Loc} :
      KwOK T l → TokAt T (· = assignTok op) opLoc → KwOK T r → StmtKwOK T (.OpAssign l op opLoc r)
  | ifs {bs : List Branch} {els : Option (List Stmt)} :
      (∀ b, b ∈ bs → BranchKwOK T b) → (∀ s, els = some s → ∀ x, x ∈ s → StmtKwOK T x) → StmtKwOK T (.If bs els)
  | whiles {c : Expr} {s : List Stmt} : KwOK T c → (∀ x, x ∈ s → StmtKwOK T x) → StmtKwOK T (.While c s)
  | fors {l i : Expr} {s : List Stmt} : KwOK T l → KwOK T i → (∀ x, x ∈ s → StmtKwOK T x) → StmtKwOK T (.For l i s)
  | brk {loc : Loc} : TokAt T (· = .Break) loc → StmtKwOK T (.Break loc)
  | cont {loc : Loc} : TokAt T (· = .Continue) loc → StmtKwOK T (.Continue loc)
  | func {name : List Char} {nameLoc : Loc} {args : List Expr} {collect : Bool} {stmts : List Stmt} :
      TokAt T (· = .Ident name) nameLoc → (∀ x, x ∈ args → KwOK T x) → (∀ x, x ∈ stmts → StmtKwOK T x) →
      StmtKwOK T (.Func name nameLoc args collect stmts)
  | ret {loc : Loc} {e : Expr} : TokAt T (· = .Return) loc → KwOK T e → StmtKwOK T (.Return loc e)
inductive BranchKwOK (T : List Span) : Branch → Prop
  | mk {c : Expr} {s : List Stmt} : KwOK T c → (∀ x, x ∈ s → StmtKwOK T x) → BranchKwOK T (.mk c s)
end

theorem StmtKwOK.expr_inv {T : List Span} {e : Expr} (h : StmtKwOK T (.Expr e)) : KwOK T e := by
  cases h; assumption

structure KwAll (T : List Span) (n : Nat) : Prop where
  parseAtom : ∀ pre ts, Suf T ts → (∀ x, pre = some x → RawKwOK T x) →
    PRes.PosSat (fun a rest => Suf T rest ∧ RawKwOK T a) (parseAtom n pre ts)
  parsePostfix : ∀ l pre ts, Suf T ts → (∀ x, pre = some x → RawKwOK T x) →
    PRes.PosSat (fun a rest => Suf T rest ∧ RawKwOK T a) (parsePostfix n l pre ts)
  postfixLoop : ∀ l acc ts, Suf T ts → RawKwOK T acc →
    PRes.PosSat (fun a rest => Suf T rest ∧ RawKwOK T a) (postfixLoop n l acc ts)
  parseIndexTail : ∀ e ts, Suf T ts → KwOK T e →
    PRes.PosSat (fun a rest => Suf T rest ∧ RawKwOK T a) (parseIndexTail n e ts)
  parseRangeEnd : ∀ e s ts, Suf T ts → KwOK T e → (∀ x, s = some x → KwOK T x) →
    PRes.PosSat (fun a rest => Suf T rest ∧ RawKwOK T a) (parseRangeEnd n e s ts)
  parseTier : ∀ k l pre ts, Suf T ts → (∀ x, pre = some x → RawKwOK T x) →
    PRes.PosSat (fun a rest => Suf T rest ∧ RawKwOK T a) (parseTier n k l pre ts)
  tierLoop : ∀ k l acc ts, Suf T ts → RawKwOK T acc →
    PRes.PosSat (fun a rest => Suf T rest ∧ RawKwOK T a) (tierLoop n k l acc ts)
  parseExpr1 : ∀ s l pre ts, Suf T ts → (∀ x, pre = some x → RawKwOK T x) →
    PRes.PosSat (fun a rest => Suf T rest ∧ RawKwOK T a) (parseExpr1 n s l pre ts)
  rangeLoop : ∀ s l acc ts, Suf T ts → RawKwOK T acc →
    PRes.PosSat (fun a rest => Suf T rest ∧ RawKwOK T a) (rangeLoop n s l acc ts)
  parseExpr : ∀ s ts, Suf T ts → PRes.PosSat (fun a rest => Suf T rest ∧ KwOK T a) (parseExpr n s ts)
  parseArgs : ∀ acc ts, Suf T ts → (∀ x, x ∈ acc → ItemKwOK T x) →
    PRes.PosSat (fun a rest => Suf T rest ∧ ∀ x, x ∈ a → ItemKwOK T x) (parseArgs n acc ts)
  parseExprList : ∀ acc ts, Suf T ts → (∀ x, x ∈ acc → ItemKwOK T x) →
    PRes.PosSat (fun a rest => Suf T rest ∧ ∀ x, x ∈ a.1 → ItemKwOK T x) (parseExprList n acc ts)
  parseParams : ∀ acc ts, Suf T ts → (∀ x, x ∈ acc → KwOK T x) →
    PRes.PosSat (fun a rest => Suf T rest ∧ ∀ x, x ∈ a.1 → KwOK T x) (parseParams n acc ts)
  parsePropItems : ∀ acc ts, Suf T ts → (∀ x, x ∈ acc → PropKwOK T x) →
    PRes.PosSat (fun a rest => Suf T rest ∧ ∀ x, x ∈ a → PropKwOK T x) (parsePropItems n acc ts)
  parsePropTail : ∀ acc ts, Suf T ts → (∀ x, x ∈ acc → PropKwOK T x) →
    PRes.PosSat (fun a rest => Suf T rest ∧ ∀ x, x ∈ a → PropKwOK T x) (parsePropTail n acc ts)
  parseBlock : ∀ ts, Suf T ts →
    PRes.PosSat (fun a rest => Suf T rest ∧ ∀ x, x ∈ a → StmtKwOK T x) (parseBlock n ts)
  parseStmts : ∀ c acc ts, Suf T ts → (∀ x, x ∈ acc → StmtKwOK T x) →
    PRes.PosSat (fun a rest => Suf T rest ∧ ∀ x, x ∈ a → StmtKwOK T x) (parseStmts n c acc ts)
  parseIf : ∀ ts, Suf T ts →
    PRes.PosSat (fun a rest => Suf T rest ∧ (∀ b, b ∈ a.1 → BranchKwOK T b) ∧
      (∀ s, a.2 = some s → ∀ x, x ∈ s → StmtKwOK T x)) (parseIf n ts)
  parseStmtTail : ∀ lhs ts, Suf T ts → KwOK T lhs →
    PRes.PosSat (fun a rest => Suf T rest ∧ StmtKwOK T a) (parseStmtTail n lhs ts)
  parseExprStmt : ∀ amb l pre ts, Suf T ts → (∀ x, pre = some x → RawKwOK T x) →
    PRes.PosSat (fun a rest => Suf T rest ∧ StmtKwOK T a) (parseExprStmt n amb l pre ts)
  parseRawStmt : ∀ amb ts, Suf T ts →
    PRes.PosSat (fun a rest => Suf T rest ∧ StmtKwOK T a) (parseRawStmt n amb ts)
  parseBraceStmt : ∀ amb l ts, Suf T ts →
    PRes.PosSat (fun a rest => Suf T rest ∧ StmtKwOK T a) (parseBraceStmt n amb l ts)

/-- the token at a stored operator / keyword position is the head of the input at that point -/
macro "kw_side" : tactic =>
  `(tactic| tree_side [first
    | exact tokAt_head ‹_› ‹_›
    | exact tokAt_head ‹_› (opAt_tok ‹_›)
    | exact tokAt_head ‹_› (assignOp_tok ‹_›)
    | exact StmtKwOK.expr_inv ‹_›])

macro "kw_auto " ih:ident : tactic => `(tactic| possat_auto $ih [kw_side])

theorem kwAll_zero (T : List Span) : KwAll T 0 := by
  constructor <;> intros <;> exact True.intro

theorem kwAll_succ (T : List Span) (n : Nat) (ih : KwAll T n) : KwAll T (n + 1) := by
  constructor <;> intros
  · unfold parseAtom; kw_auto ih
  · unfold parsePostfix; kw_auto ih
  · unfold postfixLoop; kw_auto ih
  · unfold parseIndexTail; kw_auto ih
  · unfold parseRangeEnd; kw_auto ih
  · unfold parseTier; kw_auto ih
  · unfold tierLoop; kw_auto ih
  · unfold parseExpr1; kw_auto ih
  · unfold rangeLoop; kw_auto ih
  · unfold parseExpr; kw_auto ih
  · unfold parseArgs; kw_auto ih
  · unfold parseExprList; kw_auto ih
  · unfold parseParams; kw_auto ih
  · unfold parsePropItems; kw_auto ih
  · unfold parsePropTail; kw_auto ih
  · unfold parseBlock; kw_auto ih
  · unfold parseStmts; kw_auto ih
  · unfold parseIf; kw_auto ih
  · unfold parseStmtTail; kw_auto ih
  · unfold parseExprStmt; kw_auto ih
  · unfold parseRawStmt; kw_auto ih
  · unfold parseBraceStmt; kw_auto ih

theorem kwAll (T : List Span) (n : Nat) : KwAll T n := by
  induction n with
  | zero => exact kwAll_zero T
  | succ n ih => exact kwAll_succ T n ih

theorem parseStmts_node_kw {n : Nat} {c : Bool} {ts rest : List Span} {stmts : List Stmt}
    (h : parseStmts n c [] ts = .ok stmts rest) : ∀ st, st ∈ stmts → StmtKwOK ts st :=
  (((kwAll ts n).parseStmts c [] ts (Suf.refl ts) all_nil).elim h).2

theorem parseExpr_node_kw {n : Nat} {s : Bool} {ts rest : List Span} {e : Expr} (h : parseExpr n s ts = .ok e rest) :
    KwOK ts e :=
  (((kwAll ts n).parseExpr s ts (Suf.refl ts)).elim h).2

/-- **`node_kw`.** in the syntax tree of a program, every operator position is the start of the token that spells the
    operator, every op-assignment position the start of the op-assignment token, every `break` / `continue` / `return`
    position the start of that keyword, every function-name position the start of the name -/
theorem node_kw {src : List Char} {stmts : List Stmt} (h : parseProg src = .ok stmts) :
    ∀ st, st ∈ stmts → StmtKwOK (lexAll src).1 st :=
  have ⟨_, hp⟩ := parseProg_ok h
  parseStmts_node_kw hp

/-- the same for the expression entry point (interpolation slots) -/
theorem node_kw_expr {src : List Char} {e : Expr} (h : parseExprTop src = .ok e) : KwOK (lexAll src).1 e :=
  parseExpr_node_kw (parseExprTop_ok h)

/-- the hypotheses are satisfiable -/
example : ∃ e, parseExprTop c!"a + f(b) * 2" = .ok e ∧ KwOK (lexAll c!"a + f(b) * 2").1 e :=
  ⟨_, rfl, node_kw_expr rfl⟩

end Seed.C18A
