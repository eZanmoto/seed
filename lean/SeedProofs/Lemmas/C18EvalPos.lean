/-
  Lemmas/C18EvalPos.lean — `eval_uses_node_pos`: every position in an error returned by the evaluator is a position
  stored in the program.  Fuel induction over the 23 mutually recursive evaluator functions: from a state whose function
  cells and scope cells satisfy `PosInv M`, on program fragments all of whose marks satisfy `M` (`M` closed under what
  `interpolate` does with a marked string literal), every returned error has all its positions in `M` and the invariant
  holds in every result state.
-/
import SeedProofs.Lemmas.C18EvalPosPrim
namespace Seed
open Gen (Leaf)

def GoodBinds (M : Mark → Prop) (bs : List (Expr × SVal)) : Prop := ∀ b, b ∈ bs → Marked M b.1.marks

theorem GoodBinds.nil {M : Mark → Prop} : GoodBinds M [] := fun _ h => by cases h
theorem GoodBinds.cons {M : Mark → Prop} {e : Expr} {v : SVal} {bs : List (Expr × SVal)} (he : Marked M e.marks)
    (h : GoodBinds M bs) : GoodBinds M ((e, v) :: bs) := by
  intro b hb
  rcases List.mem_cons.mp hb with rfl | hb
  · exact he
  · exact h b hb
theorem GoodBinds.append {M : Mark → Prop} {xs ys : List (Expr × SVal)} (hx : GoodBinds M xs) (hy : GoodBinds M ys) :
    GoodBinds M (xs ++ ys) := by
  intro b hb
  rcases List.mem_append.mp hb with h | h
  · exact hx b h
  · exact hy b h
theorem GoodBinds.zip {M : Mark → Prop} {es : List Expr} (vs : List SVal) (h : Marked M (Expr.marksL es)) :
    GoodBinds M (es.zip vs) :=
  fun b hb => Marked.ofL h b.1 (List.of_mem_zip (a := b.1) (b := b.2) hb).1
theorem GoodBinds.head {M : Mark → Prop} {e : Expr} {v : SVal} {bs : List (Expr × SVal)} (h : GoodBinds M ((e, v) :: bs)) :
    Marked M e.marks := h (e, v) List.mem_cons_self
theorem GoodBinds.tail {M : Mark → Prop} {b : Expr × SVal} {bs : List (Expr × SVal)} (h : GoodBinds M (b :: bs)) :
    GoodBinds M bs := fun x hx => h x (List.mem_cons_of_mem _ hx)

def SlotsOK (M : Mark → Prop) (s : List Char) (loc : Loc) (slots : List (Nat × Nat)) : Prop :=
  ∀ sl, sl ∈ slots → SlotOK M s loc sl

structure EvalPosAll (M : Mark → Prop) (n : Nat) : Prop where
  evalExpr : ∀ σ sc e, PosInv M σ → Marked M e.marks → Res.Pos M PTriv (evalExpr n σ sc e)
  evalOptIndex : ∀ σ sc e, PosInv M σ → Marked M (Expr.marksO e) → Res.Pos M PTriv (evalOptIndex n σ sc e)
  evalListItems : ∀ σ sc items acc, PosInv M σ → Marked M (ListItem.marksL items) →
    Res.Pos M PTriv (evalListItems n σ sc items acc)
  evalProps : ∀ σ sc l props acc, PosInv M σ → M (.loc l) → Marked M (PropItem.marksL props) →
    Res.Pos M PTriv (evalProps n σ sc l props acc)
  evalCall : ∀ σ sc f args loc, PosInv M σ → Marked M f.marks → Marked M (ListItem.marksL args) → M (.loc loc) →
    Res.Pos M PTriv (evalCall n σ sc f args loc)
  evalToStr : ∀ σ sc d e, PosInv M σ → Marked M e.marks → Res.Pos M PTriv (evalToStr n σ sc d e)
  evalToBool : ∀ σ sc d e, PosInv M σ → Marked M e.marks → Res.Pos M PTriv (evalToBool n σ sc d e)
  evalToInt : ∀ σ sc d e, PosInv M σ → Marked M e.marks → Res.Pos M PTriv (evalToInt n σ sc d e)
  evalToIndex : ∀ σ sc e, PosInv M σ → Marked M e.marks → Res.Pos M PTriv (evalToIndex n σ sc e)
  interpolate : ∀ σ sc s slots loc last acc, PosInv M σ → SlotsOK M s loc slots →
    Res.Pos M PTriv (interpolate n σ sc s slots loc last acc)
  evalBlock : ∀ σ sc bs stmts, PosInv M σ → GoodBinds M bs → Marked M (Stmt.marksL stmts) →
    Res.Pos M (EscGood M) (evalBlock n σ sc bs stmts)
  declareAll : ∀ σ sc bs, PosInv M σ → GoodBinds M bs → Res.Pos M PTriv (declareAll n σ sc bs)
  evalStmts : ∀ σ sc stmts, PosInv M σ → Marked M (Stmt.marksL stmts) → Res.Pos M (EscGood M) (evalStmts n σ sc stmts)
  evalStmt : ∀ σ sc st, PosInv M σ → Marked M st.marks → Res.Pos M (EscGood M) (evalStmt n σ sc st)
  evalIf : ∀ σ sc bs els, PosInv M σ → Marked M (Branch.marksL bs) → Marked M (Stmt.marksLO els) →
    Res.Pos M (EscGood M) (evalIf n σ sc bs els)
  evalWhile : ∀ σ sc c stmts, PosInv M σ → Marked M c.marks → Marked M (Stmt.marksL stmts) →
    Res.Pos M (EscGood M) (evalWhile n σ sc c stmts)
  evalFor : ∀ σ sc lhs pairs stmts, PosInv M σ → Marked M lhs.marks → Marked M (Stmt.marksL stmts) →
    Res.Pos M (EscGood M) (evalFor n σ sc lhs pairs stmts)
  bindNext : ∀ σ sc names lhs rhs op decl, PosInv M σ → Marked M lhs.marks → OpGood M op →
    Res.Pos M PTriv (bindNext n σ sc names lhs rhs op decl)
  bindProp : ∀ σ a name loc rhs op names vi, PosInv M σ → M (.loc loc) → OpGood M op →
    Res.Pos M PTriv (bindProp n σ a name loc rhs op names vi)
  bindRangeIndex : ∀ σ sc a start stop loc rhsItems names, PosInv M σ → Marked M (Expr.marksO start) →
    Marked M (Expr.marksO stop) → M (.loc loc) → Res.Pos M PTriv (bindRangeIndex n σ sc a start stop loc rhsItems names)
  bindList : ∀ σ sc names items collect lhsLoc b decl i lhsLen, PosInv M σ → Marked M (ListItem.marksL items) →
    M (.loc lhsLoc) → Res.Pos M PTriv (bindList n σ sc names items collect lhsLoc b decl i lhsLen)
  bindObject : ∀ σ sc names props b decl i total remaining, PosInv M σ → Marked M (PropItem.marksL props) →
    Res.Pos M PTriv (bindObject n σ sc names props b decl i total remaining)
  bindObjectProp : ∀ σ sc names lhs b pname ploc decl, PosInv M σ → Marked M lhs.marks → M (.loc ploc) →
    Res.Pos M PTriv (bindObjectProp n σ sc names lhs b pname ploc decl)

theorem evalPosAll_zero {M : Mark → Prop} : EvalPosAll M 0 := by
  constructor <;> intros
  · unfold evalExpr; trivial
  · unfold evalOptIndex; trivial
  · unfold evalListItems; trivial
  · unfold evalProps; trivial
  · unfold evalCall; trivial
  · unfold evalToStr; trivial
  · unfold evalToBool; trivial
  · unfold evalToInt; trivial
  · unfold evalToIndex; trivial
  · unfold interpolate; trivial
  · unfold evalBlock; trivial
  · unfold declareAll; trivial
  · unfold evalStmts; trivial
  · unfold evalStmt; trivial
  · unfold evalIf; trivial
  · unfold evalWhile; trivial
  · unfold evalFor; trivial
  · unfold bindNext; trivial
  · unfold bindProp; trivial
  · unfold bindRangeIndex; trivial
  · unfold bindList; trivial
  · unfold bindObject; trivial
  · unfold bindObjectProp; trivial

theorem cellGood_scope_nil {M : Mark → Prop} : CellGood M (.scope []) := fun _ h => by cases h

/-- split every conjunction in the context -/
macro "ep_and" : tactic => `(tactic| repeat (cases ‹_ ∧ _›))

/-- `ep_norm at h`: a hypothesis `h : Marked M (… a constructor …)` becomes the facts about the sub-trees -/
macro "ep_norm" loc:(Lean.Parser.Tactic.location)? : tactic =>
  `(tactic| ((try simp only [RawExpr.marks, Expr.marks, Expr.marksO, Expr.marksL, ListItem.marks, ListItem.marksL,
      PropItem.marks, PropItem.marksL, Stmt.marks, Stmt.marksL, Stmt.marksLO, Branch.marks, Branch.marksL,
      RawExpr.strMark, marked_cons, marked_append, marked_nil_iff, and_true, true_and, List.nil_append] $[$loc]?); ep_and))

/-- side conditions of a leaf or a call; what is in the context is matched up to reducible unfolding only, so that
    `PosInv M (σ.set a c)` is not unified with `PosInv M σ` by unfolding both -/
syntax "ep_side" : tactic
macro_rules
  | `(tactic| ep_side) => `(tactic| first
    | with_reducible assumption
    | exact trivial
    | exact leafOK_of_nil rfl
    | exact Marked.loc (by assumption)
    | ((with_reducible refine PosInv.alloc_eq (by assumption) ?_ ?_) <;> ep_side)
    | ((with_reducible refine PosInv.set _ ?_ ?_) <;> ep_side)
    | ((with_reducible refine PosInv.alloc ?_ ?_) <;> ep_side)
    | with_reducible exact OpGood.none
    | with_reducible exact OpGood.some (by assumption)
    | with_reducible exact GoodBinds.nil
    | with_reducible exact GoodBinds.cons (by assumption) GoodBinds.nil
    | with_reducible exact cellGood_scope_nil
    | exact ‹SlotClosed _› _ _ _ (by assumption)
    | exact ⟨by assumption, by assumption⟩
    | assumption)

/-- `ep_call t₁, …, tₙ`: the goal is about a call that one of the `tᵢ` speaks of (induction hypotheses, the lemmas of
    C18EvalPosPrim.lean); its side conditions are discharged -/
syntax "ep_call " term,+ : tactic
macro_rules
  | `(tactic| ep_call $t) => `(tactic| ((with_reducible apply $t) <;> ep_side))
  | `(tactic| ep_call $t, $ts,*) => `(tactic| first | ((with_reducible apply $t) <;> ep_side) | ep_call $ts,*)

/-- the walk over a function body whose calls the `tᵢ` speak of, inner nodes before leaves: a `bind` whose first part is
    a call, an `if`, a `match`; then a success, an error at a position, a crash, a call in tail position; `let`s in front
    of an `if` are unfolded last -/
macro "ep_auto " ts:term,+ : tactic =>
  `(tactic| repeat' first
    | ((with_reducible apply Res.Pos.bind); ep_call $ts,*; intro _ _ _ _)
    | ((with_reducible apply Res.Pos.ite) <;> intro _)
    | split
    | ((with_reducible refine Res.Pos.ok ?_ ?_) <;> ep_side)
    | ((with_reducible refine Res.Pos.errAt ?_ ?_ ?_) <;> ep_side)
    | with_reducible exact Res.Pos.crashHeap (by assumption)
    | with_reducible exact Res.Pos.crash (by assumption)
    | ep_call $ts,*
    | (dsimp only []))

theorem evalPosAll_succ {M : Mark → Prop} (hM : SlotClosed M) (n : Nat) (ih : EvalPosAll M n) : EvalPosAll M (n + 1) where
  evalExpr σ sc e hi hg := by
    unfold evalExpr; split; split <;> ep_norm at hg <;>
      ep_auto ih.evalExpr, ih.evalToIndex, ih.evalToStr, applyBinOp_pos, ih.evalOptIndex, ih.evalToInt, ih.interpolate,
        ih.evalListItems, ih.evalProps, ih.evalCall
  evalOptIndex σ sc e hi hg := by
    unfold evalOptIndex; split
    · exact Res.Pos.ok hi trivial
    · exact Res.Pos.map (ih.evalToIndex _ _ _ hi hg) fun _ _ => trivial
  evalListItems σ sc items acc hi hg := by
    unfold evalListItems; split <;> ep_norm at hg <;> ep_auto ih.evalExpr, ih.evalListItems
  evalProps σ sc l props acc hi hl hg := by
    unfold evalProps; split <;> ep_norm at hg <;> ep_auto ih.evalExpr, ih.evalProps, ih.evalToStr
  evalToStr σ sc d e hi hg := by unfold evalToStr; ep_auto ih.evalExpr
  evalToBool σ sc d e hi hg := by unfold evalToBool; ep_auto ih.evalExpr
  evalToInt σ sc d e hi hg := by unfold evalToInt; ep_auto ih.evalExpr
  evalToIndex σ sc e hi hg := by unfold evalToIndex; ep_auto ih.evalToInt
  evalBlock σ sc bs stmts hi hb hg := by unfold evalBlock; ep_auto ih.declareAll, ih.evalStmts
  declareAll σ sc bs hi hb := by
    unfold declareAll; split
    · exact Res.Pos.ok hi trivial
    · have h1 := hb.head
      have h2 := hb.tail
      ep_auto ih.bindNext, ih.declareAll
  evalStmts σ sc stmts hi hg := by
    unfold evalStmts; split <;> ep_norm at hg <;> ep_auto ih.evalStmt, ih.evalStmts
  evalStmt σ sc st hi hg := by
    unfold evalStmt; split <;> ep_norm at hg <;>
      ep_auto ih.evalExpr, ih.bindNext, ih.evalBlock, ih.evalIf, ih.evalWhile, ih.evalFor, validateArgsRes_pos,
        bindNextName_pos
  evalIf σ sc bs els hi hg he := by
    unfold evalIf; split
    · split <;> ep_norm at he <;> ep_auto ih.evalBlock
    · ep_norm at hg; ep_auto ih.evalToBool, ih.evalBlock, ih.evalIf
  evalWhile σ sc c stmts hi hc hg := by unfold evalWhile; ep_auto ih.evalToBool, ih.evalBlock, ih.evalWhile
  evalFor σ sc lhs pairs stmts hi hl hg := by unfold evalFor; ep_auto ih.evalBlock, ih.evalFor
  bindNext σ sc names lhs rhs op decl hi hg ho := by
    unfold bindNext; split; split <;> ep_norm at hg <;>
      ep_auto ih.evalExpr, bindNextName_pos, ih.evalToIndex, opAssignValue_pos, ih.evalToStr, ih.bindProp,
        ih.bindRangeIndex, ih.bindObject, ih.bindList
  bindProp σ a name loc rhs op names vi hi hl ho := by simp only [bindProp]; ep_auto opAssignValue_pos
  bindRangeIndex σ sc a start stop loc rhsItems names hi h1 h2 hl := by unfold bindRangeIndex; ep_auto ih.evalOptIndex
  bindList σ sc names items collect lhsLoc b decl i lhsLen hi hg hl := by
    unfold bindList; split <;> ep_norm at hg <;> ep_auto ih.bindNext, ih.bindList
  bindObject σ sc names props b decl i total remaining hi hg := by
    unfold bindObject; split <;> ep_norm at hg <;>
      ep_auto ih.bindObject, ih.bindObjectProp, bindNextName_pos, ih.evalToStr
  bindObjectProp σ sc names lhs b pname ploc decl hi hg hl := by unfold bindObjectProp; ep_auto ih.bindNext
  interpolate σ sc s slots loc last acc hi hs := by
    unfold interpolate
    split
    · exact Res.Pos.ok hi trivial
    · rename_i start stop r
      obtain ⟨hcol, hast⟩ := hs (start, stop) List.mem_cons_self
      have hr : SlotsOK M s loc r := fun x hx => hs x (List.mem_cons_of_mem _ hx)
      dsimp only [] at hcol hast ⊢
      split
      · trivial
      · exact Res.Pos.err ⟨hcol, leafOK_of_nil rfl⟩ hi
      · rename_i ast hp
        apply Res.Pos.bind (Res.Pos.mapErr (f := Err.atLoc loc.1 (loc.2 + start + 4)) (ih.evalExpr _ _ _ hi (hast ast hp))
          (fun e he => ⟨hcol, he⟩))
        intro v σ1 hi1 _
        repeat' first
          | exact Res.Pos.err ⟨hcol, leafOK_of_nil rfl⟩ hi1
          | exact ih.interpolate _ _ _ _ _ _ _ hi1 hr
          | split
  evalCall σ sc f args loc hi hf ha hl := by
    unfold evalCall
    apply Res.Pos.bind (ih.evalListItems _ _ _ _ hi ha); intro argVals σ1 hi1 _
    apply Res.Pos.bind (ih.evalExpr _ _ _ hi1 hf); intro fv σ2 hi2 _
    split
    · exact Res.Pos.mapErr (callBuiltin_pos _ _ _ _ hi2) (fun e he => ⟨hl, he⟩)
    · split
      · exact Res.Pos.crashHeap hi2
      · rename_i a fr hfr
        obtain ⟨hargs, hbody⟩ := hi2.func hfr
        refine Res.Pos.ite (fun _ => Res.Pos.errAt hl (leafOK_of_nil rfl) hi2) fun _ => ?_
        refine Res.Pos.ite (fun _ => Res.Pos.errAt hl (leafOK_of_nil rfl) hi2) fun _ => ?_
        -- the parameters are bound to whatever values there are, in `σ2` or in `σ2` with the list of surplus arguments
        split
        rename_i plainVals σ3 heq
        have hi3 : PosInv M σ3 := by
          split at heq <;> cases heq
          · exact hi2.alloc (c := .list _) trivial
          · exact hi2
        have hthis : Marked M (Expr.mk (.Var c!"this") loc).marks := marked_cons.mpr ⟨hl, marked_nil⟩
        refine Res.Pos.bind (Res.Pos.mapErr (ih.evalBlock _ _ _ _ hi3 ?_ hbody) fun e he => ⟨hl, he⟩) ?_
        · split
          · exact (GoodBinds.zip _ hargs).append (GoodBinds.cons hthis GoodBinds.nil)
          · exact GoodBinds.zip _ hargs
        · intro esc σ4 hi4 hesc
          cases esc with
          | none => exact Res.Pos.ok hi4 trivial
          | brk l => exact Res.Pos.errAt hesc (leafOK_of_nil rfl) hi4
          | cont l => exact Res.Pos.errAt hesc (leafOK_of_nil rfl) hi4
          | ret v l => exact Res.Pos.ok hi4 trivial
    · exact Res.Pos.errAt hl (leafOK_of_nil rfl) hi2

/-- the fuel induction: at every fuel, every evaluator function maps marked fragments and an invariant state to a result
    whose error (if any) has all its positions in `M`, in a state that satisfies the invariant again -/
theorem evalPosAll {M : Mark → Prop} (hM : SlotClosed M) (n : Nat) : EvalPosAll M n := by
  induction n with
  | zero => exact evalPosAll_zero
  | succ n ih => exact evalPosAll_succ hM n ih

end Seed
