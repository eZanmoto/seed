/-
  Lemmas/C18EvalPosDefs.lean — vocabulary for "every position of a run-time diagnostic is a position stored in the
  program": the *marks* of a syntax tree (every stored position, and every interpolated string literal with its own
  position — its slots are parsed at run time, `interpolate` of Eval.lean), the positions of an error (`Err.LocsIn`),
  the heap invariant (`PosInv`: function cells hold only marked code, scope cells hold only marked binding positions or the
  `(0,0)` of the built-in `print` binding) and the result predicate `Res.Pos` of the fuel induction of C18EvalPos.lean.
-/
import SeedModel.Eval
namespace Seed

/-- what a syntax tree stores that can end up in a diagnostic: a position, or an interpolated string literal `s` with
    slot table `slots` located at `l` (the positions of what its slots evaluate are computed from these at run time) -/
inductive Mark where
  | loc (l : Loc)
  | str (s : List Char) (slots : List (Nat × Nat)) (l : Loc)
  deriving DecidableEq, Repr

def Mark.loc? : Mark → Option Loc
  | .loc l => some l
  | .str _ _ _ => none

def RawExpr.strMark (l : Loc) : RawExpr → _root_.List Mark
  | .Str s (some slots) => [.str s slots l]
  | _ => []

mutual
def RawExpr.marks : RawExpr → _root_.List Mark
  | .Null => [] | .Bool _ => [] | .Int _ => [] | .Str _ _ => [] | .Var _ => []
  | .BinaryOp _ ol l r => .loc ol :: (l.marks ++ r.marks)
  | .List items _ => ListItem.marksL items
  | .Index e i => e.marks ++ i.marks
  | .RangeIndex e a b => e.marks ++ (Expr.marksO a ++ Expr.marksO b)
  | .Range a b => a.marks ++ b.marks
  | .Object props => PropItem.marksL props
  | .Prop e _ _ => e.marks
  | .Func args _ stmts => Expr.marksL args ++ Stmt.marksL stmts
  | .Call f args => f.marks ++ ListItem.marksL args
def Expr.marks : Expr → List Mark
  | .mk raw l => .loc l :: (raw.strMark l ++ raw.marks)
def Expr.marksO : Option Expr → List Mark
  | none => []
  | some e => e.marks
def Expr.marksL : List Expr → List Mark
  | [] => []
  | e :: r => e.marks ++ Expr.marksL r
def ListItem.marks : ListItem → List Mark
  | .mk e _ => e.marks
def ListItem.marksL : List ListItem → List Mark
  | [] => []
  | x :: r => x.marks ++ ListItem.marksL r
def PropItem.marks : PropItem → List Mark
  | .Pair n v => n.marks ++ v.marks
  | .Single e _ _ => e.marks
def PropItem.marksL : List PropItem → List Mark
  | [] => []
  | x :: r => x.marks ++ PropItem.marksL r
def Stmt.marks : Stmt → List Mark
  | .Block b => Stmt.marksL b
  | .Expr e => e.marks
  | .Declare l r => l.marks ++ r.marks
  | .Assign l r => l.marks ++ r.marks
  | .OpAssign l _ ol r => .loc ol :: (l.marks ++ r.marks)
  | .If bs els => Branch.marksL bs ++ Stmt.marksLO els
  | .While c s => c.marks ++ Stmt.marksL s
  | .For l i s => l.marks ++ (i.marks ++ Stmt.marksL s)
  | .Break l => [.loc l]
  | .Continue l => [.loc l]
  | .Func _ nl args _ s => .loc nl :: (Expr.marksL args ++ Stmt.marksL s)
  | .Return l e => .loc l :: e.marks
def Stmt.marksL : List Stmt → List Mark
  | [] => []
  | x :: r => x.marks ++ Stmt.marksL r
def Stmt.marksLO : Option (List Stmt) → List Mark
  | none => []
  | some s => Stmt.marksL s
def Branch.marks : Branch → List Mark
  | .mk c s => c.marks ++ Stmt.marksL s
def Branch.marksL : List Branch → List Mark
  | [] => []
  | x :: r => x.marks ++ Branch.marksL r
end

/-- every position stored in a statement list: the `loc` of every expression node, the `opLoc` of binary operations and
    op-assignments, the `nameLoc` of function statements, the positions of `break` / `continue` / `return` — at any
    depth, including function bodies, branch lists, list / property items and parameter patterns -/
def Stmt.locsL (stmts : List Stmt) : List Loc := (Stmt.marksL stmts).filterMap Mark.loc?

def Expr.locs (e : Expr) : List Loc := e.marks.filterMap Mark.loc?

theorem mem_locs_iff {ms : List Mark} {l : Loc} : l ∈ ms.filterMap Mark.loc? ↔ Mark.loc l ∈ ms := by
  rw [List.mem_filterMap]
  constructor
  · rintro ⟨m, hm, he⟩
    cases m with
    | loc l' => cases he; exact hm
    | str s sl l' => cases he
  · intro h; exact ⟨_, h, rfl⟩

def Marked (M : Mark → Prop) (ms : List Mark) : Prop := ∀ m, m ∈ ms → M m

theorem marked_nil {M : Mark → Prop} : Marked M [] := fun _ h => by cases h
theorem marked_cons {M : Mark → Prop} {m : Mark} {ms : List Mark} : Marked M (m :: ms) ↔ M m ∧ Marked M ms := by
  unfold Marked
  constructor
  · intro h; exact ⟨h m List.mem_cons_self, fun x hx => h x (List.mem_cons_of_mem _ hx)⟩
  · rintro ⟨h1, h2⟩ x hx
    rcases List.mem_cons.mp hx with rfl | hx
    · exact h1
    · exact h2 x hx
theorem marked_append {M : Mark → Prop} {xs ys : List Mark} : Marked M (xs ++ ys) ↔ Marked M xs ∧ Marked M ys := by
  unfold Marked
  constructor
  · intro h; exact ⟨fun x hx => h x (List.mem_append_left _ hx), fun x hx => h x (List.mem_append_right _ hx)⟩
  · rintro ⟨h1, h2⟩ x hx
    rcases List.mem_append.mp hx with hx | hx
    · exact h1 x hx
    · exact h2 x hx
theorem marked_nil_iff {M : Mark → Prop} : Marked M [] ↔ True := ⟨fun _ => trivial, fun _ => marked_nil⟩

theorem Marked.mono {M M' : Mark → Prop} {ms : List Mark} (h : Marked M ms) (hm : ∀ m, M m → M' m) : Marked M' ms :=
  fun m hx => hm m (h m hx)

theorem Marked.loc {M : Mark → Prop} {e : Expr} (h : Marked M e.marks) : M (.loc e.loc) := by
  cases e with
  | mk raw l => exact h _ (by simp [Expr.marks, Expr.loc])

theorem Marked.ofL {M : Mark → Prop} : ∀ {es : List Expr}, Marked M (Expr.marksL es) → ∀ e, e ∈ es → Marked M e.marks
  | [], _, _, h => by cases h
  | x :: r, hg, e, h => by
    rw [Expr.marksL, marked_append] at hg
    rcases List.mem_cons.mp h with rfl | h
    · exact hg.1
    · exact Marked.ofL hg.2 e h

/-- `g` is the concatenation of `f` over a list (the shape of `Expr.marksL`, `Stmt.marksL`, …, which are defined by mutual
    recursion with the trees, not with `flatMap`): what holds of every entry of every `f x` holds of every entry of `g es` -/
theorem forall_mem_concat {α β} {P : β → Prop} {f : α → List β} {g : List α → List β} (h0 : g [] = [])
    (hc : ∀ x r, g (x :: r) = f x ++ g r) : ∀ {es : List α}, (∀ x, x ∈ es → ∀ y, y ∈ f x → P y) → ∀ y, y ∈ g es → P y
  | [], _, y, hy => by rw [h0] at hy; cases hy
  | e :: r, h, y, hy => by
    rw [hc, List.mem_append] at hy
    rcases hy with hy | hy
    · exact h e List.mem_cons_self y hy
    · exact forall_mem_concat h0 hc (fun x hx => h x (List.mem_cons_of_mem _ hx)) y hy

/-- the slot `(start, stop)` of the interpolated literal `s` at `loc` only yields marked positions: the position the
    evaluator attaches to the slot, and everything stored in the slot's expression once parsed -/
def SlotOK (M : Mark → Prop) (s : List Char) (loc : Loc) (sl : Nat × Nat) : Prop :=
  M (.loc (loc.1, loc.2 + sl.1 + 4)) ∧
  ∀ ast, parseExprTop (sliceChars s (sl.1 + 2) (sl.2 - 1)) = .ok ast → Marked M ast.marks

/-- `M` is closed under what `interpolate` does with a marked string literal -/
def SlotClosed (M : Mark → Prop) : Prop :=
  ∀ s slots loc, M (.str s slots loc) → ∀ sl, sl ∈ slots → SlotOK M s loc sl

/-- positions carried inside a leaf payload (they are rendered into the message) -/
def Gen.Leaf.locs : Gen.Leaf → List Loc
  | .AlreadyInScope _ l c => [(l, c)]
  | .DupParamName _ l c => [(l, c)]
  | _ => []

/-- a binding position: marked, or the `(0,0)` the global `print` binding is declared at -/
def BindLoc (M : Mark → Prop) (l : Loc) : Prop := M (.loc l) ∨ l = (0, 0)

def LeafOK (M : Mark → Prop) (l : Gen.Leaf) : Prop := ∀ p, p ∈ l.locs → BindLoc M p

/-- every position anywhere in the error: the `line:col` of every `atLoc`, the call position of every user-function
    and builtin call frame satisfy `M`; a position inside the leaf's payload satisfies `M` or is `(0,0)` -/
def Err.LocsIn (M : Mark → Prop) : Err → Prop
  | .leaf l => LeafOK M l
  | .atLoc line col e => M (.loc (line, col)) ∧ Err.LocsIn M e
  | .funcCall _ cl e => M (.loc cl) ∧ Err.LocsIn M e
  | .builtinCall _ cl e => M (.loc cl) ∧ Err.LocsIn M e

theorem Err.LocsIn.mono {M M' : Mark → Prop} (hm : ∀ l, M (.loc l) → M' (.loc l)) :
    ∀ {e : Err}, Err.LocsIn M e → Err.LocsIn M' e
  | .leaf _, h => fun p hp => (h p hp).imp (hm p) id
  | .atLoc _ _ _, h => ⟨hm _ h.1, Err.LocsIn.mono hm h.2⟩
  | .funcCall _ _ _, h => ⟨hm _ h.1, Err.LocsIn.mono hm h.2⟩
  | .builtinCall _ _ _, h => ⟨hm _ h.1, Err.LocsIn.mono hm h.2⟩

theorem locsIn_at {M : Mark → Prop} {loc : Loc} {l : Gen.Leaf} (h : M (.loc loc)) (hl : LeafOK M l) :
    Err.LocsIn M (Err.at loc l) := ⟨h, hl⟩

def CellGood (M : Mark → Prop) : Cell → Prop
  | .list _ => True
  | .obj _ => True
  | .func f => Marked M (Expr.marksL f.args) ∧ Marked M (Stmt.marksL f.stmts)
  | .scope m => ∀ x, x ∈ m → BindLoc M x.2.2

/-- function cells hold only marked parameter patterns and bodies; scope cells only marked binding positions -/
def PosInv (M : Mark → Prop) (σ : State) : Prop := ∀ (a : Nat) (c : Cell), σ.heap[a]? = some c → CellGood M c

theorem inv_init (M : Mark → Prop) : PosInv M State.init := by
  intro a c h
  simp [State.init] at h

theorem PosInv.alloc {M : Mark → Prop} {σ : State} {c : Cell} (h : PosInv M σ) (hc : CellGood M c) : PosInv M (σ.alloc c).2 := by
  intro a c' ha
  simp only [State.alloc, Array.getElem?_push] at ha
  split at ha
  · cases ha; exact hc
  · exact h a c' ha

theorem PosInv.alloc_eq {M : Mark → Prop} {σ σ' : State} {c : Cell} {a : Addr} (he : σ.alloc c = (a, σ')) (h : PosInv M σ)
    (hc : CellGood M c) : PosInv M σ' := by
  have := h.alloc hc
  rw [he] at this; exact this

theorem PosInv.set {M : Mark → Prop} {σ : State} {c : Cell} (a : Addr) (h : PosInv M σ) (hc : CellGood M c) : PosInv M (σ.set a c) := by
  intro b c' hb
  simp only [State.set, Array.getElem?_setIfInBounds] at hb
  split at hb
  · split at hb
    · cases hb; exact hc
    · cases hb
  · exact h b c' hb

theorem PosInv.print {M : Mark → Prop} {σ : State} (l : List Char) (h : PosInv M σ) : PosInv M (σ.print l) := h

theorem PosInv.func {M : Mark → Prop} {σ : State} {a : Addr} {f : FuncRec} (h : PosInv M σ) (hf : σ.getFunc a = some f) :
    Marked M (Expr.marksL f.args) ∧ Marked M (Stmt.marksL f.stmts) := by
  unfold State.getFunc at hf
  split at hf
  · cases hf; exact h a _ (by assumption)
  · cases hf

theorem PosInv.scope {M : Mark → Prop} {σ : State} {a : Addr} {m : ScopeMap} (h : PosInv M σ) (hm : σ.getScope a = some m) :
    ∀ x, x ∈ m → BindLoc M x.2.2 := by
  unfold State.getScope at hm
  split at hm
  · cases hm; exact h a _ (by assumption)
  · cases hm

def Res.Pos {α} (M : Mark → Prop) (Q : α → Prop) : Res α → Prop
  | .ok a σ => PosInv M σ ∧ Q a
  | .err e σ => Err.LocsIn M e ∧ PosInv M σ
  | .crash _ σ => PosInv M σ
  | .timeout => True

def PTriv {α} : α → Prop := fun _ => True

def EscGood (M : Mark → Prop) : Escape → Prop
  | .none => True
  | .brk l => M (.loc l)
  | .cont l => M (.loc l)
  | .ret _ l => M (.loc l)

namespace Res.Pos
variable {M : Mark → Prop}

theorem bind {α β} {Q : α → Prop} {Q' : β → Prop} {r : Res α} {f : α → State → Res β} (h : Res.Pos M Q r)
    (hf : ∀ a σ, PosInv M σ → Q a → Res.Pos M Q' (f a σ)) : Res.Pos M Q' (r.bind f) := by
  cases r with
  | ok a σ => exact hf a σ h.1 h.2
  | err e σ => exact h
  | crash w σ => exact h
  | timeout => trivial

theorem map {α β} {Q : α → Prop} {Q' : β → Prop} {r : Res α} {f : α → β} (h : Res.Pos M Q r) (hq : ∀ a, Q a → Q' (f a)) :
    Res.Pos M Q' (r.map f) := by
  cases r with
  | ok a σ => exact ⟨h.1, hq a h.2⟩
  | err e σ => exact h
  | crash w σ => exact h
  | timeout => trivial

theorem mapErr {α} {Q : α → Prop} {r : Res α} {f : Err → Err} (h : Res.Pos M Q r)
    (hf : ∀ e, Err.LocsIn M e → Err.LocsIn M (f e)) : Res.Pos M Q (r.mapErr f) := by
  cases r with
  | ok a σ => exact h
  | err e σ => exact ⟨hf e h.1, h.2⟩
  | crash w σ => exact h
  | timeout => trivial

theorem weaken {α} {Q Q' : α → Prop} {r : Res α} (h : Res.Pos M Q r) (hq : ∀ a, Q a → Q' a) : Res.Pos M Q' r := by
  cases r with
  | ok a σ => exact ⟨h.1, hq a h.2⟩
  | err e σ => exact h
  | crash w σ => exact h
  | timeout => trivial

theorem ite {α} {Q : α → Prop} {c : Prop} [Decidable c] {a b : Res α} (ha : c → Res.Pos M Q a) (hb : ¬c → Res.Pos M Q b) :
    Res.Pos M Q (if c then a else b) := by
  split
  · exact ha ‹_›
  · exact hb ‹_›

theorem ok {α} {Q : α → Prop} {a : α} {σ : State} (h : PosInv M σ) (hq : Q a) : Res.Pos M Q (.ok a σ) := ⟨h, hq⟩
theorem err {α} {Q : α → Prop} {e : Err} {σ : State} (he : Err.LocsIn M e) (h : PosInv M σ) : Res.Pos M Q (.err e σ : Res α) :=
  ⟨he, h⟩
theorem errAt {α} {Q : α → Prop} {loc : Loc} {l : Gen.Leaf} {σ : State} (hl : M (.loc loc)) (hp : LeafOK M l) (h : PosInv M σ) :
    Res.Pos M Q (Seed.errAt loc l σ : Res α) := ⟨locsIn_at hl hp, h⟩
theorem crash {α} {Q : α → Prop} {w : List Char} {σ : State} (h : PosInv M σ) : Res.Pos M Q (.crash w σ : Res α) := h
theorem crashHeap {α} {Q : α → Prop} {σ : State} (h : PosInv M σ) : Res.Pos M Q (Seed.crashHeap σ : Res α) := h
end Res.Pos

end Seed
