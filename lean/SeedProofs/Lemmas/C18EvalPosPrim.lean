/-
  Lemmas/C18EvalPosPrim.lean — the non-recursive steps of the evaluator keep the position invariant of
  C18EvalPosDefs.lean: binary operations (`BinOpOut`, the one case analysis of `applyBinOp`: an error is at the operator's
  position, in the state of the call, with one of the leaves `C18A.OpFailLeaf`), builtins (position-free leaves; the call
  position is added by `evalCall`), `bindNextName` (the only writer of scope cells; AlreadyInScope cites the stored
  position of the earlier binding), `validateArgs` (DupParamName cites the position of the earlier parameter).
-/
import SeedProofs.Lemmas.C18EvalPosDefs
import SeedProofs.Lemmas.Assoc
namespace Seed
open Gen (Leaf)

variable {M : Mark → Prop}

theorem leafOK_of_nil {l : Leaf} (h : l.locs = []) : LeafOK M l := by
  intro p hp; rw [h] at hp; cases hp

/-- the leaves `applyBinOp` can fail with -/
inductive C18A.OpFailLeaf (op : BinaryOp) (a b : Val) : Leaf → Prop
  /-- operand types the operator is not defined on -/
  | types : OpFailLeaf op a b (Leaf.InvalidOpTypes op a.kind b.kind)
  /-- the result leaves the 64-bit range, or the divisor of `/`, `%` is zero (the code reports both as an overflow) -/
  | overflow {x y : Int} : a = .int x → b = .int y → OpFailLeaf op a b (Leaf.IntOverflow op x y)
  /-- `==` / `!=` on values of different types (at the top or inside containers) -/
  | eqTypes {lt rt msg : List Char} : OpFailLeaf op a b (Leaf.InvalidEqOpTypes op lt rt msg)

open C18A (OpFailLeaf)

theorem C18A.OpFailLeaf.locs {op : BinaryOp} {a b : Val} {l : Leaf} (h : OpFailLeaf op a b l) : l.locs = [] := by
  cases h <;> rfl

def BinOpOut (σ : State) (op : BinaryOp) (loc : Loc) (a b : Val) : Res Val → Prop
  | .ok _ σ' => σ' = σ ∨ ∃ xs, σ' = (σ.alloc (.list xs)).2
  | .err e σ' => σ' = σ ∧ ∃ leaf, e = Err.at loc leaf ∧ OpFailLeaf op a b leaf
  | .crash _ σ' => σ' = σ
  | .timeout => True

theorem BinOpOut.pos {σ : State} {op : BinaryOp} {loc : Loc} {a b : Val} {r : Res Val} (h : BinOpOut σ op loc a b r)
    (hi : PosInv M σ) (hl : M (.loc loc)) : Res.Pos M PTriv r := by
  cases r with
  | ok v σ' =>
    rcases h with rfl | ⟨xs, rfl⟩
    · exact Res.Pos.ok hi trivial
    · exact Res.Pos.ok (hi.alloc (c := .list xs) trivial) trivial
  | err e σ' => obtain ⟨rfl, leaf, rfl, hf⟩ := h; exact Res.Pos.errAt hl (leafOK_of_nil hf.locs) hi
  | crash w σ' => cases h; exact hi
  | timeout => trivial

theorem arith_out (op : BinaryOp) (loc : Loc) (x y : Int) (σ : State) :
    BinOpOut σ op loc (.int x) (.int y) (arith op loc x y σ) := by
  unfold arith
  repeat' first | split | (dsimp only [])
  all_goals first
    | exact Or.inl rfl
    | exact ⟨rfl, _, rfl, .overflow rfl rfl⟩

/-- the one case analysis of `applyBinOp`; `applyBinOp_pos` and `C18A.applyBinOp_err_at` read it off -/
theorem applyBinOp_out (n : Nat) (σ : State) (op : BinaryOp) (loc : Loc) (a b : Val) :
    BinOpOut σ op loc a b (applyBinOp n σ op loc a b) := by
  unfold applyBinOp
  repeat' split
  all_goals first
    | exact Or.inl rfl
    | exact ⟨rfl, _, rfl, .types⟩
    | exact arith_out ..
    | exact ⟨rfl, _, rfl, .eqTypes⟩
    | exact rfl
    | trivial
    | exact Or.inr ⟨_, (congrArg Prod.snd ‹_ = _›).symm⟩

theorem applyBinOp_pos (n : Nat) (op : BinaryOp) (loc : Loc) (a b : Val) {σ : State} (hi : PosInv M σ) (hl : M (.loc loc)) :
    Res.Pos M PTriv (applyBinOp n σ op loc a b) := (applyBinOp_out n σ op loc a b).pos hi hl

def OpGood (M : Mark → Prop) (op : Option (BinaryOp × Loc)) : Prop := ∀ o l, op = some (o, l) → M (.loc l)

theorem OpGood.none : OpGood M none := fun _ _ h => by cases h
theorem OpGood.some {o : BinaryOp} {l : Loc} (h : M (.loc l)) : OpGood M (some (o, l)) := fun _ _ e => by cases e; exact h

theorem opAssignValue_pos (n : Nat) (cur rhs : SVal) (op : Option (BinaryOp × Loc)) {σ : State} (hi : PosInv M σ)
    (ho : OpGood M op) : Res.Pos M PTriv (opAssignValue n σ cur rhs op) := by
  unfold opAssignValue
  split
  · exact Res.Pos.ok hi trivial
  · exact Res.Pos.map (applyBinOp_pos n _ _ _ _ hi (ho _ _ rfl)) (fun _ _ => trivial)

theorem render_err_locs (n : Nat) :
    (∀ σ held v l, render n σ held v = .err l → l.locs = []) ∧
    (∀ σ held items l, renderItems n σ held items = .err l → l.locs = []) ∧
    (∀ σ held props l, renderProps n σ held props = .err l → l.locs = []) := by
  induction n with
  | zero =>
    refine ⟨?_, ?_, ?_⟩ <;> intros <;> rename_i h
    · unfold render at h; cases h
    · unfold renderItems at h; cases h
    · unfold renderProps at h; cases h
  | succ n ih =>
    obtain ⟨ihV, ihI, ihP⟩ := ih
    refine ⟨?_, ?_, ?_⟩
    · intro σ held v l h
      unfold render at h
      simp only [] at h
      repeat' split at h
      all_goals first
        | (cases h; done)
        | (cases h; rfl)
        | (rename_i h2; exact ihI _ _ _ _ (by rw [h] at h2; exact h2))
        | (rename_i h2; exact ihP _ _ _ _ (by rw [h] at h2; exact h2))
        | (rename_i h2 _; exact ihI _ _ _ _ (by rw [h] at h2; exact h2))
        | (rename_i h2 _; exact ihP _ _ _ _ (by rw [h] at h2; exact h2))
        | (exact ihI _ _ _ _ h)
        | (exact ihP _ _ _ _ h)
    · intro σ held items l h
      unfold renderItems at h
      repeat' split at h
      all_goals first
        | (cases h; done)
        | (exact ihV _ _ _ _ h)
        | (exact ihI _ _ _ _ h)
        | (rename_i h2; exact ihV _ _ _ _ (h ▸ h2))
        | (rename_i h2; exact ihI _ _ _ _ (h ▸ h2))
        | (rename_i h2 _; exact ihV _ _ _ _ (h ▸ h2))
        | (rename_i h2 _; exact ihI _ _ _ _ (h ▸ h2))
    · intro σ held props l h
      unfold renderProps at h
      repeat' split at h
      all_goals first
        | (cases h; done)
        | (exact ihV _ _ _ _ h)
        | (exact ihP _ _ _ _ h)
        | (rename_i h2; exact ihV _ _ _ _ (h ▸ h2))
        | (rename_i h2; exact ihP _ _ _ _ (h ▸ h2))
        | (rename_i h2 _; exact ihV _ _ _ _ (h ▸ h2))
        | (rename_i h2 _; exact ihP _ _ _ _ (h ▸ h2))

theorem assertArgs_locs {name : List Char} {e g : Nat} {l : Leaf} (h : assertArgs name e g = some l) : l.locs = [] := by
  unfold assertArgs at h
  split at h
  · cases h
  · cases h; rfl

theorem callBuiltin_pos (n : Nat) (f : BuiltinId) (this : Option SVal) (args : List SVal) {σ : State} (hi : PosInv M σ) :
    Res.Pos M PTriv (callBuiltin n σ f this args) := by
  unfold callBuiltin
  repeat' split
  all_goals first
    | exact Res.Pos.err (leafOK_of_nil rfl) hi
    | exact Res.Pos.err (leafOK_of_nil (assertArgs_locs ‹_›)) hi
    | exact Res.Pos.ok hi trivial
    | exact Res.Pos.crash hi
    | trivial
    | exact Res.Pos.ok (hi.print _) trivial
    | exact Res.Pos.err (leafOK_of_nil ((render_err_locs _).1 _ _ _ _ ‹_›)) hi

theorem scopeLookup_mem {k : List Char} {v : SVal} {l : Loc} : ∀ {m : ScopeMap}, scopeLookup k m = some (v, l) → (k, v, l) ∈ m
  | [], h => by cases h
  | (k', v', l') :: r, h => by
    unfold scopeLookup at h
    split at h
    · cases h; rename_i hk; subst hk; exact List.mem_cons_self
    · exact List.mem_cons_of_mem _ (scopeLookup_mem h)

theorem scopeSetVal_locs (k : List Char) (v : SVal) : ∀ (m : ScopeMap) x, x ∈ scopeSetVal k v m → ∃ y, y ∈ m ∧ y.2.2 = x.2.2
  | [], x, h => by cases h
  | (k', v', l') :: r, x, h => by
    unfold scopeSetVal at h
    split at h
    · rcases List.mem_cons.mp h with rfl | h
      · exact ⟨_, List.mem_cons_self, rfl⟩
      · exact ⟨x, List.mem_cons_of_mem _ h, rfl⟩
    · rcases List.mem_cons.mp h with rfl | h
      · exact ⟨_, List.mem_cons_self, rfl⟩
      · obtain ⟨y, hy, he⟩ := scopeSetVal_locs k v r x h
        exact ⟨y, List.mem_cons_of_mem _ hy, he⟩

theorem scopeAssign_inv {σ σ' : State} {sc : List Addr} {k : List Char} {v : SVal} (he : scopeAssign σ sc k v = some σ')
    (hi : PosInv M σ) : PosInv M σ' := by
  induction sc with
  | nil => simp [scopeAssign] at he
  | cons a r ih =>
    unfold scopeAssign at he
    split at he
    · cases he
    · split at he
      · injection he with he; subst he
        refine hi.set a (c := .scope _) ?_
        intro x hx
        obtain ⟨y, hy, hxy⟩ := scopeSetVal_locs _ _ _ x hx
        rw [← hxy]; exact hi.scope (by assumption) y hy
      · exact ih he

theorem scopeDeclare_inv {σ σ' : State} {sc : List Addr} {k : List Char} {loc : Loc} {v : SVal}
    (he : scopeDeclare σ sc k loc v = .ok σ') (hi : PosInv M σ) (hl : BindLoc M loc) : PosInv M σ' := by
  unfold scopeDeclare at he
  split at he
  · cases he
  · split at he
    · cases he
    · split at he
      · cases he
      · injection he with he; subst he
        refine hi.set _ (c := .scope _) ?_
        intro x hx
        rcases List.mem_cons.mp hx with rfl | hx
        · exact hl
        · exact hi.scope (by assumption) x hx

theorem scopeDeclare_dup {σ : State} {sc : List Addr} {k : List Char} {loc prev : Loc} {v : SVal}
    (he : scopeDeclare σ sc k loc v = .dup prev) (hi : PosInv M σ) : BindLoc M prev := by
  unfold scopeDeclare at he
  split at he
  · cases he
  · split at he
    · cases he
    · split at he
      · injection he with he; subst he
        exact hi.scope (by assumption) _ (scopeLookup_mem (by assumption))
      · cases he

theorem leafOK_alreadyInScope {name : List Char} {prev : Loc} (h : BindLoc M prev) :
    LeafOK M (Leaf.AlreadyInScope name prev.1 prev.2) := by
  intro p hp
  have : p = prev := by simpa [Gen.Leaf.locs] using hp
  rw [this]; exact h

theorem bindNextName_pos (n : Nat) (sc : List Addr) (names : List (List Char)) (name : List Char) (loc : Loc)
    (rhs : SVal) (op : Option (BinaryOp × Loc)) (decl : Bool) {σ : State} (hi : PosInv M σ) (hl : M (.loc loc))
    (ho : OpGood M op) : Res.Pos M PTriv (bindNextName n σ sc names name loc rhs op decl) := by
  have store : ∀ (v : SVal) {σ1 : State}, PosInv M σ1 → Res.Pos M PTriv
      (match scopeAssign σ1 sc name v with
       | some σ2 => .ok (name :: names) σ2
       | none => errAt loc (Leaf.Undefined name) σ1) := by
    intro v σ1 h1; split
    · exact Res.Pos.ok (scopeAssign_inv ‹_› h1) trivial
    · exact Res.Pos.errAt hl (leafOK_of_nil rfl) h1
  unfold bindNextName
  refine Res.Pos.ite (fun _ => Res.Pos.ok hi trivial) fun _ => ?_
  refine Res.Pos.ite (fun _ => Res.Pos.errAt hl (leafOK_of_nil rfl) hi) fun _ => ?_
  refine Res.Pos.ite (fun _ => ?_) fun _ => ?_
  · split
    · exact Res.Pos.errAt hl (leafOK_of_nil rfl) hi
    · split
      · exact Res.Pos.ok (scopeDeclare_inv ‹_› hi (Or.inl hl)) trivial
      · exact Res.Pos.errAt hl (leafOK_alreadyInScope (scopeDeclare_dup ‹_› hi)) hi
      · exact Res.Pos.crash hi
  · split
    · exact store rhs hi
    · split
      · exact Res.Pos.errAt hl (leafOK_of_nil rfl) hi
      · exact Res.Pos.bind (applyBinOp_pos _ _ _ _ _ hi (ho _ _ rfl)) fun v σ1 h1 _ => store _ h1

def GoodEs (M : Mark → Prop) (es : List Expr) : Prop := ∀ e, e ∈ es → Marked M e.marks

theorem GoodEs.nil : GoodEs M [] := fun _ h => by cases h
theorem GoodEs.cons {e : Expr} {es : List Expr} (he : Marked M e.marks) (h : GoodEs M es) : GoodEs M (e :: es) := by
  intro x hx
  rcases List.mem_cons.mp hx with rfl | hx
  · exact he
  · exact h x hx
theorem GoodEs.append {xs ys : List Expr} (hx : GoodEs M xs) (hy : GoodEs M ys) : GoodEs M (xs ++ ys) := by
  intro x h
  rcases List.mem_append.mp h with h | h
  · exact hx x h
  · exact hy x h
theorem GoodEs.reverse {xs : List Expr} (hx : GoodEs M xs) : GoodEs M xs.reverse := fun x h => hx x (List.mem_reverse.mp h)
theorem GoodEs.ofL {es : List Expr} (h : Marked M (Expr.marksL es)) : GoodEs M es := Marked.ofL h

/-- the outcome of flattening one parameter pattern: marked sub-patterns, or an error with marked positions -/
def QRes (M : Mark → Prop) : Except Err (List Expr) → Prop
  | .ok more => GoodEs M more
  | .error e => Err.LocsIn M e

theorem propsToQueue_pos (loc : Loc) (hl : M (.loc loc)) : ∀ (props : List PropItem) (acc : List Expr),
    Marked M (PropItem.marksL props) → GoodEs M acc → QRes M (propsToQueue loc props acc)
  | [], acc, _, ha => by unfold propsToQueue; exact ha.reverse
  | .Pair nm v :: r, acc, hp, ha => by
    unfold propsToQueue
    simp only [PropItem.marksL, PropItem.marks, marked_append] at hp
    exact propsToQueue_pos loc hl r _ hp.2 (GoodEs.cons hp.1.2 ha)
  | .Single e spread c :: r, acc, hp, ha => by
    unfold propsToQueue
    simp only [PropItem.marksL, PropItem.marks, marked_append] at hp
    split
    · exact locsIn_at hl (leafOK_of_nil rfl)
    · exact propsToQueue_pos loc hl r _ hp.2 (GoodEs.cons hp.1 ha)

theorem itemsToQueue_pos (loc : Loc) (hl : M (.loc loc)) : ∀ (items : List ListItem) (acc : List Expr),
    Marked M (ListItem.marksL items) → GoodEs M acc → QRes M (itemsToQueue loc items acc)
  | [], acc, _, ha => by unfold itemsToQueue; exact ha.reverse
  | .mk e spread :: r, acc, hp, ha => by
    unfold itemsToQueue
    simp only [ListItem.marksL, ListItem.marks, marked_append] at hp
    split
    · exact locsIn_at hl (leafOK_of_nil rfl)
    · exact itemsToQueue_pos loc hl r _ hp.2 (GoodEs.cons hp.1 ha)

theorem leafOK_dupParam {name : List Char} {l c : Nat} (h : M (.loc (l, c))) : LeafOK M (Leaf.DupParamName name l c) := by
  intro p hp
  have : p = (l, c) := by simpa [Gen.Leaf.locs] using hp
  rw [this]; exact Or.inl h

theorem validateArgs_pos (n : Nat) : ∀ (q : List Expr) (names : List (List Char × Loc)), GoodEs M q →
    (∀ x, x ∈ names → M (.loc x.2)) → ∀ e, validateArgs n q names = some (some e) → Err.LocsIn M e := by
  induction n with
  | zero => intro q names _ _ e h; simp [validateArgs] at h
  | succ n ih =>
    intro q names hq hn e h
    unfold validateArgs at h
    split at h
    · cases h
    · rename_i raw loc q'
      have hg : Marked M (Expr.mk raw loc).marks := hq _ List.mem_cons_self
      have hq' : GoodEs M q' := fun x hx => hq x (List.mem_cons_of_mem _ hx)
      have hl : M (.loc loc) := hg.loc
      split at h
      · split at h
        · cases h
        · split at h
          · rename_i l c hlk
            simp only [Option.some.injEq] at h; subst h
            exact locsIn_at hl (leafOK_dupParam (hn _ (lookupAssoc_mem hlk)))
          · refine ih _ _ hq' ?_ e h
            intro x hx
            rcases List.mem_cons.mp hx with rfl | hx
            · exact hl
            · exact hn x hx
      · rename_i props
        have hp : Marked M (PropItem.marksL props) := by
          simp only [Expr.marks, RawExpr.marks, marked_cons, marked_append] at hg; exact hg.2.2
        have := propsToQueue_pos loc hl props [] hp GoodEs.nil
        split at h
        · rename_i e' he'; rw [he'] at this
          simp only [Option.some.injEq] at h; subst h; exact this
        · rename_i more he'; rw [he'] at this
          exact ih _ _ (hq'.append this) hn e h
      · rename_i items c
        have hp : Marked M (ListItem.marksL items) := by
          simp only [Expr.marks, RawExpr.marks, marked_cons, marked_append] at hg; exact hg.2.2
        have := itemsToQueue_pos loc hl items [] hp GoodEs.nil
        split at h
        · rename_i e' he'; rw [he'] at this
          simp only [Option.some.injEq] at h; subst h; exact this
        · rename_i more he'; rw [he'] at this
          exact ih _ _ (hq'.append this) hn e h
      · split at h
        · simp only [Option.some.injEq] at h; subst h
          exact locsIn_at hl (leafOK_of_nil rfl)
        · cases h

theorem validateArgsRes_pos (n : Nat) (args : List Expr) {σ : State} (hi : PosInv M σ) (ha : Marked M (Expr.marksL args)) :
    Res.Pos M PTriv (validateArgsRes n args σ) := by
  unfold validateArgsRes
  split
  · trivial
  · exact Res.Pos.err (validateArgs_pos n args [] (GoodEs.ofL ha) (fun _ h => by cases h) _ (by assumption)) hi
  · exact Res.Pos.ok hi trivial

end Seed
