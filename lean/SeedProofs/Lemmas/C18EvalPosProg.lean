/-
  Lemmas/C18EvalPosProg.lean — the program-level corollaries of the fuel induction of C18EvalPos.lean.

  * `evalProg_pos`: the induction started from the state `evalProg` builds (one scope cell holding the built-in `print`
    binding, declared at `(0,0)`).
  * `ProgMark stmts`: the marks of the program closed under what `interpolate` does at run time with a marked string
    literal (the position attached to a slot; the positions stored in the slot's expression once parsed).
    `eval_uses_node_pos`: every position of an error of `evalProg n stmts` is such a mark.
  * `eval_uses_node_pos_partial`: for a program without interpolation slots, every position of the error is a position
    stored in the tree `stmts`.
  * with the parser theorem `node_pos` (C18NodePos.lean) and the lexer facts of Scan.lean: the positions are token
    starts of the source (`diag_pos_is_source_pos_partial`, `diag_pos_source_or_slot`) and their lines lie in the source.
-/
import SeedProofs.Lemmas.C18EvalPos
import SeedProofs.Lemmas.C18NodePosSrc
namespace Seed
open Gen (Leaf)

/-- every position anywhere in the error satisfies `S`: the `line:col` of every `atLoc` node, the call position of every
    user-function and builtin call frame; a position inside the leaf's payload (AlreadyInScope and DupParamName cite
    the position of the earlier declaration) satisfies `S` or is the `(0,0)` the built-in `print` is declared at -/
def Err.AllPos (S : Loc → Prop) : Err → Prop
  | .leaf l => ∀ p, p ∈ l.locs → S p ∨ p = (0, 0)
  | .atLoc line col e => S (line, col) ∧ Err.AllPos S e
  | .funcCall _ cl e => S cl ∧ Err.AllPos S e
  | .builtinCall _ cl e => S cl ∧ Err.AllPos S e

theorem Err.LocsIn.allPos {M : Mark → Prop} {S : Loc → Prop} (hm : ∀ l, M (.loc l) → S l) :
    ∀ {e : Err}, Err.LocsIn M e → Err.AllPos S e
  | .leaf _, h => fun p hp => (h p hp).imp (hm p) id
  | .atLoc _ _ _, h => ⟨hm _ h.1, Err.LocsIn.allPos hm h.2⟩
  | .funcCall _ _ _, h => ⟨hm _ h.1, Err.LocsIn.allPos hm h.2⟩
  | .builtinCall _ _ _, h => ⟨hm _ h.1, Err.LocsIn.allPos hm h.2⟩

theorem Err.AllPos.mono {S S' : Loc → Prop} (hs : ∀ l, S l → S' l) : ∀ {e : Err}, Err.AllPos S e → Err.AllPos S' e
  | .leaf _, h => fun p hp => (h p hp).imp (hs p) id
  | .atLoc _ _ _, h => ⟨hs _ h.1, Err.AllPos.mono hs h.2⟩
  | .funcCall _ _ _, h => ⟨hs _ h.1, Err.AllPos.mono hs h.2⟩
  | .builtinCall _ _ _, h => ⟨hs _ h.1, Err.AllPos.mono hs h.2⟩

/-- the position the diagnostic starts with: the outermost `atLoc` / builtin call below the user call frames -/
def Err.headPos : Err → Option Loc
  | .leaf _ => none
  | .atLoc line col _ => some (line, col)
  | .builtinCall _ cl _ => some cl
  | .funcCall _ _ e => Err.headPos e

theorem Err.AllPos.headPos {S : Loc → Prop} : ∀ {e : Err} {l : Loc}, Err.AllPos S e → e.headPos = some l → S l
  | .leaf _, _, _, h => by cases h
  | .atLoc _ _ _, _, h, hl => by cases hl; exact h.1
  | .builtinCall _ _ _, _, h, hl => by cases hl; exact h.1
  | .funcCall _ _ _, _, h, hl => Err.AllPos.headPos h.2 hl

/-- the positions of the error's nodes, outermost first: `line:col` of `atLoc`, call positions of the call frames -/
def Err.positions : Err → List Loc
  | .leaf _ => []
  | .atLoc line col e => (line, col) :: Err.positions e
  | .funcCall _ cl e => cl :: Err.positions e
  | .builtinCall _ cl e => cl :: Err.positions e

/-- the positions inside the payload of the error's leaf -/
def Err.payloadLocs : Err → List Loc
  | .leaf l => l.locs
  | .atLoc _ _ e => Err.payloadLocs e
  | .funcCall _ _ e => Err.payloadLocs e
  | .builtinCall _ _ e => Err.payloadLocs e

/-- `AllPos` spelled out over the two lists -/
theorem Err.allPos_iff {S : Loc → Prop} : ∀ {e : Err},
    Err.AllPos S e ↔ (∀ l, l ∈ e.positions → S l) ∧ (∀ p, p ∈ e.payloadLocs → S p ∨ p = (0, 0))
  | .leaf _ => ⟨fun h => ⟨fun _ hl => (nomatch hl), h⟩, fun h => h.2⟩
  | .atLoc _ _ e => by
    simp only [Err.AllPos, Err.positions, Err.payloadLocs, List.mem_cons, Err.allPos_iff (e := e)]
    constructor
    · rintro ⟨h1, h2, h3⟩; exact ⟨fun l hl => hl.elim (fun h => h ▸ h1) (h2 l), h3⟩
    · rintro ⟨h1, h2⟩; exact ⟨h1 _ (Or.inl rfl), fun l hl => h1 l (Or.inr hl), h2⟩
  | .funcCall _ _ e => by
    simp only [Err.AllPos, Err.positions, Err.payloadLocs, List.mem_cons, Err.allPos_iff (e := e)]
    constructor
    · rintro ⟨h1, h2, h3⟩; exact ⟨fun l hl => hl.elim (fun h => h ▸ h1) (h2 l), h3⟩
    · rintro ⟨h1, h2⟩; exact ⟨h1 _ (Or.inl rfl), fun l hl => h1 l (Or.inr hl), h2⟩
  | .builtinCall _ _ e => by
    simp only [Err.AllPos, Err.positions, Err.payloadLocs, List.mem_cons, Err.allPos_iff (e := e)]
    constructor
    · rintro ⟨h1, h2, h3⟩; exact ⟨fun l hl => hl.elim (fun h => h ▸ h1) (h2 l), h3⟩
    · rintro ⟨h1, h2⟩; exact ⟨h1 _ (Or.inl rfl), fun l hl => h1 l (Or.inr hl), h2⟩

/-- the global binding of `print`, as `evalProg` declares it -/
def printBinding : Expr × SVal := (.mk (.Var c!"print") (0, 0), SVal.plain (.builtin c!"print" .print))

/-- the state in which the program's statements start: one scope cell with `print`, declared at `(0,0)` -/
def progState : State := ⟨#[.scope [(c!"print", SVal.plain (.builtin c!"print" .print), (0, 0))]], []⟩

theorem declareAll_print (k : Nat) :
    declareAll (k + 2) (State.init.alloc (.scope [])).2 [0] [printBinding] = .ok () progState := by
  unfold declareAll printBinding
  simp only []
  unfold bindNext
  simp only []
  unfold bindNextName
  unfold declareAll
  cases k <;> rfl

theorem inv_progState (M : Mark → Prop) : PosInv M progState := by
  intro a c h
  simp only [progState] at h
  cases a with
  | zero =>
    simp at h; subst h
    intro x hx
    simp at hx; subst hx
    exact Or.inr rfl
  | succ a => simp at h

/-- from fuel 3 on, `evalProg` is the statement list run in `progState` under the scope chain `[0]` -/
theorem evalProg_eq (k : Nat) (stmts : List Stmt) :
    evalProg (k + 3) stmts =
      (evalStmts (k + 2) progState [0] stmts).bind fun esc σ =>
        match esc with
        | .none => .ok () σ
        | .brk l => errAt l Leaf.BreakOutsideLoop σ
        | .cont l => errAt l Leaf.ContinueOutsideLoop σ
        | .ret _ l => errAt l Leaf.ReturnOutsideFunction σ := by
  unfold evalProg
  simp only []
  conv => lhs; arg 1; unfold evalBlock
  simp only []
  have := declareAll_print k
  unfold printBinding at this
  show Res.bind (Res.bind (declareAll (k + 2) (State.init.alloc (.scope [])).2 [0] _) _) _ = _
  rw [this]
  rfl

theorem evalProg_small (stmts : List Stmt) : evalProg 0 stmts = .timeout ∧ evalProg 1 stmts = .timeout ∧ evalProg 2 stmts = .timeout := by
  refine ⟨?_, ?_, ?_⟩
  · unfold evalProg; simp only []; unfold evalBlock; rfl
  · unfold evalProg; simp only []; unfold evalBlock; simp only []; unfold declareAll; rfl
  · unfold evalProg; simp only []; unfold evalBlock; simp only []; unfold declareAll; simp only []; unfold bindNext; rfl

theorem evalProg_pos {M : Mark → Prop} (hM : SlotClosed M) (n : Nat) (stmts : List Stmt) (hg : Marked M (Stmt.marksL stmts)) :
    Res.Pos M PTriv (evalProg n stmts) := by
  rcases n with _ | _ | _ | k
  · rw [(evalProg_small stmts).1]; trivial
  · rw [(evalProg_small stmts).2.1]; trivial
  · rw [(evalProg_small stmts).2.2]; trivial
  · rw [evalProg_eq]
    apply Res.Pos.bind ((evalPosAll hM (k + 2)).evalStmts _ _ _ (inv_progState M) hg)
    intro esc σ hi hesc
    cases esc with
    | none => exact Res.Pos.ok hi trivial
    | brk l => exact Res.Pos.errAt hesc (leafOK_of_nil rfl) hi
    | cont l => exact Res.Pos.errAt hesc (leafOK_of_nil rfl) hi
    | ret v l => exact Res.Pos.errAt hesc (leafOK_of_nil rfl) hi

/-- the text of slot `sl` of the literal `s`, as `interpolate` cuts it out -/
def slotText (s : List Char) (sl : Nat × Nat) : List Char := sliceChars s (sl.1 + 2) (sl.2 - 1)

/-- the position `interpolate` attaches to everything that goes wrong in slot `sl` of a literal located at `loc` -/
def slotPos (loc : Loc) (sl : Nat × Nat) : Loc := (loc.1, loc.2 + sl.1 + 4)

inductive ProgMark (stmts : List Stmt) : Mark → Prop
  /-- stored in the tree -/
  | tree {m : Mark} : m ∈ Stmt.marksL stmts → ProgMark stmts m
  /-- the position attached to a slot of a marked interpolated literal -/
  | slotCol {s : List Char} {slots : List (Nat × Nat)} {loc : Loc} {sl : Nat × Nat} :
      ProgMark stmts (.str s slots loc) → sl ∈ slots → ProgMark stmts (.loc (slotPos loc sl))
  /-- stored in the expression a slot of a marked interpolated literal parses to -/
  | slotAst {s : List Char} {slots : List (Nat × Nat)} {loc : Loc} {sl : Nat × Nat} {ast : Expr} {m : Mark} :
      ProgMark stmts (.str s slots loc) → sl ∈ slots → parseExprTop (slotText s sl) = .ok ast → m ∈ ast.marks →
      ProgMark stmts m

theorem progMark_slotClosed (stmts : List Stmt) : SlotClosed (ProgMark stmts) := by
  intro s slots loc hm sl hsl
  exact ⟨ProgMark.slotCol hm hsl, fun ast hp m hmem => ProgMark.slotAst hm hsl hp hmem⟩

/-- **`eval_uses_node_pos`.**  every position of an error of `evalProg n stmts` is a mark of the program:
    stored in the tree, or produced from a string literal of the tree by run-time slot parsing -/
theorem eval_uses_node_pos {n : Nat} {stmts : List Stmt} {e : Err} {σ : State} (h : evalProg n stmts = .err e σ) :
    e.AllPos (fun l => ProgMark stmts (.loc l)) := by
  have := evalProg_pos (progMark_slotClosed stmts) n stmts (fun m hm => ProgMark.tree hm)
  rw [h] at this
  exact this.1.allPos (fun _ hl => hl)

/-- … and the invariant holds in the state the error is returned in (and in the final state of a successful run) -/
theorem evalProg_inv (n : Nat) (stmts : List Stmt) :
    match evalProg n stmts with
    | .ok _ σ => PosInv (ProgMark stmts) σ
    | .err _ σ => PosInv (ProgMark stmts) σ
    | .crash _ σ => PosInv (ProgMark stmts) σ
    | .timeout => True := by
  have := evalProg_pos (progMark_slotClosed stmts) n stmts (fun m hm => ProgMark.tree hm)
  cases h : evalProg n stmts <;> rw [h] at this
  · exact this.1
  · exact this.2
  · exact this
  · trivial

def Mark.str? : Mark → Option (List Char × List (Nat × Nat) × Loc)
  | .loc _ => none
  | .str s slots l => some (s, slots, l)

/-- the interpolated string literals of a statement list, with their slot tables and positions -/
def Stmt.strsL (stmts : List Stmt) : List (List Char × List (Nat × Nat) × Loc) := (Stmt.marksL stmts).filterMap Mark.str?

/-- no string literal of the program has an interpolation slot -/
def NoSlots (stmts : List Stmt) : Prop := ∀ x, x ∈ Stmt.strsL stmts → x.2.1 = []

instance (stmts : List Stmt) : Decidable (NoSlots stmts) := by unfold NoSlots; infer_instance

theorem NoSlots.mark {stmts : List Stmt} (h : NoSlots stmts) {s : List Char} {slots : List (Nat × Nat)} {l : Loc}
    (hm : Mark.str s slots l ∈ Stmt.marksL stmts) : slots = [] :=
  h (s, slots, l) (List.mem_filterMap.mpr ⟨_, hm, rfl⟩)

theorem progMark_noSlots {stmts : List Stmt} (h : NoSlots stmts) {m : Mark} (hm : ProgMark stmts m) : m ∈ Stmt.marksL stmts := by
  induction hm with
  | tree hm => exact hm
  | slotCol _ hsl ih => rw [h.mark ih] at hsl; cases hsl
  | slotAst _ hsl _ _ ih => rw [h.mark ih] at hsl; cases hsl

/-- **`eval_uses_node_pos_partial`** ("every position is stored in the tree" is false when slots are evaluated).  for a
    program without interpolation slots: every position of an error of
    `evalProg n stmts` is a position stored in the tree `stmts` -/
theorem eval_uses_node_pos_partial {n : Nat} {stmts : List Stmt} {e : Err} {σ : State} (hns : NoSlots stmts)
    (h : evalProg n stmts = .err e σ) : e.AllPos (· ∈ Stmt.locsL stmts) :=
  (eval_uses_node_pos h).mono fun _ hl => mem_locs_iff.mpr (progMark_noSlots hns hl)

def Mark.pos : Mark → Loc
  | .loc l => l
  | .str _ _ l => l

def TokM (T : List Span) (m : Mark) : Prop := LocOK T m.pos

theorem marked_exprsL {M : Mark → Prop} : ∀ {es : List Expr}, (∀ x, x ∈ es → Marked M x.marks) → Marked M (Expr.marksL es) :=
  forall_mem_concat (by rw [Expr.marksL]) fun _ _ => by rw [Expr.marksL]
theorem marked_itemsL {M : Mark → Prop} : ∀ {es : List ListItem}, (∀ x, x ∈ es → Marked M x.marks) → Marked M (ListItem.marksL es) :=
  forall_mem_concat (by rw [ListItem.marksL]) fun _ _ => by rw [ListItem.marksL]
theorem marked_propsL {M : Mark → Prop} : ∀ {es : List PropItem}, (∀ x, x ∈ es → Marked M x.marks) → Marked M (PropItem.marksL es) :=
  forall_mem_concat (by rw [PropItem.marksL]) fun _ _ => by rw [PropItem.marksL]
theorem marked_stmtsL {M : Mark → Prop} : ∀ {es : List Stmt}, (∀ x, x ∈ es → Marked M x.marks) → Marked M (Stmt.marksL es) :=
  forall_mem_concat (by rw [Stmt.marksL]) fun _ _ => by rw [Stmt.marksL]
theorem marked_branchesL {M : Mark → Prop} : ∀ {es : List Branch}, (∀ x, x ∈ es → Marked M x.marks) → Marked M (Branch.marksL es) :=
  forall_mem_concat (by rw [Branch.marksL]) fun _ _ => by rw [Branch.marksL]
theorem marked_stmtsLO {M : Mark → Prop} : ∀ {o : Option (List Stmt)}, (∀ s, o = some s → ∀ x, x ∈ s → Marked M x.marks) →
    Marked M (Stmt.marksLO o)
  | none, _ => marked_nil
  | some s, h => marked_stmtsL (h s rfl)
theorem marked_optE {M : Mark → Prop} : ∀ {o : Option Expr}, (∀ x, o = some x → Marked M x.marks) → Marked M (Expr.marksO o)
  | none, _ => marked_nil
  | some e, h => h e rfl

theorem marked_strMark {T : List Span} {l : Loc} (h : LocOK T l) (raw : RawExpr) : Marked (TokM T) (raw.strMark l) := by
  unfold RawExpr.strMark
  split
  · exact marked_cons.mpr ⟨h, marked_nil⟩
  · exact marked_nil

/-- induction over the derivation (all six predicates at once): at each constructor the marks unfold into the node's own
    positions, which are premises, and the marks of the parts, which are induction hypotheses -/
theorem StmtPosOK.marks {T : List Span} : ∀ {s : Stmt}, StmtPosOK T s → Marked (TokM T) s.marks := by
  intro s h
  apply StmtPosOK.rec (motive_1 := fun r _ => Marked (TokM T) r.marks) (motive_2 := fun e _ => Marked (TokM T) e.marks)
    (motive_3 := fun e _ => Marked (TokM T) e.marks) (motive_4 := fun e _ => Marked (TokM T) e.marks)
    (motive_5 := fun s _ => Marked (TokM T) s.marks) (motive_6 := fun b _ => Marked (TokM T) b.marks) (t := h)
  all_goals
    intros
    simp only [RawExpr.marks, Expr.marks, ListItem.marks, PropItem.marks, Stmt.marks, Branch.marks]
    repeat' first
      | assumption | exact marked_nil | refine marked_cons.mpr ⟨?_, ?_⟩ | refine marked_append.mpr ⟨?_, ?_⟩
      | exact marked_strMark ‹_› _ | exact marked_itemsL ‹_› | exact marked_propsL ‹_› | exact marked_exprsL ‹_›
      | exact marked_stmtsL ‹_› | exact marked_branchesL ‹_› | exact marked_optE ‹_› | exact marked_stmtsLO ‹_›

theorem PosOK.marks {T : List Span} : ∀ {e : Expr}, PosOK T e → Marked (TokM T) e.marks :=
  fun h => StmtPosOK.marks (.expr h)
theorem ItemPosOK.marks {T : List Span} : ∀ {e : ListItem}, ItemPosOK T e → Marked (TokM T) e.marks
  | _, .mk h => h.marks
theorem PropPosOK.marks {T : List Span} : ∀ {e : PropItem}, PropPosOK T e → Marked (TokM T) e.marks
  | _, .pair hn hv => marked_append.mpr ⟨hn.marks, hv.marks⟩
  | _, .single h => h.marks
theorem BranchPosOK.marks {T : List Span} : ∀ {b : Branch}, BranchPosOK T b → Marked (TokM T) b.marks
  | _, .mk hc hs => StmtPosOK.marks (.whiles hc hs)

/-- the marks of a parsed program sit at token starts of its token stream -/
theorem parseProg_marks {src : List Char} {stmts : List Stmt} (h : parseProg src = .ok stmts) :
    Marked (TokM (lexAll src).1) (Stmt.marksL stmts) :=
  marked_stmtsL fun x hx => (node_pos h x hx).marks

/-- the marks of a parsed slot expression sit at token starts of the slot text's token stream -/
theorem parseExprTop_marks {src : List Char} {e : Expr} (h : parseExprTop src = .ok e) : Marked (TokM (lexAll src).1) e.marks :=
  (node_pos_expr h).marks

/-- `l` is the position of the first character of a token of `src`: the token `sp` of the token stream starts at `l`,
    it is what `nextToken` returns from some offset `k'`, whitespace and comments from `k'` end at offset `i`, and `l` is
    the line/column of offset `i` -/
def TokStart (src : List Char) (l : Loc) : Prop :=
  ∃ sp k' i j, sp ∈ (lexAll src).1 ∧ sp.start = l ∧ k' ≤ i ∧ i < j ∧ i < src.length ∧ j ≤ src.length ∧
    nextToken ((Scanner.new src).advance k') = .tok sp ((Scanner.new src).advance j) ∧
    ((Scanner.new src).advance k').skipWs = (Scanner.new src).advance i ∧ l = posOf src i

theorem locOK_tokStart {src : List Char} {l : Loc} (h : LocOK (lexAll src).1 l) : TokStart src l := by
  obtain ⟨sp, hm, rfl⟩ := h
  have hraw : sp ∈ (lexRaw (src.length + 1) ((Scanner.new src).advance 0)).1 := suppress_subset _ _ _ hm
  obtain ⟨k', s', _, hn⟩ := lexRaw_mem_reach src _ 0 sp hraw
  obtain ⟨i, j, h1, h2, h3, h4, h5, h6, h7, _⟩ := nextToken_tok_reach hn
  subst h7
  exact ⟨sp, k', i, j, hm, rfl, h1, h2, h3, h4, hn, h5, by rw [h6, scan_pos]⟩

theorem TokStart.is_posOf {src : List Char} {l : Loc} (h : TokStart src l) : ∃ i, i < src.length ∧ l = posOf src i := by
  obtain ⟨_, _, i, _, _, _, _, _, hi, _, _, _, hl⟩ := h
  exact ⟨i, hi, hl⟩

/-- a token start lies on a line of the source: lines are counted from 1, and there are `1 +` (number of line feeds) -/
theorem TokStart.line {src : List Char} {l : Loc} (h : TokStart src l) : 1 ≤ l.1 ∧ l.1 ≤ 1 + src.count '\n' := by
  obtain ⟨i, hi, rfl⟩ := h.is_posOf
  have hne : src ≠ [] := by intro h0; subst h0; simp at hi
  rw [posOf_of_ne_nil hne]
  simp only [lineOf]
  have : (src.take (i + 1)).count '\n' ≤ src.count '\n' := (List.take_sublist _ _).count_le _
  omega

/-- **`diag_pos_is_source_pos`, for programs without interpolation slots.**  if the source parses to `stmts` and running
    `stmts` fails with `e`, every position in `e` is the position `posOf src i` of the first character of a token -/
theorem diag_pos_is_source_pos_partial {src : List Char} {stmts : List Stmt} {n : Nat} {e : Err} {σ : State}
    (hp : parseProg src = .ok stmts) (hns : NoSlots stmts) (h : evalProg n stmts = .err e σ) : e.AllPos (TokStart src) :=
  (eval_uses_node_pos h).mono fun _ hl => locOK_tokStart (parseProg_marks hp _ (progMark_noSlots hns hl))

/-- a position produced by run-time slot parsing: the position attached to slot `sl` of a reachable interpolated literal
    `s` at `loc`, or a token start *of the slot text* (line 1 is the slot's first line, whatever line the literal is on) -/
def SlotDerived (stmts : List Stmt) (l : Loc) : Prop :=
  ∃ s slots loc sl, ProgMark stmts (.str s slots loc) ∧ sl ∈ slots ∧
    (l = slotPos loc sl ∨ ((∃ ast, parseExprTop (slotText s sl) = .ok ast) ∧ TokStart (slotText s sl) l))

theorem progMark_source_or_slot {src : List Char} {stmts : List Stmt} (hp : parseProg src = .ok stmts) {m : Mark}
    (hm : ProgMark stmts m) : TokStart src m.pos ∨ SlotDerived stmts m.pos := by
  cases hm with
  | tree hm => exact Or.inl (locOK_tokStart (parseProg_marks hp _ hm))
  | slotCol hs hsl => exact Or.inr ⟨_, _, _, _, hs, hsl, Or.inl rfl⟩
  | slotAst hs hsl hpe hmem => exact Or.inr ⟨_, _, _, _, hs, hsl, Or.inr ⟨⟨_, hpe⟩, locOK_tokStart (parseExprTop_marks hpe _ hmem)⟩⟩

/-- **`diag_pos_is_source_pos`, general form.**  every position in the error is the first character of a token of the
    source, or comes from run-time slot parsing (and then it is *not* in general a source position: known findings K2/K4) -/
theorem diag_pos_source_or_slot {src : List Char} {stmts : List Stmt} {n : Nat} {e : Err} {σ : State}
    (hp : parseProg src = .ok stmts) (h : evalProg n stmts = .err e σ) :
    e.AllPos (fun l => TokStart src l ∨ SlotDerived stmts l) :=
  (eval_uses_node_pos h).mono fun _ hl => progMark_source_or_slot hp hl

theorem progMark_line_ge_one {src : List Char} {stmts : List Stmt} (hp : parseProg src = .ok stmts) {m : Mark}
    (hm : ProgMark stmts m) : 1 ≤ m.pos.1 := by
  induction hm with
  | tree hm => exact (locOK_tokStart (parseProg_marks hp _ hm)).line.1
  | slotCol _ _ ih => exact ih
  | slotAst _ _ hpe hmem _ => exact (locOK_tokStart (parseExprTop_marks hpe _ hmem)).line.1

/-- **`diag_line_ge_one`.**  every position of a run-time diagnostic has line ≥ 1 (slots included) -/
theorem diag_line_ge_one {src : List Char} {stmts : List Stmt} {n : Nat} {e : Err} {σ : State}
    (hp : parseProg src = .ok stmts) (h : evalProg n stmts = .err e σ) : e.AllPos (fun l => 1 ≤ l.1) :=
  (eval_uses_node_pos h).mono fun _ hl => progMark_line_ge_one hp hl

/-- … and, without interpolation slots, at most `1 +` the number of line feeds of the source -/
theorem diag_line_in_source_partial {src : List Char} {stmts : List Stmt} {n : Nat} {e : Err} {σ : State}
    (hp : parseProg src = .ok stmts) (hns : NoSlots stmts) (h : evalProg n stmts = .err e σ) :
    e.AllPos (fun l => 1 ≤ l.1 ∧ l.1 ≤ 1 + src.count '\n') :=
  (diag_pos_is_source_pos_partial hp hns h).mono fun _ hl => hl.line

/-! ## running concrete programs (support for `example`s: `Stmt` and `Err` have no decidable equality) -/

def progOf (src : List Char) : List Stmt := match parseProg src with | .ok s => s | _ => []
def parsesOk (src : List Char) : Bool := match parseProg src with | .ok _ => true | _ => false
def errOf (n : Nat) (stmts : List Stmt) : Option Err := match evalProg n stmts with | .err e _ => some e | _ => none

theorem parseProg_progOf {src : List Char} (h : parsesOk src = true) : parseProg src = .ok (progOf src) := by
  unfold parsesOk at h; unfold progOf
  split at h
  · rename_i s hs; rw [hs]
  · cases h

theorem errOf_map {α} {n : Nat} {stmts : List Stmt} {f : Err → α} {x : α} (h : (errOf n stmts).map f = some x) :
    ∃ e σ, evalProg n stmts = .err e σ ∧ f e = x := by
  unfold errOf at h
  split at h
  · rename_i e σ he; exact ⟨e, σ, he, by simpa using h⟩
  · cases h

theorem not_locOK_of_all {T : List Span} {l : Loc} (h : T.all (fun sp => sp.start != l) = true) : ¬ LocOK T l := by
  rintro ⟨sp, hm, he⟩
  have := List.all_eq_true.mp h sp hm
  simp [he] at this

theorem TokStart.locOK {src : List Char} {l : Loc} (h : TokStart src l) : LocOK (lexAll src).1 l := by
  obtain ⟨sp, _, _, _, hm, hs, _⟩ := h
  exact ⟨sp, hm, hs⟩

end Seed
