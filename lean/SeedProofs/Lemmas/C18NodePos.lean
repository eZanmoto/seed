/-
  Lemmas/C18NodePos.lean — `node_pos`: every position the parser model stores in a syntax tree (`loc` of an
  expression node, `opLoc` of a binary operation / op-assignment, `nameLoc` of a function statement, the positions of
  `break` / `continue` / `return`) is the start position of a token of the token list the parse started from.

  All parser functions receive suffixes of that list `T`; a stored position is either `sp.start` of a consumed token
  or `headLoc r` of the remaining input `r`.  `headLoc [] = (0,0)` is not a token start, but it is handed on only as
  the `loc0` of a sub-parse without a pre-parsed atom, which fails on the empty input, so no tree containing it is
  returned: the functions that take `loc0` are stated under `LocPre` ("`loc0` is a token start unless there is no
  pre-parsed atom and no input") and promise `NE` ("there was a pre-parsed atom or some input") on success.
-/
import SeedProofs.Lemmas.ParseWalk
namespace Seed

def LocOK (T : List Span) (l : Loc) : Prop := ∃ sp, sp ∈ T ∧ sp.start = l

mutual
/-- every position stored in the (raw) expression is the start of a token of `T` -/
inductive RawPosOK (T : List Span) : RawExpr → Prop
  | null : RawPosOK T .Null
  | bool {b : Bool} : RawPosOK T (.Bool b)
  | int {n : Int} : RawPosOK T (.Int n)
  | str {s : List Char} {slots : Option (List (Nat × Nat))} : RawPosOK T (.Str s slots)
  | var {name : List Char} : RawPosOK T (.Var name)
  | binop {op : BinaryOp} {opLoc : Loc} {lhs rhs : Expr} :
      LocOK T opLoc → PosOK T lhs → PosOK T rhs → RawPosOK T (.BinaryOp op opLoc lhs rhs)
  | list {items : List ListItem} {collect : Bool} : (∀ x, x ∈ items → ItemPosOK T x) → RawPosOK T (.List items collect)
  | index {e i : Expr} : PosOK T e → PosOK T i → RawPosOK T (.Index e i)
  | rangeIndex {e : Expr} {start stop : Option Expr} :
      PosOK T e → (∀ x, start = some x → PosOK T x) → (∀ x, stop = some x → PosOK T x) →
      RawPosOK T (.RangeIndex e start stop)
  | range {a b : Expr} : PosOK T a → PosOK T b → RawPosOK T (.Range a b)
  | object {props : List PropItem} : (∀ x, x ∈ props → PropPosOK T x) → RawPosOK T (.Object props)
  | prop {e : Expr} {name : List Char} {tp : Bool} : PosOK T e → RawPosOK T (.Prop e name tp)
  | func {args : List Expr} {collect : Bool} {stmts : List Stmt} :
      (∀ x, x ∈ args → PosOK T x) → (∀ x, x ∈ stmts → StmtPosOK T x) → RawPosOK T (.Func args collect stmts)
  | call {f : Expr} {args : List ListItem} : PosOK T f → (∀ x, x ∈ args → ItemPosOK T x) → RawPosOK T (.Call f args)
inductive PosOK (T : List Span) : Expr → Prop
  | mk {raw : RawExpr} {loc : Loc} : RawPosOK T raw → LocOK T loc → PosOK T (.mk raw loc)
inductive ItemPosOK (T : List Span) : ListItem → Prop
  | mk {e : Expr} {s : Bool} : PosOK T e → ItemPosOK T (.mk e s)
inductive PropPosOK (T : List Span) : PropItem → Prop
  | pair {n v : Expr} : PosOK T n → PosOK T v → PropPosOK T (.Pair n v)
  | single {e : Expr} {s c : Bool} : PosOK T e → PropPosOK T (.Single e s c)
inductive StmtPosOK (T : List Span) : Stmt → Prop
  | block {b : List Stmt} : (∀ x, x ∈ b → StmtPosOK T x) → StmtPosOK T (.Block b)
  | expr {e : Expr} : PosOK T e → StmtPosOK T (.Expr e)
  | declare {l r : Expr} : PosOK T l → PosOK T r → StmtPosOK T (.Declare l r)
  | assign {l r : Expr} : PosOK T l → PosOK T r → StmtPosOK T (.Assign l r)
  | opAssign {l r : Expr} {op : BinaryOp} {opLoc : Loc} :
      PosOK T l → LocOK T opLoc → PosOK T r → StmtPosOK T (.OpAssign l op opLoc r)
  | ifs {bs : List Branch} {els : Option (List Stmt)} :
      (∀ b, b ∈ bs → BranchPosOK T b) → (∀ s, els = some s → ∀ x, x ∈ s → StmtPosOK T x) → StmtPosOK T (.If bs els)
  | whiles {c : Expr} {s : List Stmt} : PosOK T c → (∀ x, x ∈ s → StmtPosOK T x) → StmtPosOK T (.While c s)
  | fors {l i : Expr} {s : List Stmt} : PosOK T l → PosOK T i → (∀ x, x ∈ s → StmtPosOK T x) → StmtPosOK T (.For l i s)
  | brk {loc : Loc} : LocOK T loc → StmtPosOK T (.Break loc)
  | cont {loc : Loc} : LocOK T loc → StmtPosOK T (.Continue loc)
  | func {name : List Char} {nameLoc : Loc} {args : List Expr} {collect : Bool} {stmts : List Stmt} :
      LocOK T nameLoc → (∀ x, x ∈ args → PosOK T x) → (∀ x, x ∈ stmts → StmtPosOK T x) →
      StmtPosOK T (.Func name nameLoc args collect stmts)
  | ret {loc : Loc} {e : Expr} : LocOK T loc → PosOK T e → StmtPosOK T (.Return loc e)
inductive BranchPosOK (T : List Span) : Branch → Prop
  | mk {c : Expr} {s : List Stmt} : PosOK T c → (∀ x, x ∈ s → StmtPosOK T x) → BranchPosOK T (.mk c s)
end

theorem StmtPosOK.expr_inv {T : List Span} {e : Expr} (h : StmtPosOK T (.Expr e)) : PosOK T e := by
  cases h; assumption

def Suf (T ts : List Span) : Prop := ∃ p, p ++ ts = T

theorem Suf.refl (T : List Span) : Suf T T := ⟨[], rfl⟩

theorem Suf.tail {T : List Span} {sp : Span} {r : List Span} (h : Suf T (sp :: r)) : Suf T r := by
  obtain ⟨p, hp⟩ := h
  exact ⟨p ++ [sp], by simp [← hp]⟩

theorem Suf.head_mem {T : List Span} {sp : Span} {r : List Span} (h : Suf T (sp :: r)) : sp ∈ T := by
  obtain ⟨p, hp⟩ := h
  simp [← hp]

theorem Suf.head {T : List Span} {sp : Span} {r : List Span} (h : Suf T (sp :: r)) : LocOK T sp.start :=
  ⟨sp, h.head_mem, rfl⟩

def NE (pre : Option RawExpr) (ts : List Span) : Prop := pre = none → ts ≠ []

theorem NE.of_some {a : RawExpr} {ts : List Span} : NE (some a) ts := fun h => by cases h
theorem NE.of_cons {pre : Option RawExpr} {sp : Span} {r : List Span} : NE pre (sp :: r) := fun _ h => by cases h

def LocPre (T : List Span) (l : Loc) (pre : Option RawExpr) (ts : List Span) : Prop := NE pre ts → LocOK T l

theorem LocPre.of_ok {T : List Span} {l : Loc} {pre : Option RawExpr} {ts : List Span} (h : LocOK T l) :
    LocPre T l pre ts := fun _ => h
theorem LocPre.elim {T : List Span} {l : Loc} {pre : Option RawExpr} {ts : List Span} (h : LocPre T l pre ts)
    (hn : NE pre ts) : LocOK T l := h hn

theorem headLoc_ok {T : List Span} {r : List Span} (h : Suf T r) (hn : NE none r) : LocOK T (headLoc r) := by
  cases r with
  | nil => exact absurd rfl (hn rfl)
  | cons sp r' => exact h.head

theorem LocPre.head {T : List Span} {r : List Span} (h : Suf T r) : LocPre T (headLoc r) none r :=
  fun hn => headLoc_ok h hn

theorem all_nil {α} {P : α → Prop} : ∀ x, x ∈ ([] : List α) → P x := fun _ h => by cases h
theorem all_cons {α} {P : α → Prop} {a : α} {l : List α} (ha : P a) (hl : ∀ x, x ∈ l → P x) :
    ∀ x, x ∈ a :: l → P x := by
  intro x hx
  rcases List.mem_cons.mp hx with rfl | hx
  · exact ha
  · exact hl x hx
theorem all_reverse {α} {P : α → Prop} {l : List α} (hl : ∀ x, x ∈ l → P x) : ∀ x, x ∈ l.reverse → P x :=
  fun x hx => hl x (List.mem_reverse.mp hx)
theorem optOK_none {α} {P : α → Prop} : ∀ x, (none : Option α) = some x → P x := fun _ h => by cases h
theorem optOK_some {α} {P : α → Prop} {a : α} (h : P a) : ∀ x, some a = some x → P x := fun _ e => by cases e; exact h

def PRes.PosSat {α} (Q : α → List Span → Prop) : PRes α → Prop
  | .ok a rest => Q a rest
  | _ => True

namespace PRes.PosSat
theorem ok {α} {Q : α → List Span → Prop} {a : α} {rest : List Span} (h : Q a rest) : PRes.PosSat Q (.ok a rest) := h

theorem bind {α β} {Q : α → List Span → Prop} {Q' : β → List Span → Prop} {r : PRes α} {f : α → List Span → PRes β}
    (h : PRes.PosSat Q r) (hf : ∀ a ts, Q a ts → PRes.PosSat Q' (f a ts)) : PRes.PosSat Q' (r.bind f) := by
  cases r with
  | ok a rest => exact hf a rest h
  | err e => exact True.intro
  | timeout => exact True.intro

theorem map {α β} {Q : α → List Span → Prop} {Q' : β → List Span → Prop} {r : PRes α} {f : α → β}
    (h : PRes.PosSat Q r) (hf : ∀ a ts, Q a ts → Q' (f a) ts) : PRes.PosSat Q' (r.map f) := by
  cases r with
  | ok a rest => exact hf a rest h
  | err e => exact True.intro
  | timeout => exact True.intro

theorem mono {α} {Q Q' : α → List Span → Prop} {r : PRes α} (hq : ∀ a ts, Q a ts → Q' a ts) (h : PRes.PosSat Q r) :
    PRes.PosSat Q' r := by
  cases r with
  | ok a rest => exact hq a rest h
  | err e => exact True.intro
  | timeout => exact True.intro

theorem elim {α} {Q : α → List Span → Prop} {r : PRes α} {a : α} {rest : List Span} (h : PRes.PosSat Q r)
    (hr : r = .ok a rest) : Q a rest := by
  subst hr; exact h
end PRes.PosSat

theorem expectTok_pos {T : List Span} (t : Token) (ts : List Span) (h : Suf T ts) :
    PRes.PosSat (fun _ rest => Suf T rest) (expectTok t ts) :=
  expectTok_cases t ts (fun _ => True.intro) fun _ _ e _ => (e ▸ h).tail

theorem expectIdent_pos {T : List Span} (ts : List Span) (h : Suf T ts) :
    PRes.PosSat (fun _ rest => Suf T rest) (expectIdent ts) :=
  expectIdent_cases ts (fun _ => True.intro) fun _ _ _ e _ => (e ▸ h).tail

structure PosAll (T : List Span) (n : Nat) : Prop where
  parseAtom : ∀ pre ts, Suf T ts → (∀ x, pre = some x → RawPosOK T x) →
    PRes.PosSat (fun a rest => Suf T rest ∧ RawPosOK T a ∧ NE pre ts) (parseAtom n pre ts)
  parsePostfix : ∀ l pre ts, Suf T ts → (∀ x, pre = some x → RawPosOK T x) → LocPre T l pre ts →
    PRes.PosSat (fun a rest => Suf T rest ∧ RawPosOK T a ∧ NE pre ts) (parsePostfix n l pre ts)
  postfixLoop : ∀ l acc ts, Suf T ts → LocOK T l → RawPosOK T acc →
    PRes.PosSat (fun a rest => Suf T rest ∧ RawPosOK T a) (postfixLoop n l acc ts)
  parseIndexTail : ∀ e ts, Suf T ts → PosOK T e →
    PRes.PosSat (fun a rest => Suf T rest ∧ RawPosOK T a) (parseIndexTail n e ts)
  parseRangeEnd : ∀ e s ts, Suf T ts → PosOK T e → (∀ x, s = some x → PosOK T x) →
    PRes.PosSat (fun a rest => Suf T rest ∧ RawPosOK T a) (parseRangeEnd n e s ts)
  parseTier : ∀ k l pre ts, Suf T ts → (∀ x, pre = some x → RawPosOK T x) → LocPre T l pre ts →
    PRes.PosSat (fun a rest => Suf T rest ∧ RawPosOK T a ∧ NE pre ts) (parseTier n k l pre ts)
  tierLoop : ∀ k l acc ts, Suf T ts → LocOK T l → RawPosOK T acc →
    PRes.PosSat (fun a rest => Suf T rest ∧ RawPosOK T a) (tierLoop n k l acc ts)
  parseExpr1 : ∀ s l pre ts, Suf T ts → (∀ x, pre = some x → RawPosOK T x) → LocPre T l pre ts →
    PRes.PosSat (fun a rest => Suf T rest ∧ RawPosOK T a ∧ NE pre ts) (parseExpr1 n s l pre ts)
  rangeLoop : ∀ s l acc ts, Suf T ts → LocOK T l → RawPosOK T acc →
    PRes.PosSat (fun a rest => Suf T rest ∧ RawPosOK T a) (rangeLoop n s l acc ts)
  parseExpr : ∀ s ts, Suf T ts → PRes.PosSat (fun a rest => Suf T rest ∧ PosOK T a) (parseExpr n s ts)
  parseArgs : ∀ acc ts, Suf T ts → (∀ x, x ∈ acc → ItemPosOK T x) →
    PRes.PosSat (fun a rest => Suf T rest ∧ ∀ x, x ∈ a → ItemPosOK T x) (parseArgs n acc ts)
  parseExprList : ∀ acc ts, Suf T ts → (∀ x, x ∈ acc → ItemPosOK T x) →
    PRes.PosSat (fun a rest => Suf T rest ∧ ∀ x, x ∈ a.1 → ItemPosOK T x) (parseExprList n acc ts)
  parseParams : ∀ acc ts, Suf T ts → (∀ x, x ∈ acc → PosOK T x) →
    PRes.PosSat (fun a rest => Suf T rest ∧ ∀ x, x ∈ a.1 → PosOK T x) (parseParams n acc ts)
  parsePropItems : ∀ acc ts, Suf T ts → (∀ x, x ∈ acc → PropPosOK T x) →
    PRes.PosSat (fun a rest => Suf T rest ∧ ∀ x, x ∈ a → PropPosOK T x) (parsePropItems n acc ts)
  parsePropTail : ∀ acc ts, Suf T ts → (∀ x, x ∈ acc → PropPosOK T x) →
    PRes.PosSat (fun a rest => Suf T rest ∧ ∀ x, x ∈ a → PropPosOK T x) (parsePropTail n acc ts)
  parseBlock : ∀ ts, Suf T ts →
    PRes.PosSat (fun a rest => Suf T rest ∧ ∀ x, x ∈ a → StmtPosOK T x) (parseBlock n ts)
  parseStmts : ∀ c acc ts, Suf T ts → (∀ x, x ∈ acc → StmtPosOK T x) →
    PRes.PosSat (fun a rest => Suf T rest ∧ ∀ x, x ∈ a → StmtPosOK T x) (parseStmts n c acc ts)
  parseIf : ∀ ts, Suf T ts →
    PRes.PosSat (fun a rest => Suf T rest ∧ (∀ b, b ∈ a.1 → BranchPosOK T b) ∧
      (∀ s, a.2 = some s → ∀ x, x ∈ s → StmtPosOK T x)) (parseIf n ts)
  parseStmtTail : ∀ lhs ts, Suf T ts → PosOK T lhs →
    PRes.PosSat (fun a rest => Suf T rest ∧ StmtPosOK T a) (parseStmtTail n lhs ts)
  parseExprStmt : ∀ amb l pre ts, Suf T ts → (∀ x, pre = some x → RawPosOK T x) → LocOK T l →
    PRes.PosSat (fun a rest => Suf T rest ∧ StmtPosOK T a) (parseExprStmt n amb l pre ts)
  parseRawStmt : ∀ amb ts, Suf T ts →
    PRes.PosSat (fun a rest => Suf T rest ∧ StmtPosOK T a) (parseRawStmt n amb ts)
  parseBraceStmt : ∀ amb l ts, Suf T ts → LocOK T l →
    PRes.PosSat (fun a rest => Suf T rest ∧ StmtPosOK T a) (parseBraceStmt n amb l ts)

/-- side conditions of a walk whose tree predicate is an inductive family over the syntax tree: a fact of the context,
    the predicate by its constructors, `∀ x ∈ l` and `∀ x, o = some x →` by `all_*` and `optOK_*`, the hypothesis on an
    optional operand `pre` once a `match` has made it `some _`; `t` closes what is particular to the predicate -/
syntax "tree_side " "[" tactic "]" : tactic
macro_rules
  | `(tactic| tree_side [$t]) => `(tactic| with_reducible first
    | assumption
    | (constructor <;> tree_side [$t])
    | exact all_nil
    | exact optOK_none
    | (refine all_reverse ?_; tree_side [$t])
    | (refine all_cons ?_ ?_ <;> tree_side [$t])
    | (refine optOK_some ?_; tree_side [$t])
    | exact (‹∀ x, some _ = some x → _› _ rfl)
    | $t:tactic)

/-- the statement of a (sub-)call, side conditions discharged by `side` -/
macro "possat_call " ih:ident " [" side:tactic "]" : tactic =>
  `(tactic| ((with_reducible first | apply expectTok_pos | parser_call $ih | apply expectIdent_pos) <;> $side:tactic))

macro "and_split" : tactic => `(tactic| repeat (cases ‹_ ∧ _›))

/-- Walks the unfolded body of a parser function towards `PRes.PosSat Q _`.  The steps that take the body apart come
    first (`bind` with the callee's statement, the continuation's arguments, `if`); then the leaves that a named lemma
    recognises at once (an error, a success: the conjuncts of `Q` by `side`); then `match`, and what only a search
    recognises (a tail call).  `split` is slow to fail on a leaf, and the search is slow to fail on a `match`, hence
    the order.  When a `match` has taken a token off a list, that the tail is a suffix of `T` is noted at once, so every
    `Suf` side condition is in the context. -/
macro "possat_auto " ih:ident " [" side:tactic "]" : tactic =>
  `(tactic| repeat' first
    | (with_reducible apply PRes.PosSat.bind (by possat_call $ih [$side]))
    | (intro _ _ _; and_split)
    | ((with_reducible apply iteInduction) <;> intro _)
    | exact True.intro
    | ((with_reducible refine PRes.PosSat.ok ?_); and_intros <;> $side:tactic)
    | (split <;> try have := Suf.tail ‹Suf _ (_ :: _)›)
    | possat_call $ih [$side]
    | (with_reducible apply PRes.PosSat.map (by possat_call $ih [$side]))
    | (with_reducible apply PRes.PosSat.mono ?_ (by possat_call $ih [$side]))
    | (and_intros <;> $side:tactic))

macro "pos_side" : tactic =>
  `(tactic| tree_side [first
    | exact NE.of_cons
    | exact NE.of_some
    | exact Suf.head ‹_›
    | exact LocPre.of_ok ‹_›
    | exact LocPre.head ‹_›
    | exact LocPre.elim ‹_› ‹_›
    | exact headLoc_ok ‹_› ‹_›
    | exact StmtPosOK.expr_inv ‹_›])

macro "pos_auto " ih:ident : tactic => `(tactic| possat_auto $ih [pos_side])

theorem posAll_zero (T : List Span) : PosAll T 0 := by
  constructor <;> intros <;> exact True.intro

theorem posAll_succ (T : List Span) (n : Nat) (ih : PosAll T n) : PosAll T (n + 1) := by
  constructor <;> intros
  · unfold parseAtom; pos_auto ih
  · unfold parsePostfix; pos_auto ih
  · unfold postfixLoop; pos_auto ih
  · unfold parseIndexTail; pos_auto ih
  · unfold parseRangeEnd; pos_auto ih
  · unfold parseTier; pos_auto ih
  · unfold tierLoop; pos_auto ih
  · unfold parseExpr1; pos_auto ih
  · unfold rangeLoop; pos_auto ih
  · unfold parseExpr; pos_auto ih
  · unfold parseArgs; pos_auto ih
  · unfold parseExprList; pos_auto ih
  · unfold parseParams; pos_auto ih
  · unfold parsePropItems; pos_auto ih
  · unfold parsePropTail; pos_auto ih
  · unfold parseBlock; pos_auto ih
  · unfold parseStmts; pos_auto ih
  · unfold parseIf; pos_auto ih
  · unfold parseStmtTail; pos_auto ih
  · unfold parseExprStmt; pos_auto ih
  · unfold parseRawStmt; pos_auto ih
  · unfold parseBraceStmt; pos_auto ih

theorem posAll (T : List Span) (n : Nat) : PosAll T n := by
  induction n with
  | zero => exact posAll_zero T
  | succ n ih => exact posAll_succ T n ih

/-- an expression parsed from `ts` stores only token starts of `ts` (and what is left is a suffix of `ts`) -/
theorem parseExpr_node_pos {n : Nat} {s : Bool} {ts rest : List Span} {e : Expr} (h : parseExpr n s ts = .ok e rest) :
    PosOK ts e ∧ Suf ts rest := by
  have := ((posAll ts n).parseExpr s ts (Suf.refl ts)).elim h
  exact ⟨this.2, this.1⟩

theorem parseStmts_node_pos {n : Nat} {c : Bool} {ts rest : List Span} {stmts : List Stmt}
    (h : parseStmts n c [] ts = .ok stmts rest) : (∀ st, st ∈ stmts → StmtPosOK ts st) ∧ Suf ts rest := by
  have := ((posAll ts n).parseStmts c [] ts (Suf.refl ts) all_nil).elim h
  exact ⟨this.2, this.1⟩

theorem parseExpr1_node_pos {n : Nat} {s : Bool} {ts rest : List Span} {e : RawExpr}
    (h : parseExpr1 n s (headLoc ts) none ts = .ok e rest) : RawPosOK ts e ∧ Suf ts rest := by
  have := ((posAll ts n).parseExpr1 s (headLoc ts) none ts (Suf.refl ts) optOK_none (LocPre.head (Suf.refl ts))).elim h
  exact ⟨this.2.1, this.1⟩

theorem parseProg_ok {src : List Char} {stmts : List Stmt} (h : parseProg src = .ok stmts) :
    ∃ rest, parseStmts (parseFuel (lexAll src).1) false [] (lexAll src).1 = .ok stmts rest :=
  (parseProg_eq_ok.mp h).2

theorem parseExprTop_ok {src : List Char} {e : Expr} (h : parseExprTop src = .ok e) :
    parseExpr (parseFuel (lexAll src).1) false (lexAll src).1 = .ok e [] :=
  (parseExprTop_eq_ok.mp h).2

/-- every position stored in the syntax tree of a program is the start position of a token of
    the program's token stream -/
theorem node_pos {src : List Char} {stmts : List Stmt} (h : parseProg src = .ok stmts) :
    ∀ st, st ∈ stmts → StmtPosOK (lexAll src).1 st :=
  have ⟨_, hp⟩ := parseProg_ok h
  (parseStmts_node_pos hp).1

/-- the same for the expression entry point (interpolation slots) -/
theorem node_pos_expr {src : List Char} {e : Expr} (h : parseExprTop src = .ok e) : PosOK (lexAll src).1 e :=
  (parseExpr_node_pos (parseExprTop_ok h)).1

/-- the hypotheses are satisfiable: a parse, through the lexer, and one of the facts it gives -/
example : ∃ e, parseExprTop c!"a + f(b)[1]" = .ok e ∧ PosOK (lexAll c!"a + f(b)[1]").1 e :=
  ⟨_, rfl, node_pos_expr rfl⟩

/-- `headLoc [] = (0,0)` is handed to sub-parsers but never reaches a tree: nothing is parsed from the empty token
    list -/
theorem parseExpr_nil (n : Nat) (s : Bool) (e : Expr) (rest : List Span) : parseExpr n s [] ≠ .ok e rest := by
  intro h
  cases n with
  | zero => simp [parseExpr] at h
  | succ n =>
    have := ((posAll [] n).parseExpr1 s (headLoc []) none [] (Suf.refl []) optOK_none (LocPre.head (Suf.refl [])))
    unfold parseExpr at h
    cases hp : parseExpr1 n s (headLoc []) none [] with
    | ok a r =>
      exact (this.elim hp).2.2 rfl rfl
    | err e => rw [hp] at h; cases h
    | timeout => rw [hp] at h; cases h

end Seed
