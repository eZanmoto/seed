/-
  Lemmas/C18NodePosSrc.lean — the token starts of the parser's token stream are source positions: composing
  `node_pos` (Lemmas/C18NodePos.lean: every stored position is a token start) with the lexer facts of Lemmas/Scan.lean
  (every token starts at `posOf src i`, `i` the offset of its first character).
-/
import SeedProofs.Lemmas.C18NodePos
import SeedProofs.Lemmas.Scan
namespace Seed

theorem suppress_subset : ∀ (ts : List Span) (last : Option Token) (sp : Span), sp ∈ suppress last ts → sp ∈ ts
  | [], _, sp, h => by simp [suppress] at h
  | t :: r, last, sp, h => by
    unfold suppress at h
    split at h
    · rcases List.mem_cons.mp h with rfl | h
      · exact List.mem_cons_self
      · exact List.mem_cons_of_mem _ (suppress_subset r _ sp h)
    · split at h
      · exact List.mem_cons_of_mem _ (suppress_subset r _ sp h)
      · split at h
        · exact List.mem_cons_of_mem _ (suppress_subset r _ sp h)
        · rcases List.mem_cons.mp h with rfl | h
          · exact List.mem_cons_self
          · exact List.mem_cons_of_mem _ (suppress_subset r _ sp h)

/-- a token start of the stream the parser sees is the position of a character of the source: offset `i`, line
    `1 +` the number of line feeds before it, column counted from the last line feed (`posOf`) -/
theorem locOK_is_posOf {src : List Char} {l : Loc} (h : LocOK (lexAll src).1 l) :
    ∃ i, i < src.length ∧ l = posOf src i := by
  obtain ⟨sp, hm, rfl⟩ := h
  have hraw : sp ∈ (lexRaw (src.length + 1) ((Scanner.new src).advance 0)).1 := suppress_subset _ _ _ hm
  obtain ⟨k', s', _, hn⟩ := lexRaw_mem_reach src _ 0 sp hraw
  obtain ⟨i, j, _, _, h3, _, _, h6, _, _⟩ := nextToken_tok_reach hn
  exact ⟨i, h3, by rw [h6, scan_pos]⟩

/-- `node_pos` in source terms: every statement of a program that parses stores only positions of source characters -/
theorem node_pos_src {src : List Char} {stmts : List Stmt} (h : parseProg src = .ok stmts) :
    (∀ st, st ∈ stmts → StmtPosOK (lexAll src).1 st) ∧
    (∀ l, LocOK (lexAll src).1 l → ∃ i, i < src.length ∧ l = posOf src i) :=
  ⟨node_pos h, fun _ hl => locOK_is_posOf hl⟩

end Seed
