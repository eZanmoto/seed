/-
  Lemmas/C19Held.lean — (1) the `held` set of the renderer matters only through the addresses reachable from the value
  being rendered, so rendering under a `held` set that is not reachable is rendering under the empty one;
  (2) in a heap whose object cells are key-sorted every unfolding is canonical (`C10.Tree.Canon`).
-/
import SeedProofs.Lemmas.C19Render
namespace Seed.C19
open Seed Seed.C10

/-- `Reach σ v a`: the container at `a` is `v` itself or is reachable from `v` through list items / property values -/
inductive Reach (σ : State) : Val → Addr → Prop
  | listSelf (a : Addr) : Reach σ (.list a) a
  | objSelf (a : Addr) : Reach σ (.obj a) a
  | listItem {a : Addr} {items : List SVal} {x : SVal} {b : Addr} :
      σ.getList a = some items → x ∈ items → Reach σ x.v b → Reach σ (.list a) b
  | objProp {a : Addr} {props : ObjMap} {k : List Char} {x : SVal} {b : Addr} :
      σ.getObj a = some props → (k, x) ∈ props → Reach σ x.v b → Reach σ (.obj a) b

def NoHeld (σ : State) (held : List Addr) (v : Val) : Prop := ∀ a ∈ held, ¬ Reach σ v a

theorem contains_congr {h1 h2 : List Addr} {a : Addr} (h : a ∈ h1 ↔ a ∈ h2) : h1.contains a = h2.contains a := by
  cases c1 : h1.contains a <;> cases c2 : h2.contains a <;> simp_all

/-- two `held` sets that agree on the containers reachable from the value give the same rendering, at every fuel -/
theorem render_held_frame (σ : State) : ∀ m : Nat,
    (∀ h1 h2 v, (∀ b, Reach σ v b → (b ∈ h1 ↔ b ∈ h2)) → render m σ h1 v = render m σ h2 v) ∧
    (∀ h1 h2 items, (∀ x ∈ items, ∀ b, Reach σ x.v b → (b ∈ h1 ↔ b ∈ h2)) →
      renderItems m σ h1 items = renderItems m σ h2 items) ∧
    (∀ h1 h2 props, (∀ k x, (k, x) ∈ props → ∀ b, Reach σ x.v b → (b ∈ h1 ↔ b ∈ h2)) →
      renderProps m σ h1 props = renderProps m σ h2 props) := by
  intro m
  induction m with
  | zero =>
    refine ⟨?_, ?_, ?_⟩ <;> intros
    · simp only [render]
    · simp only [renderItems]
    · simp only [renderProps]
  | succ m ih =>
    obtain ⟨ihV, ihI, ihP⟩ := ih
    refine ⟨?_, ?_, ?_⟩
    · intro h1 h2 v H
      cases v with
      | list a =>
        simp only [render]
        rw [contains_congr (H a (.listSelf a))]
        cases hg : σ.getList a with
        | none => rfl
        | some items =>
          simp only
          rw [ihI (a :: h1) (a :: h2) items fun x hx b hb => by
            simp only [List.mem_cons, H b (.listItem hg hx hb)]]
      | obj a =>
        simp only [render]
        rw [contains_congr (H a (.objSelf a))]
        cases hg : σ.getObj a with
        | none => rfl
        | some props =>
          simp only
          rw [ihP (a :: h1) (a :: h2) props fun k x hx b hb => by
            simp only [List.mem_cons, H b (.objProp hg hx hb)]]
      | _ => simp only [render]
    · intro h1 h2 items H
      cases items with
      | nil => simp only [renderItems]
      | cons x r =>
        simp only [renderItems]
        rw [ihV h1 h2 x.v (H x List.mem_cons_self),
          ihI h1 h2 r fun y hy => H y (List.mem_cons_of_mem _ hy)]
    · intro h1 h2 props H
      cases props with
      | nil => simp only [renderProps]
      | cons p r =>
        obtain ⟨k, x⟩ := p
        simp only [renderProps]
        rw [ihV h1 h2 x.v (H k x List.mem_cons_self),
          ihP h1 h2 r fun k' y hy => H k' y (List.mem_cons_of_mem _ hy)]

/-- held containers that are not reachable from the value are irrelevant -/
theorem render_noheld {σ : State} {held : List Addr} {v : Val} (h : NoHeld σ held v) (m : Nat) :
    render m σ held v = render m σ [] v :=
  (render_held_frame σ m).1 held [] v fun b hb =>
    ⟨fun hm => absurd hb (h b hm), fun hm => by cases hm⟩

/-- R1 over an arbitrary `held` set none of whose addresses is reachable from the value -/
theorem render_unfold_noheld {σ : State} {held : List Addr} {v : Val} {t : Tree} (h : Unf σ v t)
    (hn : NoHeld σ held v) : ∃ n, ∀ m, n ≤ m → render m σ held v = renderTree σ t := by
  obtain ⟨n, hn'⟩ := render_unfold h
  exact ⟨n, fun m hm => by rw [render_noheld hn, hn' m hm]⟩

/-- the unfolding of an item is one of the children (so it is smaller) -/
theorem UnfL.child {σ : State} : ∀ {items : List SVal} {ts : Trees}, UnfL σ items ts → ∀ x ∈ items,
    ∃ tx, Unf σ x.v tx ∧ tsize tx < tssize ts + 1
  | _, _, .nil => fun x hx => by cases hx
  | _, _, .cons h0 hu => fun x hx => by
    rcases List.mem_cons.mp hx with rfl | hx
    · exact ⟨_, h0, by simp only [tssize]; omega⟩
    · obtain ⟨tx, h1, h2⟩ := UnfL.child hu x hx
      exact ⟨tx, h1, by simp only [tssize]; omega⟩

theorem UnfP.child {σ : State} : ∀ {props : ObjMap} {ps : Props}, UnfP σ props ps → ∀ k x, (k, x) ∈ props →
    ∃ tx, Unf σ x.v tx ∧ tsize tx < pssize ps + 1
  | _, _, .nil => fun k x hx => by cases hx
  | _, _, .cons h0 hu => fun k x hx => by
    rcases List.mem_cons.mp hx with he | hx
    · cases he
      exact ⟨_, h0, by simp only [pssize]; omega⟩
    · obtain ⟨tx, h1, h2⟩ := UnfP.child hu k x hx
      exact ⟨tx, h1, by simp only [pssize]; omega⟩

/-- everything reachable from an unfoldable value is unfoldable, to a tree that is no larger -/
theorem Reach.unf {σ : State} {v : Val} {b : Addr} (hr : Reach σ v b) :
    ∀ t, Unf σ v t → ∃ t', (Unf σ (.list b) t' ∨ Unf σ (.obj b) t') ∧ tsize t' ≤ tsize t := by
  induction hr with
  | listSelf a => exact fun t h => ⟨t, Or.inl h, Nat.le_refl _⟩
  | objSelf a => exact fun t h => ⟨t, Or.inr h, Nat.le_refl _⟩
  | listItem hg hx _ ih =>
    intro t h
    cases h with
    | list hg' hu =>
      rw [hg] at hg'; cases hg'
      obtain ⟨tx, h1, h2⟩ := UnfL.child hu _ hx
      obtain ⟨t', h3, h4⟩ := ih tx h1
      exact ⟨t', h3, by simp only [tsize]; omega⟩
  | objProp hg hx _ ih =>
    intro t h
    cases h with
    | obj hg' hu =>
      rw [hg] at hg'; cases hg'
      obtain ⟨tx, h1, h2⟩ := UnfP.child hu _ _ hx
      obtain ⟨t', h3, h4⟩ := ih tx h1
      exact ⟨t', h3, by simp only [tsize]; omega⟩

theorem Reach.not_of_smaller {σ : State} {v : Val} {a : Addr} {t tv : Tree}
    (ht : Unf σ (.list a) t ∨ Unf σ (.obj a) t) (hv : Unf σ v tv) (hlt : tsize tv < tsize t) : ¬ Reach σ v a := by
  intro hr
  obtain ⟨t', h', hle⟩ := hr.unf tv hv
  cases unfAt_det ht h'
  exact Nat.lt_irrefl _ (Nat.lt_of_le_of_lt hle hlt)

/-- **acyclicity.** a list that has an unfolding is not reachable from any of its own items … -/
theorem unf_acyclic_list {σ : State} {a : Addr} {items : List SVal} {x : SVal} {t : Tree}
    (h : Unf σ (.list a) t) (hg : σ.getList a = some items) (hx : x ∈ items) : ¬ Reach σ x.v a := by
  cases h with
  | list hg' hu =>
    cases hg.symm.trans hg'
    obtain ⟨tx, h1, h2⟩ := UnfL.child hu x hx
    exact Reach.not_of_smaller (Or.inl (.list hg hu)) h1 h2

/-- … and an object that has an unfolding is not reachable from any of its own property values -/
theorem unf_acyclic_obj {σ : State} {a : Addr} {props : ObjMap} {k : List Char} {x : SVal} {t : Tree}
    (h : Unf σ (.obj a) t) (hg : σ.getObj a = some props) (hx : (k, x) ∈ props) : ¬ Reach σ x.v a := by
  cases h with
  | obj hg' hu =>
    cases hg.symm.trans hg'
    obtain ⟨tx, h1, h2⟩ := UnfP.child hu k x hx
    exact Reach.not_of_smaller (Or.inr (.obj hg hu)) h1 h2

/-- every object cell of the heap is strictly sorted by key (the invariant of `BTreeMap`; `objInsert` keeps it) -/
def HeapSorted (σ : State) : Prop :=
  ∀ a props, σ.getObj a = some props → props.Pairwise fun p q => keyLt p.1 q.1 = true

theorem UnfP.keys {σ : State} : ∀ {props : ObjMap} {ps : Props}, UnfP σ props ps →
    keysOf ps.toList = props.map Prod.fst
  | _, _, .nil => rfl
  | _, _, .cons _ h => by
    simp only [Props.toList, keysOf, List.map_cons, List.cons.injEq, true_and]
    exact UnfP.keys h

/-- in a key-sorted heap every unfolding is canonical -/
theorem Unf.canon {σ : State} (hs : HeapSorted σ) (t : Tree) : ∀ v, Unf σ v t → t.Canon := by
  refine Tree.rec (motive_1 := fun t => ∀ v, Unf σ v t → t.Canon)
    (motive_2 := fun ts => ∀ items, UnfL σ items ts → ts.Canon)
    (motive_3 := fun ps => ∀ props, UnfP σ props ps → ps.Canon)
    ?null ?bool ?int ?str ?list ?obj ?fn ?builtin ?nil ?cons ?pnil ?pcons t
  case list =>
    intro xs ih v h
    cases h with
    | list _ hu => exact ih _ hu
  case obj =>
    intro ps ih v h
    cases h with
    | obj hg hu =>
      refine ⟨?_, ih _ hu⟩
      rw [KeysSorted, UnfP.keys hu]
      exact List.pairwise_map.mpr (hs _ _ hg)
  case cons | pcons =>
    intros; rename_i iht ihr _ h
    cases h with
    | cons hx hxs => exact ⟨iht _ hx, ihr _ hxs⟩
  all_goals intros; trivial

end Seed.C19
