/-
  Lemmas/C19Render.lean — `render` (what `print` writes) on acyclic values is a function of the unfolding (`C10.Tree`):
  `renderTree` mirrors `render` on trees (no heap for containers, no fuel, no `held` set), and `render_link` ties the two:
  while a subtree is being rendered, every held address unfolds to a strictly larger tree, so the `try_lock` never fails.
-/
import SeedProofs.Lemmas.C10Tree
import SeedProofs.Lemmas.Fuel
namespace Seed

def RenderRes.bind (r : RenderRes) (f : List Char → RenderRes) : RenderRes :=
  match r with
  | .ok s => f s
  | .err l => .err l
  | .lock => .lock
  | .bad => .bad
  | .timeout => .timeout

def RenderRes.map (r : RenderRes) (f : List Char → List Char) : RenderRes :=
  match r with
  | .ok s => .ok (f s)
  | .err l => .err l
  | .lock => .lock
  | .bad => .bad
  | .timeout => .timeout

theorem RenderRes.bind_map (r : RenderRes) (g : List Char → List Char) (f : List Char → RenderRes) :
    (r.map g).bind f = r.bind fun s => f (g s) := by cases r <;> rfl

theorem RenderRes.bind_eq_ok {r : RenderRes} {f : List Char → RenderRes} {s : List Char} (h : r.bind f = .ok s) :
    ∃ a, r = .ok a ∧ f a = .ok s := by
  cases r with
  | ok a => exact ⟨a, rfl, h⟩
  | _ => cases h

theorem RenderRes.map_ok (s : List Char) (g : List Char → List Char) : (RenderRes.ok s).map g = .ok (g s) := rfl

theorem RenderRes.map_id (r : RenderRes) : r.map (fun s => s) = r := by cases r <;> rfl

end Seed

namespace Seed.C19
open Seed Seed.C10

mutual
/-- `render` on the unfolding: the same texts, the same re-indentation of children with `indent`; the heap is consulted
    only for the name of a function value (`.fn a`) -/
def renderTree (σ : State) : Tree → RenderRes
  | .null => .ok c!"<null>"
  | .bool b => .ok (if b then c!"true" else c!"false")
  | .int i => .ok (intToChars i)
  | .str bs =>
    match utf8Decode bs with
    | .ok cs => .ok cs
    | .error e => .err (Gen.Leaf.BuiltinFuncErr (c!"couldn't convert error message to UTF-8: " ++ e.msg))
  | .list xs => (renderTrees σ xs).bind fun body => .ok (c!"[\n" ++ body ++ c!"]")
  | .obj ps => (renderPropsT σ ps).bind fun body => .ok (c!"{\n" ++ body ++ c!"}")
  | .fn a =>
    match σ.getFunc a with
    | none => .bad
    | some f => .ok (c!"<function '" ++ debugOptName f.name ++ c!"'>")
  | .builtin name _ => .ok (c!"<built-in function '" ++ name ++ c!"'>")
def renderTrees (σ : State) : Trees → RenderRes
  | .nil => .ok []
  | .cons t r =>
    (renderTree σ t).bind fun s => (renderTrees σ r).bind fun rest => .ok (c!"    " ++ indent s ++ c!",\n" ++ rest)
def renderPropsT (σ : State) : Props → RenderRes
  | .nil => .ok []
  | .cons k t r =>
    (renderTree σ t).bind fun s => (renderPropsT σ r).bind fun rest =>
      .ok (c!"    \"" ++ k ++ c!"\": " ++ indent s ++ c!",\n" ++ rest)
end

mutual
def tsize : Tree → Nat
  | .list xs => tssize xs + 1
  | .obj ps => pssize ps + 1
  | _ => 1
def tssize : Trees → Nat
  | .nil => 0
  | .cons t r => tsize t + tssize r + 1
def pssize : Props → Nat
  | .nil => 0
  | .cons _ t r => tsize t + pssize r + 1
end

/-- every held container that has an unfolding at all unfolds to a tree of size greater than `k` (the containers held
    while a subtree of size `k` is rendered are its proper ancestors) -/
def HeldAbove (σ : State) (held : List Addr) (k : Nat) : Prop :=
  ∀ a ∈ held, ∀ t, (Unf σ (.list a) t ∨ Unf σ (.obj a) t) → k < tsize t

theorem HeldAbove.nil (σ : State) (k : Nat) : HeldAbove σ [] k := by
  intro a ha; cases ha

theorem HeldAbove.mono {σ : State} {held : List Addr} {k k' : Nat} (h : HeldAbove σ held k) (hk : k' ≤ k) :
    HeldAbove σ held k' :=
  fun a ha t ht => Nat.lt_of_le_of_lt hk (h a ha t ht)

theorem getList_getObj_excl {σ : State} {a : Addr} {items : List SVal} {props : ObjMap}
    (h1 : σ.getList a = some items) (h2 : σ.getObj a = some props) : False := by
  unfold State.getList at h1
  unfold State.getObj at h2
  cases h : σ.heap[a]? with
  | none => simp [h] at h1
  | some c => cases c <;> simp [h] at h1 h2

/-- a cell is a list or an object, not both, so the container at `a` has one unfolding whichever it is -/
theorem unfAt_det {σ : State} {a : Addr} {s t : Tree} (hs : Unf σ (.list a) s ∨ Unf σ (.obj a) s)
    (ht : Unf σ (.list a) t ∨ Unf σ (.obj a) t) : s = t := by
  rcases hs with hs | hs <;> rcases ht with ht | ht
  · exact hs.det ht
  · cases hs with
    | list hg _ => cases ht with
      | obj hg' _ => exact (getList_getObj_excl hg hg').elim
  · cases hs with
    | obj hg _ => cases ht with
      | list hg' _ => exact (getList_getObj_excl hg' hg).elim
  · exact hs.det ht

/-- entering a container: it joins the held set, and its contents are smaller than it -/
theorem HeldAbove.push {σ : State} {held : List Addr} {a : Addr} {s : Tree} {k : Nat}
    (h : HeldAbove σ held (tsize s)) (hs : Unf σ (.list a) s ∨ Unf σ (.obj a) s) (hk : k < tsize s) :
    HeldAbove σ (a :: held) k := by
  intro b hb t ht
  rcases List.mem_cons.mp hb with rfl | hb
  · exact unfAt_det hs ht ▸ hk
  · exact Nat.lt_trans hk (h b hb t ht)

theorem HeldAbove.not_mem {σ : State} {held : List Addr} {a : Addr} {s : Tree}
    (h : HeldAbove σ held (tsize s)) (hs : Unf σ (.list a) s ∨ Unf σ (.obj a) s) : held.contains a = false := by
  cases hc : held.contains a with
  | false => rfl
  | true => exact absurd (h a (List.contains_iff_mem.mp hc) s hs) (Nat.lt_irrefl _)

/-! ## one unfolding of `render`, written with `bind` -/

theorem render_list {σ : State} {held : List Addr} {a : Addr} {items : List SVal} (n : Nat)
    (hc : held.contains a = false) (hg : σ.getList a = some items) : render (n + 1) σ held (.list a) =
      (renderItems n σ (a :: held) items).bind fun body => .ok (c!"[\n" ++ body ++ c!"]") := by
  simp only [render, hc, hg]
  cases renderItems n σ (a :: held) items <;> rfl

theorem render_obj {σ : State} {held : List Addr} {a : Addr} {props : ObjMap} (n : Nat)
    (hc : held.contains a = false) (hg : σ.getObj a = some props) : render (n + 1) σ held (.obj a) =
      (renderProps n σ (a :: held) props).bind fun body => .ok (c!"{\n" ++ body ++ c!"}") := by
  simp only [render, hc, hg]
  cases renderProps n σ (a :: held) props <;> rfl

theorem renderItems_cons (n : Nat) (σ : State) (held : List Addr) (x : SVal) (r : List SVal) :
    renderItems (n + 1) σ held (x :: r) = (render n σ held x.v).bind fun s =>
      (renderItems n σ held r).bind fun rest => .ok (c!"    " ++ indent s ++ c!",\n" ++ rest) := by
  rw [renderItems]
  cases render n σ held x.v <;> try rfl
  cases renderItems n σ held r <;> rfl

theorem renderProps_cons (n : Nat) (σ : State) (held : List Addr) (k : List Char) (x : SVal) (r : ObjMap) :
    renderProps (n + 1) σ held ((k, x) :: r) = (render n σ held x.v).bind fun s =>
      (renderProps n σ held r).bind fun rest => .ok (c!"    \"" ++ k ++ c!"\": " ++ indent s ++ c!",\n" ++ rest) := by
  rw [renderProps]
  cases render n σ held x.v <;> try rfl
  cases renderProps n σ held r <;> rfl

/-- with enough fuel (and any larger amount) -/
def Settles (f : Nat → RenderRes) (r : RenderRes) : Prop := ∃ n, ∀ m, n ≤ m → f m = r

/-- a leaf: any fuel but none -/
theorem Settles.of_succ {f : Nat → RenderRes} {r : RenderRes} (h : ∀ m, f (m + 1) = r) : Settles f r :=
  ⟨1, fun m hm => by
    cases m with
    | zero => cases hm
    | succ m => exact h m⟩

/-- a container: one more unit of fuel than its body needs -/
theorem Settles.bind_succ {f g : Nat → RenderRes} {r : RenderRes} {k : List Char → RenderRes} (hg : Settles g r)
    (h : ∀ m, f (m + 1) = (g m).bind k) : Settles f (r.bind k) := by
  obtain ⟨n, hn⟩ := hg
  refine ⟨n + 1, fun m hm => ?_⟩
  cases m with
  | zero => cases hm
  | succ m => rw [h, hn m (Nat.le_of_succ_le_succ hm)]

theorem Settles.both {f g : Nat → RenderRes} {r r' : RenderRes} (hf : Settles f r) (hg : Settles g r') :
    ∃ n, ∀ m, n ≤ m → f m = r ∧ g m = r' := by
  obtain ⟨n₁, h₁⟩ := hf
  obtain ⟨n₂, h₂⟩ := hg
  exact ⟨max n₁ n₂, fun m hm =>
    ⟨h₁ m (Nat.le_trans (Nat.le_max_left _ _) hm), h₂ m (Nat.le_trans (Nat.le_max_right _ _) hm)⟩⟩

/-- a line: one more unit than the value and the remaining lines need -/
theorem Settles.bind₂_succ {f g₁ g₂ : Nat → RenderRes} {r₁ r₂ : RenderRes} {k : List Char → List Char → RenderRes}
    (h₁ : Settles g₁ r₁) (h₂ : Settles g₂ r₂) (h : ∀ m, f (m + 1) = (g₁ m).bind fun s => (g₂ m).bind (k s)) :
    Settles f (r₁.bind fun s => r₂.bind (k s)) := by
  obtain ⟨n, hn⟩ := h₁.both h₂
  refine ⟨n + 1, fun m hm => ?_⟩
  cases m with
  | zero => cases hm
  | succ m => rw [h, (hn m (Nat.le_of_succ_le_succ hm)).1, (hn m (Nat.le_of_succ_le_succ hm)).2]

theorem render_link (σ : State) (s : Tree) :
    ∀ v held, Unf σ v s → HeldAbove σ held (tsize s) → Settles (fun m => render m σ held v) (renderTree σ s) := by
  refine Tree.rec
    (motive_1 := fun s => ∀ v held, Unf σ v s → HeldAbove σ held (tsize s) →
      Settles (fun m => render m σ held v) (renderTree σ s))
    (motive_2 := fun ss => ∀ items held, UnfL σ items ss → HeldAbove σ held (tssize ss) →
      Settles (fun m => renderItems m σ held items) (renderTrees σ ss))
    (motive_3 := fun ps => ∀ props held, UnfP σ props ps → HeldAbove σ held (pssize ps) →
      Settles (fun m => renderProps m σ held props) (renderPropsT σ ps))
    ?null ?bool ?int ?str ?list ?obj ?fn ?builtin ?nil ?cons ?pnil ?pcons s
  case list =>
    intro xs ih v held h hab
    cases h with
    | list hg hu =>
      rename_i a _
      have hself : Unf σ (.list a) (.list xs) ∨ Unf σ (.obj a) (.list xs) := Or.inl (.list hg hu)
      exact (ih _ _ hu (hab.push hself (Nat.lt_succ_self _))).bind_succ fun m => render_list m (hab.not_mem hself) hg
  case obj =>
    intro ps ih v held h hab
    cases h with
    | obj hg hu =>
      rename_i a _
      have hself : Unf σ (.list a) (.obj ps) ∨ Unf σ (.obj a) (.obj ps) := Or.inr (.obj hg hu)
      exact (ih _ _ hu (hab.push hself (Nat.lt_succ_self _))).bind_succ fun m => render_obj m (hab.not_mem hself) hg
  case cons =>
    intro t r iht ihr items held h hab
    cases h with
    | cons hx hxs =>
      exact (iht _ held hx (hab.mono (Nat.le_succ_of_le (Nat.le_add_right _ _)))).bind₂_succ
        (ihr _ held hxs (hab.mono (Nat.le_succ_of_le (Nat.le_add_left _ _))))
        fun m => renderItems_cons m σ held _ _
  case pcons =>
    intro k t r iht ihr props held h hab
    cases h with
    | cons hx hxs =>
      exact (iht _ held hx (hab.mono (Nat.le_succ_of_le (Nat.le_add_right _ _)))).bind₂_succ
        (ihr _ held hxs (hab.mono (Nat.le_succ_of_le (Nat.le_add_left _ _))))
        fun m => renderProps_cons m σ held k _ _
  -- leaves and empty bodies: any fuel but none
  all_goals intros; rename_i h _; cases h; exact .of_succ fun _ => rfl

/-- **R1.** an unfoldable (acyclic) value renders, with enough fuel and any larger amount, to `renderTree` of its
    unfolding: the heap, the addresses, the sharing and the `held` bookkeeping play no role — in particular the
    `try_lock` never fails (`.lock`) and no cell is missing (`.bad`, unless a function value dangles) -/
theorem render_unfold {σ : State} {v : Val} {t : Tree} (h : Unf σ v t) :
    ∃ n, ∀ m, n ≤ m → render m σ [] v = renderTree σ t :=
  render_link σ t v [] h (HeldAbove.nil σ _)

/-- the same for a non-empty `held` set of proper ancestors -/
theorem render_unfold_held {σ : State} {v : Val} {t : Tree} {held : List Addr} (h : Unf σ v t)
    (hab : HeldAbove σ held (tsize t)) : ∃ n, ∀ m, n ≤ m → render m σ held v = renderTree σ t :=
  render_link σ t v held h hab

/-- at every fuel: a time-out or the rendering of the unfolding -/
theorem render_unfold_le {σ : State} {v : Val} {t : Tree} (h : Unf σ v t) (n : Nat) :
    render n σ [] v = .timeout ∨ render n σ [] v = renderTree σ t := by
  obtain ⟨n0, h0⟩ := render_unfold h
  rcases render_mono' (Nat.le_max_left n n0) σ [] v with hl | hl
  · exact Or.inl hl
  · right; rw [hl]; exact h0 _ (Nat.le_max_right n n0)

/-- a text or a reported error -/
def Clean (r : RenderRes) : Prop := (∃ s, r = .ok s) ∨ (∃ l, r = .err l)
/-- … or the internal failure of a dangling function address -/
def CleanB (r : RenderRes) : Prop := Clean r ∨ r = .bad

theorem Clean.bind {r : RenderRes} {f : List Char → RenderRes} (h : Clean r) (hf : ∀ s, Clean (f s)) : Clean (r.bind f) := by
  rcases h with ⟨s, rfl⟩ | ⟨l, rfl⟩
  · exact hf s
  · exact Or.inr ⟨l, rfl⟩

theorem CleanB.bind {r : RenderRes} {f : List Char → RenderRes} (h : CleanB r) (hf : ∀ s, CleanB (f s)) :
    CleanB (r.bind f) := by
  rcases h with (⟨s, rfl⟩ | ⟨l, rfl⟩) | rfl
  · exact hf s
  · exact Or.inl (Or.inr ⟨l, rfl⟩)
  · exact Or.inr rfl

theorem Clean.ok (s : List Char) : Clean (.ok s) := Or.inl ⟨s, rfl⟩

theorem CleanB.ok (s : List Char) : CleanB (.ok s) := Or.inl (Clean.ok s)

theorem renderTree_cleanB (σ : State) (t : Tree) : CleanB (renderTree σ t) := by
  refine Tree.rec (motive_1 := fun t => CleanB (renderTree σ t)) (motive_2 := fun ts => CleanB (renderTrees σ ts))
    (motive_3 := fun ps => CleanB (renderPropsT σ ps)) ?null ?bool ?int ?str ?list ?obj ?fn ?builtin ?nil ?cons ?pnil ?pcons t
  case str =>
    intro bs
    rw [renderTree]
    cases utf8Decode bs with
    | ok cs => exact .ok _
    | error e => exact Or.inl (Or.inr ⟨_, rfl⟩)
  case fn =>
    intro a
    rw [renderTree]
    cases σ.getFunc a with
    | none => exact Or.inr rfl
    | some f => exact .ok _
  case list | obj => exact fun _ ih => ih.bind fun _ => .ok _
  case cons => exact fun _ _ iht ihr => iht.bind fun _ => ihr.bind fun _ => .ok _
  case pcons => exact fun _ _ _ iht ihr => iht.bind fun _ => ihr.bind fun _ => .ok _
  all_goals intros; exact .ok _

/-- never the failed `try_lock`, never a time-out -/
theorem renderTree_no_lock (σ : State) (t : Tree) : renderTree σ t ≠ .lock ∧ renderTree σ t ≠ .timeout := by
  rcases renderTree_cleanB σ t with (⟨s, h⟩ | ⟨l, h⟩) | h <;> rw [h] <;> exact ⟨nofun, nofun⟩

/-- on function-free trees: a text or the UTF-8 error, and the heap is not consulted at all -/
theorem renderTree_fnfree (σ σ' : State) (t : Tree) :
    t.FnFree → Clean (renderTree σ t) ∧ renderTree σ t = renderTree σ' t := by
  refine Tree.rec (motive_1 := fun t => t.FnFree → Clean (renderTree σ t) ∧ renderTree σ t = renderTree σ' t)
    (motive_2 := fun ts => ts.FnFree → Clean (renderTrees σ ts) ∧ renderTrees σ ts = renderTrees σ' ts)
    (motive_3 := fun ps => ps.FnFree → Clean (renderPropsT σ ps) ∧ renderPropsT σ ps = renderPropsT σ' ps)
    ?null ?bool ?int ?str ?list ?obj ?fn ?builtin ?nil ?cons ?pnil ?pcons t
  case str =>
    intro bs _
    refine ⟨?_, rfl⟩
    rw [renderTree]
    cases utf8Decode bs with
    | ok cs => exact .ok _
    | error e => exact Or.inr ⟨_, rfl⟩
  case list | obj =>
    intro _ ih hf
    rw [renderTree, renderTree, ← (ih hf).2]
    exact ⟨(ih hf).1.bind fun _ => .ok _, rfl⟩
  case fn => exact fun _ hf => hf.elim
  case builtin => exact fun _ _ hf => hf.elim
  case cons =>
    intro t r iht ihr hf
    rw [renderTrees, renderTrees, ← (iht hf.1).2, ← (ihr hf.2).2]
    exact ⟨(iht hf.1).1.bind fun _ => (ihr hf.2).1.bind fun _ => .ok _, rfl⟩
  case pcons =>
    intro k t r iht ihr hf
    rw [renderPropsT, renderPropsT, ← (iht hf.1).2, ← (ihr hf.2).2]
    exact ⟨(iht hf.1).1.bind fun _ => (ihr hf.2).1.bind fun _ => .ok _, rfl⟩
  all_goals intros; exact ⟨.ok _, rfl⟩

end Seed.C19
