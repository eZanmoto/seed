/-
  Lemmas/C19Spec.lean — the direct, depth-passing printer `specPrint` of the property text, and the proof that the
  renderer's "render the child, then re-indent its text" scheme computes it: `indent (specPrint d t) = specPrint (d+1) t`.
-/
import SeedProofs.Lemmas.C19Render
namespace Seed.C19
open Seed Seed.C10

theorem indent_append (a b : List Char) : indent (a ++ b) = indent a ++ indent b := by
  induction a with
  | nil => rfl
  | cons c r ih =>
    simp only [List.cons_append, indent]
    split <;> simp [ih]

def NoNL (s : List Char) : Prop := ∀ c ∈ s, c ≠ '\n'

theorem NoNL.append {a b : List Char} (ha : NoNL a) (hb : NoNL b) : NoNL (a ++ b) := by
  intro c hc
  rcases List.mem_append.mp hc with h | h
  · exact ha c h
  · exact hb c h

theorem NoNL.cons {c : Char} {r : List Char} (hc : c ≠ '\n') (hr : NoNL r) : NoNL (c :: r) := by
  intro x hx
  rcases List.mem_cons.mp hx with rfl | h
  · exact hc
  · exact hr x h

theorem indent_noNL : ∀ {s : List Char}, NoNL s → indent s = s
  | [], _ => rfl
  | c :: r, h => by
    have hc : c ≠ '\n' := h c List.mem_cons_self
    have hr : NoNL r := fun x hx => h x (List.mem_cons_of_mem _ hx)
    simp only [indent, hc, if_false, indent_noNL hr]

def pad (d : Nat) : List Char := List.replicate (4 * d) ' '

theorem pad_zero : pad 0 = [] := rfl
theorem pad_succ (d : Nat) : pad (d + 1) = c!"    " ++ pad d := rfl
theorem pad_one : pad 1 = c!"    " := rfl
theorem pad_one' : pad (0 + 1) = c!"    " := rfl

theorem pad_noNL (d : Nat) : NoNL (pad d) := by
  intro c hc
  rw [List.eq_of_mem_replicate hc]
  decide

theorem indent_pad (d : Nat) : indent (pad d) = pad d := indent_noNL (pad_noNL d)

/-- every line feed is followed by `4·d` spaces (what `d` enclosing containers make of a text) -/
def reindent (d : Nat) : List Char → List Char
  | [] => []
  | c :: r => if c = '\n' then '\n' :: (pad d ++ reindent d r) else c :: reindent d r

theorem reindent_zero : ∀ s : List Char, reindent 0 s = s
  | [] => rfl
  | c :: r => by
    by_cases hc : c = '\n'
    · subst hc; simp [reindent, pad_zero, reindent_zero r]
    · simp [reindent, hc, reindent_zero r]

theorem reindent_noNL (d : Nat) : ∀ {s : List Char}, NoNL s → reindent d s = s
  | [], _ => rfl
  | c :: r, h => by
    have hc : c ≠ '\n' := h c List.mem_cons_self
    have hr : NoNL r := fun x hx => h x (List.mem_cons_of_mem _ hx)
    simp only [reindent, hc, if_false, reindent_noNL d hr]

/-- one more enclosing container: four more spaces after every line feed -/
theorem indent_reindent (d : Nat) : ∀ s : List Char, indent (reindent d s) = reindent (d + 1) s
  | [] => rfl
  | c :: r => by
    by_cases hc : c = '\n'
    · subst hc
      simp only [reindent, if_true, indent, indent_append, indent_pad, indent_reindent d r, pad_succ]
      simp
    · simp only [reindent, hc, if_false, indent, indent_reindent d r]

theorem indent_eq_reindent (s : List Char) : indent s = reindent 1 s := by
  rw [← indent_reindent 0 s, reindent_zero]

/-- `indent` applied `d` times -/
theorem iterate_indent : ∀ (d : Nat) (s : List Char), (Nat.repeat indent d s) = reindent d s
  | 0, s => (reindent_zero s).symm
  | d + 1, s => by
    show indent (Nat.repeat indent d s) = _
    rw [iterate_indent d s, indent_reindent]

theorem digitChar_ne_nl (n : Nat) : digitChar n ≠ '\n' := by
  have key : ∀ k, k < 10 → Char.ofNat (48 + k) ≠ '\n' := by decide
  exact key (n % 10) (Nat.mod_lt _ (by decide))

theorem natToCharsAux_noNL : ∀ (fuel n : Nat) (acc : List Char), NoNL acc → NoNL (natToCharsAux fuel n acc)
  | 0, _, _, h => h
  | fuel + 1, n, acc, h => by
    simp only [natToCharsAux]
    split
    · exact NoNL.cons (digitChar_ne_nl n) h
    · exact natToCharsAux_noNL fuel _ _ (NoNL.cons (digitChar_ne_nl n) h)

theorem natToChars_noNL (n : Nat) : NoNL (natToChars n) :=
  natToCharsAux_noNL _ _ _ (fun _ h => by cases h)

theorem intToChars_noNL (i : Int) : NoNL (intToChars i) := by
  cases i with
  | ofNat n => exact natToChars_noNL n
  | negSucc n => exact NoNL.cons (by decide) (natToChars_noNL _)

mutual
/-- `specPrint σ d t`: the text of `t` when it stands at nesting depth `d` — every line of a container's items starts
    with `4·(d+1)` spaces, the closing bracket with `4·d`; a line feed inside a string (or inside a key or a function
    name) is followed by `4·d` spaces.  The only failures: a string that is not UTF-8 (the first one, in order), a
    dangling function address. -/
def specPrint (σ : State) : Nat → Tree → RenderRes
  | _, .null => .ok c!"<null>"
  | _, .bool b => .ok (if b then c!"true" else c!"false")
  | _, .int i => .ok (intToChars i)
  | d, .str bs =>
    match utf8Decode bs with
    | .ok cs => .ok (reindent d cs)
    | .error e => .err (Gen.Leaf.BuiltinFuncErr (c!"couldn't convert error message to UTF-8: " ++ e.msg))
  | d, .list xs => (specItems σ d xs).bind fun body => .ok (c!"[\n" ++ body ++ pad d ++ c!"]")
  | d, .obj ps => (specProps σ d ps).bind fun body => .ok (c!"{\n" ++ body ++ pad d ++ c!"}")
  | d, .fn a =>
    match σ.getFunc a with
    | none => .bad
    | some f => .ok (reindent d (c!"<function '" ++ debugOptName f.name ++ c!"'>"))
  | d, .builtin name _ => .ok (reindent d (c!"<built-in function '" ++ name ++ c!"'>"))
/-- one `item,` line per element, at depth `d + 1` -/
def specItems (σ : State) : Nat → Trees → RenderRes
  | _, .nil => .ok []
  | d, .cons t r =>
    (specPrint σ (d + 1) t).bind fun s => (specItems σ d r).bind fun rest =>
      .ok (pad (d + 1) ++ s ++ c!",\n" ++ rest)
/-- one `"key": value,` line per property, in the stored order, at depth `d + 1` -/
def specProps (σ : State) : Nat → Props → RenderRes
  | _, .nil => .ok []
  | d, .cons k t r =>
    (specPrint σ (d + 1) t).bind fun s => (specProps σ d r).bind fun rest =>
      .ok (pad (d + 1) ++ c!"\"" ++ reindent d k ++ c!"\": " ++ s ++ c!",\n" ++ rest)
end

end Seed.C19

namespace Seed.RenderRes

/-- `r'` fails in the same way as `r`, or both succeed with texts related by `R` -/
def Rel (R : List Char → List Char → Prop) (r r' : RenderRes) : Prop :=
  match r with
  | .ok a => ∃ b, r' = .ok b ∧ R a b
  | _ => r' = r

theorem Rel.ok {R : List Char → List Char → Prop} {a b : List Char} (h : R a b) : (RenderRes.ok a).Rel R (.ok b) :=
  ⟨b, rfl, h⟩

theorem Rel.bind {R S : List Char → List Char → Prop} {r r' : RenderRes} {f g : List Char → RenderRes}
    (h : r.Rel R r') (hfg : ∀ a b, R a b → (f a).Rel S (g b)) : (r.bind f).Rel S (r'.bind g) := by
  cases r with
  | ok a =>
    obtain ⟨b, rfl, hab⟩ := h
    exact hfg a b hab
  | _ => cases h; rfl

theorem Rel.map_eq {φ : List Char → List Char} {r r' : RenderRes} (h : r.Rel (fun a b => φ a = b) r') :
    r.map φ = r' := by
  cases r with
  | ok a =>
    obtain ⟨b, rfl, hab⟩ := h
    exact congrArg RenderRes.ok hab
  | _ => cases h; rfl

end Seed.RenderRes

namespace Seed.C19
open Seed Seed.C10

/-- a container: `[`, the lines, the closing bracket at the container's own depth -/
theorem indent_block {o c body body' : List Char} (d : Nat) (ho : indent o = o ++ c!"    ") (hc : indent c = c)
    (h : c!"    " ++ indent body = body' ++ c!"    ") :
    indent (o ++ body ++ pad d ++ c) = o ++ body' ++ pad (d + 1) ++ c := by
  rw [indent_append, indent_append, indent_append, ho, hc, indent_pad, pad_succ]
  simp only [List.append_assoc]
  rw [← List.append_assoc _ (indent body), h]
  simp only [List.append_assoc]

/-- a line: the four spaces that `indent` puts after the line's final line feed belong to the next line -/
theorem indent_line {q q' s s' rest rest' : List Char} (hq : c!"    " ++ indent q = q') (hs : indent s = s')
    (h : c!"    " ++ indent rest = rest' ++ c!"    ") :
    c!"    " ++ indent (q ++ s ++ c!",\n" ++ rest) = (q' ++ s' ++ c!",\n" ++ rest') ++ c!"    " := by
  rw [indent_append, indent_append, indent_append, hs, ← hq]
  show _ ++ (_ ++ _ ++ (c!",\n" ++ c!"    ") ++ _) = _
  simp only [List.append_assoc]
  rw [h]

/-- the induction: for the lines of a container the claim is about the body between the brackets, where the four
    spaces move from the front of the re-indented body at depth `d` to the end of the body at depth `d + 1` -/
theorem spec_indent_rel (σ : State) (t : Tree) :
    ∀ d, (specPrint σ d t).Rel (fun a b => indent a = b) (specPrint σ (d + 1) t) := by
  refine Tree.rec
    (motive_1 := fun t => ∀ d, (specPrint σ d t).Rel (fun a b => indent a = b) (specPrint σ (d + 1) t))
    (motive_2 := fun xs => ∀ d,
      (specItems σ d xs).Rel (fun a b => c!"    " ++ indent a = b ++ c!"    ") (specItems σ (d + 1) xs))
    (motive_3 := fun ps => ∀ d,
      (specProps σ d ps).Rel (fun a b => c!"    " ++ indent a = b ++ c!"    ") (specProps σ (d + 1) ps))
    ?_ ?_ ?_ ?_ ?_ ?_ ?_ ?_ ?_ ?_ ?_ ?_ t
  · exact fun d => .ok rfl
  · intro b d; cases b <;> exact .ok rfl
  · exact fun i d => .ok (indent_noNL (intToChars_noNL i))
  · intro bs d
    rw [specPrint, specPrint]
    cases utf8Decode bs with
    | ok cs => exact .ok (indent_reindent d cs)
    | error e => exact rfl
  · intro xs ih d
    rw [specPrint, specPrint]
    exact (ih d).bind fun _ _ h => .ok (indent_block d rfl rfl h)
  · intro ps ih d
    rw [specPrint, specPrint]
    exact (ih d).bind fun _ _ h => .ok (indent_block d rfl rfl h)
  · intro a d
    rw [specPrint, specPrint]
    cases σ.getFunc a with
    | none => exact rfl
    | some f => exact .ok (indent_reindent d _)
  · exact fun name f d => .ok (indent_reindent d _)
  · exact fun d => .ok rfl
  · intro t r iht ihr d
    rw [specItems, specItems]
    refine (iht (d + 1)).bind fun _ _ hs => (ihr d).bind fun _ _ hr => .ok (indent_line ?_ hs hr)
    rw [indent_pad, pad_succ (d + 1)]
  · exact fun d => .ok rfl
  · intro k t r iht ihr d
    rw [specProps, specProps]
    refine (iht (d + 1)).bind fun _ _ hs => (ihr d).bind fun _ _ hr => .ok (indent_line ?_ hs hr)
    rw [indent_append, indent_append, indent_append, indent_pad, indent_reindent, pad_succ (d + 1)]
    rfl

/-- the key lemma: re-indenting the text at depth `d` gives the text at depth `d + 1` -/
theorem spec_indent (σ : State) (t : Tree) : ∀ d, (specPrint σ d t).map indent = specPrint σ (d + 1) t :=
  fun d => (spec_indent_rel σ t d).map_eq

/-- **R2.** the renderer computes the direct printer at depth 0 (including the failures: the same error for the same
    first undecodable string) -/
theorem render_eq_spec (σ : State) (t : Tree) : renderTree σ t = specPrint σ 0 t := by
  refine Tree.rec
    (motive_1 := fun t => renderTree σ t = specPrint σ 0 t)
    (motive_2 := fun xs => renderTrees σ xs = specItems σ 0 xs)
    (motive_3 := fun ps => renderPropsT σ ps = specProps σ 0 ps)
    ?null ?bool ?int ?str ?list ?obj ?fn ?builtin ?nil ?cons ?pnil ?pcons t
  case str =>
    intro bs
    simp only [renderTree, specPrint, reindent_zero]
    cases utf8Decode bs <;> rfl
  case list | obj =>
    intro _ ih
    simp only [renderTree, specPrint, ih, pad_zero, List.append_nil]
  case fn =>
    intro a
    simp only [renderTree, specPrint, reindent_zero]
    cases σ.getFunc a <;> rfl
  case builtin =>
    intro n f
    simp only [renderTree, specPrint, reindent_zero]
  case cons =>
    intro t r iht ihr
    simp only [renderTrees, specItems, ← spec_indent σ t 0, ← iht, ← ihr, RenderRes.bind_map, pad_one']
  case pcons =>
    intro k t r iht ihr
    simp only [renderPropsT, specProps, ← spec_indent σ t 0, ← iht, ← ihr, RenderRes.bind_map, pad_one', reindent_zero,
      List.append_assoc, List.cons_append, List.nil_append]
  all_goals intros; rfl

/-- `print` of an acyclic value writes `specPrint 0` of its unfolding -/
theorem render_spec {σ : State} {v : Val} {t : Tree} (h : Unf σ v t) :
    ∃ n, ∀ m, n ≤ m → render m σ [] v = specPrint σ 0 t := by
  obtain ⟨n, hn⟩ := render_unfold h
  exact ⟨n, fun m hm => by rw [hn m hm, render_eq_spec]⟩

end Seed.C19
