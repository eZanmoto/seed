/-
  Lemmas/C20Bind.lean — the state produced by `applyBinOp`, and the invariant "no scope cell holds `_`".
-/
import SeedProofs.Lemmas.C04Scope
namespace Seed
namespace BindL
open ScopeL

def NoUnderscore (σ : State) : Prop := ∀ a m, σ.getScope a = some m → scopeLookup c!"_" m = none

theorem noUnderscore_init : NoUnderscore State.init := by
  intro a m h
  simp [State.getScope, State.init] at h

theorem noUnderscore_alloc {σ : State} (h : NoUnderscore σ) (c : Cell)
    (hc : ∀ m, c = .scope m → scopeLookup c!"_" m = none) : NoUnderscore (σ.alloc c).2 := by
  intro a m ha
  rcases Nat.lt_or_ge a σ.heap.size with hlt | hge
  · exact h a m (by rw [← getScope_congr (alloc_old σ c hlt)]; exact ha)
  · have hlt := getScope_lt ha
    rw [alloc_size] at hlt
    obtain rfl : a = σ.heap.size := Nat.le_antisymm (Nat.le_of_lt_succ hlt) hge
    have := getScope_heap.mp ha
    rw [alloc_new] at this
    exact hc m (by cases this; rfl)

theorem noUnderscore_set {σ : State} (h : NoUnderscore σ) (a : Addr) (c : Cell)
    (hc : ∀ m, c = .scope m → scopeLookup c!"_" m = none) : NoUnderscore (σ.set a c) := by
  intro b m hb
  by_cases hba : b = a
  · subst hba
    by_cases hlt : b < σ.heap.size
    · have := getScope_heap.mp hb
      rw [set_same σ b c hlt] at this
      exact hc m (by cases this; rfl)
    · rw [set_same_oob σ b c hlt] at hb; exact h b m hb
  · rw [getScope_set_other c hba] at hb; exact h b m hb

theorem scopeGet_underscore {σ : State} (h : NoUnderscore σ) (sc : List Addr) : scopeGet σ sc c!"_" = none := by
  induction sc with
  | nil => rfl
  | cons a r ih =>
    rw [scopeGet_cons]
    cases hm : σ.getScope a with
    | none => rfl
    | some m => simp only [h a m hm]; exact ih

theorem arith_state {op : BinaryOp} {loc : Loc} {a b : Int} {σ σ' : State} {v : Val}
    (h : arith op loc a b σ = .ok v σ') : σ' = σ := by
  unfold arith at h
  dsimp only at h
  repeat' split at h
  all_goals first | (cases h; rfl) | cases h

theorem applyBinOp_state_cases {fuel : Nat} {σ σ' : State} {op : BinaryOp} {loc : Loc} {a b v : Val}
    (h : applyBinOp fuel σ op loc a b = .ok v σ') :
    σ' = σ ∨ ∃ x y xs ys, a = .list x ∧ b = .list y ∧ σ.getList x = some xs ∧ σ.getList y = some ys ∧
      σ' = (σ.alloc (.list (xs ++ ys))).2 := by
  unfold applyBinOp at h
  -- by operator, then by the operands (for `==`, `===`: by the outcome of the comparison)
  split at h <;> split at h
  all_goals try first | (cases h; first | exact .inl rfl | done) | exact .inl (arith_state h)
  -- left: `+` on two lists
  split at h
  · cases h; exact .inr ⟨_, _, _, _, rfl, rfl, ‹_›, ‹_›, rfl⟩
  · cases h

theorem applyBinOp_state {fuel : Nat} {σ σ' : State} {op : BinaryOp} {loc : Loc} {a b v : Val}
    (h : applyBinOp fuel σ op loc a b = .ok v σ') : σ' = σ ∨ ∃ xs, σ' = (σ.alloc (.list xs)).2 := by
  rcases applyBinOp_state_cases h with h | ⟨_, _, xs, ys, _, _, _, _, h⟩
  · exact .inl h
  · exact .inr ⟨xs ++ ys, h⟩

theorem applyBinOp_noUnderscore {fuel : Nat} {σ σ' : State} {op : BinaryOp} {loc : Loc} {a b v : Val}
    (hi : NoUnderscore σ) (h : applyBinOp fuel σ op loc a b = .ok v σ') : NoUnderscore σ' := by
  rcases applyBinOp_state h with rfl | ⟨xs, rfl⟩
  · exact hi
  · exact noUnderscore_alloc hi _ (fun m e => by cases e)

end BindL
end Seed
