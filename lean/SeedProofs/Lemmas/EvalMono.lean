/-
  EvalMono.lean — G1: the meaning of a program does not depend on the fuel supplied, for every function of
  the mutual evaluator block.  One induction on the fuel over the conjunction of all functions.
-/
import SeedProofs.Lemmas.Fuel
namespace Seed

theorem validateArgsRes_mono (n : Nat) (args : List Expr) (σ : State) :
    Res.Le (validateArgsRes n args σ) (validateArgsRes (n + 1) args σ) := by
  unfold validateArgsRes
  rcases validateArgs_mono n args [] with h | h
  · rw [h]; exact Or.inl rfl
  · rw [h]; exact Res.Le.refl _

structure MonoAll (n : Nat) : Prop where
  evalExpr : ∀ σ sc e, Res.Le (evalExpr n σ sc e) (evalExpr (n + 1) σ sc e)
  evalOptIndex : ∀ σ sc e, Res.Le (evalOptIndex n σ sc e) (evalOptIndex (n + 1) σ sc e)
  evalListItems : ∀ σ sc items acc, Res.Le (evalListItems n σ sc items acc) (evalListItems (n + 1) σ sc items acc)
  evalProps : ∀ σ sc l props acc, Res.Le (evalProps n σ sc l props acc) (evalProps (n + 1) σ sc l props acc)
  evalCall : ∀ σ sc f args loc, Res.Le (evalCall n σ sc f args loc) (evalCall (n + 1) σ sc f args loc)
  evalToStr : ∀ σ sc d e, Res.Le (evalToStr n σ sc d e) (evalToStr (n + 1) σ sc d e)
  evalToBool : ∀ σ sc d e, Res.Le (evalToBool n σ sc d e) (evalToBool (n + 1) σ sc d e)
  evalToInt : ∀ σ sc d e, Res.Le (evalToInt n σ sc d e) (evalToInt (n + 1) σ sc d e)
  evalToIndex : ∀ σ sc e, Res.Le (evalToIndex n σ sc e) (evalToIndex (n + 1) σ sc e)
  interpolate : ∀ σ sc s slots loc last acc,
    Res.Le (interpolate n σ sc s slots loc last acc) (interpolate (n + 1) σ sc s slots loc last acc)
  evalBlock : ∀ σ sc bs stmts, Res.Le (evalBlock n σ sc bs stmts) (evalBlock (n + 1) σ sc bs stmts)
  declareAll : ∀ σ sc bs, Res.Le (declareAll n σ sc bs) (declareAll (n + 1) σ sc bs)
  evalStmts : ∀ σ sc stmts, Res.Le (evalStmts n σ sc stmts) (evalStmts (n + 1) σ sc stmts)
  evalStmt : ∀ σ sc st, Res.Le (evalStmt n σ sc st) (evalStmt (n + 1) σ sc st)
  evalIf : ∀ σ sc bs els, Res.Le (evalIf n σ sc bs els) (evalIf (n + 1) σ sc bs els)
  evalWhile : ∀ σ sc c stmts, Res.Le (evalWhile n σ sc c stmts) (evalWhile (n + 1) σ sc c stmts)
  evalFor : ∀ σ sc lhs pairs stmts, Res.Le (evalFor n σ sc lhs pairs stmts) (evalFor (n + 1) σ sc lhs pairs stmts)
  bindNext : ∀ σ sc names lhs rhs op decl,
    Res.Le (bindNext n σ sc names lhs rhs op decl) (bindNext (n + 1) σ sc names lhs rhs op decl)
  bindProp : ∀ σ a name loc rhs op names vi,
    Res.Le (bindProp n σ a name loc rhs op names vi) (bindProp (n + 1) σ a name loc rhs op names vi)
  bindRangeIndex : ∀ σ sc a start stop loc rhsItems names,
    Res.Le (bindRangeIndex n σ sc a start stop loc rhsItems names) (bindRangeIndex (n + 1) σ sc a start stop loc rhsItems names)
  bindList : ∀ σ sc names items collect lhsLoc b decl i lhsLen,
    Res.Le (bindList n σ sc names items collect lhsLoc b decl i lhsLen)
      (bindList (n + 1) σ sc names items collect lhsLoc b decl i lhsLen)
  bindObject : ∀ σ sc names props b decl i total remaining,
    Res.Le (bindObject n σ sc names props b decl i total remaining)
      (bindObject (n + 1) σ sc names props b decl i total remaining)
  bindObjectProp : ∀ σ sc names lhs b pname ploc decl,
    Res.Le (bindObjectProp n σ sc names lhs b pname ploc decl) (bindObjectProp (n + 1) σ sc names lhs b pname ploc decl)

/-- The walk: both sides are the same body at fuels `n` and `n + 1`, so `if`, `match` and `bind` are peeled on both
    at once, before any leaf is tried (`split` on an `if` is slow, hence `Res.Le.ite`).  `calls` are the facts about
    what the body calls: fields of the induction hypothesis and the lemmas of Fuel.lean about the fuel-using helpers. -/
syntax "mono_walk " "[" term,* "]" : tactic
macro_rules
  | `(tactic| mono_walk [$calls,*]) =>
  `(tactic| repeat' first
    | with_reducible apply Res.Le.ite
    | split
    | with_reducible refine Res.Le.bind ?_ (fun _ _ => ?_)
    | with_reducible exact Res.Le.refl _
    | (with_reducible first $[| apply $calls]*)
    | intro _
    | apply Res.Le.map
    | apply Res.Le.mapErr
    | exact Res.Le.timeout _
    | (dsimp only []))

theorem monoAll_zero : MonoAll 0 := by
  constructor <;> intros <;> left
  · unfold evalExpr; rfl
  · unfold evalOptIndex; rfl
  · unfold evalListItems; rfl
  · unfold evalProps; rfl
  · unfold evalCall; rfl
  · unfold evalToStr; rfl
  · unfold evalToBool; rfl
  · unfold evalToInt; rfl
  · unfold evalToIndex; rfl
  · unfold interpolate; rfl
  · unfold evalBlock; rfl
  · unfold declareAll; rfl
  · unfold evalStmts; rfl
  · unfold evalStmt; rfl
  · unfold evalIf; rfl
  · unfold evalWhile; rfl
  · unfold evalFor; rfl
  · unfold bindNext; rfl
  · unfold bindProp; rfl
  · unfold bindRangeIndex; rfl
  · unfold bindList; rfl
  · unfold bindObject; rfl
  · unfold bindObjectProp; rfl

theorem monoAll_succ (n : Nat) (ih : MonoAll n) : MonoAll (n + 1) where
  evalExpr σ sc e := by
    unfold_le evalExpr
    mono_walk [ih.evalExpr, ih.interpolate, applyBinOp_mono, ih.evalListItems, ih.evalToIndex, ih.evalToStr,
      ih.evalOptIndex, ih.evalToInt, ih.evalProps, ih.evalCall]
  evalOptIndex σ sc e := by unfold_le evalOptIndex; mono_walk [ih.evalToIndex]
  evalListItems σ sc items acc := by unfold_le evalListItems; mono_walk [ih.evalExpr, ih.evalListItems]
  evalProps σ sc l props acc := by unfold_le evalProps; mono_walk [ih.evalToStr, ih.evalExpr, ih.evalProps]
  evalCall σ sc f args loc := by
    unfold_le evalCall; mono_walk [ih.evalListItems, ih.evalExpr, ih.evalBlock, callBuiltin_mono]
  evalToStr σ sc d e := by unfold_le evalToStr; mono_walk [ih.evalExpr]
  evalToBool σ sc d e := by unfold_le evalToBool; mono_walk [ih.evalExpr]
  evalToInt σ sc d e := by unfold_le evalToInt; mono_walk [ih.evalExpr]
  evalToIndex σ sc e := by unfold_le evalToIndex; mono_walk [ih.evalToInt]
  interpolate σ sc s slots loc last acc := by unfold_le interpolate; mono_walk [ih.evalExpr, ih.interpolate]
  evalBlock σ sc bs stmts := by unfold_le evalBlock; mono_walk [ih.declareAll, ih.evalStmts]
  declareAll σ sc bs := by unfold_le declareAll; mono_walk [ih.bindNext, ih.declareAll]
  evalStmts σ sc stmts := by unfold_le evalStmts; mono_walk [ih.evalStmt, ih.evalStmts]
  evalStmt σ sc st := by
    unfold_le evalStmt
    mono_walk [ih.evalExpr, ih.bindNext, ih.evalBlock, ih.evalIf, ih.evalWhile, ih.evalFor, validateArgsRes_mono,
      bindNextName_mono]
  evalIf σ sc bs els := by unfold_le evalIf; mono_walk [ih.evalBlock, ih.evalToBool, ih.evalIf]
  evalWhile σ sc c stmts := by unfold_le evalWhile; mono_walk [ih.evalToBool, ih.evalBlock, ih.evalWhile]
  evalFor σ sc lhs pairs stmts := by unfold_le evalFor; mono_walk [ih.evalBlock, ih.evalFor]
  bindNext σ sc names lhs rhs op decl := by
    unfold_le bindNext
    mono_walk [ih.evalExpr, bindNextName_mono, ih.evalToIndex, opAssignValue_mono, ih.evalToStr, ih.bindProp,
      ih.bindRangeIndex, ih.bindObject, ih.bindList]
  bindProp σ a name loc rhs op names vi := by unfold_le bindProp; dsimp only []; mono_walk [opAssignValue_mono]
  bindRangeIndex σ sc a start stop loc rhsItems names := by unfold_le bindRangeIndex; mono_walk [ih.evalOptIndex]
  bindList σ sc names items collect lhsLoc b decl i lhsLen := by unfold_le bindList; mono_walk [ih.bindNext, ih.bindList]
  bindObject σ sc names props b decl i total remaining := by
    unfold_le bindObject; mono_walk [bindNextName_mono, ih.bindObject, ih.bindObjectProp, ih.evalToStr]
  bindObjectProp σ sc names lhs b pname ploc decl := by unfold_le bindObjectProp; mono_walk [ih.bindNext]

theorem monoAll (n : Nat) : MonoAll n := by
  induction n with
  | zero => exact monoAll_zero
  | succ n ih => exact monoAll_succ n ih

end Seed
