/-
  EvalPost.lean — one walk through the 23 evaluator functions for every post-condition that does not depend on WHAT is
  evaluated: a predicate on the outcome (`ok`: initial and final state; `err`: the error too; `crash`) that is closed
  under sequencing, under the three error wrappers and under the primitive state changes holds of every evaluator
  function (`satAll`).  G2 / G3 (`relAll`, Frame.lean), the scope-cell invariants (`relOkAll`, Frame2.lean) and
  G5 (`locAll`, Located.lean) are its instances.
-/
import SeedModel.Eval
namespace Seed

structure Post where
  ok : State → State → Prop
  err : State → Err → State → Prop
  crash : State → State → Prop

inductive Res.Sat {α} (P : Post) (σ : State) : Res α → Prop
  | ok {a : α} {σ' : State} : P.ok σ σ' → Res.Sat P σ (.ok a σ')
  | err {e : Err} {σ' : State} : P.err σ e σ' → Res.Sat P σ (.err e σ')
  | crash {w : List Char} {σ' : State} : P.crash σ σ' → Res.Sat P σ (.crash w σ')
  | timeout : Res.Sat P σ .timeout

/-- `P` with nothing asked of the error itself: what a builtin meets, whose bare leaf error `evalCall` wraps -/
def Post.lax (P : Post) : Post := ⟨P.ok, fun σ _ σ' => P.ok σ σ', P.crash⟩

structure Post.Closed (P : Post) : Prop where
  refl : ∀ σ, P.ok σ σ
  trans : ∀ {a b c}, P.ok a b → P.ok b c → P.ok a c
  thenErr : ∀ {a b c e}, P.ok a b → P.err b e c → P.err a e c
  thenCrash : ∀ {a b c}, P.ok a b → P.crash b c → P.crash a c
  allocList : ∀ σ xs, P.ok σ (σ.alloc (.list xs)).2
  allocObj : ∀ σ m, P.ok σ (σ.alloc (.obj m)).2
  allocFunc : ∀ σ f, P.ok σ (σ.alloc (.func f)).2
  allocScope : ∀ σ, P.ok σ (σ.alloc (.scope [])).2
  print : ∀ σ l, P.ok σ (σ.print l)
  setList : ∀ σ a xs ys, σ.getList a = some xs → P.ok σ (σ.set a (.list ys))
  setObj : ∀ σ a m m', σ.getObj a = some m → P.ok σ (σ.set a (.obj m'))
  crashed : ∀ σ, P.crash σ σ
  leaf : ∀ σ line col l, P.err σ (.atLoc line col (.leaf l)) σ
  atLoc : ∀ {σ σ' e} line col, P.err σ e σ' → P.err σ (.atLoc line col e) σ'
  funcCall : ∀ {σ σ' e} name loc, P.err σ e σ' → P.err σ (.funcCall name loc e) σ'
  builtinCall : ∀ {σ σ'} name loc e, P.ok σ σ' → P.err σ (.builtinCall name loc e) σ'
  badArgs : ∀ σ n q e, validateArgs n q [] = some (some e) → P.err σ e σ

namespace Res.Sat
variable {P : Post} (hP : P.Closed) {σ : State}
include hP

theorem after {α} {σ1 : State} {r : Res α} (h : P.ok σ σ1) (hr : Res.Sat P σ1 r) : Res.Sat P σ r := by
  cases hr with
  | ok h2 => exact .ok (hP.trans h h2)
  | err h2 => exact .err (hP.thenErr h h2)
  | crash h2 => exact .crash (hP.thenCrash h h2)
  | timeout => exact .timeout

/-- `after` with the outcome first: applied to a call made in an intermediate state, the call fixes that state -/
theorem later {α} {σ1 : State} {r : Res α} (hr : Res.Sat P σ1 r) (h : P.ok σ σ1) : Res.Sat P σ r := after hP h hr

theorem bind {α β} {r : Res α} {f : α → State → Res β} (h : Res.Sat P σ r) (hf : ∀ a σ1, Res.Sat P σ1 (f a σ1)) :
    Res.Sat P σ (r.bind f) := by
  cases h with
  | ok h => exact after hP h (hf _ _)
  | err h => exact .err h
  | crash h => exact .crash h
  | timeout => exact .timeout

omit hP in
theorem ite {α} {c : Prop} [Decidable c] {x y : Res α} (hx : c → Res.Sat P σ x) (hy : ¬c → Res.Sat P σ y) :
    Res.Sat P σ (if c then x else y) := by
  split
  · exact hx ‹_›
  · exact hy ‹_›

omit hP in
theorem map {α β} {r : Res α} (f : α → β) (h : Res.Sat P σ r) : Res.Sat P σ (r.map f) := by
  cases h with
  | ok h => exact .ok h
  | err h => exact .err h
  | crash h => exact .crash h
  | timeout => exact .timeout

omit hP in
theorem mapErr {α} {r : Res α} {f : Err → Err} (hf : ∀ e σ', P.err σ e σ' → P.err σ (f e) σ') (h : Res.Sat P σ r) :
    Res.Sat P σ (r.mapErr f) := by
  cases h with
  | ok h => exact .ok h
  | err h => exact .err (hf _ _ h)
  | crash h => exact .crash h
  | timeout => exact .timeout

theorem funcCall {α} {name : Option (List Char)} {loc : Loc} {r : Res α} (h : Res.Sat P σ r) :
    Res.Sat P σ (r.mapErr (Err.funcCall name loc)) := mapErr (fun _ _ => hP.funcCall _ _) h

theorem atLoc {α} {line col : Nat} {r : Res α} (h : Res.Sat P σ r) : Res.Sat P σ (r.mapErr (Err.atLoc line col)) :=
  mapErr (fun _ _ => hP.atLoc _ _) h

theorem builtinCall {α} {name : Option (List Char)} {loc : Loc} {r : Res α} (h : Res.Sat P.lax σ r) :
    Res.Sat P σ (r.mapErr (Err.builtinCall name loc)) := by
  cases h with
  | ok h => exact .ok h
  | err h => exact .err (hP.builtinCall _ _ _ h)
  | crash h => exact .crash h
  | timeout => exact .timeout

theorem same {α} (a : α) : Res.Sat P σ (.ok a σ) := .ok (hP.refl σ)
-- `errAt` / `crashHeap` come in two spellings, as the body writes them and unfolded: the walk closes its leaves
-- `with_reducible` and does not see through the two definitions
theorem errAt {α} (loc : Loc) (l : Gen.Leaf) : Res.Sat P σ (Seed.errAt loc l σ : Res α) := .err (hP.leaf σ _ _ l)
theorem leafAt {α} (line col : Nat) (l : Gen.Leaf) : Res.Sat P σ (.err (.atLoc line col (.leaf l)) σ : Res α) :=
  .err (hP.leaf σ _ _ l)
theorem crashHeap {α} : Res.Sat P σ (Seed.crashHeap σ : Res α) := .crash (hP.crashed σ)
theorem crashed {α} (w : List Char) : Res.Sat P σ (.crash w σ : Res α) := .crash (hP.crashed σ)
omit hP in
theorem alloc_ok {c : Cell} {ad : Addr} {σ' : State} (he : σ.alloc c = (ad, σ')) (hc : P.ok σ (σ.alloc c).2) : P.ok σ σ' := by
  rw [he] at hc; exact hc
/-- the state a conditional allocation leaves (`evalCall` allocates the list of surplus arguments only for a rest parameter) -/
theorem ite_ok {β} {c : Prop} [Decidable c] {p : β × State} {b pv : β} {σ' : State}
    (he : (if c then p else (b, σ)) = (pv, σ')) (hp : P.ok σ p.2) : P.ok σ σ' := by
  split at he
  · rw [he] at hp; exact hp
  · cases he; exact hP.refl σ
end Res.Sat

section prims
variable {P : Post} (hP : P.Closed)
include hP

theorem applyBinOp_sat (n : Nat) (σ : State) (op : BinaryOp) (loc : Loc) (a b : Val) :
    Res.Sat P σ (applyBinOp n σ op loc a b) := by
  unfold applyBinOp
  cases op <;> simp only [] <;> (repeat' split) <;>
    first
      | exact .same hP _
      | exact .errAt hP _ _
      | exact .timeout
      | exact .ok (hP.allocList σ _)
      | exact .crashHeap hP
      | (unfold arith; simp only []; (repeat' split) <;> first | exact .same hP _ | exact .errAt hP _ _)

theorem callBuiltin_sat (n : Nat) (σ : State) (f : BuiltinId) (this : Option SVal) (args : List SVal) :
    Res.Sat P.lax σ (callBuiltin n σ f this args) := by
  unfold callBuiltin
  cases f <;> simp only [] <;> (repeat' split) <;>
    first
      | exact .ok (hP.refl σ)
      | exact .err (hP.refl σ)  -- `P.lax.err` is `P.ok`
      | exact .crash (hP.crashed σ)
      | exact .timeout
      | exact .ok (hP.print σ _)

theorem opAssignValue_sat (n : Nat) (σ : State) (cur rhs : SVal) (op : Option (BinaryOp × Loc)) :
    Res.Sat P σ (opAssignValue n σ cur rhs op) := by
  unfold opAssignValue
  split
  · exact .same hP _
  · exact .map _ (applyBinOp_sat hP n σ _ _ _ _)

theorem validateArgsRes_sat (n : Nat) (args : List Expr) (σ : State) : Res.Sat P σ (validateArgsRes n args σ) := by
  unfold validateArgsRes
  split
  · exact .timeout
  · exact .err (hP.badArgs σ n args _ (by assumption))
  · exact .same hP _

end prims

structure SatAll (P : Post) (n : Nat) : Prop where
  evalExpr : ∀ σ sc e, Res.Sat P σ (evalExpr n σ sc e)
  evalOptIndex : ∀ σ sc e, Res.Sat P σ (evalOptIndex n σ sc e)
  evalListItems : ∀ σ sc items acc, Res.Sat P σ (evalListItems n σ sc items acc)
  evalProps : ∀ σ sc l props acc, Res.Sat P σ (evalProps n σ sc l props acc)
  evalCall : ∀ σ sc f args loc, Res.Sat P σ (evalCall n σ sc f args loc)
  evalToStr : ∀ σ sc d e, Res.Sat P σ (evalToStr n σ sc d e)
  evalToBool : ∀ σ sc d e, Res.Sat P σ (evalToBool n σ sc d e)
  evalToInt : ∀ σ sc d e, Res.Sat P σ (evalToInt n σ sc d e)
  evalToIndex : ∀ σ sc e, Res.Sat P σ (evalToIndex n σ sc e)
  interpolate : ∀ σ sc s slots loc last acc, Res.Sat P σ (interpolate n σ sc s slots loc last acc)
  evalBlock : ∀ σ sc bs stmts, Res.Sat P σ (evalBlock n σ sc bs stmts)
  declareAll : ∀ σ sc bs, Res.Sat P σ (declareAll n σ sc bs)
  evalStmts : ∀ σ sc stmts, Res.Sat P σ (evalStmts n σ sc stmts)
  evalStmt : ∀ σ sc st, Res.Sat P σ (evalStmt n σ sc st)
  evalIf : ∀ σ sc bs els, Res.Sat P σ (evalIf n σ sc bs els)
  evalWhile : ∀ σ sc c stmts, Res.Sat P σ (evalWhile n σ sc c stmts)
  evalFor : ∀ σ sc lhs pairs stmts, Res.Sat P σ (evalFor n σ sc lhs pairs stmts)
  bindNext : ∀ σ sc names lhs rhs op decl, Res.Sat P σ (bindNext n σ sc names lhs rhs op decl)
  bindProp : ∀ σ a name loc rhs op names vi, Res.Sat P σ (bindProp n σ a name loc rhs op names vi)
  bindRangeIndex : ∀ σ sc a start stop loc rhsItems names,
    Res.Sat P σ (bindRangeIndex n σ sc a start stop loc rhsItems names)
  bindList : ∀ σ sc names items collect lhsLoc b decl i lhsLen,
    Res.Sat P σ (bindList n σ sc names items collect lhsLoc b decl i lhsLen)
  bindObject : ∀ σ sc names props b decl i total remaining,
    Res.Sat P σ (bindObject n σ sc names props b decl i total remaining)
  bindObjectProp : ∀ σ sc names lhs b pname ploc decl,
    Res.Sat P σ (bindObjectProp n σ sc names lhs b pname ploc decl)

/-- what `bindNextName` (the only writer of scope cells) has to satisfy for the walk -/
abbrev Post.BindName (P : Post) : Prop :=
  ∀ n σ sc names name loc rhs op decl, Res.Sat P σ (bindNextName n σ sc names name loc rhs op decl)

theorem bindNextName_sat {P : Post} (hP : P.Closed)
    (hd : ∀ {σ σ' sc k loc v}, scopeDeclare σ sc k loc v = .ok σ' → P.ok σ σ')
    (ha : ∀ {σ σ' sc k v}, scopeAssign σ sc k v = some σ' → P.ok σ σ') : P.BindName := by
  intro n σ sc names name loc rhs op decl
  unfold bindNextName
  repeat' first
    | split
    | exact .same hP _
    | exact .errAt hP _ _
    | exact .crashed hP _
    | exact .ok (hd (by assumption))
    | exact .ok (ha (by assumption))
    | refine .bind hP (applyBinOp_sat hP _ _ _ _ _ _) (fun _ _ => ?_)
    | (dsimp only [])

/-- an outcome written down in a body, in the state the body started from; under `with_reducible` a lemma that does
    not fit fails at once instead of unfolding the model -/
macro "sat_here " hP:ident : tactic =>
  `(tactic| with_reducible first
    | exact Res.Sat.errAt $hP _ _
    | exact Res.Sat.same $hP _
    | exact Res.Sat.crashHeap $hP
    | exact Res.Sat.timeout
    | exact Res.Sat.ok (Post.Closed.setList $hP _ _ _ _ (by assumption))
    | exact Res.Sat.ok (Post.Closed.setObj $hP _ _ _ _ (by assumption))
    | exact Res.Sat.leafAt $hP _ _ _
    | exact Res.Sat.crashed $hP _)

/-- `P.ok σ σ'` for the state `σ'` of a `let (a, σ') := σ.alloc c` of the body -/
macro "sat_alloc " hP:ident : tactic =>
  `(tactic| first
    | exact Post.Closed.allocList $hP _ _
    | exact Post.Closed.allocScope $hP _
    | exact Post.Closed.allocObj $hP _ _
    | exact Post.Closed.allocFunc $hP _ _
    | exact Res.Sat.alloc_ok (by assumption) (Post.Closed.allocList $hP _ _)
    | exact Res.Sat.alloc_ok (by assumption) (Post.Closed.allocScope $hP _)
    | exact Res.Sat.alloc_ok (by assumption) (Post.Closed.allocObj $hP _ _)
    | exact Res.Sat.alloc_ok (by assumption) (Post.Closed.allocFunc $hP _ _)
    | (refine Res.Sat.ite_ok $hP ‹_› ?_; exact Post.Closed.allocList $hP _ _))

/-- The walk through an unfolded body; `calls` are the facts about what the body calls (fields of the induction
    hypothesis, lemmas about the non-recursive helpers).  `if`, `match` and `bind` come first, so that no leaf is ever
    tried against an unsplit body (`split` on an `if` is slow, hence `Res.Sat.ite`); then the calls and the outcomes
    written down; the rare shapes last: a freshly allocated state (returned, or the state of a call), `map`, the
    error wrappers, `have`s to reduce.  `intro _` and the `cases` of an equation between pairs serve
    `let (a, σ') := σ.alloc c`, which `split` turns into a hypothesis `σ.alloc c = (a, σ')`. -/
syntax "sat_walk " ident " [" term,* "]" : tactic
macro_rules
  | `(tactic| sat_walk $hP [$calls,*]) =>
  `(tactic| repeat' first
    | with_reducible apply Res.Sat.ite
    | split
    | with_reducible refine Res.Sat.bind $hP ?_ (fun _ _ => ?_)
    | (with_reducible first $[| apply $calls]*)
    | sat_here $hP
    | (refine Res.Sat.ok ?_; sat_alloc $hP)
    | (apply Res.Sat.later $hP; (with_reducible first $[| apply $calls]*); sat_alloc $hP)
    | intro _
    | (cases ‹(_, _) = (_, _)›)
    | apply Res.Sat.map
    | apply Res.Sat.funcCall $hP
    | exact Res.Sat.builtinCall $hP (callBuiltin_sat $hP _ _ _ _ _)
    | apply Res.Sat.atLoc $hP
    | (dsimp only []))

theorem satAll_zero {P : Post} : SatAll P 0 := by
  constructor <;> intros
  · unfold evalExpr; exact .timeout
  · unfold evalOptIndex; exact .timeout
  · unfold evalListItems; exact .timeout
  · unfold evalProps; exact .timeout
  · unfold evalCall; exact .timeout
  · unfold evalToStr; exact .timeout
  · unfold evalToBool; exact .timeout
  · unfold evalToInt; exact .timeout
  · unfold evalToIndex; exact .timeout
  · unfold interpolate; exact .timeout
  · unfold evalBlock; exact .timeout
  · unfold declareAll; exact .timeout
  · unfold evalStmts; exact .timeout
  · unfold evalStmt; exact .timeout
  · unfold evalIf; exact .timeout
  · unfold evalWhile; exact .timeout
  · unfold evalFor; exact .timeout
  · unfold bindNext; exact .timeout
  · unfold bindProp; exact .timeout
  · unfold bindRangeIndex; exact .timeout
  · unfold bindList; exact .timeout
  · unfold bindObject; exact .timeout
  · unfold bindObjectProp; exact .timeout

theorem satAll_succ {P : Post} (hP : P.Closed) (hb : P.BindName) (n : Nat) (ih : SatAll P n) : SatAll P (n + 1) where
  evalExpr σ sc e := by
    unfold evalExpr
    sat_walk hP [ih.evalExpr, ih.interpolate, applyBinOp_sat hP, ih.evalListItems, ih.evalToIndex, ih.evalToStr,
      ih.evalOptIndex, ih.evalToInt, ih.evalProps, ih.evalCall]
  evalOptIndex σ sc e := by unfold evalOptIndex; sat_walk hP [ih.evalToIndex]
  evalListItems σ sc items acc := by unfold evalListItems; sat_walk hP [ih.evalExpr, ih.evalListItems]
  evalProps σ sc l props acc := by unfold evalProps; sat_walk hP [ih.evalToStr, ih.evalExpr, ih.evalProps]
  evalCall σ sc f args loc := by unfold evalCall; sat_walk hP [ih.evalListItems, ih.evalExpr, ih.evalBlock]
  evalToStr σ sc d e := by unfold evalToStr; sat_walk hP [ih.evalExpr]
  evalToBool σ sc d e := by unfold evalToBool; sat_walk hP [ih.evalExpr]
  evalToInt σ sc d e := by unfold evalToInt; sat_walk hP [ih.evalExpr]
  evalToIndex σ sc e := by unfold evalToIndex; sat_walk hP [ih.evalToInt]
  interpolate σ sc s slots loc last acc := by unfold interpolate; sat_walk hP [ih.evalExpr, ih.interpolate]
  evalBlock σ sc bs stmts := by unfold evalBlock; sat_walk hP [ih.declareAll, ih.evalStmts]
  declareAll σ sc bs := by unfold declareAll; sat_walk hP [ih.bindNext, ih.declareAll]
  evalStmts σ sc stmts := by unfold evalStmts; sat_walk hP [ih.evalStmt, ih.evalStmts]
  evalStmt σ sc st := by
    unfold evalStmt
    sat_walk hP [ih.evalExpr, ih.bindNext, ih.evalBlock, ih.evalIf, ih.evalWhile, ih.evalFor, validateArgsRes_sat hP, hb]
  evalIf σ sc bs els := by unfold evalIf; sat_walk hP [ih.evalBlock, ih.evalToBool, ih.evalIf]
  evalWhile σ sc c stmts := by unfold evalWhile; sat_walk hP [ih.evalToBool, ih.evalBlock, ih.evalWhile]
  evalFor σ sc lhs pairs stmts := by unfold evalFor; sat_walk hP [ih.evalBlock, ih.evalFor]
  bindNext σ sc names lhs rhs op decl := by
    unfold bindNext
    sat_walk hP [ih.evalExpr, hb, ih.evalToIndex, opAssignValue_sat hP, ih.evalToStr, ih.bindProp, ih.bindRangeIndex,
      ih.bindObject, ih.bindList]
  bindProp σ a name loc rhs op names vi := by unfold bindProp; sat_walk hP [opAssignValue_sat hP]
  bindRangeIndex σ sc a start stop loc rhsItems names := by unfold bindRangeIndex; sat_walk hP [ih.evalOptIndex]
  bindList σ sc names items collect lhsLoc b decl i lhsLen := by unfold bindList; sat_walk hP [ih.bindNext, ih.bindList]
  bindObject σ sc names props b decl i total remaining := by
    unfold bindObject; sat_walk hP [hb, ih.bindObject, ih.bindObjectProp, ih.evalToStr]
  bindObjectProp σ sc names lhs b pname ploc decl := by unfold bindObjectProp; sat_walk hP [ih.bindNext]

theorem satAll {P : Post} (hP : P.Closed) (hb : P.BindName) (n : Nat) : SatAll P n := by
  induction n with
  | zero => exact satAll_zero
  | succ n ih => exact satAll_succ hP hb n ih

/-- the field of `h : SatAll P n` for the evaluator function in the goal -/
macro "sat_field " h:ident : tactic =>
  `(tactic| first
    | exact SatAll.evalExpr $h .. | exact SatAll.evalOptIndex $h .. | exact SatAll.evalListItems $h ..
    | exact SatAll.evalProps $h .. | exact SatAll.evalCall $h .. | exact SatAll.evalToStr $h ..
    | exact SatAll.evalToBool $h .. | exact SatAll.evalToInt $h .. | exact SatAll.evalToIndex $h ..
    | exact SatAll.interpolate $h .. | exact SatAll.evalBlock $h .. | exact SatAll.declareAll $h ..
    | exact SatAll.evalStmts $h .. | exact SatAll.evalStmt $h .. | exact SatAll.evalIf $h ..
    | exact SatAll.evalWhile $h .. | exact SatAll.evalFor $h .. | exact SatAll.bindNext $h ..
    | exact SatAll.bindProp $h .. | exact SatAll.bindRangeIndex $h .. | exact SatAll.bindList $h ..
    | exact SatAll.bindObject $h .. | exact SatAll.bindObjectProp $h ..)

end Seed
