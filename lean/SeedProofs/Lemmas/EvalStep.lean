/-
  EvalStep.lean — one unfolding of the evaluator: what `evalStmts`, `evalStmt` (on the jumps and the compound statements),
  `evalBlock`, `declareAll`, `evalIf`, `evalWhile`, `evalFor` do with one unit of fuel, and reading a variable.
-/
import SeedModel.Eval
namespace Seed

theorem evalStmts_zero (σ : State) (sc : List Addr) (ss : List Stmt) : evalStmts 0 σ sc ss = .timeout := by
  unfold evalStmts; rfl

theorem evalStmts_nil (n : Nat) (σ : State) (sc : List Addr) : evalStmts (n + 1) σ sc [] = .ok .none σ := by
  rw [evalStmts]

theorem evalStmts_cons (n : Nat) (σ : State) (sc : List Addr) (st : Stmt) (r : List Stmt) :
    evalStmts (n + 1) σ sc (st :: r) =
      (evalStmt n σ sc st).bind fun esc σ1 =>
        match esc with
        | .none => evalStmts n σ1 sc r
        | other => .ok other σ1 := by
  rw [evalStmts]; rfl

theorem evalStmts_cons_ok {n : Nat} {σ σ1 : State} {sc : List Addr} {st : Stmt} (r : List Stmt)
    (h : evalStmt n σ sc st = .ok .none σ1) : evalStmts (n + 1) σ sc (st :: r) = evalStmts n σ1 sc r := by
  rw [evalStmts_cons, h]; rfl

theorem evalStmts_cons_esc {n : Nat} {σ σ1 : State} {sc : List Addr} {st : Stmt} {esc : Escape} (r : List Stmt)
    (h : evalStmt n σ sc st = .ok esc σ1) (hesc : esc ≠ .none) : evalStmts (n + 1) σ sc (st :: r) = .ok esc σ1 := by
  rw [evalStmts_cons, h]
  cases esc <;> first | exact absurd rfl hesc | rfl

theorem evalStmt_break (n : Nat) (σ : State) (sc : List Addr) (l : Loc) :
    evalStmt (n + 1) σ sc (.Break l) = .ok (.brk l) σ := by unfold evalStmt; rfl

theorem evalStmt_continue (n : Nat) (σ : State) (sc : List Addr) (l : Loc) :
    evalStmt (n + 1) σ sc (.Continue l) = .ok (.cont l) σ := by unfold evalStmt; rfl

theorem evalStmt_return (n : Nat) {σ σ1 : State} {sc : List Addr} {l : Loc} {e : Expr} {v : SVal}
    (h : evalExpr n σ sc e = .ok v σ1) : evalStmt (n + 1) σ sc (.Return l e) = .ok (.ret v l) σ1 := by
  unfold evalStmt; simp only [h, Res.bind]

/-- a bare block forwards whatever its statements produce, escape included (this is what the pinned tree got wrong) -/
theorem evalStmt_block (n : Nat) (σ : State) (sc : List Addr) (b : List Stmt) :
    evalStmt (n + 1) σ sc (.Block b) = evalBlock n σ sc [] b := by unfold evalStmt; rfl

theorem evalStmt_if (n : Nat) (σ : State) (sc : List Addr) (bs : List Branch) (els : Option (List Stmt)) :
    evalStmt (n + 1) σ sc (.If bs els) = evalIf n σ sc bs els := by unfold evalStmt; rfl

theorem evalStmt_while (n : Nat) (σ : State) (sc : List Addr) (cond : Expr) (stmts : List Stmt) :
    evalStmt (n + 1) σ sc (.While cond stmts) = evalWhile n σ sc cond stmts := by unfold evalStmt; rfl

theorem evalStmt_for (n : Nat) (σ : State) (sc : List Addr) (lhs iter : Expr) (stmts : List Stmt) :
    evalStmt (n + 1) σ sc (.For lhs iter stmts) =
      (evalExpr n σ sc iter).bind fun it σ1 =>
        match toPairs σ1 it.v with
        | none => crashHeap σ1
        | some none => errAt iter.loc Gen.Leaf.ForIterNotIterable σ1
        | some (some pairs) => evalFor n σ1 sc lhs pairs stmts := by
  -- here and below: `unfold` on the left only (on the whole goal it would open the call on the right as well);
  -- `conv` closes the goal itself when a reducible `rfl` does, hence `try`
  conv => lhs; unfold evalStmt
  all_goals (try rfl)

theorem evalBlock_succ (n : Nat) (σ : State) (sc : List Addr) (bs : List (Expr × SVal)) (stmts : List Stmt) :
    evalBlock (n + 1) σ sc bs stmts =
      (declareAll n (σ.alloc (.scope [])).2 (σ.heap.size :: sc) bs).bind fun _ σ2 =>
        evalStmts n σ2 (σ.heap.size :: sc) stmts := by
  rw [evalBlock]; rfl

theorem declareAll_nil (n : Nat) (σ : State) (sc : List Addr) : declareAll (n + 1) σ sc [] = .ok () σ := by
  rw [declareAll]

theorem declareAll_cons (n : Nat) (σ : State) (sc : List Addr) (lhs : Expr) (rhs : SVal) (r : List (Expr × SVal)) :
    declareAll (n + 1) σ sc ((lhs, rhs) :: r) =
      (bindNext n σ sc [] lhs rhs none true).bind fun _ σ1 => declareAll n σ1 sc r := by
  rw [declareAll]

theorem evalBlock_no_binds (n : Nat) (σ : State) (sc : List Addr) (b : List Stmt) :
    evalBlock (n + 2) σ sc [] b = evalStmts (n + 1) (σ.alloc (.scope [])).2 ((σ.alloc (.scope [])).1 :: sc) b := by
  rw [evalBlock_succ, declareAll_nil]; rfl

theorem evalIf_cons (n : Nat) (σ : State) (sc : List Addr) (cond : Expr) (stmts : List Stmt) (r : List Branch)
    (els : Option (List Stmt)) :
    evalIf (n + 1) σ sc (.mk cond stmts :: r) els =
      (evalToBool n σ sc c!"condition" cond).bind fun b σ1 =>
        if b then evalBlock n σ1 sc [] stmts else evalIf n σ1 sc r els := by
  conv => lhs; unfold evalIf
  all_goals (try rfl)

theorem evalIf_else (n : Nat) (σ : State) (sc : List Addr) (stmts : List Stmt) :
    evalIf (n + 1) σ sc [] (some stmts) = evalBlock n σ sc [] stmts := by unfold evalIf; rfl

theorem evalWhile_succ (n : Nat) (σ : State) (sc : List Addr) (cond : Expr) (stmts : List Stmt) :
    evalWhile (n + 1) σ sc cond stmts =
      (evalToBool n σ sc c!"condition" cond).bind fun b σ1 =>
        if !b then .ok .none σ1
        else (evalBlock n σ1 sc [] stmts).bind fun esc σ2 =>
          match esc with
          | .none => evalWhile n σ2 sc cond stmts
          | .brk _ => .ok .none σ2
          | .cont _ => evalWhile n σ2 sc cond stmts
          | .ret v l => .ok (.ret v l) σ2 := by
  conv => lhs; unfold evalWhile
  all_goals (try rfl)

theorem evalFor_nil (n : Nat) (σ : State) (sc : List Addr) (lhs : Expr) (stmts : List Stmt) :
    evalFor (n + 1) σ sc lhs [] stmts = .ok .none σ := by unfold evalFor; rfl

theorem evalFor_cons (n : Nat) (σ : State) (sc : List Addr) (lhs : Expr) (k v : SVal) (r : List (SVal × SVal)) (stmts : List Stmt) :
    evalFor (n + 1) σ sc lhs ((k, v) :: r) stmts =
      (evalBlock n (σ.alloc (.list [k, v])).2 sc [(lhs, SVal.plain (.list (σ.alloc (.list [k, v])).1))] stmts).bind fun esc σ2 =>
        match esc with
        | .none => evalFor n σ2 sc lhs r stmts
        | .brk _ => .ok .none σ2
        | .cont _ => evalFor n σ2 sc lhs r stmts
        | .ret v l => .ok (.ret v l) σ2 := by
  conv => lhs; unfold evalFor
  all_goals (try rfl)

theorem evalExpr_var {σ : State} {sc : List Addr} {x : List Char} {v : SVal} (n : Nat) (l : Loc)
    (h : scopeGet σ sc x = some v) : evalExpr (n + 1) σ sc (.mk (.Var x) l) = .ok v σ := by
  rw [evalExpr, h]

end Seed
