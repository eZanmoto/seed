/-
  Frame.lean — a generic preservation theorem: any reflexive-transitive relation on states that is closed
  under the five ways the evaluator changes a state (allocate a cell, print a line, replace the contents of a
  list / object / scope cell by contents of the same kind) relates the initial state of every evaluator
  function to its final state.  Instances: G2 (the heap only grows, cells keep their kind) and G3 (the
  output only grows, by the lines printed).
-/
import SeedProofs.Lemmas.EvalPost
namespace Seed

structure GoodRel (R : State → State → Prop) : Prop where
  refl : ∀ σ, R σ σ
  trans : ∀ {a b c}, R a b → R b c → R a c
  alloc : ∀ σ c, R σ (σ.alloc c).2
  print : ∀ σ l, R σ (σ.print l)
  setList : ∀ σ a xs ys, σ.getList a = some xs → R σ (σ.set a (.list ys))
  setObj : ∀ σ a m m', σ.getObj a = some m → R σ (σ.set a (.obj m'))
  setScope : ∀ σ a m m', σ.getScope a = some m → R σ (σ.set a (.scope m'))

def Res.Rel {α} (R : State → State → Prop) (σ0 : State) : Res α → Prop
  | .ok _ σ' => R σ0 σ'
  | .err _ σ' => R σ0 σ'
  | .crash _ σ' => R σ0 σ'
  | .timeout => True

namespace Res.Rel
variable {R : State → State → Prop} {σ0 : State}

theorem bind {α β} {r : Res α} {f : α → State → Res β} (h : Res.Rel R σ0 r)
    (hf : ∀ a σ1, R σ0 σ1 → Res.Rel R σ0 (f a σ1)) : Res.Rel R σ0 (r.bind f) := by
  cases r with
  | ok a σ1 => exact hf a σ1 h
  | err e σ1 => exact h
  | crash w σ1 => exact h
  | timeout => trivial

theorem map {α β} {r : Res α} (f : α → β) (h : Res.Rel R σ0 r) : Res.Rel R σ0 (r.map f) := by
  cases r <;> exact h

theorem mapErr {α} {r : Res α} (f : Err → Err) (h : Res.Rel R σ0 r) : Res.Rel R σ0 (r.mapErr f) := by
  cases r <;> exact h

theorem ok {α} {a : α} {σ : State} (h : R σ0 σ) : Res.Rel R σ0 (.ok a σ) := h
theorem err {α} {e : Err} {σ : State} (h : R σ0 σ) : Res.Rel R σ0 (.err e σ : Res α) := h
theorem crash {α} {w : List Char} {σ : State} (h : R σ0 σ) : Res.Rel R σ0 (.crash w σ : Res α) := h
theorem errAt {α} {loc : Loc} {l : Gen.Leaf} {σ : State} (h : R σ0 σ) : Res.Rel R σ0 (Seed.errAt loc l σ : Res α) := h
theorem crashHeap {α} {σ : State} (h : R σ0 σ) : Res.Rel R σ0 (Seed.crashHeap σ : Res α) := h
end Res.Rel

section
variable {R : State → State → Prop} (hR : GoodRel R) {σ0 : State}
include hR

theorem GoodRel.step_alloc_eq {σ σ' : State} {c : Cell} {a : Addr} (he : σ.alloc c = (a, σ')) (h : R σ0 σ) : R σ0 σ' := by
  have := hR.trans h (hR.alloc σ c)
  rw [he] at this; exact this

theorem scopeAssign_rel {σ σ' : State} {sc : List Addr} {k : List Char} {v : SVal} (he : scopeAssign σ sc k v = some σ') :
    R σ σ' := by
  induction sc with
  | nil => simp [scopeAssign] at he
  | cons a r ih =>
    unfold scopeAssign at he
    split at he
    · simp at he
    · split at he
      · injection he with he; subst he
        exact hR.setScope _ _ _ _ (by assumption)
      · exact ih he

theorem scopeDeclare_rel {σ σ' : State} {sc : List Addr} {k : List Char} {loc : Loc} {v : SVal}
    (he : scopeDeclare σ sc k loc v = .ok σ') : R σ σ' := by
  unfold scopeDeclare at he
  split at he
  · simp at he
  · split at he
    · simp at he
    · split at he
      · simp at he
      · injection he with he; subst he
        exact hR.setScope _ _ _ _ (by assumption)
end

def Post.ofRel (R : State → State → Prop) : Post := ⟨R, fun σ _ σ' => R σ σ', R⟩

theorem Res.Sat.rel {α} {R : State → State → Prop} {σ : State} {r : Res α} (h : Res.Sat (Post.ofRel R) σ r) : Res.Rel R σ r := by
  cases h <;> first | assumption | trivial

theorem GoodRel.closed {R : State → State → Prop} (hR : GoodRel R) : (Post.ofRel R).Closed where
  refl := hR.refl
  trans := hR.trans
  thenErr := hR.trans
  thenCrash := hR.trans
  allocList := fun σ _ => hR.alloc σ _
  allocObj := fun σ _ => hR.alloc σ _
  allocFunc := fun σ _ => hR.alloc σ _
  allocScope := fun σ => hR.alloc σ _
  print := hR.print
  setList := hR.setList
  setObj := hR.setObj
  crashed := hR.refl
  leaf := fun σ _ _ _ => hR.refl σ
  atLoc := fun _ _ h => h
  funcCall := fun _ _ h => h
  builtinCall := fun _ _ _ h => h
  badArgs := fun σ _ _ _ _ => hR.refl σ

structure RelAll (R : State → State → Prop) (n : Nat) : Prop where
  evalExpr : ∀ σ0 σ sc e, R σ0 σ → Res.Rel R σ0 (evalExpr n σ sc e)
  evalOptIndex : ∀ σ0 σ sc e, R σ0 σ → Res.Rel R σ0 (evalOptIndex n σ sc e)
  evalListItems : ∀ σ0 σ sc items acc, R σ0 σ → Res.Rel R σ0 (evalListItems n σ sc items acc)
  evalProps : ∀ σ0 σ sc l props acc, R σ0 σ → Res.Rel R σ0 (evalProps n σ sc l props acc)
  evalCall : ∀ σ0 σ sc f args loc, R σ0 σ → Res.Rel R σ0 (evalCall n σ sc f args loc)
  evalToStr : ∀ σ0 σ sc d e, R σ0 σ → Res.Rel R σ0 (evalToStr n σ sc d e)
  evalToBool : ∀ σ0 σ sc d e, R σ0 σ → Res.Rel R σ0 (evalToBool n σ sc d e)
  evalToInt : ∀ σ0 σ sc d e, R σ0 σ → Res.Rel R σ0 (evalToInt n σ sc d e)
  evalToIndex : ∀ σ0 σ sc e, R σ0 σ → Res.Rel R σ0 (evalToIndex n σ sc e)
  interpolate : ∀ σ0 σ sc s slots loc last acc, R σ0 σ → Res.Rel R σ0 (interpolate n σ sc s slots loc last acc)
  evalBlock : ∀ σ0 σ sc bs stmts, R σ0 σ → Res.Rel R σ0 (evalBlock n σ sc bs stmts)
  declareAll : ∀ σ0 σ sc bs, R σ0 σ → Res.Rel R σ0 (declareAll n σ sc bs)
  evalStmts : ∀ σ0 σ sc stmts, R σ0 σ → Res.Rel R σ0 (evalStmts n σ sc stmts)
  evalStmt : ∀ σ0 σ sc st, R σ0 σ → Res.Rel R σ0 (evalStmt n σ sc st)
  evalIf : ∀ σ0 σ sc bs els, R σ0 σ → Res.Rel R σ0 (evalIf n σ sc bs els)
  evalWhile : ∀ σ0 σ sc c stmts, R σ0 σ → Res.Rel R σ0 (evalWhile n σ sc c stmts)
  evalFor : ∀ σ0 σ sc lhs pairs stmts, R σ0 σ → Res.Rel R σ0 (evalFor n σ sc lhs pairs stmts)
  bindNext : ∀ σ0 σ sc names lhs rhs op decl, R σ0 σ → Res.Rel R σ0 (bindNext n σ sc names lhs rhs op decl)
  bindProp : ∀ σ0 σ a name loc rhs op names vi, R σ0 σ → Res.Rel R σ0 (bindProp n σ a name loc rhs op names vi)
  bindRangeIndex : ∀ σ0 σ sc a start stop loc rhsItems names, R σ0 σ →
    Res.Rel R σ0 (bindRangeIndex n σ sc a start stop loc rhsItems names)
  bindList : ∀ σ0 σ sc names items collect lhsLoc b decl i lhsLen, R σ0 σ →
    Res.Rel R σ0 (bindList n σ sc names items collect lhsLoc b decl i lhsLen)
  bindObject : ∀ σ0 σ sc names props b decl i total remaining, R σ0 σ →
    Res.Rel R σ0 (bindObject n σ sc names props b decl i total remaining)
  bindObjectProp : ∀ σ0 σ sc names lhs b pname ploc decl, R σ0 σ →
    Res.Rel R σ0 (bindObjectProp n σ sc names lhs b pname ploc decl)

/-- G2 / G3 in general form: an instance of the walk of EvalPost.lean -/
theorem relAll {R : State → State → Prop} (hR : GoodRel R) (n : Nat) : RelAll R n := by
  have h := satAll hR.closed (bindNextName_sat hR.closed (scopeDeclare_rel hR) (scopeAssign_rel hR)) n
  constructor <;> intros <;> refine (Res.Sat.after hR.closed ‹_› ?_).rel <;> sat_field h

end Seed
