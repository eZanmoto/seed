/-
  Frame2.lean — a variant of the generic preservation theorem of Frame.lean for invariants that only some cells may
  break: the relation has to be closed under allocation of the *kinds of cell the evaluator allocates* (list, object,
  function, empty scope), under replacing list / object contents, under printing, and under `bindNextName` (the only
  place where scope cells are written) — given as a hypothesis.  Only successful results are constrained (`RelOk`): an
  invariant is needed to reason about what is evaluated next, and nothing is evaluated after an error.
-/
import SeedProofs.Lemmas.EvalPost
namespace Seed

def Res.RelOk {α} (R : State → State → Prop) (σ0 : State) : Res α → Prop
  | .ok _ σ' => R σ0 σ'
  | _ => True

namespace Res.RelOk
variable {R : State → State → Prop} {σ0 : State}
theorem bind {α β} {r : Res α} {f : α → State → Res β} (h : Res.RelOk R σ0 r)
    (hf : ∀ a σ1, R σ0 σ1 → Res.RelOk R σ0 (f a σ1)) : Res.RelOk R σ0 (r.bind f) := by
  cases r with
  | ok a σ1 => exact hf a σ1 h
  | err e σ1 => trivial
  | crash w σ1 => trivial
  | timeout => trivial
theorem map {α β} {r : Res α} (f : α → β) (h : Res.RelOk R σ0 r) : Res.RelOk R σ0 (r.map f) := by
  cases r <;> first | exact h | trivial
theorem mapErr {α} {r : Res α} (f : Err → Err) (h : Res.RelOk R σ0 r) : Res.RelOk R σ0 (r.mapErr f) := by
  cases r <;> first | exact h | trivial
theorem ok {α} {a : α} {σ : State} (h : R σ0 σ) : Res.RelOk R σ0 (.ok a σ) := h
theorem errAt {α} {loc : Loc} {l : Gen.Leaf} {σ : State} : Res.RelOk R σ0 (Seed.errAt loc l σ : Res α) := trivial
theorem crashHeap {α} {σ : State} : Res.RelOk R σ0 (Seed.crashHeap σ : Res α) := trivial
end Res.RelOk

structure GoodRelC (R : State → State → Prop) : Prop where
  refl : ∀ σ, R σ σ
  trans : ∀ {a b c}, R a b → R b c → R a c
  allocList : ∀ σ xs, R σ (σ.alloc (.list xs)).2
  allocObj : ∀ σ m, R σ (σ.alloc (.obj m)).2
  allocFunc : ∀ σ f, R σ (σ.alloc (.func f)).2
  allocScope : ∀ σ, R σ (σ.alloc (.scope [])).2
  print : ∀ σ l, R σ (σ.print l)
  setList : ∀ σ a ys, R σ (σ.set a (.list ys))
  setObj : ∀ σ a m', R σ (σ.set a (.obj m'))
  bindName : ∀ n σ σ' sc names names' name loc rhs op decl,
    bindNextName n σ sc names name loc rhs op decl = .ok names' σ' → R σ σ'

section
variable {R : State → State → Prop} (hR : GoodRelC R) {σ0 : State}
include hR

theorem GoodRelC.s_allocList_eq {σ σ' : State} {xs : List SVal} {a : Addr} (he : σ.alloc (.list xs) = (a, σ')) (h : R σ0 σ) : R σ0 σ' := by
  have := hR.trans h (hR.allocList σ xs); rw [he] at this; exact this
theorem GoodRelC.s_allocObj_eq {σ σ' : State} {m : ObjMap} {a : Addr} (he : σ.alloc (.obj m) = (a, σ')) (h : R σ0 σ) : R σ0 σ' := by
  have := hR.trans h (hR.allocObj σ m); rw [he] at this; exact this
theorem GoodRelC.s_allocFunc_eq {σ σ' : State} {f : FuncRec} {a : Addr} (he : σ.alloc (.func f) = (a, σ')) (h : R σ0 σ) : R σ0 σ' := by
  have := hR.trans h (hR.allocFunc σ f); rw [he] at this; exact this
theorem GoodRelC.s_allocScope_eq {σ σ' : State} {a : Addr} (he : σ.alloc (.scope []) = (a, σ')) (h : R σ0 σ) : R σ0 σ' := by
  have := hR.trans h (hR.allocScope σ); rw [he] at this; exact this
end

def Post.okOnly (R : State → State → Prop) : Post := ⟨R, fun _ _ _ => True, fun _ _ => True⟩

theorem Res.Sat.relOk {α} {R : State → State → Prop} {σ : State} {r : Res α} (h : Res.Sat (Post.okOnly R) σ r) :
    Res.RelOk R σ r := by
  cases h <;> first | assumption | trivial

theorem GoodRelC.closed {R : State → State → Prop} (hR : GoodRelC R) : (Post.okOnly R).Closed where
  refl := hR.refl
  trans := hR.trans
  thenErr := fun _ _ => trivial
  thenCrash := fun _ _ => trivial
  allocList := hR.allocList
  allocObj := hR.allocObj
  allocFunc := hR.allocFunc
  allocScope := hR.allocScope
  print := hR.print
  setList := fun σ a _ ys _ => hR.setList σ a ys
  setObj := fun σ a _ m' _ => hR.setObj σ a m'
  crashed := fun _ => trivial
  leaf := fun _ _ _ _ => trivial
  atLoc := fun _ _ _ => trivial
  funcCall := fun _ _ _ => trivial
  builtinCall := fun _ _ _ _ => trivial
  badArgs := fun _ _ _ _ _ => trivial

theorem GoodRelC.bindName_sat {R : State → State → Prop} (hR : GoodRelC R) : (Post.okOnly R).BindName := by
  intro n σ sc names name loc rhs op decl
  cases hb : bindNextName n σ sc names name loc rhs op decl with
  | ok names' σ' => exact .ok (hR.bindName n σ σ' sc names names' name loc rhs op decl hb)
  | err e σ' => exact .err trivial
  | crash w σ' => exact .crash trivial
  | timeout => exact .timeout

structure RelOkAll (R : State → State → Prop) (n : Nat) : Prop where
  evalExpr : ∀ σ0 σ sc e, R σ0 σ → Res.RelOk R σ0 (evalExpr n σ sc e)
  evalOptIndex : ∀ σ0 σ sc e, R σ0 σ → Res.RelOk R σ0 (evalOptIndex n σ sc e)
  evalListItems : ∀ σ0 σ sc items acc, R σ0 σ → Res.RelOk R σ0 (evalListItems n σ sc items acc)
  evalProps : ∀ σ0 σ sc l props acc, R σ0 σ → Res.RelOk R σ0 (evalProps n σ sc l props acc)
  evalCall : ∀ σ0 σ sc f args loc, R σ0 σ → Res.RelOk R σ0 (evalCall n σ sc f args loc)
  evalToStr : ∀ σ0 σ sc d e, R σ0 σ → Res.RelOk R σ0 (evalToStr n σ sc d e)
  evalToBool : ∀ σ0 σ sc d e, R σ0 σ → Res.RelOk R σ0 (evalToBool n σ sc d e)
  evalToInt : ∀ σ0 σ sc d e, R σ0 σ → Res.RelOk R σ0 (evalToInt n σ sc d e)
  evalToIndex : ∀ σ0 σ sc e, R σ0 σ → Res.RelOk R σ0 (evalToIndex n σ sc e)
  interpolate : ∀ σ0 σ sc s slots loc last acc, R σ0 σ → Res.RelOk R σ0 (interpolate n σ sc s slots loc last acc)
  evalBlock : ∀ σ0 σ sc bs stmts, R σ0 σ → Res.RelOk R σ0 (evalBlock n σ sc bs stmts)
  declareAll : ∀ σ0 σ sc bs, R σ0 σ → Res.RelOk R σ0 (declareAll n σ sc bs)
  evalStmts : ∀ σ0 σ sc stmts, R σ0 σ → Res.RelOk R σ0 (evalStmts n σ sc stmts)
  evalStmt : ∀ σ0 σ sc st, R σ0 σ → Res.RelOk R σ0 (evalStmt n σ sc st)
  evalIf : ∀ σ0 σ sc bs els, R σ0 σ → Res.RelOk R σ0 (evalIf n σ sc bs els)
  evalWhile : ∀ σ0 σ sc c stmts, R σ0 σ → Res.RelOk R σ0 (evalWhile n σ sc c stmts)
  evalFor : ∀ σ0 σ sc lhs pairs stmts, R σ0 σ → Res.RelOk R σ0 (evalFor n σ sc lhs pairs stmts)
  bindNext : ∀ σ0 σ sc names lhs rhs op decl, R σ0 σ → Res.RelOk R σ0 (bindNext n σ sc names lhs rhs op decl)
  bindProp : ∀ σ0 σ a name loc rhs op names vi, R σ0 σ → Res.RelOk R σ0 (bindProp n σ a name loc rhs op names vi)
  bindRangeIndex : ∀ σ0 σ sc a start stop loc rhsItems names, R σ0 σ →
    Res.RelOk R σ0 (bindRangeIndex n σ sc a start stop loc rhsItems names)
  bindList : ∀ σ0 σ sc names items collect lhsLoc b decl i lhsLen, R σ0 σ →
    Res.RelOk R σ0 (bindList n σ sc names items collect lhsLoc b decl i lhsLen)
  bindObject : ∀ σ0 σ sc names props b decl i total remaining, R σ0 σ →
    Res.RelOk R σ0 (bindObject n σ sc names props b decl i total remaining)
  bindObjectProp : ∀ σ0 σ sc names lhs b pname ploc decl, R σ0 σ →
    Res.RelOk R σ0 (bindObjectProp n σ sc names lhs b pname ploc decl)

theorem relOkAll {R : State → State → Prop} (hR : GoodRelC R) (n : Nat) : RelOkAll R n := by
  have h := satAll hR.closed hR.bindName_sat n
  constructor <;> intros <;> refine (Res.Sat.after hR.closed ‹_› ?_).relOk <;> sat_field h

end Seed
