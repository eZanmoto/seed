/-
  Fuel.lean — "more fuel changes nothing but time-outs": the order `Le` on results and its congruence rules,
  and fuel monotonicity of the heap-recursive primitives (`eqVal`, `render`, `validateArgs`, `applyBinOp`,
  `callBuiltin`).
-/
import SeedModel.Eval
namespace Seed

def Res.Le {α} (r r' : Res α) : Prop := r = .timeout ∨ r = r'

namespace Res.Le
theorem refl {α} (r : Res α) : Res.Le r r := Or.inr rfl
theorem of_eq {α} {r r' : Res α} (h : r = r') : Res.Le r r' := Or.inr h
theorem timeout {α} (r : Res α) : Res.Le .timeout r := Or.inl rfl

theorem bind {α β} {r r' : Res α} {f g : α → State → Res β} (h : Res.Le r r') (hf : ∀ a σ, Res.Le (f a σ) (g a σ)) :
    Res.Le (r.bind f) (r'.bind g) := by
  rcases h with h | h
  · subst h; exact Or.inl rfl
  · subst h
    cases r with
    | ok a σ => exact hf a σ
    | err e σ => exact Or.inr rfl
    | crash w σ => exact Or.inr rfl
    | timeout => exact Or.inl rfl

theorem ite {α} {c : Prop} [Decidable c] {x x' y y' : Res α} (hx : c → Res.Le x x') (hy : ¬c → Res.Le y y') :
    Res.Le (if c then x else y) (if c then x' else y') := by
  split
  · exact hx ‹_›
  · exact hy ‹_›

theorem map {α β} {r r' : Res α} (f : α → β) (h : Res.Le r r') : Res.Le (r.map f) (r'.map f) := by
  rcases h with h | h
  · subst h; exact Or.inl rfl
  · subst h; exact Or.inr rfl

theorem mapErr {α} {r r' : Res α} (f : Err → Err) (h : Res.Le r r') : Res.Le (r.mapErr f) (r'.mapErr f) := by
  rcases h with h | h
  · subst h; exact Or.inl rfl
  · subst h; exact Or.inr rfl

theorem trans {α} {a b c : Res α} (h1 : Res.Le a b) (h2 : Res.Le b c) : Res.Le a c := by
  rcases h1 with h | h
  · exact Or.inl h
  · subst h; exact h2
end Res.Le

def EqRes.Le (r r' : EqRes) : Prop := r = .timeout ∨ r = r'

theorem EqRes.Le.refl (r : EqRes) : EqRes.Le r r := Or.inr rfl

theorem EqRes.Le.prefixPath (p : List Char) {r r' : EqRes} (h : EqRes.Le r r') :
    EqRes.Le (r.prefixPath p) (r'.prefixPath p) := by
  rcases h with h | h
  · subst h; exact Or.inl rfl
  · subst h; exact Or.inr rfl

/-- unfold the function on both sides of a `Le` goal exactly once -/
macro "unfold_le " f:ident : tactic =>
  `(tactic| ((conv => arg 1; unfold $f); (conv => arg 2; unfold $f)))

theorem eq_mono (n : Nat) :
    (∀ σ a b, EqRes.Le (eqVal n σ a b) (eqVal (n + 1) σ a b)) ∧
    (∀ σ i xs ys, EqRes.Le (eqItems n σ i xs ys) (eqItems (n + 1) σ i xs ys)) ∧
    (∀ σ xs ys, EqRes.Le (eqProps n σ xs ys) (eqProps (n + 1) σ xs ys)) := by
  induction n with
  | zero =>
    refine ⟨?_, ?_, ?_⟩ <;> intros <;> left
    · unfold eqVal; rfl
    · unfold eqItems; rfl
    · unfold eqProps; rfl
  | succ n ih =>
    obtain ⟨ihV, ihI, ihP⟩ := ih
    refine ⟨?_, ?_, ?_⟩
    · intro σ a b
      unfold_le eqVal
      repeat' first
        | exact EqRes.Le.refl _
        | exact ihI _ _ _ _
        | exact ihP _ _ _
        | split
    · intro σ i xs ys
      unfold_le eqItems
      split
      · rename_i x xs' y ys'
        rcases ihV σ x.v y.v with h | h
        · rw [h]; exact Or.inl rfl
        · rw [h]
          repeat' first
            | exact EqRes.Le.refl _
            | exact ihI _ _ _ _
            | split
      · exact EqRes.Le.refl _
    · intro σ xs ys
      unfold_le eqProps
      split
      · exact EqRes.Le.refl _
      · split
        · exact EqRes.Le.refl _
        · rename_i k x xs' _ y hy
          rcases ihV σ x.v y.v with h | h
          · rw [h]; exact Or.inl rfl
          · rw [h]
            repeat' first
              | exact EqRes.Le.refl _
              | exact ihP _ _ _
              | split

def RenderRes.Le (r r' : RenderRes) : Prop := r = .timeout ∨ r = r'

theorem RenderRes.Le.refl (r : RenderRes) : RenderRes.Le r r := Or.inr rfl

theorem render_mono (n : Nat) :
    (∀ σ held v, RenderRes.Le (render n σ held v) (render (n + 1) σ held v)) ∧
    (∀ σ held items, RenderRes.Le (renderItems n σ held items) (renderItems (n + 1) σ held items)) ∧
    (∀ σ held props, RenderRes.Le (renderProps n σ held props) (renderProps (n + 1) σ held props)) := by
  induction n with
  | zero =>
    refine ⟨?_, ?_, ?_⟩ <;> intros <;> left
    · unfold render; rfl
    · unfold renderItems; rfl
    · unfold renderProps; rfl
  | succ n ih =>
    obtain ⟨ihV, ihI, ihP⟩ := ih
    refine ⟨?_, ?_, ?_⟩
    · intro σ held v
      unfold_le render
      split <;> try exact RenderRes.Le.refl _
      · split
        · exact RenderRes.Le.refl _
        · split
          · exact RenderRes.Le.refl _
          · rename_i a _ _ items _
            rcases ihI σ (a :: held) items with h | h
            · rw [h]; exact Or.inl rfl
            · rw [h]; exact RenderRes.Le.refl _
      · split
        · exact RenderRes.Le.refl _
        · split
          · exact RenderRes.Le.refl _
          · rename_i a _ _ props _
            rcases ihP σ (a :: held) props with h | h
            · rw [h]; exact Or.inl rfl
            · rw [h]; exact RenderRes.Le.refl _
    · intro σ held items
      unfold_le renderItems
      split
      · exact RenderRes.Le.refl _
      · rename_i x r
        rcases ihV σ held x.v with h | h
        · rw [h]; exact Or.inl rfl
        · rw [h]
          split
          · rcases ihI σ held r with h2 | h2
            · rw [h2]; exact Or.inl rfl
            · rw [h2]; exact RenderRes.Le.refl _
          · exact RenderRes.Le.refl _
    · intro σ held props
      unfold_le renderProps
      split
      · exact RenderRes.Le.refl _
      · rename_i k x r
        rcases ihV σ held x.v with h | h
        · rw [h]; exact Or.inl rfl
        · rw [h]
          split
          · rcases ihP σ held r with h2 | h2
            · rw [h2]; exact Or.inl rfl
            · rw [h2]; exact RenderRes.Le.refl _
          · exact RenderRes.Le.refl _

theorem eqVal_mono {m n : Nat} (h : m ≤ n) (σ : State) (a b : Val) : EqRes.Le (eqVal m σ a b) (eqVal n σ a b) := by
  induction h with
  | refl => exact EqRes.Le.refl _
  | step _ ih =>
    rcases ih with h | h
    · exact Or.inl h
    · rw [h]; exact (eq_mono _).1 σ a b

theorem render_mono' {m n : Nat} (h : m ≤ n) (σ : State) (held : List Addr) (v : Val) :
    RenderRes.Le (render m σ held v) (render n σ held v) := by
  induction h with
  | refl => exact RenderRes.Le.refl _
  | step _ ih =>
    rcases ih with h | h
    · exact Or.inl h
    · rw [h]; exact (render_mono _).1 σ held v

def OptLe {α} (a b : Option α) : Prop := a = none ∨ a = b

theorem validateArgs_mono (n : Nat) (q : List Expr) (names : List (List Char × Loc)) :
    OptLe (validateArgs n q names) (validateArgs (n + 1) q names) := by
  induction n generalizing q names with
  | zero => left; unfold validateArgs; rfl
  | succ n ih =>
    unfold_le validateArgs
    repeat' first
      | exact Or.inr rfl
      | exact ih _ _
      | split

theorem validateArgs_mono' {m n : Nat} (h : m ≤ n) (q : List Expr) (names : List (List Char × Loc)) :
    OptLe (validateArgs m q names) (validateArgs n q names) := by
  induction h with
  | refl => exact Or.inr rfl
  | step _ ih =>
    rcases ih with h | h
    · exact Or.inl h
    · rw [h]; exact validateArgs_mono _ q names

theorem applyBinOp_mono (n : Nat) (σ : State) (op : BinaryOp) (loc : Loc) (a b : Val) :
    Res.Le (applyBinOp n σ op loc a b) (applyBinOp (n + 1) σ op loc a b) := by
  unfold applyBinOp
  cases op <;> try exact Res.Le.refl _
  all_goals
    simp only []
    rcases (eq_mono n).1 σ a b with h | h
    · rw [h]; exact Or.inl rfl
    · rw [h]; exact Res.Le.refl _

theorem callBuiltin_mono (n : Nat) (σ : State) (f : BuiltinId) (this : Option SVal) (args : List SVal) :
    Res.Le (callBuiltin n σ f this args) (callBuiltin (n + 1) σ f this args) := by
  unfold callBuiltin
  cases f <;> try exact Res.Le.refl _
  simp only []
  split
  · exact Res.Le.refl _
  · split
    · exact Res.Le.refl _
    · split
      · exact Res.Le.refl _
      · rename_i a _ _
        rcases (render_mono n).1 σ [] a.v with h | h
        · rw [h]; exact Or.inl rfl
        · rw [h]; exact Res.Le.refl _

theorem opAssignValue_mono (n : Nat) (σ : State) (cur rhs : SVal) (op : Option (BinaryOp × Loc)) :
    Res.Le (opAssignValue n σ cur rhs op) (opAssignValue (n + 1) σ cur rhs op) := by
  unfold opAssignValue
  split
  · exact Res.Le.refl _
  · exact Res.Le.map _ (applyBinOp_mono _ _ _ _ _ _)

theorem bindNextName_mono (n : Nat) (σ : State) (sc : List Addr) (names : List (List Char)) (name : List Char) (loc : Loc)
    (rhs : SVal) (op : Option (BinaryOp × Loc)) (decl : Bool) :
    Res.Le (bindNextName n σ sc names name loc rhs op decl) (bindNextName (n + 1) σ sc names name loc rhs op decl) := by
  unfold bindNextName
  repeat' first
    | exact Res.Le.refl _
    | (apply Res.Le.bind (applyBinOp_mono _ _ _ _ _ _); intro _ _; exact Res.Le.refl _)
    | split

end Seed
