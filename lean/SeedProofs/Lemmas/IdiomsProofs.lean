/-
  IdiomsProofs.lean — end-to-end theorems, through `evalStmt`, for everyday idioms whose meaning depends on the ORDER in
  which the evaluator does things (each was broken by a "fast path" in a round of seeded interpreter changes).

    swap_by_destructuring (C13)      `[a, b] = [b, a]`: the right-hand side is evaluated completely (one fresh cell
                                     `[vb, va]`) before anything is bound; afterwards `a` reads `vb`, `b` reads `va`
                                     (values with their sources), every other name of every scope reads as before
    rotate_by_destructuring (C13)    `[a, b, c] = [c, a, b]` likewise
    range_assign_from_own_slice (C11) `xs[i:j] = xs[k:l]`: the slice is a snapshot (a fresh cell) taken before the splice
                                     (file IdiomsProofs2.lean)
    opassign_key_evaluated_once (C12) `o[ke] op= rhs`: `ke` is evaluated once (file IdiomsProofs2.lean)
-/
import SeedProofs.Lemmas.C13Assign3
import SeedProofs.Lemmas.C11Prog3
import SeedModel.Run
namespace Seed.Idioms
open Seed Gen Seed.C13N

def varItem (x : List Char × Loc) : ListItem := .mk (.mk (.Var x.1) x.2) false

theorem evalListItems_vars {σ : State} {sc : List Addr} : ∀ (xs : List ((List Char × Loc) × SVal)) (acc : List SVal) (n : Nat),
    (∀ p ∈ xs, scopeGet σ sc p.1.1 = some p.2) →
    evalListItems (n + xs.length + 1) σ sc (xs.map fun p => varItem p.1) acc = .ok (acc ++ xs.map Prod.snd) σ
  | [], acc, n, _ => by
    show evalListItems (n + 1) σ sc [] acc = .ok (acc ++ []) σ
    rw [evalListItems, List.append_nil]
  | (x, v) :: r, acc, n, h => by
    show evalListItems ((n + r.length + 1) + 1) σ sc (.mk (.mk (.Var x.1) x.2) false :: r.map fun p => varItem p.1) acc = _
    rw [evalListItems, evalExpr_var (n + r.length) x.2 (h (x, v) List.mem_cons_self)]
    simp only [Res.bind, Bool.not_false, if_true]
    rw [evalListItems_vars r (acc ++ [v]) n (fun p hp => h p (List.mem_cons_of_mem _ hp)), List.append_assoc]
    rfl

/-- `[x₁, …, xₖ]` with every `xᵢ` a declared variable (`xs` pairs each variable and its position with the value it
    holds): ONE fresh cell holding their values — the stored values themselves, sources included — in order; nothing
    else changes -/
theorem evalExpr_varList {σ : State} {sc : List Addr} (xs : List ((List Char × Loc) × SVal)) (lr : Loc) (n : Nat)
    (h : ∀ p ∈ xs, scopeGet σ sc p.1.1 = some p.2) :
    evalExpr (n + xs.length + 2) σ sc (.mk (.List (xs.map fun p => varItem p.1) false) lr) =
      .ok (SVal.plain (.list σ.heap.size)) (σ.alloc (.list (xs.map Prod.snd))).2 := by
  show evalExpr ((n + xs.length + 1) + 1) σ sc _ = _
  rw [evalExpr]
  simp only [Bool.false_eq_true, if_false]
  rw [evalListItems_vars xs [] n h]
  rfl

def swapPat (a b : List Char) (la lb lp : Loc) : Pat := .list (.cons (.var a la) (.cons (.var b lb) .nil)) false lp

/-- the statement `[a, b] = [b, a];` (positions: `la lb` of the names on the left, `lp` of the left bracket, `rb ra` of the
    names on the right, `lr` of the right bracket) -/
def swapStmt (a b : List Char) (la lb lp rb ra lr : Loc) : Stmt :=
  .Assign (.mk (.List [.mk (.mk (.Var a) la) false, .mk (.mk (.Var b) lb) false] false) lp)
          (.mk (.List [.mk (.mk (.Var b) rb) false, .mk (.mk (.Var a) ra) false] false) lr)

/-- this is what the parser builds -/
example : parseProg c!"[a, b] = [b, a];" = .ok [swapStmt c!"a" c!"b" (1, 2) (1, 5) (1, 1) (1, 11) (1, 14) (1, 10)] := by
  with_unfolding_all rfl

/-- `p = rhs;` where `rhs` builds a fresh list `vs` and `p` is a pattern of distinct declared names; `bs` are its leaves
    with the values `proj` reads for them out of `vs`.  The conclusion is that of `swap_by_destructuring`, for `bs`. -/
theorem assign_fresh_list {n : Nat} {σ : State} {sc : List Addr} {p : Pat} {rhs : Expr} {vs : List SVal} {bs : List Bnd}
    (he : evalExpr n σ sc rhs = .ok (SVal.plain (.list σ.heap.size)) (σ.alloc (.list vs)).2) (hf : p.size ≤ n)
    (hp : proj p (σ.alloc (.list vs)).2 (SVal.plain (.list σ.heap.size)) = some (bs, (σ.alloc (.list vs)).2))
    (hnd : (bs.map Prod.fst).Nodup) (hd : ∀ x ∈ bs.map Prod.fst, Declared σ sc x) :
    ∃ σ' : State,
      (∀ m, n + 1 ≤ m → evalStmt m σ sc (.Assign p.toExpr rhs) = .ok .none σ') ∧
      (∀ x w l, (x, w, l) ∈ bs → scopeGet σ' sc x = some w) ∧
      (∀ y, (∀ e ∈ bs, e.1 ≠ y) → scopeGet σ' sc y = scopeGet σ sc y) ∧
      (∀ c m y, σ.getScope c = some m → (∀ w l, (y, w, l) ∈ bs → (nearest σ sc y).map Prod.fst ≠ some c) →
        ∃ m', σ'.getScope c = some m' ∧ scopeLookup y m' = scopeLookup y m ∧
          m'.map (fun e => (e.1, e.2.2)) = m.map (fun e => (e.1, e.2.2))) ∧
      σ'.heap.size = σ.heap.size + 1 ∧ σ'.getList σ.heap.size = some vs ∧ σ'.out = σ.out ∧
      (∀ c, c < σ.heap.size → σ.getScope c = none → σ'.heap[c]? = σ.heap[c]?) := by
  have hn1 : NExt σ (σ.alloc (.list vs)).2 := NExt.allocList σ vs
  have hd1 : ∀ x ∈ bs.map Prod.fst, Declared (σ.alloc (.list vs)).2 sc x := fun x hx =>
    (hd x hx).imp fun _ h => scopeGet_alloc _ h
  obtain ⟨σ', h3⟩ := assignAll_of_declared sc _ _ hd1
  have hst := assign_stmt_nested he hf hp hnd hd1 h3
  obtain ⟨hl1, hl2⟩ := assign_nested_leaves hp h3 hnd
  obtain ⟨f1, _, f3, f4, _, _⟩ := assign_nested_frame hp h3
  refine ⟨σ', fun m hm => evalStmt_fuel_mono hst (fun e => by cases e) hm, hl1, fun y hy => ?_, fun c m y hs hy => ?_, ?_, ?_,
    f3, fun c hc hs => ?_⟩
  · rw [hl2 y hy, scopeGet_eq, scopeGet_eq, hn1.nearest]
  · refine assign_nested_others hp h3 ((hn1.2 c).trans hs) fun w l hm => ?_
    rw [hn1.nearest]; exact hy w l hm
  · rw [f1, State.alloc_size]
  · -- the new cell is not a scope cell of `σ`: it is beyond `σ`'s heap
    have hns : σ.getScope σ.heap.size = none := by
      cases hsc : σ.getScope σ.heap.size with
      | none => rfl
      | some m => exact absurd (getScope_lt hsc) (Nat.lt_irrefl _)
    rw [getList_eq_some, f4 _ ((hn1.2 _).trans hns)]; exact State.alloc_heap_new σ _
  · rw [f4 c ((hn1.2 c).trans hs), State.alloc_heap_old _ _ hc]

/-- `a`, `b` distinct names (neither is `_`) declared somewhere in the scope chain `sc`, holding
    `va` and `vb`.  With fuel 7 or more, `[a, b] = [b, a];` completes in a state `σ'` where
    * `a` reads `vb` and `b` reads `va` — the stored values, sources included;
    * every other name reads through the chain as before, and in EVERY scope cell (of the chain or not) every entry
      other than the nearest binding of `a` and the nearest binding of `b` reads as before (shadowed outer `a`s too);
      each scope cell keeps its names, their order and their declaration positions;
    * exactly one cell was allocated, the temporary list `[vb, va]` at the old heap size: the right-hand side was
      evaluated COMPLETELY — both reads — before anything was bound; nothing was printed; no other non-scope cell changed. -/
theorem swap_by_destructuring {σ : State} {sc : List Addr} {a b : List Char} {va vb : SVal}
    (la lb lp rb ra lr : Loc) (hab : a ≠ b) (ha_ : a ≠ c!"_") (hb_ : b ≠ c!"_")
    (ha : scopeGet σ sc a = some va) (hb : scopeGet σ sc b = some vb) :
    ∃ σ' : State,
      (∀ n, 7 ≤ n → evalStmt n σ sc (swapStmt a b la lb lp rb ra lr) = .ok .none σ') ∧
      scopeGet σ' sc a = some vb ∧ scopeGet σ' sc b = some va ∧
      (∀ y, y ≠ a → y ≠ b → scopeGet σ' sc y = scopeGet σ sc y) ∧
      (∀ c m y, σ.getScope c = some m →
        (y = a → (nearest σ sc a).map Prod.fst ≠ some c) → (y = b → (nearest σ sc b).map Prod.fst ≠ some c) →
        ∃ m', σ'.getScope c = some m' ∧ scopeLookup y m' = scopeLookup y m ∧
          m'.map (fun e => (e.1, e.2.2)) = m.map (fun e => (e.1, e.2.2))) ∧
      σ'.heap.size = σ.heap.size + 1 ∧ σ'.getList σ.heap.size = some [vb, va] ∧ σ'.out = σ.out ∧
      (∀ c, c < σ.heap.size → σ.getScope c = none → σ'.heap[c]? = σ.heap[c]?) := by
  have he : evalExpr 6 σ sc (.mk (.List [.mk (.mk (.Var b) rb) false, .mk (.mk (.Var a) ra) false] false) lr) =
      .ok (SVal.plain (.list σ.heap.size)) (σ.alloc (.list [vb, va])).2 :=
    evalExpr_varList [((b, rb), vb), ((a, ra), va)] lr 2 (by simp [ha, hb])
  have hp : proj (swapPat a b la lb lp) (σ.alloc (.list [vb, va])).2 (SVal.plain (.list σ.heap.size)) =
      some ([(a, vb, la), (b, va, lb)], (σ.alloc (.list [vb, va])).2) := by
    simp [swapPat, proj, projList, projName, seqP, PatList.length, SVal.plain, getList_alloc_new σ, ha_, hb_]
  obtain ⟨σ', h1, h2, h3, h4, h5⟩ := assign_fresh_list (p := swapPat a b la lb lp) he
    (by simp [swapPat, Pat.size, PatList.size]) hp (by simp [hab]) (by simp [Declared, ha, hb])
  refine ⟨σ', h1, h2 a vb la (by simp), h2 b va lb (by simp), fun y hya hyb => h3 y (by simp [Ne.symm hya, Ne.symm hyb]),
    fun c m y hs g1 g2 => h4 c m y hs fun w l hm => ?_, h5⟩
  simp only [List.mem_cons, List.not_mem_nil, or_false, Prod.mk.injEq] at hm
  rcases hm with ⟨e, _⟩ | ⟨e, _⟩
  · subst e; exact g1 rfl
  · subst e; exact g2 rfl

/-- the hypotheses hold in a state with `a` and `b` declared in two different scopes (and an outer, shadowed `a`), and the
    conclusion is what the evaluator computes there: the inner `a` and `b` are swapped, the outer `a` keeps `7` -/
example :
    let σ : State := ⟨#[.scope [(c!"a", SVal.plain (.int 7), (1, 1)), (c!"b", SVal.plain (.int 2), (2, 1))],
                       .scope [(c!"a", ⟨.int 1, some (.obj 9)⟩, (3, 1))]], []⟩
    scopeGet σ [1, 0] c!"a" = some ⟨.int 1, some (.obj 9)⟩ ∧ scopeGet σ [1, 0] c!"b" = some (SVal.plain (.int 2)) ∧
    evalStmt 7 σ [1, 0] (swapStmt c!"a" c!"b" (1, 2) (1, 5) (1, 1) (1, 11) (1, 14) (1, 10)) =
      .ok .none ⟨#[.scope [(c!"a", SVal.plain (.int 7), (1, 1)), (c!"b", ⟨.int 1, some (.obj 9)⟩, (2, 1))],
                   .scope [(c!"a", SVal.plain (.int 2), (3, 1))],
                   .list [SVal.plain (.int 2), ⟨.int 1, some (.obj 9)⟩]], []⟩ := by
  refine ⟨by rfl, by rfl, ?_⟩
  with_unfolding_all rfl

def rotPat (a b c : List Char) (la lb lc lp : Loc) : Pat :=
  .list (.cons (.var a la) (.cons (.var b lb) (.cons (.var c lc) .nil))) false lp

/-- the statement `[a, b, c] = [c, a, b];` -/
def rotStmt (a b c : List Char) (la lb lc lp rc ra rb lr : Loc) : Stmt :=
  .Assign (.mk (.List [.mk (.mk (.Var a) la) false, .mk (.mk (.Var b) lb) false, .mk (.mk (.Var c) lc) false] false) lp)
          (.mk (.List [.mk (.mk (.Var c) rc) false, .mk (.mk (.Var a) ra) false, .mk (.mk (.Var b) rb) false] false) lr)

example : parseProg c!"[a, b, c] = [c, a, b];" =
    .ok [rotStmt c!"a" c!"b" c!"c" (1, 2) (1, 5) (1, 8) (1, 1) (1, 14) (1, 17) (1, 20) (1, 13)] := by
  with_unfolding_all rfl

/-- `[a, b, c] = [c, a, b];` for three pairwise distinct declared names: `a` reads the old
    `c`, `b` the old `a`, `c` the old `b`; everything else as in `swap_by_destructuring`; one fresh cell `[vc, va, vb]`. -/
theorem rotate_by_destructuring {σ : State} {sc : List Addr} {a b c : List Char} {va vb vc : SVal}
    (la lb lc lp rc ra rb lr : Loc) (hab : a ≠ b) (hac : a ≠ c) (hbc : b ≠ c)
    (ha_ : a ≠ c!"_") (hb_ : b ≠ c!"_") (hc_ : c ≠ c!"_")
    (ha : scopeGet σ sc a = some va) (hb : scopeGet σ sc b = some vb) (hc : scopeGet σ sc c = some vc) :
    ∃ σ' : State,
      (∀ n, 9 ≤ n → evalStmt n σ sc (rotStmt a b c la lb lc lp rc ra rb lr) = .ok .none σ') ∧
      scopeGet σ' sc a = some vc ∧ scopeGet σ' sc b = some va ∧ scopeGet σ' sc c = some vb ∧
      (∀ y, y ≠ a → y ≠ b → y ≠ c → scopeGet σ' sc y = scopeGet σ sc y) ∧
      (∀ d m y, σ.getScope d = some m →
        (y = a → (nearest σ sc a).map Prod.fst ≠ some d) → (y = b → (nearest σ sc b).map Prod.fst ≠ some d) →
        (y = c → (nearest σ sc c).map Prod.fst ≠ some d) →
        ∃ m', σ'.getScope d = some m' ∧ scopeLookup y m' = scopeLookup y m ∧
          m'.map (fun e => (e.1, e.2.2)) = m.map (fun e => (e.1, e.2.2))) ∧
      σ'.heap.size = σ.heap.size + 1 ∧ σ'.getList σ.heap.size = some [vc, va, vb] ∧ σ'.out = σ.out ∧
      (∀ d, d < σ.heap.size → σ.getScope d = none → σ'.heap[d]? = σ.heap[d]?) := by
  have he : evalExpr 8 σ sc (.mk (.List [.mk (.mk (.Var c) rc) false, .mk (.mk (.Var a) ra) false,
        .mk (.mk (.Var b) rb) false] false) lr) =
      .ok (SVal.plain (.list σ.heap.size)) (σ.alloc (.list [vc, va, vb])).2 :=
    evalExpr_varList [((c, rc), vc), ((a, ra), va), ((b, rb), vb)] lr 3 (by simp [ha, hb, hc])
  have hp : proj (rotPat a b c la lb lc lp) (σ.alloc (.list [vc, va, vb])).2 (SVal.plain (.list σ.heap.size)) =
      some ([(a, vc, la), (b, va, lb), (c, vb, lc)], (σ.alloc (.list [vc, va, vb])).2) := by
    simp [rotPat, proj, projList, projName, seqP, PatList.length, SVal.plain, getList_alloc_new σ, ha_, hb_, hc_]
  obtain ⟨σ', h1, h2, h3, h4, h5⟩ := assign_fresh_list (p := rotPat a b c la lb lc lp) he
    (by simp [rotPat, Pat.size, PatList.size]) hp (by simp [hab, hac, hbc]) (by simp [Declared, ha, hb, hc])
  refine ⟨σ', h1, h2 a vc la (by simp), h2 b va lb (by simp), h2 c vb lc (by simp),
    fun y hya hyb hyc => h3 y (by simp [Ne.symm hya, Ne.symm hyb, Ne.symm hyc]),
    fun d m y hs g1 g2 g3 => h4 d m y hs fun w l hm => ?_, h5⟩
  simp only [List.mem_cons, List.not_mem_nil, or_false, Prod.mk.injEq] at hm
  rcases hm with ⟨e, _⟩ | ⟨e, _⟩ | ⟨e, _⟩
  · subst e; exact g1 rfl
  · subst e; exact g2 rfl
  · subst e; exact g3 rfl

/-- the swap, and the Fibonacci step `[x, y] = [y, x + y]` repeated: `x + y` is computed from the OLD `x` -/
example :
    (run 100 c!"t.sd" c!"a := 1;\nb := 2;\n[a, b] = [b, a];\nprint(a);\nprint(b);\n").out = [c!"2", c!"1"] ∧
    (run 100 c!"t.sd" c!"x := 0;\ny := 1;\n[x, y] = [y, x + y];\n[x, y] = [y, x + y];\n[x, y] = [y, x + y];\n[x, y] = [y, x + y];\n[x, y] = [y, x + y];\nprint(x);\nprint(y);\n").out =
      [c!"5", c!"8"] ∧
    (run 100 c!"t.sd" c!"a := 1;\nb := 2;\nc := 3;\n[a, b, c] = [c, a, b];\nprint(a);\nprint(b);\nprint(c);\n").out =
      [c!"3", c!"1", c!"2"] := by
  decide +kernel

end Seed.Idioms
