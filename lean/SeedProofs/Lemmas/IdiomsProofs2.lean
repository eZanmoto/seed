/-
  IdiomsProofs2.lean — idioms, part 2.

    range_assign_from_own_slice (C11)   `xs[i:j] = xs[k:l]` (the same variable on both sides): the right-hand side is
                                        built first, as a FRESH list (a snapshot of `(items.drop k).take (l - k)`), and
                                        then spliced into the cell of `xs`; so overlapping ranges copy the OLD items.
                                        (`Seed.evalExpr_range_list` is the equation `C11.eval_slice` states,
                                        `Seed.assign_range_stmt` the one `C11.range_assign_program` states.)
    opassign_key_evaluated_once (C12)   `o[ke] op= rhs`: right-hand side, target, then ONE evaluation of the key `ke`,
                                        then `bindProp` reads and writes under that one name.
-/
import SeedProofs.Lemmas.IdiomsProofs
import SeedProofs.Lemmas.C20Bind
import SeedProofs.Lemmas.C12Map
namespace Seed.Idioms
open Seed Gen

def intLit (k : Nat) (l : Loc) : Expr := .mk (.Int (k : Int)) l

theorem intLit_eval (m : Nat) (σ : State) (sc : List Addr) (k : Nat) (l : Loc) :
    evalExpr (m + 1) σ sc (intLit k l) = .ok ⟨.int (k : Int), none⟩ σ :=
  evalExpr_int m σ sc k l

theorem intLit_bound (m : Nat) (σ : State) (sc : List Addr) (k : Nat) (l : Loc) :
    Bound (m + 1) sc σ (some (intLit k l)) (some (k : Int)) σ := .given (intLit_eval m σ sc k l)

theorem nonNeg_nat (k : Nat) : NonNeg (some (k : Int)) := by
  intro z hz; cases hz; exact Int.natCast_nonneg k

theorem rangeLo_nat (k : Nat) : rangeLo (some (k : Int)) = k := by simp [rangeLo]
theorem rangeHi_nat (k len : Nat) : rangeHi (some (k : Int)) len = k := by simp [rangeHi]

/-- the statement `x[i:j] = x[k:l];` with literal bounds (positions: `lx li lj lr` on the left, `lx' lk ll lr'` on the
    right) -/
def ownSliceStmt (x : List Char) (i j k l : Nat) (lx li lj lr lx' lk ll lr' : Loc) : Stmt :=
  .Assign (.mk (.RangeIndex (.mk (.Var x) lx) (some (intLit i li)) (some (intLit j lj))) lr)
          (.mk (.RangeIndex (.mk (.Var x) lx') (some (intLit k lk)) (some (intLit l ll))) lr')

/-- this is what the parser builds -/
example : parseProg c!"xs[1:4] = xs[0:3];" =
    .ok [ownSliceStmt c!"xs" 1 4 0 3 (1, 1) (1, 4) (1, 6) (1, 1) (1, 11) (1, 14) (1, 16) (1, 11)] := by
  with_unfolding_all rfl

/-- The variable `x` holds the list cell `A` with items `items`; `k ≤ l ≤ len`,
    `i < j ≤ len` and `j - i = l - k`.  With fuel 11 or more `x[i:j] = x[k:l];` completes: first the slice
    `snap = (items.drop k).take (l - k)` is built as a FRESH cell (address: the old heap size — a snapshot, taken before
    anything is written), then it is spliced into `A`.  So
    * `A` holds `listSplice items i snap = items.take i ++ snap ++ items.drop j`, i.e. position `t` holds the OLD
      `items[k + (t - i)]` for `i ≤ t < j` and `items[t]` elsewhere — also when the two ranges overlap;
    * the snapshot cell still holds `snap`; it is the only new cell; nothing was printed; no cell other than `A` changed. -/
theorem range_assign_from_own_slice {σ : State} {sc : List Addr} {x : List Char} {A : Addr} {s : Option Val}
    {items : List SVal} (i j k l : Nat) (lx li lj lr lx' lk ll lr' : Loc)
    (hx : scopeGet σ sc x = some ⟨.list A, s⟩) (hA : σ.getList A = some items)
    (hkl : k ≤ l) (hl : l ≤ items.length) (hij : i < j) (hj : j ≤ items.length) (hlen : j - i = l - k) :
    let snap := (items.drop k).take (l - k)
    let σ' := (σ.alloc (.list snap)).2.set A (.list (listSplice items i snap))
    (∀ n, 11 ≤ n → evalStmt n σ sc (ownSliceStmt x i j k l lx li lj lr lx' lk ll lr') = .ok .none σ') ∧
    σ'.getList A = some (listSplice items i snap) ∧
    listSplice items i snap = items.take i ++ snap ++ items.drop j ∧
    (∀ t, (listSplice items i snap)[t]? =
      if t < i then items[t]? else if t < j then items[k + (t - i)]? else items[t]?) ∧
    (listSplice items i snap).length = items.length ∧
    A ≠ σ.heap.size ∧ σ'.getList σ.heap.size = some snap ∧
    σ'.heap.size = σ.heap.size + 1 ∧ σ'.out = σ.out ∧
    (∀ b, b ≠ A → b < σ.heap.size → σ'.heap[b]? = σ.heap[b]?) := by
  intro snap σ'
  have hsl : snap.length = l - k := slice_len items k hl
  have hAlt : A < σ.heap.size := getList_lt hA
  -- the right-hand side: a fresh cell
  have hr : evalExpr 5 σ sc (.mk (.RangeIndex (.mk (.Var x) lx') (some (intLit k lk)) (some (intLit l ll))) lr') =
      .ok (SVal.plain (.list σ.heap.size)) (σ.alloc (.list snap)).2 := by
    rw [evalExpr_range_list lr' (intLit_bound 0 σ sc k lk) (intLit_bound 0 σ sc l ll) (nonNeg_nat k) (nonNeg_nat l)
      (evalExpr_var 0 lx' hx) hA, rangeLo_nat, rangeHi_nat, if_pos ⟨hkl, hl⟩]
  -- the splice
  have hst := assign_range_stmt (x := x) (a := A) (s := s) (ys := snap) (xs := items) lx lr hr
    (getList_alloc_new σ snap) (scopeGet_alloc _ hx) (intLit_bound 4 _ sc i li) (intLit_bound 4 _ sc j lj)
    (nonNeg_nat i) (nonNeg_nat j) (getList_alloc_old _ hA)
  rw [rangeLo_nat, rangeHi_nat, range_checks_ok _ _ _ _ _ hij hj (hlen.trans hsl.symm)] at hst
  obtain ⟨g1, g2, g3, g4, _⟩ := set_list_facts (listSplice items i snap) (getList_alloc_old (.list snap) hA)
  have hne : A ≠ σ.heap.size := Nat.ne_of_lt hAlt
  have hend : i + snap.length = j := add_of_sub_eq hij (hlen.trans hsl.symm)
  have hfit : i + snap.length ≤ items.length := hend ▸ hj
  refine ⟨fun n hn => evalStmt_fuel_mono hst (fun e => by cases e) hn, g1, listSplice_eq items snap hend, fun t => ?_,
    listSplice_len _ _ _ hfit, hne, ?_, ?_, g4, fun b hb hlt => ?_⟩
  · rw [listSplice_getElem? _ _ _ _ hfit, hend]
    by_cases h1 : t < i
    · rw [if_pos h1, if_pos h1]
    · rw [if_neg h1, if_neg h1]
      by_cases h2 : t < j
      · rw [if_pos h2, if_pos h2, List.getElem?_take_of_lt (hlen ▸ Nat.sub_lt_sub_right (Nat.le_of_not_lt h1) h2),
          List.getElem?_drop]
      · rw [if_neg h2, if_neg h2]
  · rw [getList_eq_some, g2 σ.heap.size (Ne.symm hne)]
    exact State.alloc_heap_new σ _
  · rw [g3, State.alloc_size]
  · rw [g2 b hb, State.alloc_heap_old σ _ hlt]

/-- scope 0: `xs ↦ list 1`; cell 1 = `[1, 2, 3, 4, 5]` -/
def σsl : State :=
  ⟨#[.scope [(c!"xs", SVal.plain (.list 1), (1, 1))],
     .list [SVal.plain (.int 1), SVal.plain (.int 2), SVal.plain (.int 3), SVal.plain (.int 4), SVal.plain (.int 5)]], []⟩

/-- the hypotheses hold for `xs[1:4] = xs[0:3]` on `[1, 2, 3, 4, 5]` (overlapping ranges), and the result is
    `[1, 1, 2, 3, 5]` — the old items, not `[1, 1, 1, 1, 5]` — with the snapshot `[1, 2, 3]` in the new cell 2 -/
example :
    evalStmt 11 σsl [0] (ownSliceStmt c!"xs" 1 4 0 3 (1, 1) (1, 4) (1, 6) (1, 1) (1, 11) (1, 14) (1, 16) (1, 11)) =
      .ok .none
        ⟨#[.scope [(c!"xs", SVal.plain (.list 1), (1, 1))],
           .list [SVal.plain (.int 1), SVal.plain (.int 1), SVal.plain (.int 2), SVal.plain (.int 3), SVal.plain (.int 5)],
           .list [SVal.plain (.int 1), SVal.plain (.int 2), SVal.plain (.int 3)]], []⟩ :=
  ((range_assign_from_own_slice (σ := σsl) (sc := [0]) (x := c!"xs") (A := 1) (s := none)
    (items := [SVal.plain (.int 1), SVal.plain (.int 2), SVal.plain (.int 3), SVal.plain (.int 4), SVal.plain (.int 5)])
    1 4 0 3 (1, 1) (1, 4) (1, 6) (1, 1) (1, 11) (1, 14) (1, 16) (1, 11) (by rfl) (by rfl) (by decide) (by decide)
    (by decide) (by decide) (by decide)).1 11 (Nat.le_refl _)).trans (by rfl)

/-- both shift directions on the source text (and the same through an alias: the snapshot is of the CELL) -/
example :
    (run 100 c!"t.sd" c!"xs := [1, 2, 3, 4, 5];\nxs[1:4] = xs[0:3];\nprint(xs == [1, 1, 2, 3, 5]);\nprint(xs[3]);\n").out =
      [c!"true", c!"3"] ∧
    (run 100 c!"t.sd" c!"xs := [1, 2, 3, 4, 5];\nxs[0:3] = xs[1:4];\nprint(xs == [2, 3, 4, 4, 5]);\nprint(xs[0]);\n").out =
      [c!"true", c!"2"] ∧
    (run 100 c!"t.sd" c!"xs := [1, 2, 3, 4, 5];\nys := xs;\nxs[1:5] = ys[0:4];\nprint(xs == [1, 1, 2, 3, 4]);\n").out =
      [c!"true"] := by
  decide +kernel

theorem opassign_index_stmt {n : Nat} {σ σ0 σk : State} {sc : List Addr} {o : List Char} {ke rhs : Expr}
    (lo li : Loc) (op : BinaryOp) (opLoc : Loc) {A : Addr} {s : Option Val} {rv : SVal} {k : List Char}
    (hr : evalExpr n σ sc rhs = .ok rv σ0) (ho : scopeGet σ0 sc o = some ⟨.obj A, s⟩)
    (hk : evalToStr n σ0 sc c!"property" ke = .ok k σk) :
    evalStmt (n + 3) σ sc (.OpAssign (.mk (.Index (.mk (.Var o) lo) ke) li) op opLoc rhs) =
      (bindProp (n + 1) σk A k li rv (some (op, opLoc)) [] true).bind fun _ σ2 => .ok .none σ2 := by
  rw [evalStmt, evalExpr_fuel_mono hr (by simp) (Nat.le_add_right n 2)]
  simp only [Res.bind]
  rw [bindNext, evalExpr_var n lo ho]
  simp only [Res.bind]
  rw [evalToStr_mono hk (by simp) (Nat.le_add_right n 1)]

/-- `o[ke] op= rhs;` for a variable `o` holding the object cell `A` and ANY key
    expression `ke`.  The order of the model (`evalStmt .OpAssign` → `bindNext .Index` → `bindProp`) is: the right-hand
    side (`σ → σ0`, value `rv`), the target `o`, then the key — ONE evaluation `evalToStr … ke`, `σ0 → σk`, giving the
    name `k`; it may print and allocate and call functions: that is the point — and then, in `σk`, `bindProp` reads the
    current value `cur` of `k` in `A`, computes `cur op rv` (`σk → σ3`: the same state, or one more list cell when `op`
    is `+` on lists) and stores it under the SAME name `k`.  Hence: the statement completes in
    `σ3.set A (.obj (objInsert k (cur op rv) props))` with `props` the properties of `A` after the one key evaluation;
    the key is not evaluated a second time — the final output is exactly `σk.out` (what `rhs` and the ONE evaluation of
    `ke` printed), the heap is `σk`'s (plus the possible concatenation cell) with only the cell `A` rewritten, and the
    value was read and written under the one name `k`. -/
theorem opassign_key_evaluated_once {n : Nat} {σ σ0 σk σ3 : State} {sc : List Addr} {o : List Char} {ke rhs : Expr}
    (lo li : Loc) (op : BinaryOp) (opLoc : Loc) {A : Addr} {s : Option Val} {rv cur : SVal} {k : List Char}
    {props : ObjMap} {w : Val}
    (hr : evalExpr n σ sc rhs = .ok rv σ0)
    (ho : scopeGet σ0 sc o = some ⟨.obj A, s⟩)
    (hk : evalToStr n σ0 sc c!"property" ke = .ok k σk)
    (hp : σk.getObj A = some props) (hc : objGet k props = some cur)
    (hop : applyBinOp n σk op opLoc cur.v rv.v = .ok w σ3) :
    let σ' := σ3.set A (.obj (objInsert k (SVal.plain w) props))
    (∀ m, n + 3 ≤ m → evalStmt m σ sc (.OpAssign (.mk (.Index (.mk (.Var o) lo) ke) li) op opLoc rhs) = .ok .none σ') ∧
    (σ3 = σk ∨ ∃ xs, σ3 = (σk.alloc (.list xs)).2) ∧
    σ'.out = σk.out ∧
    σ'.getObj A = some (objInsert k (SVal.plain w) props) ∧
    (∀ k', objGet k' (objInsert k (SVal.plain w) props) = if k' = k then some (SVal.plain w) else objGet k' props) ∧
    (∀ b, b ≠ A → b < σk.heap.size → σ'.heap[b]? = σk.heap[b]?) ∧
    σk.heap.size ≤ σ'.heap.size ∧ σ'.heap.size ≤ σk.heap.size + 1 := by
  intro σ'
  have hs3 := BindL.applyBinOp_state hop
  have hAlt : A < σk.heap.size := getObj_lt hp
  have hp3 : σ3.getObj A = some props := by
    rcases hs3 with e | ⟨xs, e⟩
    · rw [e]; exact hp
    · rw [e, getObj_eq_some, State.alloc_heap_old _ _ hAlt]; exact getObj_eq_some.mp hp
  have hst : evalStmt (n + 3) σ sc (.OpAssign (.mk (.Index (.mk (.Var o) lo) ke) li) op opLoc rhs) = .ok .none σ' := by
    rw [opassign_index_stmt lo li op opLoc hr ho hk, bindProp, hp]
    simp only [hc, opAssignValue, hop, Res.map, Res.bind, hp3]
    rfl
  have hlt3 : A < σ3.heap.size := getObj_lt hp3
  refine ⟨fun m hm => evalStmt_fuel_mono hst (fun e => by cases e) hm, hs3, ?_, getObj_set_same hlt3 _, fun k' => ?_,
    fun b hb hlt => ?_, ?_, ?_⟩
  · show σ3.out = σk.out
    rcases hs3 with e | ⟨xs, e⟩ <;> rw [e] <;> rfl
  · exact objGet_objInsert k k' (SVal.plain w) props
  · rw [State.heap_set_other _ _ hb]
    rcases hs3 with e | ⟨xs, e⟩
    · rw [e]
    · rw [e, State.alloc_heap_old _ _ hlt]
  · rw [State.size_set]
    rcases hs3 with e | ⟨xs, e⟩
    · rw [e]; exact Nat.le_refl _
    · rw [e, State.alloc_size]; exact Nat.le_succ _
  · rw [State.size_set]
    rcases hs3 with e | ⟨xs, e⟩
    · rw [e]; exact Nat.le_succ _
    · rw [e, State.alloc_size]; exact Nat.le_refl _

/-- the missing-key case: when the ONE evaluation of `ke` names a key that the object does not have, the statement is the
    error `OpOnUndefinedIndex k` in the state `σk` that this one evaluation left — nothing is inserted, and the key is not
    evaluated again -/
theorem opassign_key_missing {n : Nat} {σ σ0 σk : State} {sc : List Addr} {o : List Char} {ke rhs : Expr}
    (lo li : Loc) (op : BinaryOp) (opLoc : Loc) {A : Addr} {s : Option Val} {rv : SVal} {k : List Char} {props : ObjMap}
    (hr : evalExpr n σ sc rhs = .ok rv σ0)
    (ho : scopeGet σ0 sc o = some ⟨.obj A, s⟩)
    (hk : evalToStr n σ0 sc c!"property" ke = .ok k σk)
    (hp : σk.getObj A = some props) (hc : objGet k props = none) :
    ∀ m, n + 3 ≤ m → evalStmt m σ sc (.OpAssign (.mk (.Index (.mk (.Var o) lo) ke) li) op opLoc rhs) =
      errAt li (Leaf.OpOnUndefinedIndex k) σk := by
  have hst : evalStmt (n + 3) σ sc (.OpAssign (.mk (.Index (.mk (.Var o) lo) ke) li) op opLoc rhs) =
      errAt li (Leaf.OpOnUndefinedIndex k) σk := by
    rw [opassign_index_stmt lo li op opLoc hr ho hk, bindProp, hp]
    simp only [hc, if_true]
    rfl
  exact fun m hm => evalStmt_fuel_mono hst (fun e => by cases e) hm

/-- the body of `fn key() { print("key"); return "a"; }` -/
def keyBody : List Stmt :=
  [.Expr (.mk (.Call (.mk (.Var c!"print") (2, 5)) [.mk (.mk (.Str c!"key" none) (2, 11)) false]) (2, 10)),
   .Return (3, 5) (.mk (.Str c!"a" none) (3, 12))]

/-- scope 0: `print`, `o ↦ obj 1`, `key ↦ func 2`; cell 1 = `{"a": 1, "b": 10}`; cell 2 = the function `key` -/
def σop : State :=
  ⟨#[.scope [(c!"print", SVal.plain (.builtin c!"print" .print), (0, 0)), (c!"o", SVal.plain (.obj 1), (5, 1)),
             (c!"key", SVal.plain (.func 2), (1, 4))],
     .obj [(c!"a", SVal.plain (.int 1)), (c!"b", SVal.plain (.int 10))],
     .func ⟨some c!"key", [], false, keyBody, [0]⟩], []⟩

/-- the state after ONE call of `key()`: its scope cell was pushed and `key` was printed -/
def σopK : State := ⟨σop.heap.push (.scope []), [c!"key"]⟩

def keyCall : Expr := .mk (.Call (.mk (.Var c!"key") (6, 3)) []) (6, 6)

/-- the hypotheses of `opassign_key_evaluated_once` hold for `o[key()] += 5` in `σop` (the key evaluation prints and
    allocates), and the conclusion: `key` was printed ONCE, one scope cell was pushed, `a` went from `1` to `6` -/
example :
    evalStmt 15 σop [0] (.OpAssign (.mk (.Index (.mk (.Var c!"o") (6, 1)) keyCall) (6, 2)) .Sum (6, 10)
        (.mk (.Int 5) (6, 13))) =
      .ok .none
        ⟨#[.scope [(c!"print", SVal.plain (.builtin c!"print" .print), (0, 0)), (c!"o", SVal.plain (.obj 1), (5, 1)),
                   (c!"key", SVal.plain (.func 2), (1, 4))],
           .obj [(c!"a", SVal.plain (.int 6)), (c!"b", SVal.plain (.int 10))],
           .func ⟨some c!"key", [], false, keyBody, [0]⟩,
           .scope []], [c!"key"]⟩ :=
  ((opassign_key_evaluated_once (n := 12) (σ := σop) (σ0 := σop) (σk := σopK) (σ3 := σopK) (sc := [0]) (o := c!"o")
    (ke := keyCall) (6, 1) (6, 2) .Sum (6, 10) (A := 1) (s := none) (rv := SVal.plain (.int 5))
    (cur := SVal.plain (.int 1)) (k := c!"a") (props := [(c!"a", SVal.plain (.int 1)), (c!"b", SVal.plain (.int 10))])
    (w := .int 6)
    (by with_unfolding_all rfl) (by rfl) (by with_unfolding_all rfl) (by rfl) (by rfl) (by with_unfolding_all rfl)).1 15
      (Nat.le_refl _)).trans (by rfl)

/-- a key function that counts its calls and names a DIFFERENT key at every call: `o[key()] += 5` calls it once
    (`calls` is `1`), reads `a` and writes `a` (`6`); `b` is untouched.  Two evaluations of the key would give `calls = 2`
    and write `1 + 5` under `b`. -/
example :
    (run 200 c!"t.sd"
      c!"calls := 0;\nfn key() {\n    calls = calls + 1;\n    print(\"key\");\n    if calls == 1 {\n        return \"a\";\n    }\n    return \"b\";\n}\no := {\"a\": 1, \"b\": 10};\no[key()] += 5;\nprint(calls);\nprint(o[\"a\"]);\nprint(o[\"b\"]);\n").out =
      [c!"key", c!"1", c!"6", c!"10"] := by
  decide +kernel

end Seed.Idioms
