/-
  Instances.lean — instances of the generic preservation theorem of Frame.lean.
-/
import SeedProofs.Lemmas.Frame
import SeedProofs.Lemmas.C04Scope
namespace Seed

/-! ### G3: the output only grows (newest line first, so the old output is a suffix) -/

def OutGrows (σ σ' : State) : Prop := ∃ l, σ'.out = l ++ σ.out

theorem outGrows_good : GoodRel OutGrows where
  refl := fun σ => ⟨[], rfl⟩
  trans := by
    rintro a b c ⟨l1, h1⟩ ⟨l2, h2⟩
    exact ⟨l2 ++ l1, by rw [h2, h1, List.append_assoc]⟩
  alloc := fun σ c => ⟨[], rfl⟩
  print := fun σ l => ⟨[l], rfl⟩
  setList := fun σ a xs ys _ => ⟨[], rfl⟩
  setObj := fun σ a m m' _ => ⟨[], rfl⟩
  setScope := fun σ a m m' _ => ⟨[], rfl⟩

/-! ### G2: the heap only grows and no cell ever changes its kind; function cells never change at all -/

inductive CellTag where
  | list | obj | func | scope
  deriving DecidableEq

def Cell.tag : Cell → CellTag
  | .list _ => .list | .obj _ => .obj | .func _ => .func | .scope _ => .scope

def State.tagAt (σ : State) (a : Addr) : Option CellTag := (σ.heap[a]?).map Cell.tag

def HeapGrows (σ σ' : State) : Prop :=
  σ.heap.size ≤ σ'.heap.size ∧ ∀ a, a < σ.heap.size → σ'.tagAt a = σ.tagAt a

theorem tagAt_of_heap {σ : State} {a : Addr} {c : Cell} (h : σ.heap[a]? = some c) : σ.tagAt a = some c.tag := by
  simp [State.tagAt, h]

theorem tagAt_set_same (σ : State) (a : Addr) (c : Cell) (h : σ.tagAt a = some c.tag) (b : Addr) :
    (σ.set a c).tagAt b = σ.tagAt b := by
  by_cases hb : b = a
  · subst hb
    cases hc : σ.heap[b]? with
    | none => simp [State.tagAt, hc] at h
    | some _ => rw [tagAt_of_heap (ScopeL.set_same σ b c (ScopeL.heap_lt_of_some hc)), h]
  · unfold State.tagAt; rw [ScopeL.set_other σ a c hb]

theorem getList_tag {σ : State} {a : Addr} {xs : List SVal} (h : σ.getList a = some xs) : σ.tagAt a = some .list :=
  tagAt_of_heap (ScopeL.getList_heap.mp h)

theorem getObj_tag {σ : State} {a : Addr} {m : ObjMap} (h : σ.getObj a = some m) : σ.tagAt a = some .obj :=
  tagAt_of_heap (ScopeL.getObj_heap.mp h)

theorem getScope_tag {σ : State} {a : Addr} {m : ScopeMap} (h : σ.getScope a = some m) : σ.tagAt a = some .scope :=
  tagAt_of_heap (ScopeL.getScope_heap.mp h)

theorem heapGrows_good : GoodRel HeapGrows where
  refl := fun σ => ⟨Nat.le_refl _, fun _ _ => rfl⟩
  trans := by
    rintro a b c ⟨h1, h1'⟩ ⟨h2, h2'⟩
    exact ⟨Nat.le_trans h1 h2, fun x hx => by rw [h2' x (Nat.lt_of_lt_of_le hx h1), h1' x hx]⟩
  alloc := fun σ c =>
    ⟨by rw [ScopeL.alloc_size]; exact Nat.le_succ _, fun a ha => by unfold State.tagAt; rw [ScopeL.alloc_old σ c ha]⟩
  print := fun σ l => ⟨Nat.le_refl _, fun _ _ => rfl⟩
  setList := fun σ a xs ys h =>
    ⟨by rw [ScopeL.set_size]; exact Nat.le_refl _, fun b _ => tagAt_set_same σ a (.list ys) (getList_tag h) b⟩
  setObj := fun σ a m m' h =>
    ⟨by rw [ScopeL.set_size]; exact Nat.le_refl _, fun b _ => tagAt_set_same σ a (.obj m') (getObj_tag h) b⟩
  setScope := fun σ a m m' h =>
    ⟨by rw [ScopeL.set_size]; exact Nat.le_refl _, fun b _ => tagAt_set_same σ a (.scope m') (getScope_tag h) b⟩

/-- function cells are immutable: once allocated, a function value denotes the same code and closure forever -/
def FuncsStable (σ σ' : State) : Prop := ∀ a f, σ.getFunc a = some f → σ'.getFunc a = some f

theorem getFunc_set_keeps (σ : State) (a b : Addr) (c : Cell) (f : FuncRec) (hb : σ.getFunc b = some f)
    (hne : ∀ g, σ.getFunc a ≠ some g) : (σ.set a c).getFunc b = some f := by
  by_cases hab : a = b
  · subst hab; exact absurd hb (hne f)
  · exact (ScopeL.getFunc_congr (ScopeL.set_other σ a c (Ne.symm hab))).trans hb

theorem funcsStable_good : GoodRel FuncsStable where
  refl := fun σ a f h => h
  trans := fun h1 h2 a f h => h2 a f (h1 a f h)
  alloc := by
    intro σ c a f h
    rw [ScopeL.getFunc_congr (ScopeL.alloc_old σ c (ScopeL.getFunc_lt h))]; exact h
  print := fun σ l a f h => h
  setList := by
    intro σ a xs ys hg b f hb
    refine getFunc_set_keeps σ a b _ f hb (fun g hgf => ?_)
    unfold State.getList State.getFunc at *
    split at hg <;> simp_all
  setObj := by
    intro σ a m m' hg b f hb
    refine getFunc_set_keeps σ a b _ f hb (fun g hgf => ?_)
    unfold State.getObj State.getFunc at *
    split at hg <;> simp_all
  setScope := by
    intro σ a m m' hg b f hb
    refine getFunc_set_keeps σ a b _ f hb (fun g hgf => ?_)
    unfold State.getScope State.getFunc at *
    split at hg <;> simp_all

end Seed
