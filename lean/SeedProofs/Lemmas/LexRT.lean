/-
  The lexer round trip on token lists: `renderToks ts` (the spellings of well-formed
  tokens separated by one blank) is lexed, from any position and with any sufficient fuel, to exactly the raw
  tokens `ts`, without error (`lexRaw_render`); what the parser sees (`lexAll`) is `ts` after terminator
  suppression, described on tokens by `suppressT` (`lexAll_render`); and suppression removes nothing when no
  terminator is first or follows a terminator or a continuation token (`keepAll`, `suppressT_of_keepAll`).
-/
import SeedProofs.Lemmas.LexRTTok
import SeedProofs.Lemmas.C09Raw
namespace Seed.LexRT
open Seed Seed.C09

theorem LexTo.blank_cons {r rest : List Char} {t : Token} {ts : List Token} (h : LexTo r (t :: ts) rest) :
    LexTo (' ' :: r) (t :: ts) rest := by
  cases h with
  | @cons _ mid _ _ _ l c hk htail =>
    refine LexTo.cons l c ?_ htail
    rw [← hk]
    exact nextToken_skip_layout (p := [' ']) (.blank (Or.inl rfl) .nil) r (fun h => by simp at h) l c l c

theorem lexTo_render : ∀ (ts : List Token), (∀ t ∈ ts, TokWF t) → LexTo (renderToks ts) ts []
  | [], _ => LexTo.nil []
  | [t], h => by
    have hk := nextToken_render t (h t (List.mem_cons_self ..)) [] EndOK.nil 0 0
    rw [List.append_nil] at hk
    exact LexTo.cons 0 0 hk (LexTo.nil [])
  | t :: u :: ts, h => by
    have ih := lexTo_render (u :: ts) (fun x hx => h x (List.mem_cons_of_mem _ hx))
    rw [renderToks_cons_cons]
    exact LexTo.cons 0 0
      (nextToken_render t (h t (List.mem_cons_self ..)) _ (EndOK.blank _) 0 0) (LexTo.blank_cons ih)

theorem length_le_renderToks (ts : List Token) (h : ∀ t ∈ ts, TokWF t) : ts.length ≤ (renderToks ts).length := by
  have := (lexTo_render ts h).length_le
  simpa using this

theorem lexRaw_render (ts : List Token) (h : ∀ t ∈ ts, TokWF t) (n l c : Nat) (hn : ts.length < n) :
    (lexRaw n ⟨renderToks ts, l, c⟩).1.map Span.tok = ts ∧ (lexRaw n ⟨renderToks ts, l, c⟩).2 = none := by
  obtain ⟨m, rfl⟩ : ∃ m, n = ts.length + m := ⟨n - ts.length, by omega⟩
  obtain ⟨h1, h2⟩ := (lexTo_render ts h).lexRaw m l c 0 0
  rw [lexRaw_of_rest_nil m _ rfl] at h1 h2
  simp only [List.map_nil, List.append_nil, Option.map_none] at h1 h2
  refine ⟨h1, ?_⟩
  cases hx : (lexRaw (ts.length + m) ⟨renderToks ts, l, c⟩).2 with
  | none => rfl
  | some e => rw [hx] at h2; cases h2

example : (∀ t ∈ [Token.Ident c!"x", .ColonEquals, .StrLiteral c!"é"], TokWF t) ∧
    [Token.Ident c!"x", .ColonEquals, .StrLiteral c!"é"].length < 4 := by decide
example : (lexRaw 4 ⟨renderToks [.Ident c!"x", .ColonEquals, .StrLiteral c!"é"], 1, 1⟩).1.map Span.tok =
    [.Ident c!"x", .ColonEquals, .StrLiteral c!"é"] := by decide

/-- no terminator of `ts` would be dropped: none is first (`d = true`: "a terminator arriving now is dropped")
    and none follows a terminator or a continuation token -/
def keepAll : Bool → List Token → Bool
  | _, [] => true
  | d, t :: r => (t != Token.StmtEnd || !d) && keepAll (isContinuation t) r

/-- "a terminator arriving now would be dropped" -/
def dropsNow : Option Token → Bool
  | none => true
  | some t => isContinuation t

example : keepAll (dropsNow (some .ParenClose)) [.StmtEnd, .Ident c!"x", .StmtEnd] = true ∧
    keepAll (dropsNow none) [.StmtEnd] = false ∧ keepAll (dropsNow none) [.Comma, .StmtEnd] = false := by decide

/-- if nothing is dropped, the spans themselves are untouched -/
theorem suppress_of_keepAll (last : Option Token) (sps : List Span)
    (h : keepAll (dropsNow last) (sps.map Span.tok) = true) : suppress last sps = sps := by
  induction sps generalizing last with
  | nil => rfl
  | cons sp r ih =>
    simp only [List.map_cons, keepAll, Bool.and_eq_true, Bool.or_eq_true, bne_iff_ne, ne_eq,
      Bool.not_eq_true'] at h
    obtain ⟨h1, h2⟩ := h
    have ih' := ih (some sp.tok) h2
    rw [suppress.eq_def]
    simp only
    split
    · rw [ih']
    · next hs =>
      have hd : dropsNow last = false := by
        rcases h1 with h1 | h1
        · exact absurd h1 hs
        · exact h1
      cases last with
      | none => cases hd
      | some u =>
        simp only [dropsNow] at hd
        simp only [hd, Bool.false_eq_true, if_false, ih']

theorem suppressT_of_keepAll (last : Option Token) (ts : List Token) (h : keepAll (dropsNow last) ts = true) :
    suppressT last ts = ts := by
  have e : (ts.map fun t => (⟨(0, 0), t, (0, 0)⟩ : Span)).map Span.tok = ts := by
    rw [List.map_map]; exact List.map_id' ts
  have := suppress_map_tok last (ts.map fun t => ⟨(0, 0), t, (0, 0)⟩)
  rw [suppress_of_keepAll last _ (by rw [e]; exact h), e] at this
  exact this.symm

/-- whether the token `t`, arriving after `prev`, survives suppression -/
def keptT (prev : Option Token) (t : Token) : Bool := t != Token.StmtEnd || !dropsNow prev

theorem suppressT_spec (last : Option Token) (ts : List Token) :
    suppressT last ts = ((ts.zip (last :: ts.map some)).filter (fun p => keptT p.2 p.1)).map Prod.fst := by
  induction ts generalizing last with
  | nil => rfl
  | cons t r ih =>
    simp only [suppressT, List.map_cons, List.zip_cons_cons, List.filter_cons, keptT]
    by_cases hs : t = Token.StmtEnd
    · subst hs
      cases last with
      | none => simp [dropsNow, ih, keptT]
      | some u => cases hc : isContinuation u <;> simp [dropsNow, hc, ih, keptT]
    · simp [hs, ih, keptT]

theorem keepAll_append (d : Bool) (a b : List Token) :
    keepAll d (a ++ b) = (keepAll d a && keepAll (match a.getLast? with | none => d | some t => isContinuation t) b) := by
  induction a generalizing d with
  | nil => simp [keepAll]
  | cons t r ih =>
    simp only [List.cons_append, keepAll, ih, Bool.and_assoc]
    cases r with
    | nil => rfl
    | cons u r' =>
      rw [List.getLast?_cons_cons]
      cases h : (u :: r').getLast? with
      | none => simp at h
      | some x => rfl

theorem lexAll_render (ts : List Token) (h : ∀ t ∈ ts, TokWF t) :
    (lexAll (renderToks ts)).2 = none ∧ (lexAll (renderToks ts)).1.map Span.tok = suppressT none ts := by
  obtain ⟨l, c, e⟩ := lexAll_eq_of_fuel (Nat.lt_succ_self (renderToks ts).length)
  obtain ⟨h1, h2⟩ := lexRaw_render ts h ((renderToks ts).length + 1) l c
    (by have := length_le_renderToks ts h; omega)
  rw [e]
  exact ⟨h2, by rw [suppress_map_tok, h1]⟩

theorem lexAll_render_keepAll (ts : List Token) (h : ∀ t ∈ ts, TokWF t) (hk : keepAll true ts = true) :
    (lexAll (renderToks ts)).2 = none ∧ (lexAll (renderToks ts)).1.map Span.tok = ts := by
  obtain ⟨h1, h2⟩ := lexAll_render ts h
  exact ⟨h1, by rw [h2, suppressT_of_keepAll none ts hk]⟩

end Seed.LexRT
