/-
  The canonical spelling of a token (`renderTok`), of a token list (`renderToks`:
  the spellings separated by exactly one blank) and the decidable predicate `tokWF` on tokens under which the
  spelling lexes back to the token (`nextToken_render`, Lemmas/LexRTTok.lean; `lex_render`, Lemmas/LexRT.lean).

  Symbols and keywords are spelled by *inverse lookup* in the generated tables (`Gen.tripleSym`,
  `Gen.doubleSym`, `Gen.singleSym`, `Gen.keywords`); string literals with the escaping of C15
  (`escapeChars`); interpolated literals with their slots copied raw (`C15.render`).
-/
import SeedModel.Lex
import SeedProofs.Lemmas.C15Lex
namespace Seed.LexRT
open Seed

def keyOf {α} (t : Token) : List (α × Token) → Option α
  | [] => none
  | (k, v) :: r => if v = t then some k else keyOf t r

/-- spelling of a symbol or keyword token, read off the generated tables (longest symbols first; the order is
    immaterial, no token occurs in two tables) -/
def tableSpelling (t : Token) : Option (List Char) :=
  match keyOf t Gen.tripleSym with
  | some (a, b, c) => some [a, b, c]
  | none =>
    match keyOf t Gen.doubleSym with
    | some (a, b) => some [a, b]
    | none =>
      match keyOf t Gen.singleSym with
      | some a => some [a]
      | none => keyOf t Gen.keywords

/-- cut the decoded text `s` (whose first character has offset `off`) at the slots: the piece before the first
    slot, and for every slot `(a, b)` the text between its `${` and `}` together with the piece that follows -/
def splitSlots (s : List Char) (off : Nat) : List (Nat × Nat) → List Char × List (List Char × List Char)
  | [] => (s, [])
  | (a, b) :: r =>
    let q := splitSlots (s.drop (b - off)) b r
    (s.take (a - off), ((s.drop (a - off + 2)).take (b - a - 3), q.1) :: q.2)

def renderTok : Token → List Char
  | .Ident w => w
  | .IntLiteral n => natToChars n.toNat
  | .StrLiteral s => '"' :: (C15.escapeChars s ++ ['"'])
  | .InterpStrLiteral s slots =>
    '$' :: '"' :: (C15.render (splitSlots s 0 slots).1 (splitSlots s 0 slots).2 ++ ['"'])
  | .StmtEnd => [';']
  | t => (tableSpelling t).getD []

/-- the spellings, separated by exactly one blank (none before the first, none after the last) -/
def renderToks : List Token → List Char
  | [] => []
  | [t] => renderTok t
  | t :: ts => renderTok t ++ ' ' :: renderToks ts

theorem renderToks_cons_cons (t u : Token) (ts : List Token) :
    renderToks (t :: u :: ts) = renderTok t ++ ' ' :: renderToks (u :: ts) := rfl

/-- an identifier text: non-empty, begins with a letter or `_`, continues with letters, digits, `_`, and is not
    a keyword -/
def identWF : List Char → Bool
  | [] => false
  | ch :: r => (isAsciiAlpha ch || ch = '_') && r.all isIdentChar && (lookupAssoc (ch :: r) Gen.keywords).isNone

/-- the slot list of an interpolated literal is consistent with its text: cutting the text at the slots gives
    pieces and brace-balanced slot texts from which the text and the slot list are rebuilt exactly
    (every slot `(a, b)` delimits `${…}` in the decoded text, in order, without overlap) -/
def interpWF (s : List Char) (slots : List (Nat × Nat)) : Bool :=
  let q := splitSlots s 0 slots
  decide (C15.decoded q.1 q.2 = s) && decide (C15.slotsOf 0 q.1 q.2 = slots) &&
    q.2.all (fun x => decide (C15.Balanced x.1))

/-- the tokens the round trip covers: every symbol, keyword and terminator; identifiers that are identifier
    texts and not keywords; integer literals in `0 ..= i64::MAX` (a negative number is the two tokens `-` and a
    literal); every plain string literal (any Unicode text); interpolated literals with a consistent slot list -/
def tokWF : Token → Bool
  | .Ident w => identWF w
  | .IntLiteral n => decide (0 ≤ n) && decide (n ≤ (i64Max : Int))
  | .StrLiteral _ => true
  | .InterpStrLiteral s slots => interpWF s slots
  | _ => true

def TokWF (t : Token) : Prop := tokWF t = true

instance (t : Token) : Decidable (TokWF t) := by unfold TokWF; infer_instance

example : renderTok .EqualsEqualsEquals = c!"===" ∧ renderTok .DashGreaterThan = c!"->" ∧
    renderTok .BraceOpen = c!"{" ∧ renderTok .While = c!"while" ∧ renderTok .StmtEnd = c!";" := by decide
example : renderTok (.IntLiteral 9223372036854775807) = c!"9223372036854775807" := by decide
example : renderTok (.StrLiteral c!"a\"$\n") = c!"\"a\\\"\\$\\n\"" := by decide
example : renderTok (.InterpStrLiteral c!"é${x}}{${f({})}$" [(1, 5), (7, 15)]) = c!"$\"é${x}}{${f({})}\\$\"" := by
  decide
example : TokWF (.InterpStrLiteral c!"é${x}}{${f({})}$" [(1, 5), (7, 15)]) := by decide
example : ¬ TokWF (.InterpStrLiteral c!"é${x}" [(0, 4)]) ∧ ¬ TokWF (.InterpStrLiteral c!"${{}" [(0, 4)]) := by decide
example : TokWF (.Ident c!"_a1") ∧ ¬ TokWF (.Ident c!"1a") ∧ ¬ TokWF (.Ident c!"while") ∧ ¬ TokWF (.Ident c!"a b") ∧
    ¬ TokWF (.Ident []) := by decide
example : TokWF (.IntLiteral 0) ∧ ¬ TokWF (.IntLiteral (-1)) ∧ ¬ TokWF (.IntLiteral 9223372036854775808) := by
  decide
example : renderToks [.Ident c!"x", .Equals, .Sub, .IntLiteral 5, .StmtEnd] = c!"x = - 5 ;" := by decide

end Seed.LexRT
