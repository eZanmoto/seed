/-
  The printer of C08 (`prStmts`, Lemmas/ParseRT2Defs.lean) never puts a statement
  terminator where the lexer's terminator suppression would drop it: no `StmtEnd` of `prStmts p` is first or
  follows a `StmtEnd` or a continuation token (`prStmts_keepAll`, for every program, well-formed or not).
  Reason: a printed statement is never empty and ends with a name, a literal, a keyword or a closing
  bracket — never with a continuation token — and a block `{ … }` begins with a statement, not with `;`.

  Consequently the source text `renderToks (prStmts p)` is lexed to a token stream whose `.tok` projection
  is `prStmts p` (`lexAll_printed`), which is what C08's `parse_print_prog` needs.
-/
import SeedProofs.Lemmas.LexRT
import SeedProofs.Lemmas.ParseRT2Defs
namespace Seed.LexRT
open Seed

/-- a non-empty piece of printed text that does not begin with a terminator, contains no droppable
    terminator, and ends with a token that is not a continuation token: whatever the context before it, after
    it a terminator is kept -/
def Good (ts : List Token) : Prop := ∀ d rest, keepAll d (ts ++ rest) = keepAll false rest

/-- possibly empty -/
def Opt (ts : List Token) : Prop := ts = [] ∨ Good ts

/-- a statement list: no droppable terminator in any context (it ends with a terminator, or is empty) -/
def Semi (ts : List Token) : Prop := ∀ d rest, ∃ d', keepAll d (ts ++ rest) = keepAll d' rest

theorem ne_stmtEnd_of_not_cont {t : Token} (h : isContinuation t = false) : t ≠ Token.StmtEnd := by
  rintro rfl
  exact absurd h (by decide)

theorem keepAll_cons_ne (d : Bool) (t : Token) (r : List Token) (h : t ≠ Token.StmtEnd) :
    keepAll d (t :: r) = keepAll (isContinuation t) r := by
  simp only [keepAll, bne_iff_ne.mpr h, Bool.true_or, Bool.true_and]

theorem Good.single {t : Token} (h : isContinuation t = false) : Good [t] := by
  intro d rest
  rw [List.singleton_append, keepAll_cons_ne d t rest (ne_stmtEnd_of_not_cont h), h]

theorem Good.append {a b : List Token} (ha : Good a) (hb : Good b) : Good (a ++ b) := by
  intro d rest
  rw [List.append_assoc, ha, hb]

theorem Good.cons {t : Token} {b : List Token} (ht : t ≠ Token.StmtEnd) (hb : Good b) : Good (t :: b) := by
  intro d rest
  rw [List.cons_append, keepAll_cons_ne d t _ ht, hb]

theorem Good.opt {a : List Token} (h : Good a) : Opt a := Or.inr h

theorem Good.append_opt {a b : List Token} (ha : Good a) (hb : Opt b) : Good (a ++ b) := by
  rcases hb with rfl | hb
  · rw [List.append_nil]; exact ha
  · exact ha.append hb

theorem Opt.append_good {a b : List Token} (ha : Opt a) (hb : Good b) : Good (a ++ b) := by
  rcases ha with rfl | ha
  · exact hb
  · exact ha.append hb

theorem Good.block {x : List Token} (h : Semi x) : Good (Token.BraceOpen :: (x ++ [Token.BraceClose])) := by
  intro d rest
  rw [List.cons_append, keepAll_cons_ne d _ _ (by decide), List.append_assoc]
  obtain ⟨d', e⟩ := h (isContinuation Token.BraceOpen) ([Token.BraceClose] ++ rest)
  rw [e, List.singleton_append, keepAll_cons_ne d' _ _ (by decide)]
  rfl

theorem Good.parens {x : List Token} (b : Bool) (h : Good x) : Good (Seed.paren b x) := by
  unfold Seed.paren
  split
  · exact Good.cons (by decide) (h.append (Good.single rfl))
  · exact h

theorem spreadMark_opt (s : Bool) : Opt (spreadMark s) := by
  cases s
  · exact Or.inl rfl
  · exact Or.inr (Good.single rfl)

theorem tokOf_ne (op : BinaryOp) : tokOf op ≠ Token.StmtEnd := by cases op <;> decide

theorem assignTok_ne (op : BinaryOp) : (assignTokOf op).getD Token.Equals ≠ Token.StmtEnd := by
  cases op <;> decide

theorem sepBody_good {close : Token} (hc : isContinuation close = false) (c : Bool) :
    ∀ (l : List (List Token)), (∀ x ∈ l, Good x) → Good (sepBody close c l)
  | [], _ => Good.single hc
  | [t], h => by
    have ht : Good (t ++ [close]) := (h t (List.mem_cons_self ..)).append (Good.single hc)
    unfold sepBody
    cases c
    · exact ht
    · exact (Good.single rfl).append ht
  | t :: u :: r, h => by
    have ih := sepBody_good hc c (u :: r) (fun x hx => h x (List.mem_cons_of_mem _ hx))
    unfold sepBody
    exact (h t (List.mem_cons_self ..)).append (Good.cons (by decide) ih)

theorem ifTail_opt : ∀ (bs : List (List Token)) (els : Option (List Token)),
    (∀ x ∈ bs, Good x) → (∀ e, els = some e → Good e) → Opt (ifTail bs els)
  | [], none, _, _ => Or.inl rfl
  | [], some e, _, he => Or.inr (Good.cons (by decide) (he e rfl))
  | [b], none, hb, _ => Or.inr (hb b (List.mem_cons_self ..))
  | [b], some e, hb, he => Or.inr ((hb b (List.mem_cons_self ..)).append (Good.cons (by decide) (he e rfl)))
  | b :: b2 :: bs, els, hb, he => by
    have ih := ifTail_opt (b2 :: bs) els (fun x hx => hb x (List.mem_cons_of_mem _ hx)) he
    unfold ifTail
    exact Or.inr ((hb b (List.mem_cons_self ..)).append
      (Good.cons (by decide) ((Good.single (t := Token.If) rfl).append_opt ih)))

theorem ifBody_good (bs : List (List Token)) (els : Option (List Token))
    (hb : ∀ x ∈ bs, Good x) (he : ∀ e, els = some e → Good e) : Good (ifBody bs els) :=
  (Good.single (t := Token.If) rfl).append_opt (ifTail_opt bs els hb he)

mutual
theorem prR_good : (r : RawExpr) → (k : Nat) → Good (prR k r)
  | .Null, _ => Good.single rfl
  | .Bool true, _ => Good.single rfl
  | .Bool false, _ => Good.single rfl
  | .Int (.ofNat _), _ => Good.single rfl
  | .Int (.negSucc _), _ => Good.cons (by decide) (Good.single rfl)
  | .Str _ none, _ => Good.single rfl
  | .Str _ (some _), _ => Good.single rfl
  | .Var _, _ => Good.single rfl
  | .BinaryOp op _ l r, k =>
    Good.parens _ ((prE_good l _).append (Good.cons (tokOf_ne op) (prE_good r _)))
  | .Range l r, k =>
    Good.parens _ ((prE_good l _).append (Good.cons (by decide) (prE_good r _)))
  | .List items c, _ =>
    Good.cons (by decide) (sepBody_good rfl c _ (prItems_good items))
  | .Index e i, _ =>
    (prE_good e _).append (Good.cons (by decide) ((prE_good i _).append (Good.single rfl)))
  | .RangeIndex e a b, _ =>
    (prE_good e _).append (Good.cons (by decide)
      ((prO_opt a).append_good (Good.cons (by decide) ((prO_opt b).append_good (Good.single rfl)))))
  | .Prop e name tp, _ => by
    refine (prE_good e _).append (Good.cons ?_ (Good.single rfl))
    cases tp <;> decide
  | .Call f args, _ =>
    (prE_good f _).append (Good.cons (by decide) (sepBody_good rfl false _ (prItems_good args)))
  | .Object props, _ =>
    Good.cons (by decide) (sepBody_good rfl false _ (prProps_good props))
  | .Func args c stmts, _ =>
    Good.cons (by decide) (Good.cons (by decide)
      ((sepBody_good rfl c _ (prEs_good args)).append (Good.block (prStmts_semi stmts))))
theorem prE_good : (e : Expr) → (k : Nat) → Good (prE k e)
  | .mk r _, k => prR_good r k
theorem prO_opt : (o : Option Expr) → Opt (prO o)
  | none => Or.inl rfl
  | some e => Or.inr (prE_good e 1)
theorem prItems_good : (l : List ListItem) → ∀ x ∈ prItems l, Good x
  | [], x, hx => by simp [prItems] at hx
  | .mk e s :: r, x, hx => by
    simp only [prItems, List.mem_cons] at hx
    rcases hx with rfl | hx
    · exact (prE_good e 1).append_opt (spreadMark_opt s)
    · exact prItems_good r x hx
theorem prProps_good : (l : List PropItem) → ∀ x ∈ prProps l, Good x
  | [], x, hx => by simp [prProps] at hx
  | .Pair k v :: r, x, hx => by
    simp only [prProps, List.mem_cons] at hx
    rcases hx with rfl | hx
    · exact (prE_good k 1).append (Good.cons (by decide) (prE_good v 1))
    · exact prProps_good r x hx
  | .Single e s c :: r, x, hx => by
    simp only [prProps, List.mem_cons] at hx
    rcases hx with rfl | hx
    · exact (spreadMark_opt c).append_good ((prE_good e 1).append_opt (spreadMark_opt s))
    · exact prProps_good r x hx
theorem prEs_good : (l : List Expr) → ∀ x ∈ prEs l, Good x
  | [], x, hx => by simp [prEs] at hx
  | e :: r, x, hx => by
    simp only [prEs, List.mem_cons] at hx
    rcases hx with rfl | hx
    · exact prE_good e 1
    · exact prEs_good r x hx
theorem prStmts_semi : (l : List Stmt) → Semi (prStmts l)
  | [] => fun d rest => ⟨d, rfl⟩
  | s :: r => by
    intro d rest
    obtain ⟨d', e⟩ := prStmts_semi r true rest
    refine ⟨d', ?_⟩
    simp only [prStmts, List.append_assoc, List.cons_append]
    rw [prStmt_good s]
    simp only [keepAll]
    exact e
theorem prStmt_good : (s : Stmt) → Good (prStmt s)
  | .Block b => Good.block (prStmts_semi b)
  | .Expr e => prE_good e 1
  | .Declare l r =>
    (prE_good l 1).append (Good.cons (by decide) (prE_good r 1))
  | .Assign l r =>
    (prE_good l 1).append (Good.cons (by decide) (prE_good r 1))
  | .OpAssign l op _ r =>
    (prE_good l 1).append (Good.cons (assignTok_ne op) (prE_good r 1))
  | .If bs none =>
    ifBody_good _ _ (prBs_good bs) (fun e h => by cases h)
  | .If bs (some els) => by
    refine ifBody_good _ _ (prBs_good bs) (fun e h => ?_)
    injection h with h
    subst h
    exact Good.block (prStmts_semi els)
  | .While c s =>
    Good.cons (by decide) ((prE_good c 1).append (Good.block (prStmts_semi s)))
  | .For l i s =>
    Good.cons (by decide) ((prE_good l 1).append (Good.cons (by decide)
      ((prE_good i 1).append (Good.block (prStmts_semi s)))))
  | .Break _ => Good.single rfl
  | .Continue _ => Good.single rfl
  | .Func n _ args c s =>
    Good.cons (by decide) (Good.cons (by intro h; cases h) (Good.cons (by decide)
      ((sepBody_good rfl c _ (prEs_good args)).append (Good.block (prStmts_semi s)))))
  | .Return _ e => Good.cons (by decide) (prE_good e 1)
theorem prBs_good : (l : List Branch) → ∀ x ∈ prBs l, Good x
  | [], x, hx => by simp [prBs] at hx
  | .mk c s :: r, x, hx => by
    simp only [prBs, List.mem_cons] at hx
    rcases hx with rfl | hx
    · exact (prE_good c 1).append (Good.block (prStmts_semi s))
    · exact prBs_good r x hx
end

theorem prStmts_keepAll (p : List Stmt) : keepAll true (prStmts p) = true := by
  obtain ⟨d', e⟩ := prStmts_semi p true []
  rw [List.append_nil] at e
  rw [e]
  rfl

theorem prE_keepAll (e : Expr) (k : Nat) : keepAll true (prE k e) = true := by
  have := prE_good e k true []
  rw [List.append_nil] at this
  rw [this]
  rfl

theorem lexAll_printed (p : List Stmt) (h : ∀ t ∈ prStmts p, TokWF t) :
    (lexAll (renderToks (prStmts p))).2 = none ∧
    (lexAll (renderToks (prStmts p))).1.map Span.tok = prStmts p :=
  lexAll_render_keepAll _ h (prStmts_keepAll p)

end Seed.LexRT
