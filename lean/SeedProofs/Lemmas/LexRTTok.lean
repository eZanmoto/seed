/-
  One token: the spelling `renderTok t` of a well-formed token `t`, followed by the end
  of input or by a separator character (blank, `#`, newline, `;`), is lexed by `nextToken` as exactly `t`, and
  the scanner stops right behind the spelling (`nextToken_render`).  Class by class: integer literals
  (`natToChars` is inverted by `decimalValue`), identifiers, string literals (C15 `Seg.piece`), interpolated
  literals (C15 `Seg.render`), and — by evaluation, token by token — every symbol and keyword of the generated
  tables.
-/
import SeedProofs.Lemmas.LexRTDefs
import SeedProofs.Lemmas.C09Tok
import SeedProofs.Lemmas.C09Int
namespace Seed.LexRT
open Seed Seed.C09

/-- what may follow a spelled token: the end of input, or a separator character -/
def EndOK (rest : List Char) : Prop := rest = [] ∨ ∃ e r, rest = e :: r ∧ isSep e

theorem EndOK.nil : EndOK [] := Or.inl rfl
theorem EndOK.blank (r : List Char) : EndOK (' ' :: r) := Or.inr ⟨' ', r, rfl, Or.inl (Or.inl rfl)⟩

theorem EndOK.head {rest : List Char} (h : EndOK rest) {P : Char → Bool} (hP : ∀ e, isSep e → P e = false) :
    ∀ e, rest.head? = some e → P e = false := by
  intro e he
  rcases h with rfl | ⟨e', r, rfl, hs⟩
  · cases he
  · simp only [List.head?_cons, Option.some.injEq] at he
    subst he
    exact hP _ hs

theorem digit_spec : ∀ k, k < 10 →
    isAsciiDigit (Char.ofNat (48 + k)) = true ∧ digitVal (Char.ofNat (48 + k)) = k := by decide

theorem digitChar_digit (n : Nat) : isAsciiDigit (digitChar n) = true :=
  (digit_spec (n % 10) (Nat.mod_lt _ (by decide))).1

theorem digitVal_digitChar (n : Nat) : digitVal (digitChar n) = n % 10 :=
  (digit_spec (n % 10) (Nat.mod_lt _ (by decide))).2

theorem decimalValue_snoc (ds : List Char) (d : Char) :
    decimalValue (ds ++ [d]) = decimalValue ds * 10 + digitVal d := by
  simp [decimalValue, List.foldl_append]

theorem natToCharsAux_spec : ∀ (fuel n : Nat) (acc : List Char), n < fuel →
    ∃ ds, natToCharsAux fuel n acc = ds ++ acc ∧ ds ≠ [] ∧ (∀ ch ∈ ds, isAsciiDigit ch = true) ∧
      decimalValue ds = n
  | 0, n, _, h => absurd h (Nat.not_lt_zero n)
  | fuel + 1, n, acc, h => by
    unfold natToCharsAux
    split
    · next hlt =>
      refine ⟨[digitChar n], rfl, by simp, ?_, ?_⟩
      · intro ch hc
        rw [List.mem_singleton.mp hc]
        exact digitChar_digit n
      · have := decimalValue_snoc [] (digitChar n)
        simp only [List.nil_append] at this
        have h0 : decimalValue [] = 0 := rfl
        rw [this, digitVal_digitChar, Nat.mod_eq_of_lt hlt, h0]
        omega
    · next hge =>
      obtain ⟨ds, e, _, hd, hv⟩ := natToCharsAux_spec fuel (n / 10) (digitChar n :: acc) (by omega)
      refine ⟨ds ++ [digitChar n], by rw [e]; simp, by simp, ?_, ?_⟩
      · intro ch hc
        rcases List.mem_append.mp hc with hc | hc
        · exact hd ch hc
        · rw [List.mem_singleton.mp hc]
          exact digitChar_digit n
      · rw [decimalValue_snoc, hv, digitVal_digitChar]
        omega

theorem natToChars_spec (n : Nat) :
    natToChars n ≠ [] ∧ (∀ ch ∈ natToChars n, isAsciiDigit ch = true) ∧ decimalValue (natToChars n) = n := by
  obtain ⟨ds, e, hne, hd, hv⟩ := natToCharsAux_spec (n + 1) n [] (Nat.lt_succ_self n)
  rw [List.append_nil] at e
  unfold natToChars
  rw [e]
  exact ⟨hne, hd, hv⟩

theorem nextToken_render_int (n : Int) (h0 : 0 ≤ n) (h1 : n ≤ (i64Max : Int)) (rest : List Char)
    (hr : EndOK rest) (l c : Nat) :
    kind (nextToken ⟨natToChars n.toNat ++ rest, l, c⟩) = .tok (.IntLiteral n) rest := by
  obtain ⟨hne, hd, hv⟩ := natToChars_spec n.toNat
  cases hds : natToChars n.toNat with
  | nil => exact absurd hds hne
  | cons d raw =>
    rw [hds] at hd hv
    have hall : ∀ ch ∈ d :: raw, isIntChar ch = true := fun ch hc => isIntChar_of_digit (hd ch hc)
    have h := nextToken_int d raw rest l c (hd d (List.mem_cons_self ..)) hall
      (hr.head (fun e hs => isIntChar_sep hs))
    rw [filter_digits hd, hv] at h
    have hle : n.toNat ≤ i64Max := by omega
    rw [if_pos hle] at h
    rw [h]
    have : Int.ofNat n.toNat = n := Int.toNat_of_nonneg h0
    rw [this]

example : (0 : Int) ≤ 42 ∧ (42 : Int) ≤ (i64Max : Int) ∧ EndOK c!";x" :=
  ⟨by decide, by decide, Or.inr ⟨';', c!"x", rfl, by decide⟩⟩
example : kind (nextToken ⟨natToChars (42 : Int).toNat ++ c!";x", 2, 5⟩) = .tok (.IntLiteral 42) c!";x" := by decide

theorem nextToken_render_ident (ch : Char) (r : List Char) (h : identWF (ch :: r) = true) (rest : List Char)
    (hr : EndOK rest) (l c : Nat) :
    kind (nextToken ⟨(ch :: r) ++ rest, l, c⟩) = .tok (.Ident (ch :: r)) rest := by
  unfold identWF at h
  simp only [Bool.and_eq_true, List.all_eq_true, Option.isNone_iff_eq_none] at h
  obtain ⟨⟨hstart, hall⟩, hkw⟩ := h
  have hw : (ch :: (r ++ rest)).takeWhile isIdentChar = ch :: r := by
    apply takeWhile_of_boundary (a := ch :: r)
    · intro x hx
      rcases List.mem_cons.mp hx with rfl | hx
      · exact isIdentChar_of_start hstart
      · exact hall x hx
    · exact hr.head (fun e hs => isIdentChar_sep hs)
  rw [List.cons_append, nextToken_start (not_sep_of_identChar (isIdentChar_of_start hstart)), tokK,
    tokBody_word hstart]
  simp only [exK, Scanner.advance_rest, hw, drop_length_cons_append, keywordOrIdent, hkw]

example : identWF c!"_x9" = true ∧ EndOK c!"#c" := ⟨by decide, Or.inr ⟨'#', c!"c", rfl, by decide⟩⟩

theorem nextToken_render_str (cs rest : List Char) (l c : Nat) :
    kind (nextToken ⟨'"' :: (C15.escapeChars cs ++ '"' :: rest), l, c⟩) = .tok (.StrLiteral cs) rest := by
  have h := (C15.Seg.piece false cs).lexStr '"' rest l c
  rw [C15.nextToken_plain_str h]
  simp [kind, C15.strTok, Scanner.advance_rest]

theorem nextToken_render_interp (p0 : List Char) (segs : List (List Char × List Char))
    (hb : ∀ x ∈ segs, C15.Balanced x.1) (rest : List Char) (l c : Nat) :
    kind (nextToken ⟨'$' :: '"' :: (C15.render p0 segs ++ '"' :: rest), l, c⟩) =
      .tok (.InterpStrLiteral (C15.decoded p0 segs) (C15.slotsOf 0 p0 segs)) rest := by
  have h := (C15.Seg.render segs p0 hb).lexStr '"' rest (locAfter l c (some '"')).1 (locAfter l c (some '"')).2
  have hn : (Scanner.mk ('$' :: '"' :: (C15.render p0 segs ++ '"' :: rest)) l c).next =
      ⟨'"' :: (C15.render p0 segs ++ '"' :: rest), (locAfter l c (some '"')).1, (locAfter l c (some '"')).2⟩ := rfl
  rw [← hn] at h
  rw [C15.nextToken_interp_str h]
  simp [kind, C15.strTok, Scanner.advance_rest, Scanner.next_rest]

/-- a token checked by evaluation before a blank and before the end of input is lexed alike before any
    separator, from any position -/
theorem nextToken_render_closed (t : Token)
    (h1 : kind (nextToken ⟨renderTok t ++ [' '], 0, 0⟩) = .tok t [' '])
    (h2 : kind (nextToken ⟨renderTok t ++ [], 0, 0⟩) = .tok t [])
    (rest : List Char) (hr : EndOK rest) (l c : Nat) :
    kind (nextToken ⟨renderTok t ++ rest, l, c⟩) = .tok t rest := by
  rcases hr with rfl | ⟨e, r, rfl, hs⟩
  · rw [← h2]
    exact nextToken_kind_indep rfl
  · exact nextToken_local 0 0 l c h1 (Or.inr ⟨e, r, rfl, hs⟩) (fun h => by cases h)

/-- … and for a token that is not a string literal the evaluation at the end of input suffices -/
theorem nextToken_render_end (t : Token) (h : kind (nextToken ⟨renderTok t ++ [], 0, 0⟩) = .tok t [])
    (hs : isStrTok t = false) (rest : List Char) (hr : EndOK rest) (l c : Nat) :
    kind (nextToken ⟨renderTok t ++ rest, l, c⟩) = .tok t rest :=
  nextToken_render_closed t
    (nextToken_local 0 0 0 0 h (Or.inr ⟨' ', [], rfl, Or.inl (Or.inl rfl)⟩) fun _ => Or.inr hs) h rest hr l c

example : kind (nextToken ⟨renderTok .BangEqualsEquals ++ [' '], 0, 0⟩) = .tok .BangEqualsEquals [' '] ∧
    kind (nextToken ⟨renderTok .BangEqualsEquals ++ [], 0, 0⟩) = .tok .BangEqualsEquals [] := by decide
-- without a separator the next character may be absorbed: `!==` before `=` … is still `!==`, but `=` before `=` is `==`
example : kind (nextToken ⟨renderTok .Equals ++ c!"=", 0, 0⟩) = .tok .EqualsEquals [] := by decide

theorem interpWF_spec {s : List Char} {slots : List (Nat × Nat)} (h : interpWF s slots = true) :
    C15.decoded (splitSlots s 0 slots).1 (splitSlots s 0 slots).2 = s ∧
    C15.slotsOf 0 (splitSlots s 0 slots).1 (splitSlots s 0 slots).2 = slots ∧
    ∀ x ∈ (splitSlots s 0 slots).2, C15.Balanced x.1 := by
  unfold interpWF at h
  simp only [Bool.and_eq_true, decide_eq_true_eq, List.all_eq_true] at h
  exact ⟨h.1.1, h.1.2, h.2⟩

theorem nextToken_render (t : Token) (h : TokWF t) (rest : List Char) (hr : EndOK rest) (l c : Nat) :
    kind (nextToken ⟨renderTok t ++ rest, l, c⟩) = .tok t rest := by
  unfold TokWF at h
  cases t
  case Ident w =>
    cases w with
    | nil => cases h
    | cons ch r => exact nextToken_render_ident ch r h rest hr l c
  case IntLiteral n =>
    simp only [tokWF, Bool.and_eq_true, decide_eq_true_eq] at h
    exact nextToken_render_int n h.1 h.2 rest hr l c
  case StrLiteral s =>
    have := nextToken_render_str s rest l c
    simpa [renderTok] using this
  case InterpStrLiteral s slots =>
    obtain ⟨e1, e2, hb⟩ := interpWF_spec h
    have := nextToken_render_interp (splitSlots s 0 slots).1 (splitSlots s 0 slots).2 hb rest l c
    rw [e1, e2] at this
    simpa [renderTok] using this
  all_goals exact nextToken_render_end _ (by decide +kernel) rfl rest hr l c

example : TokWF (.StrLiteral c!"a\"b") ∧ EndOK c!"\nx" := ⟨by decide, Or.inr ⟨'\n', c!"x", rfl, by decide⟩⟩
example : kind (nextToken ⟨renderTok (.StrLiteral c!"a\"b") ++ c!"\nx", 1, 1⟩) = .tok (.StrLiteral c!"a\"b") c!"\nx" := by
  decide

theorem splitSlots_decoded (segs : List (List Char × List Char)) : ∀ (off : Nat) (p0 : List Char),
    splitSlots (C15.decoded p0 segs) off (C15.slotsOf off p0 segs) = (p0, segs) := by
  induction segs with
  | nil => intro off p0; rfl
  | cons x r ih =>
    obtain ⟨e, p⟩ := x
    intro off p0
    simp only [C15.decoded, C15.slotsOf, splitSlots]
    have e1 : off + p0.length - off = p0.length := by omega
    have e2 : off + p0.length + e.length + 3 - off = p0.length + e.length + 3 := by omega
    have e3 : off + p0.length + e.length + 3 - (off + p0.length) - 3 = e.length := by omega
    rw [e1, e2, e3]
    have d1 : (p0 ++ ('$' :: '{' :: e ++ ['}']) ++ C15.decoded p r).drop (p0.length + e.length + 3) =
        C15.decoded p r := by
      apply List.drop_left'
      simp; omega
    have d2 : (p0 ++ ('$' :: '{' :: e ++ ['}']) ++ C15.decoded p r).take p0.length = p0 := by
      rw [List.append_assoc]
      exact List.take_left' rfl
    have d3 : ((p0 ++ ('$' :: '{' :: e ++ ['}']) ++ C15.decoded p r).drop (p0.length + 2)).take e.length = e := by
      have : p0 ++ ('$' :: '{' :: e ++ ['}']) ++ C15.decoded p r =
          (p0 ++ ['$', '{']) ++ (e ++ ('}' :: C15.decoded p r)) := by simp
      rw [this, List.drop_left' (by simp)]
      exact List.take_left' rfl
    rw [d1, d2, d3, ih]

theorem tokWF_interp_of_pieces (p0 : List Char) (segs : List (List Char × List Char))
    (hb : ∀ x ∈ segs, C15.Balanced x.1) :
    TokWF (.InterpStrLiteral (C15.decoded p0 segs) (C15.slotsOf 0 p0 segs)) := by
  unfold TokWF tokWF interpWF
  simp only [splitSlots_decoded, decide_true, Bool.true_and, List.all_eq_true, decide_eq_true_eq]
  exact hb

end Seed.LexRT
