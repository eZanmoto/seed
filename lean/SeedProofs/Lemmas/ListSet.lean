/-
  ListSet.lean — `listSet`, the update of one position of a list, is `List.set`: length and reads after it.
-/
import SeedModel.Eval
namespace Seed

theorem listSet_eq_set {α} (xs : List α) (i : Nat) (v : α) : listSet xs i v = xs.set i v := by
  induction xs generalizing i with
  | nil => rfl
  | cons x r ih => cases i <;> simp [listSet, ih]

theorem listSet_getElem? {α} (xs : List α) (i j : Nat) (v : α) (hi : i < xs.length) :
    (listSet xs i v)[j]? = if j = i then some v else xs[j]? := by
  rw [listSet_eq_set, List.getElem?_set, if_pos hi]
  simp only [eq_comm]

theorem listSet_len {α} (xs : List α) (i : Nat) (v : α) : (listSet xs i v).length = xs.length := by
  rw [listSet_eq_set, List.length_set]

end Seed
