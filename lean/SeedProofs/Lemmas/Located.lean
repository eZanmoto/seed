/-
  Located.lean — G5: every error an evaluator function returns carries a position: below any number of
  call frames there is an `atLoc` (or a builtin-call node, which carries the call position) above the leaf.
-/
import SeedProofs.Lemmas.EvalPost
import SeedModel.Run
namespace Seed

def Located : Err → Prop
  | .leaf _ => False
  | .atLoc _ _ _ => True
  | .builtinCall _ _ _ => True
  | .funcCall _ _ e => Located e

def Res.ErrP {α} (P : Err → Prop) : Res α → Prop
  | .err e _ => P e
  | _ => True

namespace Res.ErrP
variable {P : Err → Prop}
theorem bind {α β} {r : Res α} {f : α → State → Res β} (h : Res.ErrP P r) (hf : ∀ a σ, Res.ErrP P (f a σ)) :
    Res.ErrP P (r.bind f) := by
  cases r with
  | ok a σ => exact hf a σ
  | err e σ => exact h
  | crash w σ => trivial
  | timeout => trivial
theorem map {α β} {r : Res α} (f : α → β) (h : Res.ErrP P r) : Res.ErrP P (r.map f) := by
  cases r <;> first | exact h | trivial
theorem mapErr {α} {r : Res α} {f : Err → Err} (h : Res.ErrP P r) (hf : ∀ e, P e → P (f e)) : Res.ErrP P (r.mapErr f) := by
  cases r with
  | err e σ => exact hf e h
  | ok a σ => trivial
  | crash w σ => trivial
  | timeout => trivial
theorem mapErr_always {α} {r : Res α} {f : Err → Err} (hf : ∀ e, P (f e)) : Res.ErrP P (r.mapErr f) := by
  cases r with
  | err e σ => exact hf e
  | ok a σ => trivial
  | crash w σ => trivial
  | timeout => trivial
end Res.ErrP

theorem located_at (loc : Loc) (l : Gen.Leaf) : Located (Err.at loc l) := trivial

theorem errAt_located {α} (loc : Loc) (l : Gen.Leaf) (σ : State) : Res.ErrP Located (errAt loc l σ : Res α) := trivial

theorem propsToQueue_located (loc : Loc) (props : List PropItem) (acc : List Expr) (e : Err)
    (h : propsToQueue loc props acc = .error e) : Located e := by
  induction props generalizing acc with
  | nil => simp [propsToQueue] at h
  | cons p r ih =>
    cases p with
    | Pair n v => exact ih _ (by simpa [propsToQueue] using h)
    | Single ex sp co =>
      unfold propsToQueue at h
      split at h
      · injection h with h; subst h; trivial
      · exact ih _ h

theorem itemsToQueue_located (loc : Loc) (items : List ListItem) (acc : List Expr) (e : Err)
    (h : itemsToQueue loc items acc = .error e) : Located e := by
  induction items generalizing acc with
  | nil => simp [itemsToQueue] at h
  | cons p r ih =>
    cases p with
    | mk ex sp =>
      unfold itemsToQueue at h
      split at h
      · injection h with h; subst h; trivial
      · exact ih _ h

theorem validateArgs_located (n : Nat) (q : List Expr) (names : List (List Char × Loc)) (e : Err)
    (h : validateArgs n q names = some (some e)) : Located e := by
  induction n generalizing q names with
  | zero => simp [validateArgs] at h
  | succ n ih =>
    unfold validateArgs at h
    split at h
    · simp at h
    · split at h
      · split at h
        · simp at h
        · split at h
          · simp at h; subst h; trivial
          · exact ih _ _ h
      · split at h
        · simp at h; subst h; exact propsToQueue_located _ _ _ _ (by assumption)
        · exact ih _ _ h
      · split at h
        · simp at h; subst h; exact itemsToQueue_located _ _ _ _ (by assumption)
        · exact ih _ _ h
      · split at h
        · simp at h; subst h; trivial
        · simp at h

structure LocAll (n : Nat) : Prop where
  evalExpr : ∀ σ sc e, Res.ErrP Located (evalExpr n σ sc e)
  evalOptIndex : ∀ σ sc e, Res.ErrP Located (evalOptIndex n σ sc e)
  evalListItems : ∀ σ sc items acc, Res.ErrP Located (evalListItems n σ sc items acc)
  evalProps : ∀ σ sc l props acc, Res.ErrP Located (evalProps n σ sc l props acc)
  evalCall : ∀ σ sc f args loc, Res.ErrP Located (evalCall n σ sc f args loc)
  evalToStr : ∀ σ sc d e, Res.ErrP Located (evalToStr n σ sc d e)
  evalToBool : ∀ σ sc d e, Res.ErrP Located (evalToBool n σ sc d e)
  evalToInt : ∀ σ sc d e, Res.ErrP Located (evalToInt n σ sc d e)
  evalToIndex : ∀ σ sc e, Res.ErrP Located (evalToIndex n σ sc e)
  interpolate : ∀ σ sc s slots loc last acc, Res.ErrP Located (interpolate n σ sc s slots loc last acc)
  evalBlock : ∀ σ sc bs stmts, Res.ErrP Located (evalBlock n σ sc bs stmts)
  declareAll : ∀ σ sc bs, Res.ErrP Located (declareAll n σ sc bs)
  evalStmts : ∀ σ sc stmts, Res.ErrP Located (evalStmts n σ sc stmts)
  evalStmt : ∀ σ sc st, Res.ErrP Located (evalStmt n σ sc st)
  evalIf : ∀ σ sc bs els, Res.ErrP Located (evalIf n σ sc bs els)
  evalWhile : ∀ σ sc c stmts, Res.ErrP Located (evalWhile n σ sc c stmts)
  evalFor : ∀ σ sc lhs pairs stmts, Res.ErrP Located (evalFor n σ sc lhs pairs stmts)
  bindNext : ∀ σ sc names lhs rhs op decl, Res.ErrP Located (bindNext n σ sc names lhs rhs op decl)
  bindProp : ∀ σ a name loc rhs op names vi, Res.ErrP Located (bindProp n σ a name loc rhs op names vi)
  bindRangeIndex : ∀ σ sc a start stop loc rhsItems names,
    Res.ErrP Located (bindRangeIndex n σ sc a start stop loc rhsItems names)
  bindList : ∀ σ sc names items collect lhsLoc b decl i lhsLen,
    Res.ErrP Located (bindList n σ sc names items collect lhsLoc b decl i lhsLen)
  bindObject : ∀ σ sc names props b decl i total remaining,
    Res.ErrP Located (bindObject n σ sc names props b decl i total remaining)
  bindObjectProp : ∀ σ sc names lhs b pname ploc decl,
    Res.ErrP Located (bindObjectProp n σ sc names lhs b pname ploc decl)

def Post.located : Post := ⟨fun _ _ => True, fun _ e _ => Located e, fun _ _ => True⟩

theorem Res.Sat.errP {α} {σ : State} {r : Res α} (h : Res.Sat Post.located σ r) : Res.ErrP Located r := by
  cases h <;> first | assumption | trivial

theorem located_closed : Post.located.Closed where
  refl := fun _ => trivial
  trans := fun _ _ => trivial
  thenErr := fun _ h => h
  thenCrash := fun _ _ => trivial
  allocList := fun _ _ => trivial
  allocObj := fun _ _ => trivial
  allocFunc := fun _ _ => trivial
  allocScope := fun _ => trivial
  print := fun _ _ => trivial
  setList := fun _ _ _ _ _ => trivial
  setObj := fun _ _ _ _ _ => trivial
  crashed := fun _ => trivial
  leaf := fun _ _ _ _ => trivial
  atLoc := fun _ _ _ => trivial
  funcCall := fun _ _ h => h
  builtinCall := fun _ _ _ _ => trivial
  badArgs := fun _ n q e h => validateArgs_located n q [] e h

theorem locAll (n : Nat) : LocAll n := by
  have h := satAll located_closed (bindNextName_sat located_closed (fun _ => trivial) (fun _ => trivial)) n
  constructor <;> intros <;> apply Res.Sat.errP <;> sat_field h

/-- G5: every error `evalProg` returns is located -/
theorem evalProg_located (n : Nat) (stmts : List Stmt) : Res.ErrP Located (evalProg n stmts) := by
  unfold evalProg
  apply Res.ErrP.bind ((locAll n).evalBlock _ _ _ _)
  intro esc σ
  cases esc <;> trivial

end Seed
