/-
  NoCrashBind.lean — G4, part 3d: the induction step of `SafeAll` for the binding functions
  (`bindNext`, `bindProp`, `bindRangeIndex`, `bindList`, `bindObject`, `bindObjectProp`).

  `bindList` reads the source list live at every step; its `index` crash is dead because list cells never
  change length (`Ext`), so the length check made by `bindNext` before the loop stays valid (`LenOK`).
-/
import SeedProofs.Lemmas.NoCrashDefs
namespace Seed

theorem safe_bindProp {n : Nat} (_ih : SafeAll n) (σ : State) (a : Addr) (name : List Char) (loc : Loc) (rhs : SVal)
    (op : Option (BinaryOp × Loc)) (names : List (List Char)) (vi : Bool) (hw : WF σ) (ha : σ.tagAt a = some .obj)
    (hr : SValOK σ rhs) : Safe Triv σ (bindProp (n + 1) σ a name loc rhs op names vi) := by
  unfold bindProp
  obtain ⟨props, hp⟩ := getObj_of_tag ha
  rw [hp]; dsimp only []
  split
  · apply Safe.bind (opAssignValue_safe n op hw (objGet_ok (hw.obj hp) (by assumption)) hr); intro v σ1 hw1 he1 hv
    obtain ⟨props', hp'⟩ := getObj_of_tag (tag_mono ha he1)
    rw [hp']; dsimp only []
    exact Safe.ok (set_obj_wf hw1 hp' (objInsert_ok (hw1.obj hp') hv) (objInsert_sorted (hw1.sorted hp'))) (set_ext_obj _ hp') trivial
  · split
    · split <;> exact Safe.errAt
    · exact Safe.ok (set_obj_wf hw hp (objInsert_ok (hw.obj hp) hr) (objInsert_sorted (hw.sorted hp))) (set_ext_obj _ hp) trivial

theorem safe_bindRangeIndex {n : Nat} (ih : SafeAll n) (σ : State) (sc : List Addr) (a : Addr) (start stop : Option Expr)
    (loc : Loc) (rhsItems : List SVal) (names : List (List Char)) (hw : WF σ) (hs : ScOK σ sc)
    (ha : σ.tagAt a = some .list) (hr : ListOK σ rhsItems) :
    Safe Triv σ (bindRangeIndex (n + 1) σ sc a start stop loc rhsItems names) := by
  unfold bindRangeIndex
  apply Safe.bind (ih.evalOptIndex _ _ _ hw hs); intro s σ1 hw1 he1 _
  apply Safe.bind (ih.evalOptIndex _ _ _ hw1 (hs.mono he1)); intro e σ2 hw2 he2 _
  obtain ⟨items, hi⟩ := getList_of_tag (tag_mono ha (he1.trans he2))
  rw [hi]
  refine Safe.ite (fun _ => Safe.errAt) fun _ => ?_
  refine Safe.ite (fun _ => Safe.errAt) fun h2 => ?_
  refine Safe.ite (fun _ => Safe.errAt) fun h3 => ?_
  refine Safe.ite (fun _ => Safe.errAt) fun h4 => ?_
  exact Safe.ok (set_list_wf hw2 hi (listSplice_ok _ (hw2.list hi) (hr.mono (he1.trans he2))))
    (set_ext_list hi (listSplice_length items (s.getD 0) (e.getD items.length) rhsItems (Nat.lt_of_not_ge h2)
      (Nat.le_of_not_gt h3) (Decidable.of_not_not h4))) trivial

theorem safe_bindObjectProp {n : Nat} (ih : SafeAll n) (σ : State) (sc : List Addr) (names : List (List Char)) (lhs : Expr)
    (b : Addr) (pname : List Char) (ploc : Loc) (decl : Bool) (hw : WF σ) (hs : ScOK σ sc) (hb : σ.tagAt b = some .obj) :
    Safe Triv σ (bindObjectProp (n + 1) σ sc names lhs b pname ploc decl) := by
  unfold bindObjectProp
  obtain ⟨m, hm⟩ := getObj_of_tag hb
  rw [hm]; dsimp only []
  split
  · exact Safe.errAt
  · exact ih.bindNext _ _ _ _ _ _ _ hw hs (objGet_ok (hw.obj hm) (by assumption))

theorem safe_bindObject {n : Nat} (ih : SafeAll n) (σ : State) (sc : List Addr) (names : List (List Char))
    (props : List PropItem) (b : Addr) (decl : Bool) (i total : Nat) (remaining : List (List Char)) (hw : WF σ)
    (hs : ScOK σ sc) (hb : σ.tagAt b = some .obj) :
    Safe Triv σ (bindObject (n + 1) σ sc names props b decl i total remaining) := by
  unfold bindObject
  cases props with
  | nil => exact Safe.ok_same hw trivial
  | cons p r =>
    cases p with
    | Single e spread collect =>
      dsimp only []
      refine Safe.ite (fun _ => Safe.errAt) fun _ => ?_
      split
      · rename_i pname _
        refine Safe.ite (fun _ => ?_) fun _ => ?_
        · refine Safe.ite (fun _ => Safe.errAt) fun _ => ?_
          obtain ⟨m, hm⟩ := getObj_of_tag hb
          rw [hm]; dsimp only []
          rcases h : σ.alloc (.obj (m.filter fun kv => remaining.contains kv.1)) with ⟨ra, σ1⟩
          obtain ⟨hw1, he1, ht1⟩ := alloc_spec h hw (c := .obj _) ⟨(hw.obj hm).filter _, (hw.sorted hm).filter _⟩
          dsimp only []
          refine Safe.weaken ?_ he1
          apply Safe.bind (bindNextName_safe n _ _ _ _ _ hw1 (hs.mono he1) (SValOK.plain (v := .obj ra) ht1))
          intro names' σ2 hw2 he2 _
          exact ih.bindObject _ _ _ _ _ _ _ _ _ hw2 (hs.mono (he1.trans he2)) (tag_mono hb (he1.trans he2))
        · refine Safe.ite (fun _ => ih.bindObject _ _ _ _ _ _ _ _ _ hw hs hb) fun _ => ?_
          apply Safe.bind (ih.bindObjectProp _ _ _ _ _ _ _ _ hw hs hb); intro names' σ1 hw1 he1 _
          exact ih.bindObject _ _ _ _ _ _ _ _ _ hw1 (hs.mono he1) (tag_mono hb he1)
      · exact Safe.errAt
    | Pair nameE newLhs =>
      dsimp only []
      apply Safe.bind (ih.evalToStr _ _ _ _ hw hs); intro pname σ1 hw1 he1 _
      apply Safe.bind (ih.bindObjectProp _ _ _ _ _ _ _ _ hw1 (hs.mono he1) (tag_mono hb he1)); intro names' σ2 hw2 he2 _
      exact ih.bindObject _ _ _ _ _ _ _ _ _ hw2 (hs.mono (he1.trans he2)) (tag_mono hb (he1.trans he2))

theorem safe_bindList {n : Nat} (ih : SafeAll n) (σ : State) (sc : List Addr) (names : List (List Char)) (items : List ListItem)
    (collect : Bool) (lhsLoc : Loc) (b : Addr) (decl : Bool) (i lhsLen : Nat) (hw : WF σ) (hs : ScOK σ sc)
    (hlen : i + items.length = lhsLen) (hl : LenOK σ b collect lhsLen) :
    Safe Triv σ (bindList (n + 1) σ sc names items collect lhsLoc b decl i lhsLen) := by
  unfold bindList
  cases items with
  | nil => exact Safe.ok_same hw trivial
  | cons it r =>
    obtain ⟨e, spread⟩ := it
    dsimp only []
    refine Safe.ite (fun _ => Safe.errAt) fun _ => ?_
    have hl' := hl
    obtain ⟨xs, hx, hc1, hc2⟩ := hl'
    rw [hx]; dsimp only []
    have hlen' : i + 1 + r.length = lhsLen := by simp only [List.length_cons] at hlen; omega
    refine Safe.ite (fun _ => ?_) fun hnc => ?_
    · rcases h : σ.alloc (.list (xs.drop (lhsLen - 1))) with ⟨ra, σ1⟩
      obtain ⟨hw1, he1, ht1⟩ := alloc_spec h hw (c := .list _) ((hw.list hx).drop _)
      dsimp only []
      refine Safe.weaken ?_ he1
      apply Safe.bind (ih.bindNext _ _ _ _ _ _ _ hw1 (hs.mono he1) (SValOK.plain (v := .list ra) ht1))
      intro names' σ2 hw2 he2 _
      exact ih.bindList _ _ _ _ _ _ _ _ _ _ hw2 (hs.mono (he1.trans he2)) hlen' (hl.mono (he1.trans he2))
    · split
      · rename_i hnone
        exfalso
        have hge : xs.length ≤ i := by
          rcases Nat.lt_or_ge i xs.length with hlt | hge
          · rw [List.getElem?_eq_getElem hlt] at hnone; cases hnone
          · exact hge
        cases collect with
        | true =>
          have := hc1 rfl
          simp only [Bool.true_and, decide_eq_true_eq] at hnc
          omega
        | false =>
          have := hc2 rfl
          omega
      · apply Safe.bind (ih.bindNext _ _ _ _ _ _ _ hw hs ((hw.list hx).getElem? (by assumption)))
        intro names' σ1 hw1 he1 _
        exact ih.bindList _ _ _ _ _ _ _ _ _ _ hw1 (hs.mono he1) hlen' (hl.mono he1)

theorem safe_bindNext {n : Nat} (ih : SafeAll n) (σ : State) (sc : List Addr) (names : List (List Char)) (lhs : Expr) (rhs : SVal)
    (op : Option (BinaryOp × Loc)) (decl : Bool) (hw : WF σ) (hs : ScOK σ sc) (hr : SValOK σ rhs) :
    Safe Triv σ (bindNext (n + 1) σ sc names lhs rhs op decl) := by
  unfold bindNext
  obtain ⟨raw, loc⟩ := lhs
  cases raw
  case Var name => exact bindNextName_safe n _ _ _ _ _ hw hs hr
  case Index ex locat =>
    dsimp only []
    apply Safe.bind (ih.evalExpr _ _ _ hw hs); intro tgt σ1 hw1 he1 htgt
    have hs1 := hs.mono he1
    split
    · rename_i a heq
      have ha := htgt.1.list_tag heq
      apply Safe.bind (ih.evalToIndex _ _ _ hw1 hs1); intro i σ2 hw2 he2 _
      obtain ⟨items, hi⟩ := getList_of_tag (tag_mono ha he2)
      rw [hi]; dsimp only []
      split
      · exact Safe.errAt
      · apply Safe.bind (opAssignValue_safe n op hw2 ((hw2.list hi).getElem? (by assumption)) (hr.mono (he1.trans he2)))
        intro v σ3 hw3 he3 hv
        obtain ⟨items', hi'⟩ := getList_of_tag (tag_mono ha (he2.trans he3))
        rw [hi']; dsimp only []
        exact Safe.ok (set_list_wf hw3 hi' (listSet_ok (hw3.list hi') hv)) (set_ext_list hi' (listSet_len _ _ _)) trivial
    · rename_i a heq
      have ha := htgt.1.obj_tag heq
      apply Safe.bind (ih.evalToStr _ _ _ _ hw1 hs1); intro name σ2 hw2 he2 _
      exact ih.bindProp _ _ _ _ _ _ _ _ hw2 (tag_mono ha he2) (hr.mono (he1.trans he2))
    · exact Safe.errAt
  case RangeIndex ex start stop =>
    dsimp only []
    split
    · exact Safe.errAt
    · apply Safe.bind (ih.evalExpr _ _ _ hw hs); intro tgt σ1 hw1 he1 htgt
      have hs1 := hs.mono he1
      split
      · rename_i a heq
        have ha := htgt.1.list_tag heq
        split
        · rename_i b heqb
          obtain ⟨rhsItems, hb⟩ := getList_of_tag ((hr.mono he1).1.list_tag heqb)
          rw [hb]; dsimp only []
          exact ih.bindRangeIndex _ _ _ _ _ _ _ _ hw1 hs1 ha (hw1.list hb)
        · exact ih.bindRangeIndex _ _ _ _ _ _ _ _ hw1 hs1 ha (strItems_ok _ _)
        · exact Safe.errAt
      · exact Safe.errAt
  case «Prop» ex name typeProp =>
    dsimp only []
    refine Safe.ite (fun _ => Safe.errAt) fun _ => ?_
    apply Safe.bind (ih.evalExpr _ _ _ hw hs); intro tgt σ1 hw1 he1 htgt
    split
    · rename_i a heq
      exact ih.bindProp _ _ _ _ _ _ _ _ hw1 (htgt.1.obj_tag heq) (hr.mono he1)
    · exact Safe.errAt
  case Object props =>
    dsimp only []
    split
    · exact Safe.errAt
    · split
      · rename_i b heqb
        have hb := hr.1.obj_tag heqb
        obtain ⟨m, hm⟩ := getObj_of_tag hb
        rw [hm]; dsimp only []
        exact ih.bindObject _ _ _ _ _ _ _ _ _ hw hs hb
      · exact Safe.errAt
  case List items collect =>
    dsimp only []
    split
    · exact Safe.errAt
    · split
      · rename_i b heqb
        obtain ⟨rhsItems, hb⟩ := getList_of_tag (hr.1.list_tag heqb)
        rw [hb]; dsimp only []
        refine Safe.ite (fun _ => Safe.errAt) fun h1 => ?_
        refine Safe.ite (fun _ => Safe.errAt) fun h2 => ?_
        refine ih.bindList _ _ _ _ _ _ _ _ _ _ hw hs (by simp) ⟨rhsItems, hb, ?_, ?_⟩
        · intro hc; subst hc
          simp only [Bool.true_and, decide_eq_true_eq] at h1
          omega
        · intro hc; subst hc
          simp only [Bool.not_false, Bool.true_and, decide_eq_true_eq] at h2
          omega
      · exact Safe.errAt
  all_goals (dsimp only [invalidBindDescr]; exact Safe.errAt)

end Seed
