/-
  NoCrashDefs.lean — G4, part 3a: the statement `SafeAll n` ("at fuel `n` no evaluator function crashes from a
  well-formed state, except by `lock`") and the small facts its proof needs.
-/
import SeedProofs.Lemmas.WFPrim
namespace Seed

def EscOK (σ : State) : Escape → Prop
  | .none => True
  | .brk _ => True
  | .cont _ => True
  | .ret v _ => SValOK σ v

def BindsOK (σ : State) (bs : List (Expr × SVal)) : Prop := ∀ b ∈ bs, SValOK σ b.2

theorem BindsOK.nil {σ : State} : BindsOK σ [] := fun _ h => by cases h
theorem BindsOK.cons {σ : State} {e : Expr} {v : SVal} {bs : List (Expr × SVal)} (hv : SValOK σ v) (h : BindsOK σ bs) :
    BindsOK σ ((e, v) :: bs) := List.forall_mem_cons.2 ⟨hv, h⟩
theorem BindsOK.append {σ : State} {xs ys : List (Expr × SVal)} (hx : BindsOK σ xs) (hy : BindsOK σ ys) :
    BindsOK σ (xs ++ ys) := List.forall_mem_append.2 ⟨hx, hy⟩
theorem BindsOK.zip {σ : State} (es : List Expr) {vs : List SVal} (h : ListOK σ vs) : BindsOK σ (es.zip vs) :=
  fun b hb => h b.2 (List.of_mem_zip (a := b.1) (b := b.2) hb).2
theorem BindsOK.mono {σ σ' : State} {bs : List (Expr × SVal)} (h : BindsOK σ bs) (he : Ext σ σ') : BindsOK σ' bs :=
  fun b hb => (h b hb).mono he
theorem BindsOK.head {σ : State} {e : Expr} {v : SVal} {bs : List (Expr × SVal)} (h : BindsOK σ ((e, v) :: bs)) : SValOK σ v :=
  h (e, v) List.mem_cons_self
theorem BindsOK.tail {σ : State} {b : Expr × SVal} {bs : List (Expr × SVal)} (h : BindsOK σ (b :: bs)) : BindsOK σ bs :=
  fun x hx => h x (List.mem_cons_of_mem _ hx)

/-- the live source list of a list destructuring is long enough for the pattern -/
def LenOK (σ : State) (b : Addr) (collect : Bool) (lhsLen : Nat) : Prop :=
  ∃ xs, σ.getList b = some xs ∧ (collect = true → lhsLen - 1 ≤ xs.length) ∧ (collect = false → lhsLen ≤ xs.length)

theorem LenOK.mono {σ σ' : State} {b : Addr} {c : Bool} {l : Nat} (h : LenOK σ b c l) (he : Ext σ σ') : LenOK σ' b c l := by
  obtain ⟨xs, hx, h1, h2⟩ := h
  obtain ⟨ys, hy, hl⟩ := he.getList hx
  exact ⟨ys, hy, by rw [hl]; exact h1, by rw [hl]; exact h2⟩

theorem ValOK.list_tag {σ : State} {v : Val} {a : Addr} (h : ValOK σ v) (e : v = .list a) : σ.tagAt a = some .list := by
  rw [e] at h; exact h
theorem ValOK.obj_tag {σ : State} {v : Val} {a : Addr} (h : ValOK σ v) (e : v = .obj a) : σ.tagAt a = some .obj := by
  rw [e] at h; exact h
theorem ValOK.func_tag {σ : State} {v : Val} {a : Addr} (h : ValOK σ v) (e : v = .func a) : σ.tagAt a = some .func := by
  rw [e] at h; exact h

theorem EscOK.mono {σ σ' : State} {e : Escape} (h : EscOK σ e) (he : Ext σ σ') : EscOK σ' e := by
  cases e <;> first | trivial | exact SValOK.mono h he

theorem intRange_ok (σ : State) (a b : Int) : ListOK σ (intRange a b) := by
  intro x hx
  obtain ⟨i, _, rfl⟩ := List.mem_map.1 hx
  exact SValOK.plain trivial

theorem strItems_ok (σ : State) (bs : Bytes) : ListOK σ (bs.map fun b => SVal.plain (.str [b])) := by
  intro x hx
  obtain ⟨i, _, rfl⟩ := List.mem_map.1 hx
  exact SValOK.plain trivial

structure SafeAll (n : Nat) : Prop where
  evalExpr : ∀ σ sc e, WF σ → ScOK σ sc → Safe SValOK σ (evalExpr n σ sc e)
  evalOptIndex : ∀ σ sc e, WF σ → ScOK σ sc → Safe Triv σ (evalOptIndex n σ sc e)
  evalListItems : ∀ σ sc items acc, WF σ → ScOK σ sc → ListOK σ acc → Safe ListOK σ (evalListItems n σ sc items acc)
  /-- the accumulator of an object literal stays strictly sorted by key -/
  evalProps : ∀ σ sc l props acc, WF σ → ScOK σ sc → ObjOK σ acc → Sorted acc →
    Safe (fun σ' m => ObjOK σ' m ∧ Sorted m) σ (evalProps n σ sc l props acc)
  evalCall : ∀ σ sc f args loc, WF σ → ScOK σ sc → Safe SValOK σ (evalCall n σ sc f args loc)
  evalToStr : ∀ σ sc d e, WF σ → ScOK σ sc → Safe Triv σ (evalToStr n σ sc d e)
  evalToBool : ∀ σ sc d e, WF σ → ScOK σ sc → Safe Triv σ (evalToBool n σ sc d e)
  evalToInt : ∀ σ sc d e, WF σ → ScOK σ sc → Safe Triv σ (evalToInt n σ sc d e)
  evalToIndex : ∀ σ sc e, WF σ → ScOK σ sc → Safe Triv σ (evalToIndex n σ sc e)
  interpolate : ∀ σ sc s slots loc last acc, WF σ → ScOK σ sc → Safe Triv σ (interpolate n σ sc s slots loc last acc)
  /-- `evalBlock` pushes a fresh scope, so the outer chain may be empty (as in `evalProg`) -/
  evalBlock : ∀ σ sc bs stmts, WF σ → ScTags σ sc → BindsOK σ bs → Safe EscOK σ (evalBlock n σ sc bs stmts)
  declareAll : ∀ σ sc bs, WF σ → ScOK σ sc → BindsOK σ bs → Safe Triv σ (declareAll n σ sc bs)
  evalStmts : ∀ σ sc stmts, WF σ → ScOK σ sc → Safe EscOK σ (evalStmts n σ sc stmts)
  evalStmt : ∀ σ sc st, WF σ → ScOK σ sc → Safe EscOK σ (evalStmt n σ sc st)
  evalIf : ∀ σ sc bs els, WF σ → ScOK σ sc → Safe EscOK σ (evalIf n σ sc bs els)
  evalWhile : ∀ σ sc c stmts, WF σ → ScOK σ sc → Safe EscOK σ (evalWhile n σ sc c stmts)
  evalFor : ∀ σ sc lhs pairs stmts, WF σ → ScOK σ sc → PairsOK σ pairs → Safe EscOK σ (evalFor n σ sc lhs pairs stmts)
  bindNext : ∀ σ sc names lhs rhs op decl, WF σ → ScOK σ sc → SValOK σ rhs →
    Safe Triv σ (bindNext n σ sc names lhs rhs op decl)
  bindProp : ∀ σ a name loc rhs op names vi, WF σ → σ.tagAt a = some .obj → SValOK σ rhs →
    Safe Triv σ (bindProp n σ a name loc rhs op names vi)
  bindRangeIndex : ∀ σ sc a start stop loc rhsItems names, WF σ → ScOK σ sc → σ.tagAt a = some .list → ListOK σ rhsItems →
    Safe Triv σ (bindRangeIndex n σ sc a start stop loc rhsItems names)
  bindList : ∀ σ sc names items collect lhsLoc b decl i lhsLen, WF σ → ScOK σ sc → i + items.length = lhsLen →
    LenOK σ b collect lhsLen → Safe Triv σ (bindList n σ sc names items collect lhsLoc b decl i lhsLen)
  bindObject : ∀ σ sc names props b decl i total remaining, WF σ → ScOK σ sc → σ.tagAt b = some .obj →
    Safe Triv σ (bindObject n σ sc names props b decl i total remaining)
  bindObjectProp : ∀ σ sc names lhs b pname ploc decl, WF σ → ScOK σ sc → σ.tagAt b = some .obj →
    Safe Triv σ (bindObjectProp n σ sc names lhs b pname ploc decl)

theorem safeAll_zero : SafeAll 0 := by
  constructor <;> intros
  · unfold evalExpr; trivial
  · unfold evalOptIndex; trivial
  · unfold evalListItems; trivial
  · unfold evalProps; trivial
  · unfold evalCall; trivial
  · unfold evalToStr; trivial
  · unfold evalToBool; trivial
  · unfold evalToInt; trivial
  · unfold evalToIndex; trivial
  · unfold interpolate; trivial
  · unfold evalBlock; trivial
  · unfold declareAll; trivial
  · unfold evalStmts; trivial
  · unfold evalStmt; trivial
  · unfold evalIf; trivial
  · unfold evalWhile; trivial
  · unfold evalFor; trivial
  · unfold bindNext; trivial
  · unfold bindProp; trivial
  · unfold bindRangeIndex; trivial
  · unfold bindList; trivial
  · unfold bindObject; trivial
  · unfold bindObjectProp; trivial

end Seed
