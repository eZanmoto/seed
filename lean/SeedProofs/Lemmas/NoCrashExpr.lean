/-
  NoCrashExpr.lean — G4, part 3b: the induction step of `SafeAll` for the expression-level functions
  (`evalExpr`, `evalOptIndex`, `evalListItems`, `evalProps`, `evalCall`, `evalTo*`, `interpolate`).
-/
import SeedProofs.Lemmas.NoCrashDefs
namespace Seed

theorem safe_evalExpr {n : Nat} (ih : SafeAll n) (σ : State) (sc : List Addr) (e : Expr) (hw : WF σ) (hs : ScOK σ sc) :
    Safe SValOK σ (evalExpr (n + 1) σ sc e) := by
  unfold evalExpr
  obtain ⟨raw, loc⟩ := e
  cases raw with
  | Null | Bool b | Int i => exact Safe.ok_same hw (SValOK.plain trivial)
  | Str s slots =>
    cases slots with
    | none => exact Safe.ok_same hw (SValOK.plain trivial)
    | some slots =>
      dsimp only []
      apply Safe.bind (ih.interpolate _ _ _ _ _ _ _ hw hs); intro cs σ1 hw1 he1 _
      exact Safe.ok_same hw1 (SValOK.plain trivial)
  | Var name =>
    dsimp only []
    split
    · exact Safe.ok_same hw (scopeGet_ok hw (by assumption))
    · exact Safe.errAt
  | BinaryOp op opLoc lhs rhs =>
    dsimp only []
    apply Safe.bind (ih.evalExpr _ _ _ hw hs); intro l σ1 hw1 he1 hl
    apply Safe.bind (ih.evalExpr _ _ _ hw1 (hs.mono he1)); intro r σ2 hw2 he2 hr
    apply Safe.bind (applyBinOp_safe n _ _ hw2 (hl.mono he2).1 hr.1); intro v σ3 hw3 he3 hv
    exact Safe.ok_same hw3 (SValOK.plain hv)
  | List items collect =>
    dsimp only []
    refine Safe.ite (fun _ => Safe.errAt) fun _ => ?_
    apply Safe.bind (ih.evalListItems _ _ _ _ hw hs ListOK.nil); intro vals σ1 hw1 he1 hv
    exact Safe.ok (alloc_wf (c := .list vals) hw1 hv) (alloc_ext _ _) (SValOK.plain (alloc_tag _ _))
  | Index ex locat =>
    dsimp only []
    apply Safe.bind (ih.evalExpr _ _ _ hw hs); intro src σ1 hw1 he1 hsrc
    have hs1 := hs.mono he1
    split
    · apply Safe.bind (ih.evalToIndex _ _ _ hw1 hs1); intro i σ2 hw2 he2 _
      split
      · exact Safe.ok_same hw2 (SValOK.plain trivial)
      · exact Safe.errAt
    · rename_i a heq
      have ha := hsrc.1.list_tag heq
      apply Safe.bind (ih.evalToIndex _ _ _ hw1 hs1); intro i σ2 hw2 he2 _
      obtain ⟨items, hi⟩ := getList_of_tag (tag_mono ha he2)
      rw [hi]; dsimp only []
      split
      · exact Safe.ok_same hw2 ((hw2.list hi).getElem? (by assumption))
      · exact Safe.errAt
    · rename_i a heq
      have ha := hsrc.1.obj_tag heq
      apply Safe.bind (ih.evalToStr _ _ _ _ hw1 hs1); intro name σ2 hw2 he2 _
      obtain ⟨props, hp⟩ := getObj_of_tag (tag_mono ha he2)
      rw [hp]; dsimp only []
      split
      · exact Safe.ok_same hw2 (SValOK.withSrc (objGet_ok (hw2.obj hp) (by assumption)).1 (hsrc.mono he2).1)
      · exact Safe.errAt
    · exact Safe.errAt
  | RangeIndex ex start stop =>
    dsimp only []
    apply Safe.bind (ih.evalOptIndex _ _ _ hw hs); intro a σ1 hw1 he1 _
    apply Safe.bind (ih.evalOptIndex _ _ _ hw1 (hs.mono he1)); intro b σ2 hw2 he2 _
    apply Safe.bind (ih.evalExpr _ _ _ hw2 (hs.mono (he1.trans he2))); intro src σ3 hw3 he3 hsrc
    split
    · exact Safe.ite (fun _ => Safe.ok_same hw3 (SValOK.plain trivial)) fun _ => Safe.errAt
    · rename_i addr heq
      obtain ⟨items, hi⟩ := getList_of_tag (hsrc.1.list_tag heq)
      rw [hi]; dsimp only []
      refine Safe.ite (fun _ => ?_) fun _ => Safe.errAt
      exact Safe.ok (alloc_wf (c := .list _) hw3 (((hw3.list hi).drop _).take _)) (alloc_ext _ _) (SValOK.plain (alloc_tag _ _))
    · exact Safe.errAt
  | Range start stop =>
    dsimp only []
    apply Safe.bind (ih.evalToInt _ _ _ _ hw hs); intro a σ1 hw1 he1 _
    apply Safe.bind (ih.evalToInt _ _ _ _ hw1 (hs.mono he1)); intro b σ2 hw2 he2 _
    exact Safe.ok (alloc_wf (c := .list _) hw2 (intRange_ok _ _ _)) (alloc_ext _ _) (SValOK.plain (alloc_tag _ _))
  | Object props =>
    dsimp only []
    apply Safe.bind (ih.evalProps _ _ _ _ _ hw hs ObjOK.nil Sorted.nil); intro m σ1 hw1 he1 hm
    exact Safe.ok (alloc_wf (c := .obj m) hw1 hm) (alloc_ext _ _) (SValOK.plain (alloc_tag _ _))
  | «Prop» ex name typeProp =>
    dsimp only []
    apply Safe.bind (ih.evalExpr _ _ _ hw hs); intro src σ1 hw1 he1 hsrc
    refine Safe.ite (fun _ => ?_) fun _ => ?_
    · split
      · exact Safe.errAt
      · split
        · exact Safe.ok_same hw1 (SValOK.withSrc (typeFnLookup_ok (by assumption)) hsrc.1)
        · exact Safe.errAt
    · split
      · rename_i a heq
        obtain ⟨props, hp⟩ := getObj_of_tag (hsrc.1.obj_tag heq)
        rw [hp]; dsimp only []
        split
        · exact Safe.ok_same hw1 (SValOK.withSrc (objGet_ok (hw1.obj hp) (by assumption)).1 hsrc.1)
        · exact Safe.errAt
      · exact Safe.errAt
  | Func args collect stmts =>
    dsimp only []
    exact Safe.ok (alloc_wf (c := .func _) hw hs) (alloc_ext _ _) (SValOK.plain (alloc_tag _ _))
  | Call f args => exact ih.evalCall _ _ _ _ _ hw hs

theorem safe_evalOptIndex {n : Nat} (ih : SafeAll n) (σ : State) (sc : List Addr) (e : Option Expr) (hw : WF σ) (hs : ScOK σ sc) :
    Safe Triv σ (evalOptIndex (n + 1) σ sc e) := by
  unfold evalOptIndex
  cases e with
  | none => exact Safe.ok_same hw trivial
  | some e => exact Safe.map (ih.evalToIndex _ _ _ hw hs) (fun _ _ _ => trivial)

theorem safe_evalListItems {n : Nat} (ih : SafeAll n) (σ : State) (sc : List Addr) (items : List ListItem) (acc : List SVal)
    (hw : WF σ) (hs : ScOK σ sc) (ha : ListOK σ acc) : Safe ListOK σ (evalListItems (n + 1) σ sc items acc) := by
  unfold evalListItems
  cases items with
  | nil => exact Safe.ok_same hw ha
  | cons it r =>
    obtain ⟨e, spread⟩ := it
    dsimp only []
    apply Safe.bind (ih.evalExpr _ _ _ hw hs); intro v σ1 hw1 he1 hv
    have hs1 := hs.mono he1
    have ha1 := ha.mono he1
    refine Safe.ite (fun _ => ih.evalListItems _ _ _ _ hw1 hs1 (ListOK.append ha1 (ListOK.cons hv ListOK.nil))) fun _ => ?_
    · split
      · rename_i a heq
        obtain ⟨xs, hx⟩ := getList_of_tag (hv.1.list_tag heq)
        rw [hx]; dsimp only []
        exact ih.evalListItems _ _ _ _ hw1 hs1 (ListOK.append ha1 (hw1.list hx))
      · exact Safe.errAt

theorem safe_evalProps {n : Nat} (ih : SafeAll n) (σ : State) (sc : List Addr) (objLoc : Loc) (props : List PropItem) (acc : ObjMap)
    (hw : WF σ) (hs : ScOK σ sc) (ha : ObjOK σ acc) (hso : Sorted acc) :
    Safe (fun σ' m => ObjOK σ' m ∧ Sorted m) σ (evalProps (n + 1) σ sc objLoc props acc) := by
  unfold evalProps
  cases props with
  | nil => exact Safe.ok_same hw ⟨ha, hso⟩
  | cons p r =>
    cases p with
    | Pair nameE value =>
      dsimp only []
      apply Safe.bind (ih.evalToStr _ _ _ _ hw hs); intro name σ1 hw1 he1 _
      apply Safe.bind (ih.evalExpr _ _ _ hw1 (hs.mono he1)); intro v σ2 hw2 he2 hv
      exact ih.evalProps _ _ _ _ _ hw2 (hs.mono (he1.trans he2)) (objInsert_ok (ha.mono (he1.trans he2)) hv)
        (objInsert_sorted hso)
    | Single e spread collect =>
      dsimp only []
      refine Safe.ite (fun _ => Safe.errAt) fun _ => ?_
      · refine Safe.ite (fun _ => ?_) fun _ => ?_
        · apply Safe.bind (ih.evalExpr _ _ _ hw hs); intro v σ1 hw1 he1 hv
          split
          · rename_i a heq
            obtain ⟨m, hm⟩ := getObj_of_tag (hv.1.obj_tag heq)
            rw [hm]; dsimp only []
            exact ih.evalProps _ _ _ _ _ hw1 (hs.mono he1) (objInsert_foldl_ok m (hw1.obj hm) (ha.mono he1))
              (objInsert_foldl_sorted m hso)
          · exact Safe.errAt
        · split
          · split
            · exact ih.evalProps _ _ _ _ _ hw hs (objInsert_ok ha (scopeGet_ok hw (by assumption)))
                (objInsert_sorted hso)
            · exact Safe.errAt
          · exact Safe.errAt

theorem safe_evalToStr {n : Nat} (ih : SafeAll n) (σ : State) (sc : List Addr) (d : List Char) (e : Expr) (hw : WF σ)
    (hs : ScOK σ sc) : Safe Triv σ (evalToStr (n + 1) σ sc d e) := by
  unfold evalToStr
  apply Safe.bind (ih.evalExpr _ _ _ hw hs); intro v σ1 hw1 he1 hv
  repeat' first
    | exact Safe.errAt
    | exact Safe.ok_same hw1 trivial
    | split

theorem safe_evalToBool {n : Nat} (ih : SafeAll n) (σ : State) (sc : List Addr) (d : List Char) (e : Expr) (hw : WF σ)
    (hs : ScOK σ sc) : Safe Triv σ (evalToBool (n + 1) σ sc d e) := by
  unfold evalToBool
  apply Safe.bind (ih.evalExpr _ _ _ hw hs); intro v σ1 hw1 he1 hv
  repeat' first
    | exact Safe.errAt
    | exact Safe.ok_same hw1 trivial
    | split

theorem safe_evalToInt {n : Nat} (ih : SafeAll n) (σ : State) (sc : List Addr) (d : List Char) (e : Expr) (hw : WF σ)
    (hs : ScOK σ sc) : Safe Triv σ (evalToInt (n + 1) σ sc d e) := by
  unfold evalToInt
  apply Safe.bind (ih.evalExpr _ _ _ hw hs); intro v σ1 hw1 he1 hv
  repeat' first
    | exact Safe.errAt
    | exact Safe.ok_same hw1 trivial
    | split

theorem safe_evalToIndex {n : Nat} (ih : SafeAll n) (σ : State) (sc : List Addr) (e : Expr) (hw : WF σ)
    (hs : ScOK σ sc) : Safe Triv σ (evalToIndex (n + 1) σ sc e) := by
  unfold evalToIndex
  apply Safe.bind (ih.evalToInt _ _ _ _ hw hs); intro v σ1 hw1 he1 hv
  repeat' first
    | exact Safe.errAt
    | exact Safe.ok_same hw1 trivial
    | split

theorem safe_interpolate {n : Nat} (ih : SafeAll n) (σ : State) (sc : List Addr) (s : List Char) (slots : List (Nat × Nat))
    (loc : Loc) (last : Nat) (acc : List Char) (hw : WF σ) (hs : ScOK σ sc) :
    Safe Triv σ (interpolate (n + 1) σ sc s slots loc last acc) := by
  unfold interpolate
  cases slots with
  | nil => exact Safe.ok_same hw trivial
  | cons sl r =>
    obtain ⟨start, stop⟩ := sl
    dsimp only []
    split
    · exact Safe.timeout
    · exact Safe.err
    · apply Safe.bind (Safe.mapErr (ih.evalExpr _ _ _ hw hs)); intro v σ1 hw1 he1 hv
      repeat' first
        | exact Safe.err
        | exact ih.interpolate _ _ _ _ _ _ _ hw1 (hs.mono he1)
        | split

theorem callArgs_ok {σ2 : State} (hw2 : WF σ2) {argVals : List SVal} (hargs2 : ListOK σ2 argVals) (k : Nat) :
    WF (σ2.alloc (.list (argVals.drop k))).2 ∧ Ext σ2 (σ2.alloc (.list (argVals.drop k))).2 ∧
      ListOK (σ2.alloc (.list (argVals.drop k))).2 (argVals.take k ++ [SVal.plain (.list (σ2.alloc (.list (argVals.drop k))).1)]) :=
  ⟨alloc_wf (c := .list _) hw2 (hargs2.drop k), alloc_ext _ _,
    ListOK.append ((hargs2.take k).mono (alloc_ext _ _)) (ListOK.cons (SValOK.plain (alloc_tag _ _)) ListOK.nil)⟩

theorem safe_evalCall {n : Nat} (ih : SafeAll n) (σ : State) (sc : List Addr) (f : Expr) (args : List ListItem) (loc : Loc)
    (hw : WF σ) (hs : ScOK σ sc) : Safe SValOK σ (evalCall (n + 1) σ sc f args loc) := by
  unfold evalCall
  apply Safe.bind (ih.evalListItems _ _ _ _ hw hs ListOK.nil); intro argVals σ1 hw1 he1 hargs
  apply Safe.bind (ih.evalExpr _ _ _ hw1 (hs.mono he1)); intro fv σ2 hw2 he2 hfv
  have hargs2 := hargs.mono he2
  obtain ⟨fvv, fsrc⟩ := fv
  dsimp only []
  split
  · exact Safe.mapErr (callBuiltin_safe n _ hw2 hargs2)
  · rename_i a
    obtain ⟨fr, hf⟩ := getFunc_of_tag hfv.1
    rw [hf]; dsimp only []
    refine Safe.ite (fun _ => Safe.errAt) fun _ => ?_
    refine Safe.ite (fun _ => Safe.errAt) fun _ => ?_
    have hcl := (hw2.func hf).2
    cases fsrc with
    | none =>
      cases hc : fr.collect with
      | false =>
        simp only [Bool.false_eq_true, ↓reduceIte]
        apply Safe.bind (Safe.mapErr (ih.evalBlock _ _ _ _ hw2 hcl (BindsOK.zip _ hargs2))); intro esc σ4 hw4 he4 hesc
        cases esc <;> first | exact Safe.errAt | exact Safe.ok_same hw4 (SValOK.plain trivial) | exact Safe.ok_same hw4 hesc
      | true =>
        simp only [↓reduceIte]
        obtain ⟨hw3, he3, hpl⟩ := callArgs_ok hw2 hargs2 (fr.args.length - 1)
        refine Safe.weaken ?_ he3
        apply Safe.bind (Safe.mapErr (ih.evalBlock _ _ _ _ hw3 (hcl.mono he3) (BindsOK.zip _ hpl))); intro esc σ4 hw4 he4 hesc
        cases esc <;> first | exact Safe.errAt | exact Safe.ok_same hw4 (SValOK.plain trivial) | exact Safe.ok_same hw4 hesc
    | some this =>
      have hthis : ValOK σ2 this := hfv.2 this rfl
      cases hc : fr.collect with
      | false =>
        simp only [Bool.false_eq_true, ↓reduceIte]
        apply Safe.bind (Safe.mapErr (ih.evalBlock _ _ _ _ hw2 hcl
          (BindsOK.append (BindsOK.zip _ hargs2) (BindsOK.cons (SValOK.plain hthis) BindsOK.nil))))
        intro esc σ4 hw4 he4 hesc
        cases esc <;> first | exact Safe.errAt | exact Safe.ok_same hw4 (SValOK.plain trivial) | exact Safe.ok_same hw4 hesc
      | true =>
        simp only [↓reduceIte]
        obtain ⟨hw3, he3, hpl⟩ := callArgs_ok hw2 hargs2 (fr.args.length - 1)
        refine Safe.weaken ?_ he3
        apply Safe.bind (Safe.mapErr (ih.evalBlock _ _ _ _ hw3 (hcl.mono he3)
          (BindsOK.append (BindsOK.zip _ hpl) (BindsOK.cons (SValOK.plain (hthis.mono he3)) BindsOK.nil))))
        intro esc σ4 hw4 he4 hesc
        cases esc <;> first | exact Safe.errAt | exact Safe.ok_same hw4 (SValOK.plain trivial) | exact Safe.ok_same hw4 hesc
  · exact Safe.errAt
end Seed
