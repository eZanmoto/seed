/-
  NoCrashStmt.lean — G4, part 3c: the induction step of `SafeAll` for the statement-level functions
  (`evalBlock`, `declareAll`, `evalStmts`, `evalStmt`, `evalIf`, `evalWhile`, `evalFor`).
-/
import SeedProofs.Lemmas.NoCrashDefs
namespace Seed

theorem ScOK.push {σ : State} {a : Addr} {sc : List Addr} (ha : σ.tagAt a = some .scope) (hs : ScTags σ sc) : ScOK σ (a :: sc) :=
  ⟨List.cons_ne_nil a sc, List.forall_mem_cons.2 ⟨ha, hs⟩⟩

theorem safe_evalBlock {n : Nat} (ih : SafeAll n) (σ : State) (sc : List Addr) (bs : List (Expr × SVal)) (stmts : List Stmt)
    (hw : WF σ) (hs : ScTags σ sc) (hb : BindsOK σ bs) : Safe EscOK σ (evalBlock (n + 1) σ sc bs stmts) := by
  unfold evalBlock
  rcases h : σ.alloc (.scope []) with ⟨a, σ1⟩
  obtain ⟨hw1, he1, ht1⟩ := alloc_spec h hw (c := .scope []) (fun _ h => by cases h)
  have hs1 : ScOK σ1 (a :: sc) := ScOK.push ht1 (hs.mono he1)
  dsimp only []
  refine Safe.weaken ?_ he1
  apply Safe.bind (ih.declareAll _ _ _ hw1 hs1 (hb.mono he1)); intro _ σ2 hw2 he2 _
  exact ih.evalStmts _ _ _ hw2 (hs1.mono he2)

theorem safe_declareAll {n : Nat} (ih : SafeAll n) (σ : State) (sc : List Addr) (bs : List (Expr × SVal))
    (hw : WF σ) (hs : ScOK σ sc) (hb : BindsOK σ bs) : Safe Triv σ (declareAll (n + 1) σ sc bs) := by
  unfold declareAll
  cases bs with
  | nil => exact Safe.ok_same hw trivial
  | cons b r =>
    obtain ⟨lhs, rhs⟩ := b
    dsimp only []
    apply Safe.bind (ih.bindNext _ _ _ _ _ _ _ hw hs hb.head); intro _ σ1 hw1 he1 _
    exact ih.declareAll _ _ _ hw1 (hs.mono he1) (hb.tail.mono he1)

theorem safe_evalStmts {n : Nat} (ih : SafeAll n) (σ : State) (sc : List Addr) (stmts : List Stmt)
    (hw : WF σ) (hs : ScOK σ sc) : Safe EscOK σ (evalStmts (n + 1) σ sc stmts) := by
  unfold evalStmts
  cases stmts with
  | nil => exact Safe.ok_same hw trivial
  | cons st r =>
    dsimp only []
    apply Safe.bind (ih.evalStmt _ _ _ hw hs); intro esc σ1 hw1 he1 hesc
    split
    · exact ih.evalStmts _ _ _ hw1 (hs.mono he1)
    · exact Safe.ok_same hw1 hesc

theorem safe_evalStmt {n : Nat} (ih : SafeAll n) (σ : State) (sc : List Addr) (st : Stmt)
    (hw : WF σ) (hs : ScOK σ sc) : Safe EscOK σ (evalStmt (n + 1) σ sc st) := by
  unfold evalStmt
  cases st with
  | Block b => exact ih.evalBlock _ _ _ _ hw hs.2 BindsOK.nil
  | Expr e =>
    dsimp only []
    apply Safe.bind (ih.evalExpr _ _ _ hw hs); intro _ σ1 hw1 he1 _
    exact Safe.ok_same hw1 trivial
  | Declare lhs rhs | Assign lhs rhs | OpAssign lhs op opLoc rhs =>
    dsimp only []
    apply Safe.bind (ih.evalExpr _ _ _ hw hs); intro v σ1 hw1 he1 hv
    apply Safe.bind (ih.bindNext _ _ _ _ _ _ _ hw1 (hs.mono he1) hv); intro _ σ2 hw2 he2 _
    exact Safe.ok_same hw2 trivial
  | If branches els => exact ih.evalIf _ _ _ _ hw hs
  | While cond stmts => exact ih.evalWhile _ _ _ _ hw hs
  | For lhs iter stmts =>
    dsimp only []
    apply Safe.bind (ih.evalExpr _ _ _ hw hs); intro it σ1 hw1 he1 hit
    split
    · exact absurd (by assumption) (toPairs_ne_none hit.1)
    · exact Safe.errAt
    · exact ih.evalFor _ _ _ _ _ hw1 (hs.mono he1) (toPairs_ok hw1 (by assumption))
  | Break l => exact Safe.ok_same hw trivial
  | Continue l => exact Safe.ok_same hw trivial
  | Func name nameLoc args collect stmts =>
    dsimp only []
    apply Safe.bind (validateArgsRes_safe n args hw); intro _ σ0 hw0 he0 _
    rcases h : σ0.alloc (.func ⟨some name, args, collect, stmts, sc⟩) with ⟨a, σ1⟩
    obtain ⟨hw1, he1, ht1⟩ := alloc_spec h hw0 (c := .func _) (hs.mono he0)
    dsimp only []
    refine Safe.weaken ?_ he1
    apply Safe.bind (bindNextName_safe n _ _ _ _ _ hw1 (hs.mono (he0.trans he1)) (SValOK.plain (v := .func a) ht1)); intro _ σ2 hw2 he2 _
    exact Safe.ok_same hw2 trivial
  | Return l e =>
    dsimp only []
    apply Safe.bind (ih.evalExpr _ _ _ hw hs); intro v σ1 hw1 he1 hv
    exact Safe.ok_same hw1 hv

theorem safe_evalIf {n : Nat} (ih : SafeAll n) (σ : State) (sc : List Addr) (branches : List Branch) (els : Option (List Stmt))
    (hw : WF σ) (hs : ScOK σ sc) : Safe EscOK σ (evalIf (n + 1) σ sc branches els) := by
  unfold evalIf
  cases branches with
  | nil =>
    cases els with
    | none => exact Safe.ok_same hw trivial
    | some stmts => exact ih.evalBlock _ _ _ _ hw hs.2 BindsOK.nil
  | cons br r =>
    obtain ⟨cond, stmts⟩ := br
    dsimp only []
    apply Safe.bind (ih.evalToBool _ _ _ _ hw hs); intro b σ1 hw1 he1 _
    exact Safe.ite (fun _ => ih.evalBlock _ _ _ _ hw1 (hs.mono he1).2 BindsOK.nil) fun _ => ih.evalIf _ _ _ _ hw1 (hs.mono he1)

theorem safe_evalWhile {n : Nat} (ih : SafeAll n) (σ : State) (sc : List Addr) (cond : Expr) (stmts : List Stmt)
    (hw : WF σ) (hs : ScOK σ sc) : Safe EscOK σ (evalWhile (n + 1) σ sc cond stmts) := by
  unfold evalWhile
  apply Safe.bind (ih.evalToBool _ _ _ _ hw hs); intro b σ1 hw1 he1 _
  refine Safe.ite (fun _ => Safe.ok_same hw1 trivial) fun _ => ?_
  apply Safe.bind (ih.evalBlock _ _ _ _ hw1 (hs.mono he1).2 BindsOK.nil); intro esc σ2 hw2 he2 hesc
  have hs2 := hs.mono (he1.trans he2)
  cases esc with
  | none | cont l => exact ih.evalWhile _ _ _ _ hw2 hs2
  | brk l => exact Safe.ok_same hw2 trivial
  | ret v l => exact Safe.ok_same hw2 hesc

theorem PairsOK.head {σ : State} {p : SVal × SVal} {ps : List (SVal × SVal)} (h : PairsOK σ (p :: ps)) :
    SValOK σ p.1 ∧ SValOK σ p.2 := h p List.mem_cons_self
theorem PairsOK.tail {σ : State} {p : SVal × SVal} {ps : List (SVal × SVal)} (h : PairsOK σ (p :: ps)) : PairsOK σ ps :=
  fun x hx => h x (List.mem_cons_of_mem _ hx)

theorem safe_evalFor {n : Nat} (ih : SafeAll n) (σ : State) (sc : List Addr) (lhs : Expr) (pairs : List (SVal × SVal))
    (stmts : List Stmt) (hw : WF σ) (hs : ScOK σ sc) (hp : PairsOK σ pairs) :
    Safe EscOK σ (evalFor (n + 1) σ sc lhs pairs stmts) := by
  unfold evalFor
  cases pairs with
  | nil => exact Safe.ok_same hw trivial
  | cons p r =>
    obtain ⟨k, v⟩ := p
    dsimp only []
    rcases h : σ.alloc (.list [k, v]) with ⟨pa, σ1⟩
    obtain ⟨hw1, he1, ht1⟩ := alloc_spec h hw (c := .list [k, v]) (ListOK.cons hp.head.1 (ListOK.cons hp.head.2 ListOK.nil))
    dsimp only []
    refine Safe.weaken ?_ he1
    apply Safe.bind (ih.evalBlock _ _ _ _ hw1 (hs.mono he1).2 (BindsOK.cons (SValOK.plain (v := .list pa) ht1) BindsOK.nil))
    intro esc σ2 hw2 he2 hesc
    have hs2 := hs.mono (he1.trans he2)
    have hp2 := hp.tail.mono (he1.trans he2)
    cases esc with
    | none | cont l => exact ih.evalFor _ _ _ _ _ hw2 hs2 hp2
    | brk l => exact Safe.ok_same hw2 trivial
    | ret v l => exact Safe.ok_same hw2 hesc

end Seed
