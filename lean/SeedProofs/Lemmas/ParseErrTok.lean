/-
  Lemmas/ParseErrTok.lean — the token a syntax error names is a token of the input: for all 22 parser functions,
  what is left after a success is a suffix of the token list the parse started from, and an `unexpected token` error
  carries a member of that list.  Together with `lexAll_lines` (C03) this bounds the line of every syntax diagnostic.
-/
import SeedProofs.Lemmas.C18NodePos
namespace Seed

def PRes.ErrSat {α} (T : List Span) : PRes α → Prop
  | .ok _ rest => Suf T rest
  | .err (.tok sp) => sp ∈ T
  | .err .eof => True
  | .timeout => True

namespace PRes.ErrSat
theorem ok {α} {T : List Span} {a : α} {rest : List Span} (h : Suf T rest) : PRes.ErrSat T (.ok a rest) := h
theorem tok {α} {T : List Span} {sp : Span} (h : sp ∈ T) : PRes.ErrSat T (.err (.tok sp) : PRes α) := h

theorem bind {α β} {T : List Span} {r : PRes α} {f : α → List Span → PRes β}
    (h : PRes.ErrSat T r) (hf : ∀ a ts, Suf T ts → PRes.ErrSat T (f a ts)) : PRes.ErrSat T (r.bind f) := by
  cases r with
  | ok a rest => exact hf a rest h
  | err e => cases e <;> exact h
  | timeout => exact True.intro

theorem map {α β} {T : List Span} {r : PRes α} {f : α → β} (h : PRes.ErrSat T r) : PRes.ErrSat T (r.map f) := by
  cases r with
  | ok a rest => exact h
  | err e => cases e <;> exact h
  | timeout => exact True.intro
end PRes.ErrSat

theorem unexpected_errSat {α} {T : List Span} (ts : List Span) (h : Suf T ts) : PRes.ErrSat T (unexpected ts : PRes α) := by
  unfold unexpected
  split
  · exact True.intro
  · exact h.head_mem

theorem expectTok_errSat {T : List Span} (t : Token) (ts : List Span) (h : Suf T ts) : PRes.ErrSat T (expectTok t ts) := by
  unfold expectTok
  split
  · exact True.intro
  · split
    · exact h.tail
    · exact h.head_mem

theorem expectIdent_errSat {T : List Span} (ts : List Span) (h : Suf T ts) : PRes.ErrSat T (expectIdent ts) := by
  unfold expectIdent
  split
  · exact True.intro
  · split
    · exact h.tail
    · exact h.head_mem

structure ErrAll (T : List Span) (n : Nat) : Prop where
  parseAtom : ∀ pre ts, Suf T ts → PRes.ErrSat T (parseAtom n pre ts)
  parsePostfix : ∀ l pre ts, Suf T ts → PRes.ErrSat T (parsePostfix n l pre ts)
  postfixLoop : ∀ l acc ts, Suf T ts → PRes.ErrSat T (postfixLoop n l acc ts)
  parseIndexTail : ∀ e ts, Suf T ts → PRes.ErrSat T (parseIndexTail n e ts)
  parseRangeEnd : ∀ e s ts, Suf T ts → PRes.ErrSat T (parseRangeEnd n e s ts)
  parseTier : ∀ k l pre ts, Suf T ts → PRes.ErrSat T (parseTier n k l pre ts)
  tierLoop : ∀ k l acc ts, Suf T ts → PRes.ErrSat T (tierLoop n k l acc ts)
  parseExpr1 : ∀ s l pre ts, Suf T ts → PRes.ErrSat T (parseExpr1 n s l pre ts)
  rangeLoop : ∀ s l acc ts, Suf T ts → PRes.ErrSat T (rangeLoop n s l acc ts)
  parseExpr : ∀ s ts, Suf T ts → PRes.ErrSat T (parseExpr n s ts)
  parseArgs : ∀ acc ts, Suf T ts → PRes.ErrSat T (parseArgs n acc ts)
  parseExprList : ∀ acc ts, Suf T ts → PRes.ErrSat T (parseExprList n acc ts)
  parseParams : ∀ acc ts, Suf T ts → PRes.ErrSat T (parseParams n acc ts)
  parsePropItems : ∀ acc ts, Suf T ts → PRes.ErrSat T (parsePropItems n acc ts)
  parsePropTail : ∀ acc ts, Suf T ts → PRes.ErrSat T (parsePropTail n acc ts)
  parseBlock : ∀ ts, Suf T ts → PRes.ErrSat T (parseBlock n ts)
  parseStmts : ∀ c acc ts, Suf T ts → PRes.ErrSat T (parseStmts n c acc ts)
  parseIf : ∀ ts, Suf T ts → PRes.ErrSat T (parseIf n ts)
  parseStmtTail : ∀ lhs ts, Suf T ts → PRes.ErrSat T (parseStmtTail n lhs ts)
  parseExprStmt : ∀ amb l pre ts, Suf T ts → PRes.ErrSat T (parseExprStmt n amb l pre ts)
  parseRawStmt : ∀ amb ts, Suf T ts → PRes.ErrSat T (parseRawStmt n amb ts)
  parseBraceStmt : ∀ amb l ts, Suf T ts → PRes.ErrSat T (parseBraceStmt n amb l ts)

macro "err_call " ih:ident : tactic =>
  `(tactic| ((with_reducible first | apply expectTok_errSat | parser_call $ih | apply expectIdent_errSat) <;> assumption))

/-- The walk of `possat_auto` (C18NodePos.lean) for `PRes.ErrSat`; the leaves: `eof` and `timeout`, a success with
    the rest a suffix, a token error at the head of a suffix, a tail call. -/
macro "err_auto " ih:ident : tactic =>
  `(tactic| repeat' first
    | (with_reducible apply PRes.ErrSat.bind (by err_call $ih))
    | intro _ _ _
    | ((with_reducible apply iteInduction) <;> intro _)
    | exact True.intro
    | (with_reducible exact PRes.ErrSat.ok ‹_›)
    | (with_reducible exact PRes.ErrSat.tok (Suf.head_mem ‹_›))
    | (split <;> try have := Suf.tail ‹Suf _ (_ :: _)›)
    | err_call $ih
    | (with_reducible apply PRes.ErrSat.map (by err_call $ih)))

theorem errAll_zero (T : List Span) : ErrAll T 0 := by
  constructor <;> intros <;> exact True.intro

theorem errAll_succ (T : List Span) (n : Nat) (ih : ErrAll T n) : ErrAll T (n + 1) := by
  constructor <;> intros
  · unfold parseAtom; err_auto ih
  · unfold parsePostfix; err_auto ih
  · unfold postfixLoop; err_auto ih
  · unfold parseIndexTail; err_auto ih
  · unfold parseRangeEnd; err_auto ih
  · unfold parseTier; err_auto ih
  · unfold tierLoop; err_auto ih
  · unfold parseExpr1; err_auto ih
  · unfold rangeLoop; err_auto ih
  · unfold parseExpr; err_auto ih
  · unfold parseArgs; err_auto ih
  · unfold parseExprList; err_auto ih
  · unfold parseParams; err_auto ih
  · unfold parsePropItems; err_auto ih
  · unfold parsePropTail; err_auto ih
  · unfold parseBlock; err_auto ih
  · unfold parseStmts; err_auto ih
  · unfold parseIf; err_auto ih
  · unfold parseStmtTail; err_auto ih
  · unfold parseExprStmt; err_auto ih
  · unfold parseRawStmt; err_auto ih
  · unfold parseBraceStmt; err_auto ih

theorem errAll (T : List Span) (n : Nat) : ErrAll T n := by
  induction n with
  | zero => exact errAll_zero T
  | succ n ih => exact errAll_succ T n ih

theorem parseStmts_err_tok_mem {n : Nat} {c : Bool} {ts : List Span} {sp : Span}
    (h : parseStmts n c [] ts = .err (.tok sp)) : sp ∈ ts := by
  have := (errAll ts n).parseStmts c [] ts (Suf.refl ts)
  rw [h] at this
  exact this

theorem parseExpr_err_tok_mem {n : Nat} {s : Bool} {ts : List Span} {sp : Span}
    (h : parseExpr n s ts = .err (.tok sp)) : sp ∈ ts := by
  have := (errAll ts n).parseExpr s ts (Suf.refl ts)
  rw [h] at this
  exact this

end Seed
