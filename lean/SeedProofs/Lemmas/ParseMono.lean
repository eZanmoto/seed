/-
  ParseMono.lean — fuel monotonicity of the parser.  "One more unit of fuel changes nothing but
  time-outs", for every function of the mutual parser block; one induction on the fuel over the
  conjunction of all functions (same recipe as EvalMono.lean).
-/
import SeedProofs.Lemmas.ParseWalk
namespace Seed

def PRes.Le {α} (r r' : PRes α) : Prop := r = .timeout ∨ r = r'

namespace PRes.Le
theorem refl {α} (r : PRes α) : PRes.Le r r := Or.inr rfl
theorem timeout {α} (r : PRes α) : PRes.Le .timeout r := Or.inl rfl

theorem bind {α β} {r r' : PRes α} {f g : α → List Span → PRes β} (h : PRes.Le r r')
    (hf : ∀ a ts, PRes.Le (f a ts) (g a ts)) : PRes.Le (r.bind f) (r'.bind g) := by
  rcases h with h | h
  · subst h; exact Or.inl rfl
  · subst h
    cases r with
    | ok a ts => exact hf a ts
    | err e => exact Or.inr rfl
    | timeout => exact Or.inl rfl

theorem map {α β} {r r' : PRes α} (f : α → β) (h : PRes.Le r r') : PRes.Le (r.map f) (r'.map f) := by
  rcases h with h | h
  · subst h; exact Or.inl rfl
  · subst h; exact Or.inr rfl

theorem ite {α} {c : Prop} [Decidable c] {a a' b b' : PRes α} (h1 : c → PRes.Le a a') (h2 : ¬c → PRes.Le b b') :
    PRes.Le (if c then a else b) (if c then a' else b') := by
  by_cases h : c
  · rw [if_pos h, if_pos h]; exact h1 h
  · rw [if_neg h, if_neg h]; exact h2 h

theorem trans {α} {a b c : PRes α} (h1 : PRes.Le a b) (h2 : PRes.Le b c) : PRes.Le a c := by
  rcases h1 with h | h
  · exact Or.inl h
  · subst h; exact h2

/-- a result that is not a time-out is kept by the larger fuel -/
theorem eq_of_ne {α} {a b : PRes α} (h : PRes.Le a b) (hne : a ≠ .timeout) : b = a := by
  rcases h with h | h
  · exact absurd h hne
  · exact h.symm

theorem ok {α} {a b : PRes α} {x : α} {rest : List Span} (h : PRes.Le a b) (hok : a = .ok x rest) :
    b = .ok x rest := by
  rcases h with h | h
  · rw [h] at hok; cases hok
  · rw [← h]; exact hok
end PRes.Le

structure PMonoAll (n : Nat) : Prop where
  parseAtom : ∀ pre ts, PRes.Le (parseAtom n pre ts) (parseAtom (n + 1) pre ts)
  parsePostfix : ∀ l pre ts, PRes.Le (parsePostfix n l pre ts) (parsePostfix (n + 1) l pre ts)
  postfixLoop : ∀ l acc ts, PRes.Le (postfixLoop n l acc ts) (postfixLoop (n + 1) l acc ts)
  parseIndexTail : ∀ e ts, PRes.Le (parseIndexTail n e ts) (parseIndexTail (n + 1) e ts)
  parseRangeEnd : ∀ e s ts, PRes.Le (parseRangeEnd n e s ts) (parseRangeEnd (n + 1) e s ts)
  parseTier : ∀ k l pre ts, PRes.Le (parseTier n k l pre ts) (parseTier (n + 1) k l pre ts)
  tierLoop : ∀ k l acc ts, PRes.Le (tierLoop n k l acc ts) (tierLoop (n + 1) k l acc ts)
  parseExpr1 : ∀ s l pre ts, PRes.Le (parseExpr1 n s l pre ts) (parseExpr1 (n + 1) s l pre ts)
  rangeLoop : ∀ s l acc ts, PRes.Le (rangeLoop n s l acc ts) (rangeLoop (n + 1) s l acc ts)
  parseExpr : ∀ s ts, PRes.Le (parseExpr n s ts) (parseExpr (n + 1) s ts)
  parseArgs : ∀ acc ts, PRes.Le (parseArgs n acc ts) (parseArgs (n + 1) acc ts)
  parseExprList : ∀ acc ts, PRes.Le (parseExprList n acc ts) (parseExprList (n + 1) acc ts)
  parseParams : ∀ acc ts, PRes.Le (parseParams n acc ts) (parseParams (n + 1) acc ts)
  parsePropItems : ∀ acc ts, PRes.Le (parsePropItems n acc ts) (parsePropItems (n + 1) acc ts)
  parsePropTail : ∀ acc ts, PRes.Le (parsePropTail n acc ts) (parsePropTail (n + 1) acc ts)
  parseBlock : ∀ ts, PRes.Le (parseBlock n ts) (parseBlock (n + 1) ts)
  parseStmts : ∀ c acc ts, PRes.Le (parseStmts n c acc ts) (parseStmts (n + 1) c acc ts)
  parseIf : ∀ ts, PRes.Le (parseIf n ts) (parseIf (n + 1) ts)
  parseStmtTail : ∀ lhs ts, PRes.Le (parseStmtTail n lhs ts) (parseStmtTail (n + 1) lhs ts)
  parseExprStmt : ∀ amb l pre ts, PRes.Le (parseExprStmt n amb l pre ts) (parseExprStmt (n + 1) amb l pre ts)
  parseRawStmt : ∀ amb ts, PRes.Le (parseRawStmt n amb ts) (parseRawStmt (n + 1) amb ts)
  parseBraceStmt : ∀ amb l ts, PRes.Le (parseBraceStmt n amb l ts) (parseBraceStmt (n + 1) amb l ts)

theorem pmonoAll_zero : PMonoAll 0 := by
  constructor <;> intros <;> exact PRes.Le.timeout _

theorem pmonoAll_succ (n : Nat) (ih : PMonoAll n) : PMonoAll (n + 1) := by
  constructor <;> intros
  case' parseAtom => unfold parseAtom
  case' parsePostfix => unfold parsePostfix
  case' postfixLoop => unfold postfixLoop
  case' parseIndexTail => unfold parseIndexTail
  case' parseRangeEnd => unfold parseRangeEnd
  case' parseTier => unfold parseTier
  case' tierLoop => unfold tierLoop
  case' parseExpr1 => unfold parseExpr1
  case' rangeLoop => unfold rangeLoop
  case' parseExpr => unfold parseExpr
  case' parseArgs => unfold parseArgs
  case' parseExprList => unfold parseExprList
  case' parseParams => unfold parseParams
  case' parsePropItems => unfold parsePropItems
  case' parsePropTail => unfold parsePropTail
  case' parseBlock => unfold parseBlock
  case' parseStmts => unfold parseStmts
  case' parseIf => unfold parseIf
  case' parseStmtTail => unfold parseStmtTail
  case' parseExprStmt => unfold parseExprStmt
  case' parseRawStmt => unfold parseRawStmt
  case' parseBraceStmt => unfold parseBraceStmt
  -- both sides now show the same body, with fuel `n` on the left and `n + 1` on the right: descend through it in
  -- step.  An `if` is taken apart by the lemma `Le.ite`; `split` (needed for `match`) is very slow on an `if`
  -- whose branches contain further binds.
  all_goals repeat' first
    | (with_reducible apply PRes.Le.bind)
    | intro _ _
    | ((with_reducible apply PRes.Le.ite) <;> intro _)
    | split
    | (with_reducible apply PRes.Le.map)
    | (with_reducible exact PRes.Le.refl _)
    | parser_call ih

theorem pmonoAll (n : Nat) : PMonoAll n := by
  induction n with
  | zero => exact pmonoAll_zero
  | succ n ih => exact pmonoAll_succ n ih

theorem PRes.Le.of_step {α} (f : Nat → PRes α) (h : ∀ n, PRes.Le (f n) (f (n + 1))) {m n : Nat} (hmn : m ≤ n) :
    PRes.Le (f m) (f n) := by
  induction hmn with
  | refl => exact PRes.Le.refl _
  | step _ ih => exact PRes.Le.trans ih (h _)

theorem PRes.Le.at_fuel {α} {f : Nat → PRes α} (h : ∀ n, PRes.Le (f n) (f (n + 1))) {k fuel : Nat} {a : α}
    {rest : List Span} (hok : f k = .ok a rest) (hnt : f fuel ≠ .timeout) : f fuel = .ok a rest := by
  rcases Nat.le_total k fuel with hle | hle
  · exact (PRes.Le.of_step f h hle).ok hok
  · exact (PRes.Le.eq_of_ne (PRes.Le.of_step f h hle) hnt).symm.trans hok

theorem parseAtom_mono {m n} (h : m ≤ n) (pre ts) : PRes.Le (parseAtom m pre ts) (parseAtom n pre ts) :=
  PRes.Le.of_step (fun n => parseAtom n pre ts) (fun n => (pmonoAll n).parseAtom pre ts) h
theorem parsePostfix_mono {m n} (h : m ≤ n) (l pre ts) : PRes.Le (parsePostfix m l pre ts) (parsePostfix n l pre ts) :=
  PRes.Le.of_step (fun n => parsePostfix n l pre ts) (fun n => (pmonoAll n).parsePostfix l pre ts) h
theorem postfixLoop_mono {m n} (h : m ≤ n) (l acc ts) : PRes.Le (postfixLoop m l acc ts) (postfixLoop n l acc ts) :=
  PRes.Le.of_step (fun n => postfixLoop n l acc ts) (fun n => (pmonoAll n).postfixLoop l acc ts) h
theorem parseTier_mono {m n} (h : m ≤ n) (k l pre ts) : PRes.Le (parseTier m k l pre ts) (parseTier n k l pre ts) :=
  PRes.Le.of_step (fun n => parseTier n k l pre ts) (fun n => (pmonoAll n).parseTier k l pre ts) h
theorem tierLoop_mono {m n} (h : m ≤ n) (k l acc ts) : PRes.Le (tierLoop m k l acc ts) (tierLoop n k l acc ts) :=
  PRes.Le.of_step (fun n => tierLoop n k l acc ts) (fun n => (pmonoAll n).tierLoop k l acc ts) h
theorem parseExpr1_mono {m n} (h : m ≤ n) (s l pre ts) : PRes.Le (parseExpr1 m s l pre ts) (parseExpr1 n s l pre ts) :=
  PRes.Le.of_step (fun n => parseExpr1 n s l pre ts) (fun n => (pmonoAll n).parseExpr1 s l pre ts) h
theorem rangeLoop_mono {m n} (h : m ≤ n) (s l acc ts) : PRes.Le (rangeLoop m s l acc ts) (rangeLoop n s l acc ts) :=
  PRes.Le.of_step (fun n => rangeLoop n s l acc ts) (fun n => (pmonoAll n).rangeLoop s l acc ts) h
theorem parseExpr_mono {m n} (h : m ≤ n) (s ts) : PRes.Le (parseExpr m s ts) (parseExpr n s ts) :=
  PRes.Le.of_step (fun n => parseExpr n s ts) (fun n => (pmonoAll n).parseExpr s ts) h
theorem parseStmts_mono {m n} (h : m ≤ n) (c acc ts) : PRes.Le (parseStmts m c acc ts) (parseStmts n c acc ts) :=
  PRes.Le.of_step (fun n => parseStmts n c acc ts) (fun n => (pmonoAll n).parseStmts c acc ts) h
theorem parseRawStmt_mono {m n} (h : m ≤ n) (amb ts) : PRes.Le (parseRawStmt m amb ts) (parseRawStmt n amb ts) :=
  PRes.Le.of_step (fun n => parseRawStmt n amb ts) (fun n => (pmonoAll n).parseRawStmt amb ts) h
theorem parseBlock_mono {m n} (h : m ≤ n) (ts) : PRes.Le (parseBlock m ts) (parseBlock n ts) :=
  PRes.Le.of_step (fun n => parseBlock n ts) (fun n => (pmonoAll n).parseBlock ts) h

end Seed
