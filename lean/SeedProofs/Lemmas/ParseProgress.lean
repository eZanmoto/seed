/-
  ParseProgress.lean — the rest returned by a parser function is a (length-)suffix of its input, and the
  functions that must consume a token do so.  `PRes.Bnd m r` says "if `r` is a success, fewer than `m` tokens
  remain"; so `Bnd (ts.length + 1)` is "no more tokens than before" and `Bnd ts.length` is "strictly fewer".
-/
import SeedProofs.Lemmas.ParseMono
namespace Seed

def PRes.Bnd {α} (m : Nat) : PRes α → Prop
  | .ok _ rest => rest.length < m
  | _ => True

/-- 1 for an already-parsed atom (which costs no token), 0 otherwise -/
def optLen {α} : Option α → Nat
  | none => 0
  | some _ => 1

theorem optLen_le_one {α} (o : Option α) : optLen o ≤ 1 := by
  cases o
  · exact Nat.zero_le 1
  · exact Nat.le_refl 1

namespace PRes.Bnd
theorem ok {α} {m : Nat} {a : α} {rest : List Span} (h : rest.length < m) : PRes.Bnd m (.ok a rest) := h

theorem mono {α} {m m' : Nat} {r : PRes α} (h : PRes.Bnd m r) (hm : m ≤ m') : PRes.Bnd m' r := by
  cases r with
  | ok a rest => exact Nat.lt_of_lt_of_le h hm
  | err e => exact True.intro
  | timeout => exact True.intro

theorem bind {α β} {m m' : Nat} {r : PRes α} {f : α → List Span → PRes β} (h : PRes.Bnd m r)
    (hf : ∀ a ts, ts.length < m → PRes.Bnd m' (f a ts)) : PRes.Bnd m' (r.bind f) := by
  cases r with
  | ok a rest => exact hf a rest h
  | err e => exact True.intro
  | timeout => exact True.intro

theorem map {α β} {m : Nat} {r : PRes α} (f : α → β) (h : PRes.Bnd m r) : PRes.Bnd m (r.map f) := by
  cases r with
  | ok a rest => exact h
  | err e => exact True.intro
  | timeout => exact True.intro

theorem elim {α} {m : Nat} {r : PRes α} {a : α} {rest : List Span} (h : PRes.Bnd m r) (hr : r = .ok a rest) :
    rest.length < m := by
  subst hr; exact h

theorem suffix {α β} {pre : Option β} {ts : List Span} {r : PRes α} {a : α} {rest : List Span}
    (h : PRes.Bnd (ts.length + optLen pre) r) (hr : r = .ok a rest) : rest.length ≤ ts.length :=
  Nat.le_of_lt_succ (Nat.lt_of_lt_of_le (h.elim hr) (Nat.add_le_add_left (optLen_le_one pre) _))
end PRes.Bnd

theorem expectTok_bnd (t : Token) (ts : List Span) : PRes.Bnd ts.length (expectTok t ts) :=
  expectTok_cases t ts (fun _ => True.intro) fun _ _ h _ => h ▸ Nat.lt_succ_self _

theorem expectIdent_bnd (ts : List Span) : PRes.Bnd ts.length (expectIdent ts) :=
  expectIdent_cases ts (fun _ => True.intro) fun _ _ _ h _ => h ▸ Nat.lt_succ_self _

structure PBndAll (n : Nat) : Prop where
  parseAtom : ∀ pre ts, PRes.Bnd (ts.length + optLen pre) (parseAtom n pre ts)
  parsePostfix : ∀ l pre ts, PRes.Bnd (ts.length + optLen pre) (parsePostfix n l pre ts)
  postfixLoop : ∀ l acc ts, PRes.Bnd (ts.length + 1) (postfixLoop n l acc ts)
  parseIndexTail : ∀ e ts, PRes.Bnd ts.length (parseIndexTail n e ts)
  parseRangeEnd : ∀ e s ts, PRes.Bnd ts.length (parseRangeEnd n e s ts)
  parseTier : ∀ k l pre ts, PRes.Bnd (ts.length + optLen pre) (parseTier n k l pre ts)
  tierLoop : ∀ k l acc ts, PRes.Bnd (ts.length + 1) (tierLoop n k l acc ts)
  parseExpr1 : ∀ s l pre ts, PRes.Bnd (ts.length + optLen pre) (parseExpr1 n s l pre ts)
  rangeLoop : ∀ s l acc ts, PRes.Bnd (ts.length + 1) (rangeLoop n s l acc ts)
  parseExpr : ∀ s ts, PRes.Bnd ts.length (parseExpr n s ts)
  parseArgs : ∀ acc ts, PRes.Bnd ts.length (parseArgs n acc ts)
  parseExprList : ∀ acc ts, PRes.Bnd ts.length (parseExprList n acc ts)
  parseParams : ∀ acc ts, PRes.Bnd ts.length (parseParams n acc ts)
  parsePropItems : ∀ acc ts, PRes.Bnd ts.length (parsePropItems n acc ts)
  parsePropTail : ∀ acc ts, PRes.Bnd ts.length (parsePropTail n acc ts)
  parseBlock : ∀ ts, PRes.Bnd ts.length (parseBlock n ts)
  parseStmts : ∀ c acc ts, PRes.Bnd (ts.length + 1) (parseStmts n c acc ts)
  parseIf : ∀ ts, PRes.Bnd ts.length (parseIf n ts)
  parseStmtTail : ∀ lhs ts, PRes.Bnd (ts.length + 1) (parseStmtTail n lhs ts)
  parseExprStmt : ∀ amb l pre ts, PRes.Bnd (ts.length + optLen pre) (parseExprStmt n amb l pre ts)
  parseRawStmt : ∀ amb ts, PRes.Bnd ts.length (parseRawStmt n amb ts)
  parseBraceStmt : ∀ amb l ts, PRes.Bnd ts.length (parseBraceStmt n amb l ts)

/-- the bound of a (sub-)call exactly as the induction hypothesis states it -/
macro "pbnd_call " ih:ident : tactic =>
  `(tactic| with_reducible first | exact expectTok_bnd _ _ | exact expectIdent_bnd _ | parser_call $ih)

/-- arithmetic side goals: the callee's bound is the caller's, or linear arithmetic over the lengths relates them
    (after `ts = sp :: r` has been taken into account) -/
macro "pbnd_arith" : tactic =>
  `(tactic| first | exact Nat.le_refl _ | omega | (simp only [optLen, List.length_cons] at *; omega))

theorem pbndAll_zero : PBndAll 0 := by
  constructor <;> intros <;> exact True.intro

theorem pbndAll_succ (n : Nat) (ih : PBndAll n) : PBndAll (n + 1) := by
  constructor <;> intros
  case' parseAtom => unfold parseAtom
  case' parsePostfix => unfold parsePostfix
  case' postfixLoop => unfold postfixLoop
  case' parseIndexTail => unfold parseIndexTail
  case' parseRangeEnd => unfold parseRangeEnd
  case' parseTier => unfold parseTier
  case' tierLoop => unfold tierLoop
  case' parseExpr1 => unfold parseExpr1
  case' rangeLoop => unfold rangeLoop
  case' parseExpr => unfold parseExpr
  case' parseArgs => unfold parseArgs
  case' parseExprList => unfold parseExprList
  case' parseParams => unfold parseParams
  case' parsePropItems => unfold parsePropItems
  case' parsePropTail => unfold parsePropTail
  case' parseBlock => unfold parseBlock
  case' parseStmts => unfold parseStmts
  case' parseIf => unfold parseIf
  case' parseStmtTail => unfold parseStmtTail
  case' parseExprStmt => unfold parseExprStmt
  case' parseRawStmt => unfold parseRawStmt
  case' parseBraceStmt => unfold parseBraceStmt
  all_goals repeat' first
    | ((with_reducible apply PRes.Bnd.bind); pbnd_call ih)
    | intro _ _ _
    | ((with_reducible apply iteInduction) <;> intro _)
    | split
    | (with_reducible apply PRes.Bnd.map)
    | exact True.intro
    | ((with_reducible apply PRes.Bnd.ok); pbnd_arith)
    | ((with_reducible apply PRes.Bnd.mono); pbnd_call ih; pbnd_arith)

theorem pbndAll (n : Nat) : PBndAll n := by
  induction n with
  | zero => exact pbndAll_zero
  | succ n ih => exact pbndAll_succ n ih

theorem parseAtom_progress {n ts a rest} (h : parseAtom n none ts = .ok a rest) : rest.length < ts.length :=
  ((pbndAll n).parseAtom none ts).elim h
theorem parseAtom_suffix {n pre ts a rest} (h : parseAtom n pre ts = .ok a rest) : rest.length ≤ ts.length :=
  ((pbndAll n).parseAtom pre ts).suffix h
theorem parsePostfix_progress {n l ts a rest} (h : parsePostfix n l none ts = .ok a rest) : rest.length < ts.length :=
  ((pbndAll n).parsePostfix l none ts).elim h
theorem postfixLoop_suffix {n l acc ts a rest} (h : postfixLoop n l acc ts = .ok a rest) : rest.length ≤ ts.length :=
  Nat.le_of_lt_succ (((pbndAll n).postfixLoop l acc ts).elim h)
theorem parseTier_progress {n k l ts a rest} (h : parseTier n k l none ts = .ok a rest) : rest.length < ts.length :=
  ((pbndAll n).parseTier k l none ts).elim h
theorem parseTier_suffix {n k l pre ts a rest} (h : parseTier n k l pre ts = .ok a rest) : rest.length ≤ ts.length :=
  ((pbndAll n).parseTier k l pre ts).suffix h
theorem tierLoop_suffix {n k l acc ts a rest} (h : tierLoop n k l acc ts = .ok a rest) : rest.length ≤ ts.length :=
  Nat.le_of_lt_succ (((pbndAll n).tierLoop k l acc ts).elim h)
theorem parseExpr1_progress {n s l ts a rest} (h : parseExpr1 n s l none ts = .ok a rest) : rest.length < ts.length :=
  ((pbndAll n).parseExpr1 s l none ts).elim h
theorem parseExpr1_suffix {n s l pre ts a rest} (h : parseExpr1 n s l pre ts = .ok a rest) :
    rest.length ≤ ts.length :=
  ((pbndAll n).parseExpr1 s l pre ts).suffix h
theorem rangeLoop_suffix {n s l acc ts a rest} (h : rangeLoop n s l acc ts = .ok a rest) : rest.length ≤ ts.length :=
  Nat.le_of_lt_succ (((pbndAll n).rangeLoop s l acc ts).elim h)
theorem parseExpr_progress {n s ts e rest} (h : parseExpr n s ts = .ok e rest) : rest.length < ts.length :=
  ((pbndAll n).parseExpr s ts).elim h
theorem parseIndexTail_progress {n e ts a rest} (h : parseIndexTail n e ts = .ok a rest) : rest.length < ts.length :=
  ((pbndAll n).parseIndexTail e ts).elim h
theorem parseRangeEnd_progress {n e s ts a rest} (h : parseRangeEnd n e s ts = .ok a rest) : rest.length < ts.length :=
  ((pbndAll n).parseRangeEnd e s ts).elim h
theorem parseArgs_progress {n acc ts a rest} (h : parseArgs n acc ts = .ok a rest) : rest.length < ts.length :=
  ((pbndAll n).parseArgs acc ts).elim h
theorem parseExprList_progress {n acc ts a rest} (h : parseExprList n acc ts = .ok a rest) : rest.length < ts.length :=
  ((pbndAll n).parseExprList acc ts).elim h
theorem parseParams_progress {n acc ts a rest} (h : parseParams n acc ts = .ok a rest) : rest.length < ts.length :=
  ((pbndAll n).parseParams acc ts).elim h
theorem parsePropItems_progress {n acc ts a rest} (h : parsePropItems n acc ts = .ok a rest) :
    rest.length < ts.length := ((pbndAll n).parsePropItems acc ts).elim h
theorem parsePropTail_progress {n acc ts a rest} (h : parsePropTail n acc ts = .ok a rest) : rest.length < ts.length :=
  ((pbndAll n).parsePropTail acc ts).elim h
theorem parseBlock_progress {n ts a rest} (h : parseBlock n ts = .ok a rest) : rest.length < ts.length :=
  ((pbndAll n).parseBlock ts).elim h
theorem parseStmts_suffix {n c acc ts a rest} (h : parseStmts n c acc ts = .ok a rest) : rest.length ≤ ts.length :=
  Nat.le_of_lt_succ (((pbndAll n).parseStmts c acc ts).elim h)
theorem parseIf_progress {n ts a rest} (h : parseIf n ts = .ok a rest) : rest.length < ts.length :=
  ((pbndAll n).parseIf ts).elim h
theorem parseStmtTail_suffix {n lhs ts a rest} (h : parseStmtTail n lhs ts = .ok a rest) : rest.length ≤ ts.length :=
  Nat.le_of_lt_succ (((pbndAll n).parseStmtTail lhs ts).elim h)
theorem parseExprStmt_progress {n amb l ts a rest} (h : parseExprStmt n amb l none ts = .ok a rest) :
    rest.length < ts.length := ((pbndAll n).parseExprStmt amb l none ts).elim h
theorem parseExprStmt_suffix {n amb l pre ts a rest} (h : parseExprStmt n amb l pre ts = .ok a rest) :
    rest.length ≤ ts.length :=
  ((pbndAll n).parseExprStmt amb l pre ts).suffix h
theorem parseRawStmt_progress {n amb ts a rest} (h : parseRawStmt n amb ts = .ok a rest) : rest.length < ts.length :=
  ((pbndAll n).parseRawStmt amb ts).elim h
theorem parseBraceStmt_progress {n amb l ts a rest} (h : parseBraceStmt n amb l ts = .ok a rest) :
    rest.length < ts.length := ((pbndAll n).parseBraceStmt amb l ts).elim h

end Seed
