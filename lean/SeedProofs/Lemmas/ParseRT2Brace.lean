/-
  ParseRT2Brace.lean — expression statements that begin with `{`.  In statement position `{` opens a block
  or an object literal; `parseBraceStmt` decides by parsing the first item as a statement and looking at the
  token after it, then hands the finished object literal to the expression parser as an already-parsed atom
  (`pre`).  This file shows that a printed expression whose leftmost atom is an object literal is parsed
  through that path to the same tree as through the ordinary expression path — so the printer needs no
  parentheses around such statements.

    `PExpr1.pre_swap`  the expression parser started after its first atom = started before it
    `BL r k`           if `prR k r` begins with `{`, the leading object literal is recognised by both paths
    `SE r`             round trip of `r` as the head of an expression statement (`parseRawStmt`)
-/
import SeedProofs.Lemmas.ParseRT2Main
import SeedProofs.Lemmas.ParseRT2StmtRel
namespace Seed

theorem parseAtom_some (n : Nat) (a : RawExpr) (ts : List Span) : parseAtom (n + 1) (some a) ts = .ok a ts := by
  unfold parseAtom
  rfl

theorem parsePostfix_pre_eq {n : Nat} {loc : Loc} {ts ts' : List Span} {a : RawExpr}
    (h : parseAtom n none ts = .ok a ts') : parsePostfix (n + 1) loc (some a) ts' = parsePostfix (n + 1) loc none ts := by
  cases n with
  | zero => unfold parseAtom at h; cases h
  | succ m =>
    unfold parsePostfix
    rw [h, parseAtom_some]

theorem parseTier_pre_eq {n : Nat} {loc : Loc} {ts ts' : List Span} {a : RawExpr}
    (h : parseAtom n none ts = .ok a ts') :
    ∀ j k, k + j = 5 → parseTier (n + 2 + j) k loc (some a) ts' = parseTier (n + 2 + j) k loc none ts := by
  intro j
  induction j with
  | zero =>
    intro k hk
    have hk5 : k ≥ Gen.postfixTier := by simp only [Gen.postfixTier]; omega
    show parseTier (n + 1 + 1) k loc (some a) ts' = parseTier (n + 1 + 1) k loc none ts
    unfold parseTier
    simp only [hk5, if_true]
    exact parsePostfix_pre_eq h
  | succ j ih =>
    intro k hk
    have hk5 : ¬ k ≥ Gen.postfixTier := by simp only [Gen.postfixTier]; omega
    show parseTier (n + 2 + j + 1) k loc (some a) ts' = parseTier (n + 2 + j + 1) k loc none ts
    unfold parseTier
    simp only [hk5, if_false]
    rw [ih (k + 1) (by omega)]

theorem parseExpr1_pre_eq {n : Nat} {s : Bool} {loc : Loc} {ts ts' : List Span} {a : RawExpr}
    (h : parseAtom n none ts = .ok a ts') :
    parseExpr1 (n + 6) s loc (some a) ts' = parseExpr1 (n + 6) s loc none ts := by
  show parseExpr1 (n + 2 + 3 + 1) s loc (some a) ts' = parseExpr1 (n + 2 + 3 + 1) s loc none ts
  unfold parseExpr1
  rw [parseTier_pre_eq h 3 Gen.firstTier rfl]

theorem PExpr1.pre_swap {s : Bool} {loc : Loc} {ts ts' r : List Span} {a X : RawExpr}
    (ha : PAtom none ts a ts') (h : PExpr1 s loc none ts X r) : PExpr1 s loc (some a) ts' X r := by
  obtain ⟨n, hn⟩ := ha.ev.and h.ev
  refine ⟨n + 6, ?_⟩
  rw [parseExpr1_pre_eq (hn n (Nat.le_refl n)).1]
  exact (hn (n + 6) (Nat.le_add_right n 6)).2

/-- `{ }` at the start of a statement is the empty object literal -/
theorem PBraceStmt.empty {amb : Bool} {loc : Loc} {sp : Span} {r r' : List Span} {st : Stmt}
    (h : sp.tok = .BraceClose) (h1 : PExprStmt amb loc (some (.Object [])) r st r') :
    PBraceStmt amb loc (sp :: r) st r' :=
  PRes.step h1 fun n hf1 => by
    unfold parseBraceStmt
    simp only [h, if_true, hf1]

/-- `{ .. …` at the start of a statement is an object literal -/
theorem PBraceStmt.dots {amb : Bool} {loc : Loc} {sp : Span} {r r2 r' : List Span} {props : List PropItem} {st : Stmt}
    (h : sp.tok = .DotDot) (h1 : PProps [] (sp :: r) props r2)
    (h2 : PExprStmt amb loc (some (.Object props)) r2 st r') : PBraceStmt amb loc (sp :: r) st r' :=
  (h1.ev.and h2.ev).step fun n ⟨hf1, hf2⟩ => by
    unfold parseBraceStmt
    simp [h, hf1, PRes.bind, hf2]

/-- `{ k : v …` -/
theorem PBraceStmt.pair {amb : Bool} {loc : Loc} {sp sp2 : Span} {r r3 r4 r5 r' : List Span} {e v : Expr}
    {props : List PropItem} {st : Stmt} (hc : sp.tok ≠ .BraceClose) (hd : sp.tok ≠ .DotDot)
    (h1 : PRawStmt true (sp :: r) (.Expr e) (sp2 :: r3)) (h2 : sp2.tok = .Colon) (h3 : PExpr false r3 v r4)
    (h4 : PPropTail [.Pair e v] r4 props r5) (h5 : PExprStmt amb loc (some (.Object props)) r5 st r') :
    PBraceStmt amb loc (sp :: r) st r' :=
  (((h1.ev.and h3.ev).and h4.ev).and h5.ev).step fun n ⟨⟨⟨hf1, hf3⟩, hf4⟩, hf5⟩ => by
    unfold parseBraceStmt
    simp [hc, hd, hf1, PRes.bind, h2, hf3, hf4, hf5]

/-- `{ e .. …` -/
theorem PBraceStmt.spread {amb : Bool} {loc : Loc} {sp sp2 : Span} {r r3 r4 r' : List Span} {e : Expr}
    {props : List PropItem} {st : Stmt} (hc : sp.tok ≠ .BraceClose) (hd : sp.tok ≠ .DotDot)
    (h1 : PRawStmt true (sp :: r) (.Expr e) (sp2 :: r3)) (h2 : sp2.tok = .DotDot)
    (h4 : PPropTail [.Single e true false] r3 props r4) (h5 : PExprStmt amb loc (some (.Object props)) r4 st r') :
    PBraceStmt amb loc (sp :: r) st r' :=
  ((h1.ev.and h4.ev).and h5.ev).step fun n ⟨⟨hf1, hf4⟩, hf5⟩ => by
    unfold parseBraceStmt
    simp [hc, hd, hf1, PRes.bind, h2, hf4, hf5]

/-- `{ e , …` and `{ e }` -/
theorem PBraceStmt.single {amb : Bool} {loc : Loc} {sp sp2 : Span} {r r3 r4 r' : List Span} {e : Expr}
    {props : List PropItem} {st : Stmt} (hc : sp.tok ≠ .BraceClose) (hd : sp.tok ≠ .DotDot)
    (h1 : PRawStmt true (sp :: r) (.Expr e) (sp2 :: r3)) (h2 : sp2.tok = .Comma ∨ sp2.tok = .BraceClose)
    (h4 : PPropTail [.Single e false false] (sp2 :: r3) props r4)
    (h5 : PExprStmt amb loc (some (.Object props)) r4 st r') : PBraceStmt amb loc (sp :: r) st r' :=
  ((h1.ev.and h4.ev).and h5.ev).step fun n ⟨⟨hf1, hf4⟩, hf5⟩ => by
    unfold parseBraceStmt
    rcases h2 with h2 | h2 <;> simp [hc, hd, hf1, PRes.bind, h2, hf4, hf5]

/-- round trip of `r` as the head of an expression statement: the expression parser gives `raw`, and the
    statement parser `parseRawStmt` continues with the statement tail after it (whatever the first token
    of `r` is — in particular `{`) -/
def SE (r : RawExpr) : Prop :=
  ∀ (amb : Bool) (sp : Span) (tsl rest : List Span), (sp :: tsl).map Span.tok = prR 1 r → stops amb rest →
    ∃ raw, stripR raw = stripR r ∧ PExpr1 amb sp.start none (sp :: (tsl ++ rest)) raw rest ∧
      ∀ st r', PStmtTail (.mk raw sp.start) rest st r' → PRawStmt amb (sp :: (tsl ++ rest)) st r'

/-- if `prR k r` begins with `{`, that brace opens an object literal `a` (the leftmost atom of `r`), which
    both the expression path (`parseAtom`) and the statement path (`parseBraceStmt`) recognise, leaving the
    same tokens `ts0` -/
def BL (r : RawExpr) (k : Nat) : Prop :=
  ∀ (so : Span) (body : List Span), (so :: body).map Span.tok = prR k r → so.tok = .BraceOpen →
    ∃ ts0 : List Span, ∀ rest : List Span, ∃ a : RawExpr,
      PAtom none (so :: (body ++ rest)) a (ts0 ++ rest) ∧
      ∀ (amb : Bool) (loc0 : Loc) (st : Stmt) (r' : List Span),
        PExprStmt amb loc0 (some a) (ts0 ++ rest) st r' → PBraceStmt amb loc0 (body ++ rest) st r'

theorem BL_vacuous {r : RawExpr} {k : Nat} (h : ∀ l, prR k r ≠ Token.BraceOpen :: l) : BL r k := by
  intro so body hts hso
  simp only [List.map_cons, hso] at hts
  exact absurd hts.symm (h _)

/-- along the left spine: `r` is printed as its left operand `e` followed by more tokens -/
theorem BL_append {r e : RawExpr} {k j : Nat} {extra : List Token} (hpr : prR k r = prR j e ++ extra)
    (h : BL e j) : BL r k := by
  intro so body hts hso
  rw [hpr] at hts
  obtain ⟨tse, tsx, hsplit, hte, htx⟩ := map_tok_append hts
  obtain ⟨se, tse', rfl, _⟩ := spans_start hte (prR_starts e j)
  rw [List.cons_append] at hsplit
  obtain ⟨rfl, rfl⟩ := List.cons.inj hsplit
  obtain ⟨ts0, hk⟩ := h so tse' hte hso
  refine ⟨ts0 ++ tsx, fun rest => ?_⟩
  obtain ⟨a, ha, hb⟩ := hk (tsx ++ rest)
  refine ⟨a, by simpa [List.append_assoc] using ha, fun amb loc0 st r' hp => ?_⟩
  have := hb amb loc0 st r' (by simpa [List.append_assoc] using hp)
  simpa [List.append_assoc] using this

/-- the expression of the first item of an object literal, where it matters how the item begins -/
def SEP : PropItem → Prop
  | .Pair k v => SE k.raw ∧ FEE k ∧ FEE v
  | .Single e _ false => SE e.raw ∧ FEE e
  | .Single e _ true => FEE e

theorem sepBody_cons (close : Token) (t : List Token) (rest : List (List Token)) :
    sepBody close false (t :: rest) =
      t ++ (match rest with | [] => [close] | _ :: _ => Token.Comma :: sepBody close false rest) := by
  cases rest with
  | nil => simp [sepBody]
  | cons a l => simp [sepBody]

/-- what follows the first item of an object literal: `}` or `, more }` -/
theorem propTail_rt (ps : List PropItem) (h : ∀ p ∈ ps, FEP p) (ts2 : List Span)
    (hts2 : ts2.map Span.tok =
      (match ps.map prProp with | [] => [Token.BraceClose] | _ :: _ => Token.Comma :: sepBody .BraceClose false (ps.map prProp))) :
    ∃ sp3 r3, ts2 = sp3 :: r3 ∧ (sp3.tok = .Comma ∨ sp3.tok = .BraceClose) ∧
      ∀ p0 rest, ∃ props', PPropTail [p0] (ts2 ++ rest) props' rest := by
  cases ps with
  | nil =>
    simp only [List.map_nil] at hts2
    obtain ⟨sp3, t', rfl, hsp3, h'⟩ := map_tok_cons hts2
    obtain rfl := map_tok_nil h'
    exact ⟨sp3, [], rfl, Or.inr hsp3, fun p0 rest => ⟨_, PPropTail.close hsp3⟩⟩
  | cons q qs =>
    simp only [List.map_cons] at hts2
    obtain ⟨sp3, ts3, rfl, hsp3, h3⟩ := map_tok_cons hts2
    refine ⟨sp3, ts3, rfl, Or.inl hsp3, fun p0 rest => ?_⟩
    obtain ⟨props', _, hp⟩ := props_rt (q :: qs) h [p0] ts3 rest (by simpa [List.map_cons] using h3)
    exact ⟨_, PPropTail.comma hsp3 hp⟩

theorem BL_object {props : List PropItem} {k : Nat} (hall : ∀ p ∈ props, FEP p)
    (hfirst : ∀ p ps, props = p :: ps → SEP p) : BL (.Object props) k := by
  intro so body hts hso
  simp only [prR, prProps_map, List.map_cons, List.cons.injEq] at hts
  obtain ⟨_, hbody⟩ := hts
  refine ⟨[], fun rest => ?_⟩
  simp only [List.nil_append]
  cases props with
  | nil =>
    simp only [List.map_nil, sepBody] at hbody
    obtain ⟨sc, t', rfl, hsc, h'⟩ := map_tok_cons hbody
    obtain rfl := map_tok_nil h'
    exact ⟨.Object [], PAtom.object hso (PProps.nil hsc), fun amb loc0 st r' hp => PBraceStmt.empty hsc hp⟩
  | cons p ps =>
    have hp0 := hfirst p ps rfl
    have hps : ∀ q ∈ ps, FEP q := fun q hq => hall q (List.mem_cons_of_mem _ hq)
    rw [List.map_cons, sepBody_cons] at hbody
    obtain ⟨tsp, ts2, rfl, htp, h2⟩ := map_tok_append hbody
    cases p with
    | Pair k v =>
      obtain ⟨hsek, _, hfv⟩ := hp0
      simp only [prProp] at htp
      obtain ⟨tsk, tsc, rfl, htk, hc2⟩ := map_tok_append htp
      obtain ⟨sc, tsv, rfl, hsc, htv⟩ := map_tok_cons hc2
      obtain ⟨k, kl⟩ := k
      simp only [prE] at htk
      obtain ⟨sk, tsk', rfl, hstk⟩ := spans_start htk (prR_starts k 1)
      obtain ⟨sp3, r3, rfl, hsp3, htail⟩ := propTail_rt ps hps _ h2
      obtain ⟨rawk, _, hpk, hbk⟩ := hsek true sk tsk' (sc :: (tsv ++ (sp3 :: r3 ++ rest))) htk
        (stops_of_tok (by rw [hsc]; rfl))
      obtain ⟨v', _, hpv⟩ := hfv false tsv (sp3 :: r3 ++ rest) htv (stops_of_tok (propSep_facts r3 hsp3).2.1)
      obtain ⟨props', hpt⟩ := htail (.Pair (.mk rawk sk.start) v') rest
      have hkE : PExpr true (sk :: (tsk' ++ sc :: (tsv ++ (sp3 :: r3 ++ rest)))) (.mk rawk sk.start)
          (sc :: (tsv ++ (sp3 :: r3 ++ rest))) := PExpr.mk hpk
      have hraw := hbk _ _ (PStmtTail.none (by rw [hsc]; rfl))
      refine ⟨.Object props', ?_, fun amb loc0 st r' hp => ?_⟩
      · have := PAtom.object hso (PProps.pair (acc := []) (starter_ne hstk rfl) (starter_ne hstk rfl) hkE hsc hpv hpt)
        simpa [List.append_assoc] using this
      · have := PBraceStmt.pair (amb := amb) (loc := loc0) (starter_ne hstk rfl) (starter_ne hstk rfl) hraw hsc hpv hpt hp
        simpa [List.append_assoc] using this
    | Single e s c =>
      cases c with
      | true =>
        -- `.. e`: the object is recognised by its first token
        have hfull : (tsp ++ ts2).map Span.tok = sepBody .BraceClose false ((PropItem.Single e s true :: ps).map prProp) := by
          rw [List.map_cons, sepBody_cons, List.map_append, htp, h2]
        obtain ⟨props', _, hpp⟩ := props_rt (.Single e s true :: ps) hall [] (tsp ++ ts2) rest hfull
        simp only [prProp, spreadMark, if_true] at htp
        obtain ⟨sd, tsp', rfl, hsd, _⟩ := map_tok_cons (by simpa using htp)
        refine ⟨.Object props', PAtom.object hso (by simpa using hpp), fun amb loc0 st r' hp => ?_⟩
        exact PBraceStmt.dots hsd (by simpa using hpp) hp
      | false =>
        obtain ⟨hsee, _⟩ := hp0
        simp only [prProp, spreadMark, Bool.false_eq_true, if_false, List.nil_append] at htp
        obtain ⟨tse, tsm, rfl, hte, htm⟩ := map_tok_append htp
        obtain ⟨sp2, hsp2, rfl⟩ := mark_spans htm
        obtain ⟨e, el⟩ := e
        simp only [prE] at hte
        obtain ⟨se, tse', rfl, hste⟩ := spans_start hte (prR_starts e 1)
        obtain ⟨sp3, r3, rfl, hsp3, htail⟩ := propTail_rt ps hps _ h2
        obtain ⟨hf3, hs3, hnd, hnc⟩ := propSep_facts (r3 ++ rest) hsp3
        obtain ⟨rawe, _, hpe, hbe⟩ := hsee true se tse' ((if s then [sp2] else []) ++ sp3 :: (r3 ++ rest)) hte
          (stops_item hsp2 hf3 hs3)
        obtain ⟨props', hpt⟩ := htail (.Single (.mk rawe se.start) s false) rest
        have heE : PExpr true (se :: (tse' ++ ((if s then [sp2] else []) ++ sp3 :: (r3 ++ rest)))) (.mk rawe se.start)
            ((if s then [sp2] else []) ++ sp3 :: (r3 ++ rest)) := PExpr.mk hpe
        refine ⟨.Object props', ?_, fun amb loc0 st r' hp => ?_⟩
        · have := PAtom.object hso (PProps.single (acc := []) s (starter_ne hste rfl) (starter_ne hste rfl) heE rfl hsp2
            hnd hnc (by simpa using hpt))
          simpa [List.append_assoc] using this
        · cases s with
          | true =>
            have hraw := hbe _ _ (PStmtTail.none (sp := sp2) (by rw [hsp2]; rfl))
            have := PBraceStmt.spread (amb := amb) (loc := loc0) (starter_ne hste rfl) (starter_ne hste rfl) hraw hsp2
              (by simpa using hpt) hp
            simpa [List.append_assoc] using this
          | false =>
            have hraw := hbe _ _ (PStmtTail.none (sp := sp3) (by rcases hsp3 with h | h <;> (rw [h]; rfl)))
            have := PBraceStmt.single (amb := amb) (loc := loc0) (starter_ne hste rfl) (starter_ne hste rfl) hraw hsp3
              (by simpa using hpt) hp
            simpa [List.append_assoc] using this

theorem starter_exprStmtStart {t : Token} (h : isStarter t = true) (hb : t ≠ .BraceOpen) (hf : t ≠ .Fn) :
    isExprStmtStart t = true := by
  unfold isStarter at h
  split at h <;> first | rfl | contradiction

theorem SE_of_RT_BL {r : RawExpr} (h : RT r) (hb : BL r 1) : SE r := by
  intro amb sp tsl rest hts hst
  obtain ⟨raw, he, hp⟩ := F1R_of_Key1R h.one amb sp.start (sp :: tsl) rest hts hst
  rw [List.cons_append] at hp
  refine ⟨raw, he, hp, fun st r' hT => ?_⟩
  obtain ⟨t, l', htl, hstart, hfn⟩ := prR_starts r 1
  rw [htl] at hts
  simp only [List.map_cons, List.cons.injEq] at hts
  obtain ⟨hsp1, hts'⟩ := hts
  by_cases hbr : sp.tok = Token.BraceOpen
  · obtain ⟨ts0, hk⟩ := hb sp tsl (by rw [htl]; simp only [List.map_cons, hsp1, hts']) hbr
    obtain ⟨a, ha, hbk⟩ := hk rest
    exact PRawStmt.brace hbr (hbk amb sp.start st r' (PExprStmt.mk (PExpr1.pre_swap ha hp) hT))
  · by_cases hf : t = Token.Fn
    · obtain ⟨l'', rfl⟩ := hfn hf
      obtain ⟨sp2, tsl'', rfl, hsp2, _⟩ := map_tok_cons hts'
      exact PRawStmt.exprFn (by rw [hsp1]; exact hf) hsp2 (PExprStmt.mk hp hT)
    · rw [hsp1] at hbr
      exact PRawStmt.expr (by rw [hsp1]; exact starter_exprStmtStart hstart hbr hf) (PExprStmt.mk hp hT)

theorem blStep (fn : Bool) (r : RawExpr) (hwf : wfR fn r = true)
    (ihRT : ∀ r', sizeOf r' < sizeOf r → wfR fn r' = true → RT r')
    (ihBL : ∀ r', sizeOf r' < sizeOf r → wfR fn r' = true → ∀ k, BL r' k) : ∀ k, BL r k := by
  have hb : Below (fun e => RT e.raw ∧ ∀ k, BL e.raw k) (fun _ => True) r :=
    Below.of_lt hwf (fun e hs hw => ⟨ihRT e.raw hs (wfE_raw fn e ▸ hw), ihBL e.raw hs (wfE_raw fn e ▸ hw)⟩)
      (fun _ _ _ => True.intro)
  intro k
  cases r with
  | BinaryOp op ol l r =>
    obtain ⟨l, ll⟩ := l
    by_cases hk : tierOf op < k
    · exact BL_vacuous (fun l' h => by simp [prR, paren, hk] at h)
    · exact BL_append (j := tierOf op)
        (by simp only [prR, prE, paren, hk, decide_false, Bool.false_eq_true, if_false]; rfl) (hb.1.2 _)
  | Range l r =>
    obtain ⟨l, ll⟩ := l
    by_cases hk : 1 < k
    · exact BL_vacuous (fun l' h => by simp [prR, paren, hk] at h)
    · exact BL_append (j := 1)
        (by simp only [prR, prE, paren, hk, decide_false, Bool.false_eq_true, if_false]; rfl) (hb.1.2 _)
  | Index e i => obtain ⟨e, le⟩ := e; exact BL_append (j := 5) (by simp only [prR, prE]; rfl) (hb.1.2 _)
  | RangeIndex e a b => obtain ⟨e, le⟩ := e; exact BL_append (j := 5) (by simp only [prR, prE]; rfl) (hb.1.2 _)
  | «Prop» e name tp => obtain ⟨e, le⟩ := e; exact BL_append (j := 5) (by simp only [prR, prE]; rfl) (hb.2 _)
  | Call f args => obtain ⟨f, lf⟩ := f; exact BL_append (j := 5) (by simp only [prR, prE]; rfl) (hb.1.2 _)
  | Object props =>
    refine BL_object (fun p hp => (hb p hp).imp fun _ h => FEE_of_RT h.1) (fun p ps hps => ?_)
    have hp := hb p (hps ▸ List.mem_cons_self ..)
    cases p with
    | Pair k v => exact ⟨SE_of_RT_BL hp.1.1 (hp.1.2 1), FEE_of_RT hp.1.1, FEE_of_RT hp.2.1⟩
    | Single e s c =>
      cases c with
      | true => exact FEE_of_RT hp.1
      | false => exact ⟨SE_of_RT_BL hp.1 (hp.2 1), FEE_of_RT hp.1⟩
  | Bool b => cases b <;> exact BL_vacuous (fun l h => by simp [prR] at h)
  | Int n => cases n <;> exact BL_vacuous (fun l h => by simp [prR] at h)
  | Str s o => cases o <;> exact BL_vacuous (fun l h => by simp [prR] at h)
  | _ => exact BL_vacuous (fun l h => by simp [prR] at h)

end Seed
