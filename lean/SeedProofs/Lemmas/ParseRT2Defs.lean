/-
  ParseRT2Defs.lean — definitions for the print/parse round trip of the whole grammar (ParseRT2*.lean):
  position erasure `stripR/stripE/…` on the model's own syntax tree, the decidable well-formedness predicate
  `wfR/wfE/wfStmt/…` (the shape of the trees the parser can produce) and the minimal-parenthesis token printer
  `prR/prE/prStmt/prStmts/…`, all total functions by structural recursion on the (nested, mutual) syntax tree of
  SeedModel/Ast.lean.

  Levels of the printer (`prR k e` prints `e` where level `k` or tighter is accepted):
    1 = `..` (parseExpr1), 2–4 = the operator tiers of `Gen.binOps`, 5 = postfix forms and atoms.
-/
import SeedProofs.Lemmas.ParseRoundTrip
namespace Seed

mutual
/-- set every stored position to `(0, 0)` -/
def stripR : RawExpr → RawExpr
  | .Null => .Null
  | .Bool b => .Bool b
  | .Int n => .Int n
  | .Str s sl => .Str s sl
  | .Var x => .Var x
  | .BinaryOp op _ l r => .BinaryOp op (0, 0) (stripE l) (stripE r)
  | .List items c => .List (stripItems items) c
  | .Index e i => .Index (stripE e) (stripE i)
  | .RangeIndex e a b => .RangeIndex (stripE e) (stripO a) (stripO b)
  | .Range a b => .Range (stripE a) (stripE b)
  | .Object props => .Object (stripProps props)
  | .Prop e n t => .Prop (stripE e) n t
  | .Func args c stmts => .Func (stripEs args) c (stripStmts stmts)
  | .Call f args => .Call (stripE f) (stripItems args)
def stripE : Expr → Expr
  | .mk r _ => .mk (stripR r) (0, 0)
def stripO : Option Expr → Option Expr
  | none => none
  | some e => some (stripE e)
def stripItems : List ListItem → List ListItem
  | [] => []
  | .mk e s :: r => .mk (stripE e) s :: stripItems r
def stripProps : List PropItem → List PropItem
  | [] => []
  | .Pair k v :: r => .Pair (stripE k) (stripE v) :: stripProps r
  | .Single e s c :: r => .Single (stripE e) s c :: stripProps r
def stripEs : List Expr → List Expr
  | [] => []
  | e :: r => stripE e :: stripEs r
def stripStmts : List Stmt → List Stmt
  | [] => []
  | s :: r => stripStmt s :: stripStmts r
def stripStmt : Stmt → Stmt
  | .Block b => .Block (stripStmts b)
  | .Expr e => .Expr (stripE e)
  | .Declare l r => .Declare (stripE l) (stripE r)
  | .Assign l r => .Assign (stripE l) (stripE r)
  | .OpAssign l op _ r => .OpAssign (stripE l) op (0, 0) (stripE r)
  | .If bs none => .If (stripBs bs) none
  | .If bs (some els) => .If (stripBs bs) (some (stripStmts els))
  | .While c s => .While (stripE c) (stripStmts s)
  | .For l i s => .For (stripE l) (stripE i) (stripStmts s)
  | .Break _ => .Break (0, 0)
  | .Continue _ => .Continue (0, 0)
  | .Func n _ args c s => .Func n (0, 0) (stripEs args) c (stripStmts s)
  | .Return _ e => .Return (0, 0) (stripE e)
def stripBs : List Branch → List Branch
  | [] => []
  | .mk c s :: r => .mk (stripE c) (stripStmts s) :: stripBs r
end

def stripItem : ListItem → ListItem
  | .mk e s => .mk (stripE e) s
def stripProp : PropItem → PropItem
  | .Pair k v => .Pair (stripE k) (stripE v)
  | .Single e s c => .Single (stripE e) s c
def stripB : Branch → Branch
  | .mk c s => .mk (stripE c) (stripStmts s)

theorem eq_map_of_cons {α β} {f : List α → List β} {g : α → β} (hnil : f [] = [])
    (hcons : ∀ a l, f (a :: l) = g a :: f l) : ∀ l, f l = l.map g
  | [] => hnil
  | a :: l => by rw [hcons, eq_map_of_cons hnil hcons l, List.map_cons]

theorem stripItems_map (l : List ListItem) : stripItems l = l.map stripItem :=
  eq_map_of_cons (by simp only [stripItems]) (fun ⟨_, _⟩ _ => by simp only [stripItems, stripItem]) l

theorem stripProps_map (l : List PropItem) : stripProps l = l.map stripProp :=
  eq_map_of_cons (by simp only [stripProps]) (fun p _ => by cases p <;> simp only [stripProps, stripProp]) l

theorem stripEs_map (l : List Expr) : stripEs l = l.map stripE :=
  eq_map_of_cons (by simp only [stripEs]) (fun _ _ => by simp only [stripEs]) l

theorem stripStmts_map (l : List Stmt) : stripStmts l = l.map stripStmt :=
  eq_map_of_cons (by simp only [stripStmts]) (fun _ _ => by simp only [stripStmts]) l

theorem stripBs_map (l : List Branch) : stripBs l = l.map stripB :=
  eq_map_of_cons (by simp only [stripBs]) (fun ⟨_, _⟩ _ => by simp only [stripBs, stripB]) l

/-! Well-formedness is the shape of the parser's image; `fn = false` additionally excludes function literals (the
  statement-free fragment). -/

/-- spelling of an op-assignment operator, read off the generated table -/
def assignTokOf (op : BinaryOp) : Option Token :=
  match Gen.assignOps.find? (fun x => x.2 = op) with
  | some x => some x.1
  | none => none

mutual
def wfR (fn : Bool) : RawExpr → Bool
  | .Null => true
  | .Bool _ => true
  | .Int _ => true
  | .Str _ _ => true
  | .Var _ => true
  | .BinaryOp _ _ l r => wfE fn l && wfE fn r
  | .List items c => (!c || !items.isEmpty) && wfItems fn items
  | .Index e i => wfE fn e && wfE fn i
  | .RangeIndex e a b => wfE fn e && wfO fn a && wfO fn b
  | .Range a b => wfE fn a && wfE fn b
  | .Object props => wfProps fn props
  | .Prop e _ _ => wfE fn e
  | .Func args c stmts => fn && (!c || !args.isEmpty) && wfEs fn args && wfStmts fn stmts
  | .Call f args => wfE fn f && wfItems fn args
def wfE (fn : Bool) : Expr → Bool
  | .mk r _ => wfR fn r
def wfO (fn : Bool) : Option Expr → Bool
  | none => true
  | some e => wfE fn e
def wfItems (fn : Bool) : List ListItem → Bool
  | [] => true
  | .mk e _ :: r => wfE fn e && wfItems fn r
def wfProps (fn : Bool) : List PropItem → Bool
  | [] => true
  | .Pair k v :: r => wfE fn k && wfE fn v && wfProps fn r
  | .Single e _ _ :: r => wfE fn e && wfProps fn r
def wfEs (fn : Bool) : List Expr → Bool
  | [] => true
  | e :: r => wfE fn e && wfEs fn r
def wfStmts (fn : Bool) : List Stmt → Bool
  | [] => true
  | s :: r => wfStmt fn s && wfStmts fn r
def wfStmt (fn : Bool) : Stmt → Bool
  | .Block b => !b.isEmpty && wfStmts fn b
  | .Expr e => wfE fn e
  | .Declare l r => wfE fn l && wfE fn r
  | .Assign l r => wfE fn l && wfE fn r
  | .OpAssign l op _ r => (assignTokOf op).isSome && wfE fn l && wfE fn r
  | .If bs none => !bs.isEmpty && wfBs fn bs
  | .If bs (some els) => !bs.isEmpty && wfBs fn bs && wfStmts fn els
  | .While c s => wfE fn c && wfStmts fn s
  | .For l i s => wfE fn l && wfE fn i && wfStmts fn s
  | .Break _ => true
  | .Continue _ => true
  | .Func _ _ args c s => (!c || !args.isEmpty) && wfEs fn args && wfStmts fn s
  | .Return _ e => wfE fn e
def wfBs (fn : Bool) : List Branch → Bool
  | [] => true
  | .mk c s :: r => wfE fn c && wfStmts fn s && wfBs fn r
end

/-- comma-separated items closed by `close`; with `c` the last item is preceded by the collect marker `..`.
    No trailing comma is printed. -/
def sepBody (close : Token) (c : Bool) : List (List Token) → List Token
  | [] => [close]
  | [t] => (if c then [Token.DotDot] else []) ++ (t ++ [close])
  | t :: rest => t ++ Token.Comma :: sepBody close c rest

/-- what follows the first `if`: `b₁ else if b₂ … (else e)?`, each `bᵢ` being the tokens of a condition and
    its block -/
def ifTail : List (List Token) → Option (List Token) → List Token
  | [], none => []
  | [], some e => Token.Else :: e
  | [b], none => b
  | [b], some e => b ++ Token.Else :: e
  | b :: bs, els => b ++ Token.Else :: Token.If :: ifTail bs els

def ifBody (bs : List (List Token)) (els : Option (List Token)) : List Token := Token.If :: ifTail bs els

def spreadMark (s : Bool) : List Token := if s then [Token.DotDot] else []

mutual
def prR : Nat → RawExpr → List Token
  | _, .Null => [.Null]
  | _, .Bool true => [.True]
  | _, .Bool false => [.False]
  | _, .Int (.ofNat n) => [.IntLiteral (.ofNat n)]
  | _, .Int (.negSucc n) => [.Sub, .IntLiteral (.ofNat (n + 1))]
  | _, .Str s none => [.StrLiteral s]
  | _, .Str s (some sl) => [.InterpStrLiteral s sl]
  | _, .Var x => [.Ident x]
  | k, .BinaryOp op _ l r =>
    paren (decide (tierOf op < k)) (prE (tierOf op) l ++ tokOf op :: prE (tierOf op + 1) r)
  | k, .Range l r => paren (decide (1 < k)) (prE 1 l ++ Token.DotDot :: prE Gen.firstTier r)
  | _, .List items c => Token.BracketOpen :: sepBody .BracketClose c (prItems items)
  | _, .Index e i => prE 5 e ++ Token.BracketOpen :: (prE 1 i ++ [Token.BracketClose])
  | _, .RangeIndex e a b => prE 5 e ++ Token.BracketOpen :: (prO a ++ Token.Colon :: (prO b ++ [Token.BracketClose]))
  | _, .Prop e name tp => prE 5 e ++ [if tp then Token.DashGreaterThan else Token.Dot, Token.Ident name]
  | _, .Call f args => prE 5 f ++ Token.ParenOpen :: sepBody .ParenClose false (prItems args)
  | _, .Object props => Token.BraceOpen :: sepBody .BraceClose false (prProps props)
  | _, .Func args c stmts =>
    Token.Fn :: Token.ParenOpen :: (sepBody .ParenClose c (prEs args) ++ Token.BraceOpen :: (prStmts stmts ++ [Token.BraceClose]))
def prE : Nat → Expr → List Token
  | k, .mk r _ => prR k r
def prO : Option Expr → List Token
  | none => []
  | some e => prE 1 e
def prItems : List ListItem → List (List Token)
  | [] => []
  | .mk e s :: r => (prE 1 e ++ spreadMark s) :: prItems r
def prProps : List PropItem → List (List Token)
  | [] => []
  | .Pair k v :: r => (prE 1 k ++ Token.Colon :: prE 1 v) :: prProps r
  | .Single e s c :: r => (spreadMark c ++ (prE 1 e ++ spreadMark s)) :: prProps r
def prEs : List Expr → List (List Token)
  | [] => []
  | e :: r => prE 1 e :: prEs r
def prStmts : List Stmt → List Token
  | [] => []
  | s :: r => prStmt s ++ Token.StmtEnd :: prStmts r
def prStmt : Stmt → List Token
  | .Block b => Token.BraceOpen :: (prStmts b ++ [Token.BraceClose])
  | .Expr e => prE 1 e
  | .Declare l r => prE 1 l ++ Token.ColonEquals :: prE 1 r
  | .Assign l r => prE 1 l ++ Token.Equals :: prE 1 r
  | .OpAssign l op _ r => prE 1 l ++ (assignTokOf op).getD Token.Equals :: prE 1 r
  | .If bs none => ifBody (prBs bs) none
  | .If bs (some els) => ifBody (prBs bs) (some (Token.BraceOpen :: (prStmts els ++ [Token.BraceClose])))
  | .While c s => Token.While :: (prE 1 c ++ Token.BraceOpen :: (prStmts s ++ [Token.BraceClose]))
  | .For l i s =>
    Token.For :: (prE 1 l ++ Token.In :: (prE 1 i ++ Token.BraceOpen :: (prStmts s ++ [Token.BraceClose])))
  | .Break _ => [Token.Break]
  | .Continue _ => [Token.Continue]
  | .Func n _ args c s =>
    Token.Fn :: Token.Ident n :: Token.ParenOpen ::
      (sepBody .ParenClose c (prEs args) ++ Token.BraceOpen :: (prStmts s ++ [Token.BraceClose]))
  | .Return _ e => Token.Return :: prE 1 e
def prBs : List Branch → List (List Token)
  | [] => []
  | .mk c s :: r => (prE 1 c ++ Token.BraceOpen :: (prStmts s ++ [Token.BraceClose])) :: prBs r
end

def prBlock (stmts : List Stmt) : List Token := Token.BraceOpen :: (prStmts stmts ++ [Token.BraceClose])

def prItem : ListItem → List Token
  | .mk e s => prE 1 e ++ spreadMark s
def prProp : PropItem → List Token
  | .Pair k v => prE 1 k ++ Token.Colon :: prE 1 v
  | .Single e s c => spreadMark c ++ (prE 1 e ++ spreadMark s)
def prB : Branch → List Token
  | .mk c s => prE 1 c ++ prBlock s

theorem prItems_map (l : List ListItem) : prItems l = l.map prItem :=
  eq_map_of_cons (by simp only [prItems]) (fun ⟨_, _⟩ _ => by simp only [prItems, prItem]) l

theorem prProps_map (l : List PropItem) : prProps l = l.map prProp :=
  eq_map_of_cons (by simp only [prProps]) (fun p _ => by cases p <;> simp only [prProps, prProp]) l

theorem prEs_map (l : List Expr) : prEs l = l.map (prE 1) :=
  eq_map_of_cons (by simp only [prEs]) (fun _ _ => by simp only [prEs]) l

theorem prBs_map (l : List Branch) : prBs l = l.map prB :=
  eq_map_of_cons (by simp only [prBs]) (fun ⟨_, _⟩ _ => by simp only [prBs, prB, prBlock]) l

private def v (s : List Char) : Expr := .mk (.Var s) (0, 0)
private def n (k : Int) : Expr := .mk (.Int k) (0, 0)

-- `a.b[0](x, y..).c`
example : prE 1 (.mk (.Prop (.mk (.Call (.mk (.Index (.mk (.Prop (v c!"a") c!"b" false) (0, 0)) (n 0)) (0, 0))
      [.mk (v c!"x") false, .mk (v c!"y") true]) (0, 0)) c!"c" false) (0, 0)) =
    [.Ident c!"a", .Dot, .Ident c!"b", .BracketOpen, .IntLiteral 0, .BracketClose, .ParenOpen, .Ident c!"x",
      .Comma, .Ident c!"y", .DotDot, .ParenClose, .Dot, .Ident c!"c"] := by decide +kernel
-- `(a + b)[-1]`, `a + b[1]`
example : prE 1 (.mk (.Index (.mk (.BinaryOp .Sum (0, 0) (v c!"a") (v c!"b")) (0, 0)) (n (-1))) (0, 0)) =
    [.ParenOpen, .Ident c!"a", .Sum, .Ident c!"b", .ParenClose, .BracketOpen, .Sub, .IntLiteral 1, .BracketClose] := by
  decide +kernel
example : prE 1 (.mk (.BinaryOp .Sum (0, 0) (v c!"a") (.mk (.Index (v c!"b") (n 1)) (0, 0))) (0, 0)) =
    [.Ident c!"a", .Sum, .Ident c!"b", .BracketOpen, .IntLiteral 1, .BracketClose] := by decide +kernel
-- `[a, ..b..]`, `x[:1]`
example : prE 1 (.mk (.List [.mk (v c!"a") false, .mk (v c!"b") true] true) (0, 0)) =
    [.BracketOpen, .Ident c!"a", .Comma, .DotDot, .Ident c!"b", .DotDot, .BracketClose] := by decide +kernel
example : prE 1 (.mk (.RangeIndex (v c!"x") none (some (n 1))) (0, 0)) =
    [.Ident c!"x", .BracketOpen, .Colon, .IntLiteral 1, .BracketClose] := by decide +kernel
-- `{a: 1, b, ..c}`
example : prE 1 (.mk (.Object [.Pair (v c!"a") (n 1), .Single (v c!"b") false false, .Single (v c!"c") false true])
      (0, 0)) =
    [.BraceOpen, .Ident c!"a", .Colon, .IntLiteral 1, .Comma, .Ident c!"b", .Comma, .DotDot, .Ident c!"c",
      .BraceClose] := by decide +kernel
-- `f := fn(x, ..r) { return x; };`  `{}.a;`  `{a, b} := o;`
example : prStmts [.Declare (v c!"f") (.mk (.Func [v c!"x", v c!"r"] true [.Return (0, 0) (v c!"x")]) (0, 0)),
      .Expr (.mk (.Prop (.mk (.Object []) (0, 0)) c!"a" false) (0, 0)),
      .Declare (.mk (.Object [.Single (v c!"a") false false, .Single (v c!"b") false false]) (0, 0)) (v c!"o")] =
    [.Ident c!"f", .ColonEquals, .Fn, .ParenOpen, .Ident c!"x", .Comma, .DotDot, .Ident c!"r", .ParenClose,
      .BraceOpen, .Return, .Ident c!"x", .StmtEnd, .BraceClose, .StmtEnd,
      .BraceOpen, .BraceClose, .Dot, .Ident c!"a", .StmtEnd,
      .BraceOpen, .Ident c!"a", .Comma, .Ident c!"b", .BraceClose, .ColonEquals, .Ident c!"o", .StmtEnd] := by
  decide +kernel

end Seed
