/-
  ParseRT2Expr.lean — the print/parse round trip for the whole expression grammar: atoms, the 15 binary
  operators, `..`, parentheses, the postfix forms (index, range index, `.name`, `->name`, call with spread
  arguments), list literals (spread items, collecting last item), object literals (pairs, shorthand, spread,
  collect) and — given the round trip of its body — function literals.

  Architecture (as ParseRoundTrip.lean, on the model's own tree, positions erased by `stripR`):
    KeyPR r    : parsing `prR 5 r ++ rest` at the postfix level = continuing the postfix loop on `rest`
                 with `r` accumulated
    KeyTR r k  : the same for the tier-`k` operator loop,   Key1R r : the same for the `..` loop
    RT r       : all of them;  one lemma per production here, the induction over the tree in ParseRT2Main.lean.
-/
import SeedProofs.Lemmas.ParseRT2Rel
namespace Seed

private theorem hP5 : Gen.postfixTier = 5 := rfl
private theorem hF2 : Gen.firstTier = 2 := rfl

def isStarter : Token → Bool
  | .Null | .True | .False | .Ident _ | .IntLiteral _ | .StrLiteral _ | .InterpStrLiteral _ _
  | .Sub | .ParenOpen | .BracketOpen | .BraceOpen | .Fn => true
  | _ => false

/-- non-empty, beginning with a starter; and `fn` is followed by `(` (never by a name) -/
def Starts (l : List Token) : Prop :=
  ∃ t l', l = t :: l' ∧ isStarter t = true ∧ (t = Token.Fn → ∃ l'', l' = Token.ParenOpen :: l'')

theorem Starts.append {a : List Token} (b : List Token) (h : Starts a) : Starts (a ++ b) := by
  obtain ⟨t, l', rfl, ht, hf⟩ := h
  refine ⟨t, l' ++ b, rfl, ht, fun h => ?_⟩
  obtain ⟨l'', rfl⟩ := hf h
  exact ⟨l'' ++ b, rfl⟩

theorem Starts.cons {t : Token} (l : List Token) (h : isStarter t = true) (hf : t ≠ Token.Fn := by intro h; cases h) :
    Starts (t :: l) := ⟨t, l, rfl, h, fun h => absurd h hf⟩

mutual
/-- every printed expression is non-empty and begins with a token that can begin an expression -/
theorem prR_starts : (r : RawExpr) → (k : Nat) → Starts (prR k r)
  | .Null, _ => Starts.cons _ rfl
  | .Bool true, _ => Starts.cons _ rfl
  | .Bool false, _ => Starts.cons _ rfl
  | .Int (.ofNat _), _ => Starts.cons _ rfl
  | .Int (.negSucc _), _ => Starts.cons _ rfl
  | .Str _ none, _ => Starts.cons _ rfl
  | .Str _ (some _), _ => Starts.cons _ rfl
  | .Var _, _ => Starts.cons _ rfl
  | .BinaryOp op _ l r, k => by
    simp only [prR, paren]
    split
    · exact Starts.cons _ rfl
    · exact (prE_starts l _).append _
  | .Range l r, k => by
    simp only [prR, paren]
    split
    · exact Starts.cons _ rfl
    · exact (prE_starts l _).append _
  | .List _ _, _ => Starts.cons _ rfl
  | .Index e _, _ => by simp only [prR]; exact (prE_starts e _).append _
  | .RangeIndex e _ _, _ => by simp only [prR]; exact (prE_starts e _).append _
  | .Prop e _ _, _ => by simp only [prR]; exact (prE_starts e _).append _
  | .Call e _, _ => by simp only [prR]; exact (prE_starts e _).append _
  | .Object _, _ => Starts.cons _ rfl
  | .Func _ _ _, _ => ⟨_, _, rfl, rfl, fun _ => ⟨_, rfl⟩⟩
theorem prE_starts : (e : Expr) → (k : Nat) → Starts (prE k e)
  | .mk r _, k => by simp only [prE]; exact prR_starts r k
end

theorem starter_ne {t t' : Token} (h : isStarter t = true) (h' : isStarter t' = false) : t ≠ t' := by
  intro e
  rw [e, h'] at h
  cases h

theorem spans_start {ts : List Span} {toks : List Token} (h : ts.map Span.tok = toks) (hs : Starts toks) :
    ∃ sp ts', ts = sp :: ts' ∧ isStarter sp.tok = true := by
  obtain ⟨t, l, rfl, ht, _⟩ := hs
  obtain ⟨sp, ts', rfl, hsp, _⟩ := map_tok_cons h
  exact ⟨sp, ts', rfl, by rw [hsp]; exact ht⟩

theorem starter_not_follow {sp : Span} {r : List Span} (h : isStarter sp.tok = true) :
    isSpreadFollow (sp :: r) = false := by
  unfold isStarter at h
  split at h <;> first | contradiction | (rename_i ht; simp only [isSpreadFollow, ht])

/-- the `..` loop stops: the next token is not `..`, or (with `spreadOk`) it is a spread marker -/
def rangeStop (s : Bool) : List Span → Prop
  | [] => True
  | sp :: r => sp.tok = .DotDot → (s && isSpreadFollow r) = true

/-- the token after the expression (if any) cannot extend it -/
def stops (s : Bool) (rest : List Span) : Prop := noPostfix rest ∧ headTier rest = 0 ∧ rangeStop s rest

theorem rangeLoop_stop' (n : Nat) (s : Bool) (loc : Loc) (acc : RawExpr) (ts : List Span) (h : rangeStop s ts) :
    rangeLoop (n + 1) s loc acc ts = .ok acc ts := by
  unfold rangeLoop
  cases ts with
  | nil => rfl
  | cons sp r =>
    by_cases hd : sp.tok = .DotDot
    · have h' := h hd
      simp only [hd, if_true, h']
    · simp only [hd, if_false]

theorem RLoop.stop' {s : Bool} {loc : Loc} {acc : RawExpr} {ts : List Span} (h : rangeStop s ts) :
    RLoop s loc acc ts acc ts := ⟨1, rangeLoop_stop' 0 s loc acc ts h⟩

def isStopTok : Token → Bool
  | .ParenClose | .BracketClose | .BraceClose | .StmtEnd | .Comma | .Colon | .Equals | .ColonEquals
  | .BraceOpen | .In | .SumEquals | .SubEquals | .MulEquals | .DivEquals | .ModEquals => true
  | _ => false

theorem stops_nil (s : Bool) : stops s [] := ⟨True.intro, rfl, True.intro⟩

theorem stopTok_facts {t : Token} (h : isStopTok t = true) :
    isPostfixOpen t = false ∧ lookupAssoc t Gen.binOps = none ∧ t ≠ .DotDot := by
  unfold isStopTok at h
  split at h <;> first | contradiction | exact ⟨rfl, by decide +kernel, nofun⟩

theorem stops_of_tok {s : Bool} {sp : Span} {r : List Span} (h : isStopTok sp.tok = true) : stops s (sp :: r) := by
  obtain ⟨h1, h2, h3⟩ := stopTok_facts h
  exact ⟨h1, by simp only [headTier, h2], fun hd => absurd hd h3⟩

/-- a spread marker: `..` directly before `,` `]` `)` `}` (only where spreads are allowed) -/
theorem stops_spread {sp : Span} {r : List Span} (h : sp.tok = .DotDot) (hf : isSpreadFollow r = true) :
    stops true (sp :: r) := by
  unfold stops noPostfix headTier rangeStop
  simp [h, hf, isPostfixOpen, lookupAssoc, Gen.binOps]

theorem mark_spans {tsm : List Span} {s : Bool} (h : tsm.map Span.tok = spreadMark s) :
    ∃ sp2 : Span, sp2.tok = .DotDot ∧ tsm = if s then [sp2] else [] := by
  cases s with
  | false =>
    refine ⟨⟨(0, 0), .DotDot, (0, 0)⟩, rfl, ?_⟩
    simpa [spreadMark] using h
  | true =>
    simp only [spreadMark, if_true] at h
    obtain ⟨sp2, t', rfl, h2, h3⟩ := map_tok_cons h
    obtain rfl := map_tok_nil h3
    exact ⟨sp2, h2, rfl⟩

theorem stops_item {s : Bool} {sp2 sp3 : Span} {r3 : List Span} (hs : sp2.tok = .DotDot)
    (h3 : isSpreadFollow (sp3 :: r3) = true) (h3' : isStopTok sp3.tok = true) :
    stops true ((if s then [sp2] else []) ++ sp3 :: r3) := by
  cases s with
  | false => exact stops_of_tok h3'
  | true => exact stops_spread hs h3

def KeyPR (r : RawExpr) : Prop :=
  ∀ (loc : Loc) (ts rest : List Span), ts.map Span.tok = prR 5 r →
    ∃ raw, stripR raw = stripR r ∧ ∀ X r', PLoop loc raw rest X r' → PPost loc none (ts ++ rest) X r'

def KeyTR (r : RawExpr) (k : Nat) : Prop :=
  ∀ (loc : Loc) (ts rest : List Span), ts.map Span.tok = prR k r → noPostfix rest → headTier rest ≤ k →
    ∃ raw, stripR raw = stripR r ∧ ∀ X r', TLoop k loc raw rest X r' → PTier k loc none (ts ++ rest) X r'

def FTR (r : RawExpr) (k : Nat) : Prop :=
  ∀ (loc : Loc) (ts rest : List Span), ts.map Span.tok = prR k r → noPostfix rest → headTier rest < k →
    ∃ raw, stripR raw = stripR r ∧ PTier k loc none (ts ++ rest) raw rest

def Key1R (r : RawExpr) : Prop :=
  ∀ (s : Bool) (loc : Loc) (ts rest : List Span), ts.map Span.tok = prR 1 r → noPostfix rest → headTier rest = 0 →
    ∃ raw, stripR raw = stripR r ∧ ∀ X r', RLoop s loc raw rest X r' → PExpr1 s loc none (ts ++ rest) X r'

def F1R (r : RawExpr) : Prop :=
  ∀ (s : Bool) (loc : Loc) (ts rest : List Span), ts.map Span.tok = prR 1 r → stops s rest →
    ∃ raw, stripR raw = stripR r ∧ PExpr1 s loc none (ts ++ rest) raw rest

/-- `r` printed as `toks` is an atom of the grammar -/
def AtomicR (r : RawExpr) (toks : List Token) : Prop :=
  ∀ (ts rest : List Span), ts.map Span.tok = toks →
    ∃ raw, stripR raw = stripR r ∧ PAtom none (ts ++ rest) raw rest

structure RT (r : RawExpr) : Prop where
  post : KeyPR r
  tier : ∀ k, 2 ≤ k → k ≤ 5 → KeyTR r k
  one : Key1R r

/-- round trip of a positioned expression in any expression slot: `parseExpr` on the printed tokens,
    followed by anything that cannot extend the expression, gives the expression back -/
def FEE (e : Expr) : Prop :=
  ∀ (s : Bool) (ts rest : List Span), ts.map Span.tok = prE 1 e → stops s rest →
    ∃ e', stripE e' = stripE e ∧ PExpr s (ts ++ rest) e' rest

theorem FTR_of_KeyTR {r : RawExpr} {k : Nat} (h : KeyTR r k) : FTR r k := by
  intro loc ts rest hts hp hh
  obtain ⟨raw, he, hk⟩ := h loc ts rest hts hp (by omega)
  exact ⟨raw, he, hk raw rest (TLoop.stop (by omega))⟩

theorem F1R_of_Key1R {r : RawExpr} (h : Key1R r) : F1R r := by
  intro s loc ts rest hts hst
  obtain ⟨raw, he, hk⟩ := h s loc ts rest hts hst.1 hst.2.1
  exact ⟨raw, he, hk raw rest (RLoop.stop' hst.2.2)⟩

theorem FEE_of_RT {e : Expr} (h : RT e.raw) : FEE e := by
  obtain ⟨r, l⟩ := e
  change RT r at h
  intro s ts rest hts hst
  simp only [prE] at hts
  obtain ⟨raw, he, hp⟩ := F1R_of_Key1R h.one s (headLoc (ts ++ rest)) ts rest hts hst
  exact ⟨.mk raw (headLoc (ts ++ rest)), by simp only [stripE, he], PExpr.mk hp⟩

theorem KeyPR_of_AtomicR {r : RawExpr} {toks : List Token} (hpr : prR 5 r = toks) (h : AtomicR r toks) :
    KeyPR r := by
  intro loc ts rest hts
  obtain ⟨raw, he, ha⟩ := h ts rest (hpr ▸ hts)
  exact ⟨raw, he, fun X r' hX => PPost.mk ha hX⟩

/-- a form of the postfix level at any tier `k`, printed the same way -/
theorem KeyTR_of_KeyPR {r : RawExpr} {k : Nat} (hpr : prR k r = prR 5 r) (h : KeyPR r) : KeyTR r k := by
  intro loc ts rest hts hp hh
  obtain ⟨raw, he, hk⟩ := h loc ts rest (hpr ▸ hts)
  refine ⟨raw, he, fun X r' hX => ?_⟩
  have h5 : PTier Gen.postfixTier loc none (ts ++ rest) raw rest :=
    PTier.post (Nat.le_refl _) (hk raw rest (PLoop.stop hp))
  by_cases hk5 : k < Gen.postfixTier
  · exact PTier.step hk5 (h5.descend (Nat.le_refl _) (k + 1) (by omega) (Or.inl (by omega))) hX
  · obtain ⟨rfl, rfl⟩ := TLoop.high (by omega) hX
    exact PTier.post (by omega) (hk _ _ (PLoop.stop hp))

/-- a looser level than the one at which `r` round-trips, printed the same way -/
theorem KeyTR_of_FTR {r : RawExpr} {k j : Nat} (hpr : prR k r = prR j r) (hkj : k < j) (hj : j ≤ Gen.postfixTier)
    (h : FTR r j) : KeyTR r k := by
  intro loc ts rest hts hp hh
  obtain ⟨raw, he, hPj⟩ := h loc ts rest (hpr ▸ hts) hp (by omega)
  refine ⟨raw, he, fun X r' hX => ?_⟩
  exact PTier.step (by omega) (hPj.descend hj (k + 1) (by omega) (Or.inl (by omega))) hX

theorem Key1R_of_FTR {r : RawExpr} (hpr : prR 1 r = prR Gen.firstTier r) (h : FTR r Gen.firstTier) : Key1R r := by
  intro s loc ts rest hts hp hh
  obtain ⟨raw, he, hP2⟩ := h loc ts rest (hpr ▸ hts) hp (by have := hF2; omega)
  exact ⟨raw, he, fun X r' hX => PExpr1.mk hP2 hX⟩

/-- everything follows from the postfix-level invariant for forms printed the same at every level -/
theorem RT_of_KeyPR {r : RawExpr} (hpr : ∀ k, prR k r = prR 5 r) (h : KeyPR r) : RT r where
  post := h
  tier := fun k _ _ => KeyTR_of_KeyPR (hpr k) h
  one := Key1R_of_FTR (by rw [hpr 1, hpr Gen.firstTier]) (FTR_of_KeyTR (KeyTR_of_KeyPR (hpr _) h))

theorem RT_of_AtomicR {r : RawExpr} {toks : List Token} (hpr : ∀ k, prR k r = toks) (h : AtomicR r toks) : RT r :=
  RT_of_KeyPR (fun k => by rw [hpr k, hpr 5]) (KeyPR_of_AtomicR (hpr 5) h)

theorem AtomicR_paren {r : RawExpr} (h : F1R r) :
    AtomicR r (Token.ParenOpen :: (prR 1 r ++ [Token.ParenClose])) := by
  intro ts rest hts
  obtain ⟨sl, ts1, rfl, hsl, h1⟩ := map_tok_cons hts
  obtain ⟨tsi, ts2, rfl, hi, h2⟩ := map_tok_append h1
  obtain ⟨sr, ts3, rfl, hsr, h3⟩ := map_tok_cons h2
  obtain rfl := map_tok_nil h3
  obtain ⟨raw, he, hpe⟩ := h false (headLoc (tsi ++ sr :: rest)) tsi (sr :: rest) hi
    (stops_of_tok (by rw [hsr]; rfl))
  refine ⟨raw, he, ?_⟩
  have := PAtom.paren (sp := sl) hsl hpe hsr
  simpa [List.append_assoc] using this

theorem prR_atom {a : RawExpr} {toks : List Token} (h : atomToks a = some toks) (k : Nat) : prR k a = toks := by
  cases a with
  | Null => simp only [atomToks, Option.some.injEq] at h; subst h; simp only [prR]
  | Bool b => cases b <;> (simp only [atomToks, Option.some.injEq] at h; subst h; simp only [prR])
  | Var x => simp only [atomToks, Option.some.injEq] at h; subst h; simp only [prR]
  | Int n => cases n <;> (simp only [atomToks, Option.some.injEq] at h; subst h; simp only [prR])
  | Str s o => cases o <;> (simp only [atomToks, Option.some.injEq] at h; subst h; simp only [prR])
  | _ => simp [atomToks] at h

theorem RT_atom {a : RawExpr} {toks : List Token} (h : atomToks a = some toks) : RT a :=
  RT_of_AtomicR (prR_atom h) (fun _ _ hts => ⟨a, rfl, PAtom.ofToks h hts⟩)

/-- the production `tier t ::= tier t  op  tier (t+1)` -/
theorem KeyTR_bin {op : BinaryOp} {ol ll rl : Loc} {l r : RawExpr} (hl : KeyTR l (tierOf op))
    (hr : FTR r (tierOf op + 1)) : KeyTR (.BinaryOp op ol (.mk l ll) (.mk r rl)) (tierOf op) := by
  intro loc ts rest hts hp hh
  have hlook := lookup_tokOf op
  simp only [prR, prE, paren, Nat.lt_irrefl, decide_false, Bool.false_eq_true, if_false] at hts
  obtain ⟨tsl, ts2, rfl, htl, h2⟩ := map_tok_append hts
  obtain ⟨sop, tsr, rfl, hsop, htr⟩ := map_tok_cons h2
  have hlook' : lookupAssoc sop.tok Gen.binOps = some (op, tierOf op) := by rw [hsop]; exact hlook
  obtain ⟨rawr, her, hpr⟩ := hr (headLoc (tsr ++ rest)) tsr rest htr hp (by omega)
  obtain ⟨rawl, hel, hkl⟩ := hl loc tsl (sop :: (tsr ++ rest)) htl (noPostfix_op hlook')
    (by rw [headTier_op hlook']; exact Nat.le_refl _)
  refine ⟨.BinaryOp op sop.start (.mk rawl loc) (.mk rawr (headLoc (tsr ++ rest))), ?_, ?_⟩
  · simp only [stripR, stripE, hel, her]
  · intro X r' hX
    have := hkl X r' (TLoop.step hlook' hpr hX)
    simpa [List.append_assoc] using this

theorem RT_bin {op : BinaryOp} {ol ll rl : Loc} {l r : RawExpr} (hl : RT l) (hr : RT r) :
    RT (.BinaryOp op ol (.mk l ll) (.mk r rl)) := by
  have f := binOp_facts (lookup_tokOf op)
  have hown : KeyTR (.BinaryOp op ol (.mk l ll) (.mk r rl)) (tierOf op) :=
    KeyTR_bin (hl.tier _ f.1 (by omega)) (FTR_of_KeyTR (hr.tier _ (by omega) (by omega)))
  have hbare : ∀ k, k ≤ tierOf op →
      prR k (.BinaryOp op ol (.mk l ll) (.mk r rl)) = prR (tierOf op) (.BinaryOp op ol (.mk l ll) (.mk r rl)) := by
    intro k hk
    have h1 : ¬ tierOf op < k := by omega
    simp only [prR, paren, h1, Nat.lt_irrefl, decide_false]
  have hpar : ∀ k, tierOf op < k → prR k (.BinaryOp op ol (.mk l ll) (.mk r rl)) =
      Token.ParenOpen :: (prR 1 (.BinaryOp op ol (.mk l ll) (.mk r rl)) ++ [Token.ParenClose]) := by
    intro k hk
    have h3 : ¬ tierOf op < 1 := by omega
    simp only [prR, paren, hk, h3, decide_true, decide_false, if_true, Bool.false_eq_true, if_false]
  have hloose : ∀ k, 1 ≤ k → k ≤ tierOf op → KeyTR (.BinaryOp op ol (.mk l ll) (.mk r rl)) k := by
    intro k _ hk
    by_cases hkt : k = tierOf op
    · rw [hkt]; exact hown
    · exact KeyTR_of_FTR (hbare k hk) (by omega) (by have := hP5; omega) (FTR_of_KeyTR hown)
  have h1 : Key1R (.BinaryOp op ol (.mk l ll) (.mk r rl)) :=
    Key1R_of_FTR (by rw [hbare 1 (by omega), hbare Gen.firstTier (by have := hF2; omega)])
      (FTR_of_KeyTR (hloose _ (by have := hF2; omega) (by have := hF2; omega)))
  have hpost : KeyPR (.BinaryOp op ol (.mk l ll) (.mk r rl)) :=
    KeyPR_of_AtomicR (hpar 5 (by omega)) (AtomicR_paren (F1R_of_Key1R h1))
  refine ⟨hpost, fun k hk2 hk5 => ?_, h1⟩
  by_cases hk : k ≤ tierOf op
  · exact hloose k (by omega) hk
  · exact KeyTR_of_KeyPR (by rw [hpar k (by omega), hpar 5 (by omega)]) hpost

/-- the production `range ::= range  ..  tier 2` -/
theorem Key1R_range {ll rl : Loc} {l r : RawExpr} (hl : Key1R l) (hr : FTR r Gen.firstTier) :
    Key1R (.Range (.mk l ll) (.mk r rl)) := by
  intro s loc ts rest hts hp hh
  simp only [prR, prE, paren, Nat.lt_irrefl, decide_false, Bool.false_eq_true, if_false] at hts
  obtain ⟨tsl, ts2, rfl, htl, h2⟩ := map_tok_append hts
  obtain ⟨sd, tsr, rfl, hsd, htr⟩ := map_tok_cons h2
  have hnp : noPostfix (sd :: (tsr ++ rest)) := by simp [noPostfix, hsd, isPostfixOpen]
  have hht : headTier (sd :: (tsr ++ rest)) = 0 := by simp [headTier, hsd, lookupAssoc, Gen.binOps]
  obtain ⟨rawr, her, hpr⟩ := hr (headLoc (tsr ++ rest)) tsr rest htr hp (by have := hF2; omega)
  obtain ⟨rawl, hel, hkl⟩ := hl s loc tsl (sd :: (tsr ++ rest)) htl hnp hht
  refine ⟨.Range (.mk rawl loc) (.mk rawr (headLoc (tsr ++ rest))), ?_, ?_⟩
  · simp only [stripR, stripE, hel, her]
  · intro X r' hX
    obtain ⟨sr, tsr', rfl, hst⟩ := spans_start htr (prR_starts r _)
    have hsf : (s && isSpreadFollow ((sr :: tsr') ++ rest)) = false := by
      rw [List.cons_append, starter_not_follow hst, Bool.and_false]
    have := hkl X r' (RLoop.step hsd hsf hpr hX)
    simpa [List.append_assoc] using this

theorem RT_range {ll rl : Loc} {l r : RawExpr} (hl : RT l) (hr : RT r) : RT (.Range (.mk l ll) (.mk r rl)) := by
  have h1 : Key1R (.Range (.mk l ll) (.mk r rl)) :=
    Key1R_range hl.one (FTR_of_KeyTR (hr.tier _ (by have := hF2; omega) (by have := hF2; omega)))
  have hpar : ∀ k, 1 < k → prR k (.Range (.mk l ll) (.mk r rl)) =
      Token.ParenOpen :: (prR 1 (.Range (.mk l ll) (.mk r rl)) ++ [Token.ParenClose]) := by
    intro k hk
    simp only [prR, paren, hk, Nat.lt_irrefl, decide_true, decide_false, if_true, Bool.false_eq_true, if_false]
  have hpost : KeyPR (.Range (.mk l ll) (.mk r rl)) :=
    KeyPR_of_AtomicR (hpar 5 (by omega)) (AtomicR_paren (F1R_of_Key1R h1))
  exact ⟨hpost, fun k hk2 hk5 => KeyTR_of_KeyPR (by rw [hpar k (by omega), hpar 5 (by omega)]) hpost, h1⟩

/-- `e [ i ]` -/
theorem KeyPR_index {e : RawExpr} {le : Loc} {i : Expr} (he : KeyPR e) (hi : FEE i) :
    KeyPR (.Index (.mk e le) i) := by
  intro loc ts rest hts
  simp only [prR, prE] at hts
  obtain ⟨tse, ts2, rfl, hte, h2⟩ := map_tok_append hts
  obtain ⟨sb, ts3, rfl, hsb, h3⟩ := map_tok_cons h2
  obtain ⟨tsi, ts4, rfl, hti, h4⟩ := map_tok_append h3
  obtain ⟨sc, ts5, rfl, hsc, h5⟩ := map_tok_cons h4
  obtain rfl := map_tok_nil h5
  obtain ⟨i', hi', hpi⟩ := hi false tsi (sc :: rest) hti (stops_of_tok (by rw [hsc]; rfl))
  obtain ⟨raw, hraw, hk⟩ := he loc tse (sb :: (tsi ++ sc :: rest)) hte
  refine ⟨.Index (.mk raw loc) i', by simp only [stripR, stripE, hraw, hi'], fun X r' hX => ?_⟩
  obtain ⟨si, tsi', rfl, hst⟩ := spans_start hti (prE_starts i 1)
  have := hk X r' (PLoop.index hsb (PIdx.index (starter_ne hst rfl) hpi hsc) hX)
  simpa [List.append_assoc] using this

/-- the end of a range index, `]` or `j ]` -/
theorem rend_rt {b : Option Expr} (hb : ∀ x, b = some x → FEE x) (e0 : Expr) (st : Option Expr)
    (tsb : List Span) (sc : Span) (rest : List Span) (htb : tsb.map Span.tok = prO b) (hsc : sc.tok = .BracketClose) :
    ∃ b', stripO b' = stripO b ∧ PREnd e0 st (tsb ++ sc :: rest) (.RangeIndex e0 st b') rest := by
  cases b with
  | none =>
    obtain rfl := map_tok_nil (by simpa [prO] using htb)
    exact ⟨none, rfl, PREnd.none hsc⟩
  | some j =>
    simp only [prO] at htb
    obtain ⟨j', hj', hpj⟩ := hb j rfl false tsb (sc :: rest) htb (stops_of_tok (by rw [hsc]; rfl))
    obtain ⟨sj, tsj', rfl, hst⟩ := spans_start htb (prE_starts j 1)
    exact ⟨some j', by simp only [stripO, hj'], PREnd.some (starter_ne hst rfl) hpj hsc⟩

/-- `e [ a? : b? ]` -/
theorem KeyPR_rangeIndex {e : RawExpr} {le : Loc} {a b : Option Expr} (he : KeyPR e)
    (ha : ∀ x, a = some x → FEE x) (hb : ∀ x, b = some x → FEE x) : KeyPR (.RangeIndex (.mk e le) a b) := by
  intro loc ts rest hts
  simp only [prR, prE] at hts
  obtain ⟨tse, ts2, rfl, hte, h2⟩ := map_tok_append hts
  obtain ⟨sb, ts3, rfl, hsb, h3⟩ := map_tok_cons h2
  obtain ⟨tsa, ts4, rfl, hta, h4⟩ := map_tok_append h3
  obtain ⟨sco, ts5, rfl, hsco, h5⟩ := map_tok_cons h4
  obtain ⟨tsb, ts6, rfl, htb, h6⟩ := map_tok_append h5
  obtain ⟨sc, ts7, rfl, hsc, h7⟩ := map_tok_cons h6
  obtain rfl := map_tok_nil h7
  obtain ⟨raw, hraw, hk⟩ := he loc tse (sb :: (tsa ++ sco :: (tsb ++ sc :: rest))) hte
  cases a with
  | none =>
    obtain rfl := map_tok_nil (by simpa [prO] using hta)
    obtain ⟨b', hb', hpb⟩ := rend_rt hb (.mk raw loc) none tsb sc rest htb hsc
    refine ⟨.RangeIndex (.mk raw loc) none b', by simp only [stripR, stripE, stripO, hraw, hb'], fun X r' hX => ?_⟩
    have := hk X r' (PLoop.index hsb (PIdx.colon hsco hpb) hX)
    simpa [List.append_assoc] using this
  | some i =>
    simp only [prO] at hta
    obtain ⟨i', hi', hpi⟩ := ha i rfl false tsa (sco :: (tsb ++ sc :: rest)) hta (stops_of_tok (by rw [hsco]; rfl))
    obtain ⟨b', hb', hpb⟩ := rend_rt hb (.mk raw loc) (some i') tsb sc rest htb hsc
    refine ⟨.RangeIndex (.mk raw loc) (some i') b', by simp only [stripR, stripE, stripO, hraw, hb', hi'],
      fun X r' hX => ?_⟩
    obtain ⟨si, tsi', rfl, hst⟩ := spans_start hta (prE_starts i 1)
    have := hk X r' (PLoop.index hsb (PIdx.range (starter_ne hst rfl) hpi hsco hpb) hX)
    simpa [List.append_assoc] using this

/-- `e . name` and `e -> name` -/
theorem KeyPR_prop {e : RawExpr} {le : Loc} {name : List Char} {tp : Bool} (he : KeyPR e) :
    KeyPR (.Prop (.mk e le) name tp) := by
  intro loc ts rest hts
  simp only [prR, prE] at hts
  obtain ⟨tse, ts2, rfl, hte, h2⟩ := map_tok_append hts
  obtain ⟨sd, ts3, rfl, hsd, h3⟩ := map_tok_cons h2
  obtain ⟨sn, ts4, rfl, hsn, h4⟩ := map_tok_cons h3
  obtain rfl := map_tok_nil h4
  obtain ⟨raw, hraw, hk⟩ := he loc tse (sd :: sn :: rest) hte
  refine ⟨.Prop (.mk raw loc) name tp, by simp only [stripR, stripE, hraw], fun X r' hX => ?_⟩
  have := hk X r' (PLoop.prop tp hsd hsn hX)
  simpa [List.append_assoc] using this

theorem isStop_comma : isStopTok Token.Comma = true := rfl

/-- The induction over a comma-separated body `sepBody close c`.  `R acc ts res rest` is the relation of the list
    parser (`acc` the items parsed so far, in reverse), `fin` makes its result from the items, and `nil`, `last`,
    `more` are its productions: the closing bracket, the last item (after `..` when it collects) followed by the
    closing bracket, an item followed by a comma. -/
theorem sep_rt {ι ρ : Type} {pr : ι → List Token} {strip : ι → ι} {G : ι → Prop} {close : Token} {c : Bool}
    {R : List ι → List Span → ρ → List Span → Prop} {fin : List ι → ρ}
    (nil : c = false → ∀ acc sp r, sp.tok = close → R acc (sp :: r) (fin acc.reverse) r)
    (last : ∀ i, G i → ∀ acc ts sp r, ts.map Span.tok = (if c then [Token.DotDot] else []) ++ pr i → sp.tok = close →
      ∃ i', strip i' = strip i ∧ R acc (ts ++ sp :: r) (fin (i' :: acc).reverse) r)
    (more : ∀ i, G i → ∀ acc ts sp r, ts.map Span.tok = pr i → sp.tok = .Comma →
      ∃ i', strip i' = strip i ∧ ∀ res r', R (i' :: acc) r res r' → R acc (ts ++ sp :: r) res r')
    (items : List ι) (h : ∀ i ∈ items, G i) (hc : c = true → items ≠ []) :
    ∀ (acc : List ι) (ts rest : List Span), ts.map Span.tok = sepBody close c (items.map pr) →
      ∃ items', items'.map strip = items.map strip ∧ R acc (ts ++ rest) (fin (acc.reverse ++ items')) rest := by
  induction items with
  | nil =>
    intro acc ts rest hts
    have hcf : c = false := by cases c; rfl; exact absurd rfl (hc rfl)
    simp only [List.map_nil, sepBody] at hts
    obtain ⟨sp, t', rfl, hsp, h'⟩ := map_tok_cons hts
    obtain rfl := map_tok_nil h'
    exact ⟨[], rfl, by simpa using nil hcf acc sp rest hsp⟩
  | cons i is ih =>
    intro acc ts rest hts
    have hi := h i (List.mem_cons_self ..)
    cases is with
    | nil =>
      simp only [List.map_cons, List.map_nil, sepBody] at hts
      rw [← List.append_assoc] at hts
      obtain ⟨tsi, ts2, rfl, hti, h2⟩ := map_tok_append hts
      obtain ⟨sp, t', rfl, hsp, h'⟩ := map_tok_cons h2
      obtain rfl := map_tok_nil h'
      obtain ⟨i', hi', hR⟩ := last i hi acc tsi sp rest hti hsp
      exact ⟨[i'], by simp only [List.map_cons, List.map_nil, hi'], by simpa [List.append_assoc] using hR⟩
    | cons j js =>
      simp only [List.map_cons, sepBody] at hts
      obtain ⟨tsi, ts2, rfl, hti, h2⟩ := map_tok_append hts
      obtain ⟨sp, ts3, rfl, hsp, h3⟩ := map_tok_cons h2
      obtain ⟨i', hi', hk⟩ := more i hi acc tsi sp (ts3 ++ rest) hti hsp
      obtain ⟨items', hs', hR⟩ := ih (fun x hx => h x (List.mem_cons_of_mem _ hx)) (fun _ => List.cons_ne_nil _ _)
        (i' :: acc) ts3 rest (by simpa [List.map_cons] using h3)
      exact ⟨i' :: items', by simp only [List.map_cons, hi', hs'],
        by simpa [List.append_assoc] using hk _ _ hR⟩

/-- an item `e` or `e ..`, followed by `sp3`: a comma or a closing bracket -/
theorem item_rt {e : Expr} (he : FEE e) (s : Bool) {tsi : List Span} (sp3 : Span) (r3 : List Span)
    (hti : tsi.map Span.tok = prE 1 e ++ spreadMark s) (h3 : isSpreadFollow (sp3 :: r3) = true)
    (h3' : isStopTok sp3.tok = true) :
    ∃ (e' : Expr) (se sp2 : Span) (tse : List Span), stripE e' = stripE e ∧ isStarter se.tok = true ∧
      sp2.tok = .DotDot ∧ tsi = se :: tse ++ (if s then [sp2] else []) ∧
      PExpr true (se :: (tse ++ ((if s then [sp2] else []) ++ sp3 :: r3))) e'
        ((if s then [sp2] else []) ++ sp3 :: r3) := by
  obtain ⟨tse, tsm, rfl, hte, htm⟩ := map_tok_append hti
  obtain ⟨sp2, hsp2, rfl⟩ := mark_spans htm
  obtain ⟨e', he', hpe⟩ := he true tse ((if s then [sp2] else []) ++ sp3 :: r3) hte (stops_item hsp2 h3 h3')
  obtain ⟨se, tse', rfl, hst⟩ := spans_start hte (prE_starts e 1)
  exact ⟨e', se, sp2, tse', he', hst, hsp2, rfl, by simpa using hpe⟩

/-- call arguments after `(` -/
theorem args_rt (items : List ListItem) (h : ∀ i ∈ items, FEE i.e) :
    ∀ (acc : List ListItem) (ts rest : List Span),
      ts.map Span.tok = sepBody .ParenClose false (items.map prItem) →
      ∃ items', items'.map stripItem = items.map stripItem ∧ PArgs acc (ts ++ rest) (acc.reverse ++ items') rest := by
  refine sep_rt (G := fun i => FEE i.e) (R := PArgs) (fin := fun l => l) (fun _ acc sp r hsp => PArgs.nil hsp)
    (fun ⟨e, s⟩ he acc ts sp r hts hsp => ?_) (fun ⟨e, s⟩ he acc ts sp r hts hsp => ?_) items h nofun
  · obtain ⟨e', se, sp2, tse, he', hst, hsp2, rfl, hpe⟩ :=
      item_rt (e := e) he s sp r (by simpa [prItem] using hts) (by simp [isSpreadFollow, hsp]) (by rw [hsp]; rfl)
    exact ⟨.mk e' s, by simp only [stripItem, he'],
      by simpa [List.append_assoc] using PArgs.last (acc := acc) s (starter_ne hst rfl) hpe rfl hsp2 hsp⟩
  · obtain ⟨e', se, sp2, tse, he', hst, hsp2, rfl, hpe⟩ :=
      item_rt (e := e) he s sp r hts (by simp [isSpreadFollow, hsp]) (by rw [hsp]; rfl)
    exact ⟨.mk e' s, by simp only [stripItem, he'], fun res r' hR =>
      by simpa [List.append_assoc] using PArgs.more (acc := acc) s (starter_ne hst rfl) hpe rfl hsp2 hsp hR⟩

/-- `f ( args )` -/
theorem KeyPR_call {f : RawExpr} {lf : Loc} {args : List ListItem} (hf : KeyPR f) (hargs : ∀ i ∈ args, FEE i.e) :
    KeyPR (.Call (.mk f lf) args) := by
  intro loc ts rest hts
  simp only [prR, prE, prItems_map] at hts
  obtain ⟨tsf, ts2, rfl, htf, h2⟩ := map_tok_append hts
  obtain ⟨sp, tsa, rfl, hsp, hta⟩ := map_tok_cons h2
  obtain ⟨args', ha', hpa⟩ := args_rt args hargs [] tsa rest hta
  obtain ⟨raw, hraw, hk⟩ := hf loc tsf (sp :: (tsa ++ rest)) htf
  refine ⟨.Call (.mk raw loc) args', by simp only [stripR, stripE, stripItems_map, hraw, ha'], fun X r' hX => ?_⟩
  have := hk X r' (PLoop.call hsp (by simpa using hpa) hX)
  simpa [List.append_assoc] using this

/-- the items of a list literal after `[` -/
theorem list_rt (c : Bool) (items : List ListItem) (h : ∀ i ∈ items, FEE i.e) (hc : c = true → items ≠ []) :
    ∀ (acc : List ListItem) (ts rest : List Span),
      ts.map Span.tok = sepBody .BracketClose c (items.map prItem) →
      ∃ items', items'.map stripItem = items.map stripItem ∧
        PList acc (ts ++ rest) (acc.reverse ++ items', c) rest := by
  refine sep_rt (c := c) (G := fun i => FEE i.e) (R := PList) (fin := fun l => (l, c))
    (fun hcf acc sp r hsp => hcf ▸ PList.nil hsp)
    (fun ⟨e, s⟩ he acc ts sp r hts hsp => ?_) (fun ⟨e, s⟩ he acc ts sp r hts hsp => ?_) items h hc
  · have h3 : isSpreadFollow (sp :: r) = true := by simp [isSpreadFollow, hsp]
    cases c with
    | false =>
      obtain ⟨e', se, sp2, tse, he', hst, hsp2, rfl, hpe⟩ :=
        item_rt (e := e) he s sp r (by simpa [prItem] using hts) h3 (by rw [hsp]; rfl)
      exact ⟨.mk e' s, by simp only [stripItem, he'], by
        simpa [List.append_assoc] using
          PList.last (acc := acc) s (starter_ne hst rfl) (starter_ne hst rfl) hpe rfl hsp2 hsp⟩
    | true =>
      obtain ⟨sd, ts1, rfl, hsd, h1⟩ := map_tok_cons (by simpa using hts)
      obtain ⟨e', se, sp2, tse, he', hst, hsp2, rfl, hpe⟩ := item_rt (e := e) he s sp r h1 h3 (by rw [hsp]; rfl)
      exact ⟨.mk e' s, by simp only [stripItem, he'], by
        simpa [List.append_assoc] using PList.collect (acc := acc) (sp := sd) s hsd hpe rfl hsp2 hsp⟩
  · obtain ⟨e', se, sp2, tse, he', hst, hsp2, rfl, hpe⟩ :=
      item_rt (e := e) he s sp r hts (by simp [isSpreadFollow, hsp]) (by rw [hsp]; rfl)
    exact ⟨.mk e' s, by simp only [stripItem, he'], fun res r' hR => by
      simpa [List.append_assoc] using
        PList.more (acc := acc) s (starter_ne hst rfl) (starter_ne hst rfl) hpe rfl hsp2 hsp hR⟩

/-- `[ items ]` -/
theorem AtomicR_list {items : List ListItem} {c : Bool} (h : ∀ i ∈ items, FEE i.e) (hc : c = true → items ≠ []) :
    AtomicR (.List items c) (prR 5 (.List items c)) := by
  intro ts rest hts
  simp only [prR, prItems_map] at hts
  obtain ⟨sp, tsa, rfl, hsp, hta⟩ := map_tok_cons hts
  obtain ⟨items', hi', hpl⟩ := list_rt c items h hc [] tsa rest hta
  exact ⟨.List items' c, by simp only [stripR, stripItems_map, hi'], PAtom.list hsp (by simpa using hpl)⟩

/-- the parameters of a function after `(` -/
theorem params_rt (c : Bool) (args : List Expr) (h : ∀ e ∈ args, FEE e) (hc : c = true → args ≠ []) :
    ∀ (acc : List Expr) (ts rest : List Span),
      ts.map Span.tok = sepBody .ParenClose c (args.map (prE 1)) →
      ∃ args', args'.map stripE = args.map stripE ∧ PParams acc (ts ++ rest) (acc.reverse ++ args', c) rest := by
  refine sep_rt (c := c) (G := FEE) (R := PParams) (fin := fun l => (l, c))
    (fun hcf acc sp r hsp => hcf ▸ PParams.nil hsp)
    (fun e he acc ts sp r hts hsp => ?_) (fun e he acc ts sp r hts hsp => ?_) args h hc
  · have hst : stops false (sp :: r) := stops_of_tok (by rw [hsp]; rfl)
    cases c with
    | false =>
      have hts : ts.map Span.tok = prE 1 e := by simpa using hts
      obtain ⟨e', he', hpe⟩ := he false ts (sp :: r) hts hst
      obtain ⟨se, tse, rfl, hse⟩ := spans_start hts (prE_starts e 1)
      exact ⟨e', he', PParams.last (starter_ne hse rfl) (starter_ne hse rfl) hpe hsp⟩
    | true =>
      obtain ⟨sd, ts1, rfl, hsd, h1⟩ := map_tok_cons (by simpa using hts)
      obtain ⟨e', he', hpe⟩ := he false ts1 (sp :: r) h1 hst
      exact ⟨e', he', PParams.collect hsd hpe hsp⟩
  · obtain ⟨e', he', hpe⟩ := he false ts (sp :: r) hts (stops_of_tok (by rw [hsp]; rfl))
    obtain ⟨se, tse, rfl, hse⟩ := spans_start hts (prE_starts e 1)
    exact ⟨e', he', fun res r' hR => PParams.more (starter_ne hse rfl) (starter_ne hse rfl) hpe hsp hR⟩

/-- round trip of the expressions of a property item -/
def FEP : PropItem → Prop
  | .Pair k v => FEE k ∧ FEE v
  | .Single e _ _ => FEE e

theorem propSep_facts {sp : Span} (r : List Span) (h : sp.tok = .Comma ∨ sp.tok = .BraceClose) :
    isSpreadFollow (sp :: r) = true ∧ isStopTok sp.tok = true ∧ sp.tok ≠ .DotDot ∧ sp.tok ≠ .Colon := by
  rcases h with h | h <;> simp [isSpreadFollow, isStopTok, h]

/-- one property item, followed by `,` or `}` -/
theorem prop_rt (p : PropItem) (hp : FEP p) (acc : List PropItem) (tsp : List Span) (sp3 : Span) (r3 : List Span)
    (htp : tsp.map Span.tok = prProp p) (h3 : sp3.tok = .Comma ∨ sp3.tok = .BraceClose) :
    ∃ p', stripProp p' = stripProp p ∧
      ∀ res r', PPropTail (p' :: acc) (sp3 :: r3) res r' → PProps acc (tsp ++ sp3 :: r3) res r' := by
  obtain ⟨hf3, hs3, hnd, hnc⟩ := propSep_facts r3 h3
  cases p with
  | Pair k v =>
    simp only [prProp] at htp
    obtain ⟨tsk, ts2, rfl, htk, h2⟩ := map_tok_append htp
    obtain ⟨sc, tsv, rfl, hsc, htv⟩ := map_tok_cons h2
    obtain ⟨k', hk', hpk⟩ := hp.1 true tsk (sc :: (tsv ++ sp3 :: r3)) htk (stops_of_tok (by rw [hsc]; rfl))
    obtain ⟨v', hv', hpv⟩ := hp.2 false tsv (sp3 :: r3) htv (stops_of_tok hs3)
    obtain ⟨sk, tsk', rfl, hst⟩ := spans_start htk (prE_starts k 1)
    refine ⟨.Pair k' v', by simp only [stripProp, hk', hv'], fun res r' hT => ?_⟩
    have := PProps.pair (acc := acc) (starter_ne hst rfl) (starter_ne hst rfl) hpk hsc hpv hT
    simpa [List.append_assoc] using this
  | Single e s c =>
    simp only [prProp] at htp
    obtain ⟨tsc, ts1, rfl, htc, h1⟩ := map_tok_append htp
    obtain ⟨e', se, sp2, tse, he', hst, hsp2, rfl, hpe⟩ := item_rt hp s sp3 r3 h1 hf3 hs3
    refine ⟨.Single e' s c, by simp only [stripProp, he'], fun res r' hT => ?_⟩
    cases c with
    | false =>
      obtain rfl := map_tok_nil (by simpa [spreadMark] using htc)
      have := PProps.single (acc := acc) s (starter_ne hst rfl) (starter_ne hst rfl) hpe rfl hsp2 hnd hnc hT
      simpa [List.append_assoc] using this
    | true =>
      simp only [spreadMark, if_true] at htc
      obtain ⟨sd, t'', rfl, hsd, h''⟩ := map_tok_cons htc
      obtain rfl := map_tok_nil h''
      have := PProps.collect (acc := acc) (sp := sd) s hsd hpe rfl hsp2 hnd hT
      simpa [List.append_assoc] using this

/-- the items of an object literal after `{` -/
theorem props_rt (props : List PropItem) (h : ∀ p ∈ props, FEP p) :
    ∀ (acc : List PropItem) (ts rest : List Span),
      ts.map Span.tok = sepBody .BraceClose false (props.map prProp) →
      ∃ props', props'.map stripProp = props.map stripProp ∧
        PProps acc (ts ++ rest) (acc.reverse ++ props') rest := by
  refine sep_rt (G := FEP) (R := PProps) (fin := fun l => l) (fun _ acc sp r hsp => PProps.nil hsp)
    (fun p hp acc ts sp r hts hsp => ?_) (fun p hp acc ts sp r hts hsp => ?_) props h nofun
  · obtain ⟨p', hp', hk⟩ := prop_rt p hp acc ts sp r (by simpa using hts) (Or.inr hsp)
    exact ⟨p', hp', hk _ _ (PPropTail.close hsp)⟩
  · obtain ⟨p', hp', hk⟩ := prop_rt p hp acc ts sp r hts (Or.inl hsp)
    exact ⟨p', hp', fun res r' hR => hk _ _ (PPropTail.comma hsp hR)⟩

/-- `{ props }` in expression position -/
theorem AtomicR_object {props : List PropItem} (h : ∀ p ∈ props, FEP p) :
    AtomicR (.Object props) (prR 5 (.Object props)) := by
  intro ts rest hts
  simp only [prR, prProps_map] at hts
  obtain ⟨sp, tsa, rfl, hsp, hta⟩ := map_tok_cons hts
  obtain ⟨props', hi', hpl⟩ := props_rt props h [] tsa rest hta
  exact ⟨.Object props', by simp only [stripR, stripProps_map, hi'], PAtom.object hsp (by simpa using hpl)⟩

/-- round trip of a block `{ stmts }` -/
def BlockRT (stmts : List Stmt) : Prop :=
  ∀ (ts rest : List Span), ts.map Span.tok = prBlock stmts →
    ∃ stmts', stripStmts stmts' = stripStmts stmts ∧ PBlock (ts ++ rest) stmts' rest

/-- `fn ( params ) { stmts }` -/
theorem AtomicR_func {args : List Expr} {c : Bool} {stmts : List Stmt} (h : ∀ e ∈ args, FEE e)
    (hc : c = true → args ≠ []) (hb : BlockRT stmts) :
    AtomicR (.Func args c stmts) (prR 5 (.Func args c stmts)) := by
  intro ts rest hts
  simp only [prR, prEs_map] at hts
  obtain ⟨sf, ts1, rfl, hsf, h1⟩ := map_tok_cons hts
  obtain ⟨so, ts2, rfl, hso, h2⟩ := map_tok_cons h1
  obtain ⟨tsp, tsb, rfl, htp, htb⟩ := map_tok_append h2
  obtain ⟨stmts', hs', hpb⟩ := hb tsb rest htb
  obtain ⟨args', ha', hpp⟩ := params_rt c args h hc [] tsp (tsb ++ rest) htp
  refine ⟨.Func args' c stmts', by simp only [stripR, stripEs_map, ha', hs'], ?_⟩
  have := PAtom.func hsf hso (by simpa using hpp) hpb
  simpa [List.append_assoc] using this

end Seed
