/-
  ParseRT2Image.lean — the domain of the round trip, characterised: a program is well-formed (`wfStmts true`)
  iff, up to positions, the parser returns it from some token list (`image_iff`); the printer is injective up
  to positions on well-formed trees (`prStmts_injective`, `prE_injective`: no two different trees are
  spelled by the same tokens — the printed parentheses always suffice).
-/
import SeedProofs.Lemmas.ParseRT2Sound
namespace Seed

theorem stripItems_isEmpty (l : List ListItem) : (stripItems l).isEmpty = l.isEmpty := by
  cases l with
  | nil => rfl
  | cons a l => cases a; rfl

theorem stripEs_isEmpty (l : List Expr) : (stripEs l).isEmpty = l.isEmpty := by
  cases l <;> rfl

theorem stripStmts_isEmpty (l : List Stmt) : (stripStmts l).isEmpty = l.isEmpty := by
  cases l <;> rfl

theorem stripBs_isEmpty (l : List Branch) : (stripBs l).isEmpty = l.isEmpty := by
  cases l with
  | nil => rfl
  | cons a l => cases a; rfl

mutual
theorem wfR_strip (fn : Bool) : (r : RawExpr) → wfR fn (stripR r) = wfR fn r
  | .Null => rfl
  | .Bool _ => rfl
  | .Int _ => rfl
  | .Str _ _ => rfl
  | .Var _ => rfl
  | .BinaryOp _ _ l r => by simp only [stripR, wfR, wfE_strip fn l, wfE_strip fn r]
  | .List items c => by simp only [stripR, wfR, wfItems_strip fn items, stripItems_isEmpty]
  | .Index e i => by simp only [stripR, wfR, wfE_strip fn e, wfE_strip fn i]
  | .RangeIndex e a b => by simp only [stripR, wfR, wfE_strip fn e, wfO_strip fn a, wfO_strip fn b]
  | .Range a b => by simp only [stripR, wfR, wfE_strip fn a, wfE_strip fn b]
  | .Object props => by simp only [stripR, wfR, wfProps_strip fn props]
  | .Prop e _ _ => by simp only [stripR, wfR, wfE_strip fn e]
  | .Func args c stmts => by
    simp only [stripR, wfR, wfEs_strip fn args, wfStmts_strip fn stmts, stripEs_isEmpty]
  | .Call f args => by simp only [stripR, wfR, wfE_strip fn f, wfItems_strip fn args]
theorem wfE_strip (fn : Bool) : (e : Expr) → wfE fn (stripE e) = wfE fn e
  | .mk r _ => by simp only [stripE, wfE, wfR_strip fn r]
theorem wfO_strip (fn : Bool) : (o : Option Expr) → wfO fn (stripO o) = wfO fn o
  | none => rfl
  | some e => by simp only [stripO, wfO, wfE_strip fn e]
theorem wfItems_strip (fn : Bool) : (l : List ListItem) → wfItems fn (stripItems l) = wfItems fn l
  | [] => rfl
  | .mk e _ :: r => by simp only [stripItems, wfItems, wfE_strip fn e, wfItems_strip fn r]
theorem wfProps_strip (fn : Bool) : (l : List PropItem) → wfProps fn (stripProps l) = wfProps fn l
  | [] => rfl
  | .Pair k v :: r => by simp only [stripProps, wfProps, wfE_strip fn k, wfE_strip fn v, wfProps_strip fn r]
  | .Single e _ _ :: r => by simp only [stripProps, wfProps, wfE_strip fn e, wfProps_strip fn r]
theorem wfEs_strip (fn : Bool) : (l : List Expr) → wfEs fn (stripEs l) = wfEs fn l
  | [] => rfl
  | e :: r => by simp only [stripEs, wfEs, wfE_strip fn e, wfEs_strip fn r]
theorem wfStmts_strip (fn : Bool) : (l : List Stmt) → wfStmts fn (stripStmts l) = wfStmts fn l
  | [] => rfl
  | s :: r => by simp only [stripStmts, wfStmts, wfStmt_strip fn s, wfStmts_strip fn r]
theorem wfStmt_strip (fn : Bool) : (s : Stmt) → wfStmt fn (stripStmt s) = wfStmt fn s
  | .Block b => by simp only [stripStmt, wfStmt, wfStmts_strip fn b, stripStmts_isEmpty]
  | .Expr e => by simp only [stripStmt, wfStmt, wfE_strip fn e]
  | .Declare l r => by simp only [stripStmt, wfStmt, wfE_strip fn l, wfE_strip fn r]
  | .Assign l r => by simp only [stripStmt, wfStmt, wfE_strip fn l, wfE_strip fn r]
  | .OpAssign l _ _ r => by simp only [stripStmt, wfStmt, wfE_strip fn l, wfE_strip fn r]
  | .If bs none => by simp only [stripStmt, wfStmt, wfBs_strip fn bs, stripBs_isEmpty]
  | .If bs (some els) => by
    simp only [stripStmt, wfStmt, wfBs_strip fn bs, wfStmts_strip fn els, stripBs_isEmpty]
  | .While c s => by simp only [stripStmt, wfStmt, wfE_strip fn c, wfStmts_strip fn s]
  | .For l i s => by simp only [stripStmt, wfStmt, wfE_strip fn l, wfE_strip fn i, wfStmts_strip fn s]
  | .Break _ => rfl
  | .Continue _ => rfl
  | .Func _ _ args _ s => by simp only [stripStmt, wfStmt, wfEs_strip fn args, wfStmts_strip fn s, stripEs_isEmpty]
  | .Return _ e => by simp only [stripStmt, wfStmt, wfE_strip fn e]
theorem wfBs_strip (fn : Bool) : (l : List Branch) → wfBs fn (stripBs l) = wfBs fn l
  | [] => rfl
  | .mk c s :: r => by simp only [stripBs, wfBs, wfE_strip fn c, wfStmts_strip fn s, wfBs_strip fn r]
end

def zeroSpans (toks : List Token) : List Span := toks.map fun t => ⟨(0, 0), t, (0, 0)⟩

theorem zeroSpans_tok (toks : List Token) : (zeroSpans toks).map Span.tok = toks := by
  simp [zeroSpans, List.map_map, Function.comp_def]

/-- the well-formed programs are exactly (up to positions) the programs the parser returns -/
theorem image_iff (p : List Stmt) :
    wfStmts true p = true ↔
      ∃ ts p', parseStmts (parseFuel ts) false [] ts = .ok p' [] ∧ stripStmts p' = stripStmts p := by
  constructor
  · intro hwf
    obtain ⟨p', hp, hs⟩ := parse_print_prog p hwf (zeroSpans (prStmts p)) (zeroSpans_tok _)
    exact ⟨_, p', hp, hs⟩
  · rintro ⟨ts, p', hp, hs⟩
    have h := parse_sound hp
    rw [← wfStmts_strip, hs, wfStmts_strip] at h
    exact h

theorem image_iff_expr (e : Expr) :
    wfE true e = true ↔ ∃ ts e', parseExpr (parseFuel ts) false ts = .ok e' [] ∧ stripE e' = stripE e := by
  constructor
  · intro hwf
    obtain ⟨e', hp, hs⟩ := parse_print_expr e hwf (zeroSpans (prE 1 e)) (zeroSpans_tok _)
    exact ⟨_, e', hp, hs⟩
  · rintro ⟨ts, e', hp, hs⟩
    have h := parseExpr_sound hp
    rw [← wfE_strip, hs, wfE_strip] at h
    exact h

theorem prStmts_injective (p q : List Stmt) (hp : wfStmts true p = true) (hq : wfStmts true q = true)
    (h : prStmts p = prStmts q) : stripStmts p = stripStmts q := by
  obtain ⟨p', hpp, hps⟩ := parse_print_prog p hp (zeroSpans (prStmts p)) (zeroSpans_tok _)
  obtain ⟨q', hqp, hqs⟩ := parse_print_prog q hq (zeroSpans (prStmts p)) (by rw [zeroSpans_tok, h])
  rw [hpp] at hqp
  cases hqp
  rw [← hps, hqs]

theorem prE_injective (e f : Expr) (he : wfE true e = true) (hf : wfE true f = true) (h : prE 1 e = prE 1 f) :
    stripE e = stripE f := by
  obtain ⟨e', hep, hes⟩ := parse_print_expr e he (zeroSpans (prE 1 e)) (zeroSpans_tok _)
  obtain ⟨f', hfp, hfs⟩ := parse_print_expr f hf (zeroSpans (prE 1 e)) (by rw [zeroSpans_tok, h])
  rw [hep] at hfp
  cases hfp
  rw [← hes, hfs]

end Seed
