/-
  ParseRT2Main.lean — the induction for expressions, by the size of the tree.  `Below P Q r` / `BelowS P Q st` say
  that `P` holds of the expressions and `Q` of the statements directly below a node; `Below.of_lt` / `BelowS.of_lt`
  get them from an induction hypothesis on smaller well-formed trees (the parts of a well-formed node are
  well-formed and smaller), once, for whatever is being proved of the parts.  `exprStep` is the case analysis
  over `RawExpr` (one production lemma of ParseRT2Expr.lean per constructor; function literals are left to the
  caller), `rt_noFn` closes the induction for the statement-free fragment (`wfR false`), and `parse_print_expr0` /
  `parse_print_expr0_rel` are the resulting round-trip theorems for expressions without function literals.
-/
import SeedProofs.Lemmas.ParseRT2Expr
namespace Seed

def wfProp (fn : Bool) : PropItem → Bool
  | .Pair k v => wfE fn k && wfE fn v
  | .Single e _ _ => wfE fn e

def wfB (fn : Bool) : Branch → Bool
  | .mk c s => wfE fn c && wfStmts fn s

/-- a check `f` that runs `p` over a list accepts exactly the lists whose members all pass `p` -/
theorem check_iff {α} {f : List α → Bool} {p : α → Bool} (hnil : f [] = true)
    (hcons : ∀ a l, f (a :: l) = (p a && f l)) : ∀ {l : List α}, f l = true ↔ ∀ a ∈ l, p a = true
  | [] => ⟨fun _ _ ha => (nomatch ha), fun _ => hnil⟩
  | b :: l => by rw [hcons, Bool.and_eq_true, List.forall_mem_cons, check_iff hnil hcons]

theorem wfItems_iff {fn : Bool} {l : List ListItem} : wfItems fn l = true ↔ ∀ i ∈ l, wfE fn i.e = true :=
  check_iff (p := fun i : ListItem => wfE fn i.e) (by simp only [wfItems]) fun ⟨_, _⟩ _ => by simp only [wfItems, ListItem.e]

theorem wfProps_iff {fn : Bool} {l : List PropItem} : wfProps fn l = true ↔ ∀ p ∈ l, wfProp fn p = true :=
  check_iff (by simp only [wfProps]) fun p _ => by cases p <;> simp only [wfProps, wfProp]

theorem wfEs_iff {fn : Bool} {l : List Expr} : wfEs fn l = true ↔ ∀ e ∈ l, wfE fn e = true :=
  check_iff (by simp only [wfEs]) fun _ _ => by simp only [wfEs]

theorem wfStmts_iff {fn : Bool} {l : List Stmt} : wfStmts fn l = true ↔ ∀ s ∈ l, wfStmt fn s = true :=
  check_iff (by simp only [wfStmts]) fun _ _ => by simp only [wfStmts]

theorem wfBs_iff {fn : Bool} {l : List Branch} : wfBs fn l = true ↔ ∀ b ∈ l, wfB fn b = true :=
  check_iff (by simp only [wfBs]) fun ⟨_, _⟩ _ => by simp only [wfBs, wfB]

theorem wfStmts_mem {fn : Bool} {l : List Stmt} (h : wfStmts fn l = true) : ∀ s ∈ l, wfStmt fn s = true :=
  wfStmts_iff.mp h

theorem wfE_raw (fn : Bool) (e : Expr) : wfE fn e = wfR fn e.raw := by
  cases e; simp only [wfE, Expr.raw]

theorem collect_ne_nil {α} {c : Bool} {l : List α} (h : (!c || !l.isEmpty) = true) : c = true → l ≠ [] := by
  intro hc hl
  subst hc; subst hl
  simp at h

theorem isEmpty_ne_nil {α} {l : List α} (h : (!l.isEmpty) = true) : l ≠ [] := by
  intro hl; subst hl; simp at h

theorem sizeOf_raw_lt {e : Expr} {n : Nat} (h : sizeOf e < n) : sizeOf e.raw < n := by
  obtain ⟨raw, l⟩ := e
  exact Nat.lt_trans (by simp +arith only [Expr.mk.sizeOf_spec, Expr.raw]) h

theorem sizeOf_mem_lt {α} [SizeOf α] {a : α} {l : List α} {n : Nat} (ha : a ∈ l) (h : sizeOf l < n) : sizeOf a < n :=
  Nat.lt_trans (List.sizeOf_lt_of_mem ha) h

theorem sizeOf_item_lt {i : ListItem} {items : List ListItem} {n : Nat} (hi : i ∈ items) (h : sizeOf items < n) :
    sizeOf i.e.raw < n := by
  obtain ⟨e, s⟩ := i
  exact sizeOf_raw_lt (Nat.lt_trans (by simp +arith only [ListItem.mk.sizeOf_spec, ListItem.e]) (sizeOf_mem_lt hi h))

def PropItem.All (P : Expr → Prop) : PropItem → Prop
  | .Pair k v => P k ∧ P v
  | .Single e _ _ => P e

theorem PropItem.All.imp {P P' : Expr → Prop} (h : ∀ e, P e → P' e) : ∀ {p : PropItem}, p.All P → p.All P'
  | .Pair _ _, hp => ⟨h _ hp.1, h _ hp.2⟩
  | .Single _ _ _, hp => h _ hp

def Below (P : Expr → Prop) (Q : Stmt → Prop) : RawExpr → Prop
  | .BinaryOp _ _ l r => P l ∧ P r
  | .Range l r => P l ∧ P r
  | .List items _ => ∀ i ∈ items, P i.e
  | .Index e i => P e ∧ P i
  | .RangeIndex e a b => P e ∧ (∀ x, a = some x → P x) ∧ (∀ x, b = some x → P x)
  | .Object props => ∀ p ∈ props, p.All P
  | .Prop e _ _ => P e
  | .Func args _ stmts => (∀ e ∈ args, P e) ∧ ∀ s ∈ stmts, Q s
  | .Call f args => P f ∧ ∀ i ∈ args, P i.e
  | _ => True

def BelowS (P : Expr → Prop) (Q : Stmt → Prop) : Stmt → Prop
  | .Block b => ∀ s ∈ b, Q s
  | .Expr e => P e
  | .Declare l r => P l ∧ P r
  | .Assign l r => P l ∧ P r
  | .OpAssign l _ _ r => P l ∧ P r
  | .If bs els => (∀ b ∈ bs, P b.cond ∧ ∀ s ∈ b.stmts, Q s) ∧ ∀ e, els = some e → ∀ s ∈ e, Q s
  | .While c s => P c ∧ ∀ x ∈ s, Q x
  | .For l i s => P l ∧ P i ∧ ∀ x ∈ s, Q x
  | .Func _ _ args _ s => (∀ e ∈ args, P e) ∧ ∀ x ∈ s, Q x
  | .Return _ e => P e
  | _ => True

theorem Below.of_lt {fn : Bool} {P : Expr → Prop} {Q : Stmt → Prop} {r : RawExpr} (hwf : wfR fn r = true)
    (hP : ∀ e : Expr, sizeOf e.raw < sizeOf r → wfE fn e = true → P e)
    (hQ : ∀ s : Stmt, sizeOf s < sizeOf r → wfStmt fn s = true → Q s) : Below P Q r := by
  cases r with
  | BinaryOp op ol l r =>
    simp only [wfR, Bool.and_eq_true] at hwf
    have hs := RawExpr.BinaryOp.sizeOf_spec op ol l r
    exact ⟨hP l (sizeOf_raw_lt (by simp +arith only [hs])) hwf.1, hP r (sizeOf_raw_lt (by simp +arith only [hs])) hwf.2⟩
  | Range l r =>
    simp only [wfR, Bool.and_eq_true] at hwf
    have hs := RawExpr.Range.sizeOf_spec l r
    exact ⟨hP l (sizeOf_raw_lt (by simp +arith only [hs])) hwf.1, hP r (sizeOf_raw_lt (by simp +arith only [hs])) hwf.2⟩
  | List items c =>
    simp only [wfR, Bool.and_eq_true] at hwf
    have hs := RawExpr.List.sizeOf_spec items c
    exact fun i hi => hP i.e (sizeOf_item_lt hi (by simp +arith only [hs])) (wfItems_iff.mp hwf.2 i hi)
  | Index e i =>
    simp only [wfR, Bool.and_eq_true] at hwf
    have hs := RawExpr.Index.sizeOf_spec e i
    exact ⟨hP e (sizeOf_raw_lt (by simp +arith only [hs])) hwf.1, hP i (sizeOf_raw_lt (by simp +arith only [hs])) hwf.2⟩
  | RangeIndex e a b =>
    simp only [wfR, Bool.and_eq_true] at hwf
    have hs := RawExpr.RangeIndex.sizeOf_spec e a b
    refine ⟨hP e (sizeOf_raw_lt (by simp +arith only [hs])) hwf.1.1, fun x hx => ?_, fun x hx => ?_⟩ <;> subst hx <;>
      simp only [wfO] at hwf
    · exact hP x (sizeOf_raw_lt (by simp +arith only [hs, Option.some.sizeOf_spec])) hwf.1.2
    · exact hP x (sizeOf_raw_lt (by simp +arith only [hs, Option.some.sizeOf_spec])) hwf.2
  | Object props =>
    simp only [wfR] at hwf
    have hs : sizeOf props < sizeOf (RawExpr.Object props) := by simp +arith only [RawExpr.Object.sizeOf_spec]
    intro p hp
    have hw := wfProps_iff.mp hwf p hp
    have hp := sizeOf_mem_lt hp hs
    cases p with
    | Pair k v =>
      simp only [wfProp, Bool.and_eq_true] at hw
      have hs := PropItem.Pair.sizeOf_spec k v
      exact ⟨hP k (sizeOf_raw_lt (Nat.lt_trans (by simp +arith only [hs]) hp)) hw.1,
        hP v (sizeOf_raw_lt (Nat.lt_trans (by simp +arith only [hs]) hp)) hw.2⟩
    | Single e s c =>
      exact hP e (sizeOf_raw_lt (Nat.lt_trans (by simp +arith only [PropItem.Single.sizeOf_spec]) hp)) hw
  | «Prop» e name tp =>
    simp only [wfR] at hwf
    exact hP e (sizeOf_raw_lt (by simp +arith only [RawExpr.Prop.sizeOf_spec])) hwf
  | Func args c stmts =>
    simp only [wfR, Bool.and_eq_true] at hwf
    have hs := RawExpr.Func.sizeOf_spec args c stmts
    exact ⟨fun e he => hP e (sizeOf_raw_lt (sizeOf_mem_lt he (by simp +arith only [hs]))) (wfEs_iff.mp hwf.1.2 e he),
      fun s h => hQ s (sizeOf_mem_lt h (by simp +arith only [hs])) (wfStmts_mem hwf.2 s h)⟩
  | Call f args =>
    simp only [wfR, Bool.and_eq_true] at hwf
    have hs := RawExpr.Call.sizeOf_spec f args
    exact ⟨hP f (sizeOf_raw_lt (by simp +arith only [hs])) hwf.1,
      fun i hi => hP i.e (sizeOf_item_lt hi (by simp +arith only [hs])) (wfItems_iff.mp hwf.2 i hi)⟩
  | _ => exact True.intro

theorem BelowS.of_lt {fn : Bool} {P : Expr → Prop} {Q : Stmt → Prop} {st : Stmt} (hwf : wfStmt fn st = true)
    (hP : ∀ e : Expr, sizeOf e.raw < sizeOf st → wfE fn e = true → P e)
    (hQ : ∀ s : Stmt, sizeOf s < sizeOf st → wfStmt fn s = true → Q s) : BelowS P Q st := by
  have hB : ∀ stmts : List Stmt, sizeOf stmts < sizeOf st → wfStmts fn stmts = true → ∀ s ∈ stmts, Q s :=
    fun stmts hs hw s h => hQ s (sizeOf_mem_lt h hs) (wfStmts_mem hw s h)
  cases st with
  | Block b =>
    simp only [wfStmt, Bool.and_eq_true] at hwf
    exact hB b (by simp +arith only [Stmt.Block.sizeOf_spec]) hwf.2
  | Expr e =>
    simp only [wfStmt] at hwf
    exact hP e (sizeOf_raw_lt (by simp +arith only [Stmt.Expr.sizeOf_spec])) hwf
  | Declare l r =>
    simp only [wfStmt, Bool.and_eq_true] at hwf
    have hs := Stmt.Declare.sizeOf_spec l r
    exact ⟨hP l (sizeOf_raw_lt (by simp +arith only [hs])) hwf.1, hP r (sizeOf_raw_lt (by simp +arith only [hs])) hwf.2⟩
  | Assign l r =>
    simp only [wfStmt, Bool.and_eq_true] at hwf
    have hs := Stmt.Assign.sizeOf_spec l r
    exact ⟨hP l (sizeOf_raw_lt (by simp +arith only [hs])) hwf.1, hP r (sizeOf_raw_lt (by simp +arith only [hs])) hwf.2⟩
  | OpAssign l op ol r =>
    simp only [wfStmt, Bool.and_eq_true] at hwf
    have hs := Stmt.OpAssign.sizeOf_spec l op ol r
    exact ⟨hP l (sizeOf_raw_lt (by simp +arith only [hs])) hwf.1.2, hP r (sizeOf_raw_lt (by simp +arith only [hs])) hwf.2⟩
  | If bs els =>
    have hbs : wfBs fn bs = true ∧ ∀ e, els = some e → wfStmts fn e = true := by
      cases els <;> simp only [wfStmt, Bool.and_eq_true] at hwf
      · exact ⟨hwf.2, nofun⟩
      · exact ⟨hwf.1.2, fun e he => Option.some.inj he ▸ hwf.2⟩
    have hs := Stmt.If.sizeOf_spec bs els
    refine ⟨fun b hb => ?_, fun e he => hB e (by subst he; simp +arith only [hs, Option.some.sizeOf_spec]) (hbs.2 e he)⟩
    have hw := wfBs_iff.mp hbs.1 b hb
    have hb : sizeOf b < sizeOf (Stmt.If bs els) := sizeOf_mem_lt hb (by simp +arith only [hs])
    obtain ⟨c, s⟩ := b
    simp only [wfB, Bool.and_eq_true] at hw
    have hs := Branch.mk.sizeOf_spec c s
    exact ⟨hP c (sizeOf_raw_lt (Nat.lt_trans (by simp +arith only [hs]) hb)) hw.1,
      hB s (Nat.lt_trans (by simp +arith only [hs]) hb) hw.2⟩
  | While c s =>
    simp only [wfStmt, Bool.and_eq_true] at hwf
    have hs := Stmt.While.sizeOf_spec c s
    exact ⟨hP c (sizeOf_raw_lt (by simp +arith only [hs])) hwf.1, hB s (by simp +arith only [hs]) hwf.2⟩
  | For l i s =>
    simp only [wfStmt, Bool.and_eq_true] at hwf
    have hs := Stmt.For.sizeOf_spec l i s
    exact ⟨hP l (sizeOf_raw_lt (by simp +arith only [hs])) hwf.1.1, hP i (sizeOf_raw_lt (by simp +arith only [hs])) hwf.1.2,
      hB s (by simp +arith only [hs]) hwf.2⟩
  | Func name nl args c s =>
    simp only [wfStmt, Bool.and_eq_true] at hwf
    have hs := Stmt.Func.sizeOf_spec name nl args c s
    exact ⟨fun e he => hP e (sizeOf_raw_lt (sizeOf_mem_lt he (by simp +arith only [hs]))) (wfEs_iff.mp hwf.1.2 e he),
      hB s (by simp +arith only [hs]) hwf.2⟩
  | Return l e =>
    simp only [wfStmt] at hwf
    exact hP e (sizeOf_raw_lt (by simp +arith only [Stmt.Return.sizeOf_spec])) hwf
  | _ => exact True.intro

theorem exprStep (fn : Bool) (r : RawExpr) (hwf : wfR fn r = true)
    (ih : ∀ r', sizeOf r' < sizeOf r → wfR fn r' = true → RT r')
    (hFn : ∀ args c stmts, r = .Func args c stmts → RT r) : RT r := by
  have hb : Below (fun e => RT e.raw) (fun _ => True) r :=
    Below.of_lt hwf (fun e hs hw => ih e.raw hs (wfE_raw fn e ▸ hw)) (fun _ _ _ => True.intro)
  cases r with
  | Null => exact RT_atom rfl
  | Bool b => cases b <;> exact RT_atom rfl
  | Int n => cases n <;> exact RT_atom rfl
  | Str s o => cases o <;> exact RT_atom rfl
  | Var x => exact RT_atom rfl
  | BinaryOp op ol l r =>
    obtain ⟨l, ll⟩ := l
    obtain ⟨r, rl⟩ := r
    exact RT_bin hb.1 hb.2
  | Range l r =>
    obtain ⟨l, ll⟩ := l
    obtain ⟨r, rl⟩ := r
    exact RT_range hb.1 hb.2
  | List items c =>
    simp only [wfR, Bool.and_eq_true] at hwf
    exact RT_of_AtomicR (fun k => by simp only [prR])
      (AtomicR_list (fun i hi => FEE_of_RT (hb i hi)) (collect_ne_nil hwf.1))
  | Index e i =>
    obtain ⟨e, le⟩ := e
    exact RT_of_KeyPR (fun k => by simp only [prR]) (KeyPR_index (RT.post hb.1) (FEE_of_RT hb.2))
  | RangeIndex e a b =>
    obtain ⟨e, le⟩ := e
    exact RT_of_KeyPR (fun k => by simp only [prR]) (KeyPR_rangeIndex (RT.post hb.1)
      (fun x hx => FEE_of_RT (hb.2.1 x hx)) (fun x hx => FEE_of_RT (hb.2.2 x hx)))
  | Object props =>
    exact RT_of_AtomicR (fun k => by simp only [prR])
      (AtomicR_object (fun p hp => (hb p hp).imp fun _ => FEE_of_RT))
  | «Prop» e name tp =>
    obtain ⟨e, le⟩ := e
    exact RT_of_KeyPR (fun k => by simp only [prR]) (KeyPR_prop (RT.post hb))
  | Func args c stmts => exact hFn args c stmts rfl
  | Call f args =>
    obtain ⟨f, lf⟩ := f
    exact RT_of_KeyPR (fun k => by simp only [prR]) (KeyPR_call (RT.post hb.1) (fun i hi => FEE_of_RT (hb.2 i hi)))

theorem rt_noFn : ∀ (n : Nat) (r : RawExpr), sizeOf r < n → wfR false r = true → RT r := by
  intro n
  induction n with
  | zero => intro r h; omega
  | succ n ih =>
    intro r hn hwf
    refine exprStep false r hwf (fun r' h' w' => ih r' (by omega) w') (fun args c stmts he => ?_)
    subst he
    simp [wfR] at hwf

/-- fuel-free round trip for expressions without function literals, in any expression slot (`s` says whether
    a trailing spread marker is allowed), followed by anything that cannot extend the expression -/
theorem parse_print_expr0_rel (e : Expr) (hwf : wfE false e = true) (s : Bool) (ts rest : List Span)
    (hts : ts.map Span.tok = prE 1 e) (hst : stops s rest) :
    ∃ e', stripE e' = stripE e ∧ PExpr s (ts ++ rest) e' rest :=
  FEE_of_RT (rt_noFn _ e.raw (Nat.lt_succ_self _) (wfE_raw false e ▸ hwf)) s ts rest hts hst

/-- `parse (print e) = e` up to positions, at the driver's fuel, for every expression tree without function
    literals: atoms, binary operators, `..`, index, range index, `.name`, `->name`, calls with spread
    arguments, list literals with spread / collect items, object literals.  Parentheses are printed
    exactly where the grouping would otherwise change. -/
theorem parse_print_expr0 (e : Expr) (hwf : wfE false e = true) (ts : List Span) (hts : ts.map Span.tok = prE 1 e) :
    ∃ e', parseExpr (parseFuel ts) false ts = .ok e' [] ∧ stripE e' = stripE e := by
  obtain ⟨e', he', hp⟩ := parse_print_expr0_rel e hwf false ts [] hts (stops_nil _)
  rw [List.append_nil] at hp
  exact ⟨e', hp.at_fuel _ (by unfold parseFuel; omega), he'⟩

end Seed
