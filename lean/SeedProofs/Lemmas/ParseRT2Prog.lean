/-
  ParseRT2Prog.lean — the joint induction over expressions and statements, and the round-trip theorems for
  the whole grammar: `parse_print_expr` (every well-formed expression, function literals included) and
  `parse_print_prog` (`parseStmts (prStmts p) = p` up to positions for every well-formed program, at the
  driver's fuel and for an arbitrary assignment of positions to the printed tokens).
-/
import SeedProofs.Lemmas.ParseRT2Stmt
namespace Seed

theorem stmtStep (st : Stmt) (hwf : wfStmt true st = true)
    (ihR : ∀ r : RawExpr, sizeOf r < sizeOf st → wfR true r = true → RT r)
    (ihH : ∀ r : RawExpr, sizeOf r < sizeOf st → wfR true r = true → SE r)
    (ihS : ∀ st' : Stmt, sizeOf st' < sizeOf st → wfStmt true st' = true → StmtRT st') : StmtRT st := by
  have hb : BelowS (fun e => FEE e ∧ SE e.raw) StmtRT st :=
    BelowS.of_lt hwf
      (fun e hs hw => ⟨FEE_of_RT (ihR e.raw hs (wfE_raw true e ▸ hw)), ihH e.raw hs (wfE_raw true e ▸ hw)⟩) ihS
  cases st with
  | Block b =>
    cases b with
    | nil => simp [wfStmt] at hwf
    | cons st0 b => exact StmtRT_block hb
  | Expr e => obtain ⟨r, l⟩ := e; exact StmtRT_expr hb.2
  | Declare l r => obtain ⟨l, ll⟩ := l; exact StmtRT_declare hb.1.2 hb.2.1
  | Assign l r => obtain ⟨l, ll⟩ := l; exact StmtRT_assign hb.1.2 hb.2.1
  | OpAssign l op ol r =>
    obtain ⟨l, ll⟩ := l
    simp only [wfStmt, Bool.and_eq_true] at hwf
    exact StmtRT_opAssign hwf.1.1 hb.1.2 hb.2.1
  | If bs els =>
    have hne : bs ≠ [] := by
      cases els <;> simp only [wfStmt, Bool.and_eq_true] at hwf
      · exact isEmpty_ne_nil hwf.1
      · exact isEmpty_ne_nil hwf.1.1
    exact StmtRT_if (fun ⟨c, s⟩ h => ⟨(hb.1 _ h).1.1, block_rt (hb.1 _ h).2⟩) hne (fun e he => block_rt (hb.2 e he))
  | While c s => exact StmtRT_while hb.1.1 (block_rt hb.2)
  | For l i s => exact StmtRT_for hb.1.1 hb.2.1.1 (block_rt hb.2.2)
  | Break l => exact StmtRT_break
  | Continue l => exact StmtRT_continue
  | Func name nl args c s =>
    simp only [wfStmt, Bool.and_eq_true] at hwf
    exact StmtRT_func (fun e he => (hb.1 e he).1) (collect_ne_nil hwf.1.1) (block_rt hb.2)
  | Return l e => exact StmtRT_return hb.1

theorem rt_all : ∀ n : Nat,
    (∀ r : RawExpr, sizeOf r < n → wfR true r = true → RT r ∧ ∀ k, BL r k) ∧
    (∀ st : Stmt, sizeOf st < n → wfStmt true st = true → StmtRT st) := by
  intro n
  induction n with
  | zero => exact ⟨fun r h => by omega, fun st h => by omega⟩
  | succ n ih =>
    constructor
    · intro r hn hwf
      refine ⟨exprStep true r hwf (fun r' h' w' => (ih.1 r' (by omega) w').1) (fun args c stmts he => ?_),
        blStep true r hwf (fun r' h' w' => (ih.1 r' (by omega) w').1) (fun r' h' w' => (ih.1 r' (by omega) w').2)⟩
      subst he
      have hb : Below FEE StmtRT (.Func args c stmts) :=
        Below.of_lt hwf (fun e hs hw => FEE_of_RT (ih.1 e.raw (by omega) (wfE_raw true e ▸ hw)).1)
          (fun s hs hw => ih.2 s (by omega) hw)
      simp only [wfR, Bool.true_and, Bool.and_eq_true] at hwf
      exact RT_of_AtomicR (fun k => by simp only [prR]) (AtomicR_func hb.1 (collect_ne_nil hwf.1.1) (block_rt hb.2))
    · intro st hn hwf
      exact stmtStep st hwf (fun r h' w' => (ih.1 r (by omega) w').1)
        (fun r h' w' => SE_of_RT_BL (ih.1 r (by omega) w').1 ((ih.1 r (by omega) w').2 1))
        (fun s h' w' => ih.2 s (by omega) w')

theorem rt_expr (r : RawExpr) (hwf : wfR true r = true) : RT r := ((rt_all _).1 r (Nat.lt_succ_self _) hwf).1
theorem bl_expr (r : RawExpr) (hwf : wfR true r = true) (k : Nat) : BL r k :=
  ((rt_all _).1 r (Nat.lt_succ_self _) hwf).2 k
theorem se_expr (r : RawExpr) (hwf : wfR true r = true) : SE r := SE_of_RT_BL (rt_expr r hwf) (bl_expr r hwf 1)
theorem rt_stmt (st : Stmt) (hwf : wfStmt true st = true) : StmtRT st := (rt_all _).2 st (Nat.lt_succ_self _) hwf

/-- fuel-free round trip for every well-formed expression, in any expression slot (`s`: a trailing spread
    marker is allowed), followed by anything that cannot extend the expression -/
theorem parse_print_expr_rel (e : Expr) (hwf : wfE true e = true) (s : Bool) (ts rest : List Span)
    (hts : ts.map Span.tok = prE 1 e) (hst : stops s rest) :
    ∃ e', stripE e' = stripE e ∧ PExpr s (ts ++ rest) e' rest :=
  FEE_of_RT (rt_expr e.raw (wfE_raw true e ▸ hwf)) s ts rest hts hst

/-- `parse (print e) = e` up to positions, for every well-formed expression of the whole grammar (function
    literals and the statements in them included), at the driver's fuel, whatever positions the printed
    tokens carry -/
theorem parse_print_expr (e : Expr) (hwf : wfE true e = true) (ts : List Span) (hts : ts.map Span.tok = prE 1 e) :
    ∃ e', parseExpr (parseFuel ts) false ts = .ok e' [] ∧ stripE e' = stripE e := by
  obtain ⟨e', he', hp⟩ := parse_print_expr_rel e hwf false ts [] hts (stops_nil _)
  rw [List.append_nil] at hp
  exact ⟨e', hp.at_fuel _ (by unfold parseFuel; omega), he'⟩

theorem parse_print_prog_rel (p : List Stmt) (hwf : wfStmts true p = true) (ts : List Span)
    (hts : ts.map Span.tok = prStmts p) : ∃ p', stripStmts p' = stripStmts p ∧ PStmts false [] ts p' [] := by
  obtain ⟨p', hp', hps⟩ := stmts_rt_top p (fun st hst => rt_stmt st (wfStmts_mem hwf st hst)) [] ts hts
  exact ⟨p', by simp only [stripStmts_map, hp'], by simpa using hps⟩

/-- `parseProg (printProg p) = p` up to positions, on tokens: for every well-formed program `p`, every token
    list spelling `prStmts p` (whatever the positions) is parsed by `parseStmts` — the function `parseProg`
    runs on the lexer's output — with the driver's fuel to a program with the same erasure, consuming all
    tokens -/
theorem parse_print_prog (p : List Stmt) (hwf : wfStmts true p = true) (ts : List Span)
    (hts : ts.map Span.tok = prStmts p) :
    ∃ p', parseStmts (parseFuel ts) false [] ts = .ok p' [] ∧ stripStmts p' = stripStmts p := by
  obtain ⟨p', hp', hps⟩ := parse_print_prog_rel p hwf ts hts
  exact ⟨p', hps.at_fuel _ (by unfold parseFuel; omega), hp'⟩

end Seed
