/-
  ParseRT2Rel.lean — fuel-free view of the rest of the expression grammar (extends ParseRel.lean):
  relations `PLoop` (postfixLoop), `PPost` (parsePostfix), `PIdx`, `PREnd`, `PExpr`, `PArgs`, `PList`,
  `PParams`, `PProps`, `PPropTail`, and one constructor lemma per production.  A constructor lemma brings the
  successes it is given to a common fuel (`Eventually.and`) and unfolds the parser function once (`PRes.step`).
-/
import SeedProofs.Lemmas.ParseRT2Defs
namespace Seed

theorem PRes.ok_of_step {α} {g : Nat → PRes α} (hm : ∀ n, PRes.Le (g n) (g (n + 1))) {m n : Nat} (h : m ≤ n)
    {a : α} {r : List Span} (hok : g m = .ok a r) : g n = .ok a r :=
  (PRes.Le.of_step g hm h).ok hok

theorem PRes.at_fuel_of_step {α} {g : Nat → PRes α} (hm : ∀ n, PRes.Le (g n) (g (n + 1))) {a : α} {r : List Span}
    (h : ∃ f, g f = .ok a r) (fuel : Nat) (hnt : g fuel ≠ .timeout) : g fuel = .ok a r :=
  h.elim fun _ hok => PRes.Le.at_fuel hm hok hnt

theorem parsePostfix_ok_mono {m n l pre ts e r} (h : m ≤ n) (hok : parsePostfix m l pre ts = .ok e r) :
    parsePostfix n l pre ts = .ok e r :=
  (parsePostfix_mono h l pre ts).ok hok
theorem parseBraceStmt_ok_mono {m n amb l ts x r} (h : m ≤ n) (hok : parseBraceStmt m amb l ts = .ok x r) :
    parseBraceStmt n amb l ts = .ok x r :=
  PRes.ok_of_step (g := fun n => parseBraceStmt n amb l ts) (fun n => (pmonoAll n).parseBraceStmt amb l ts) h hok

/-- `P n` for every fuel `n` from some point on.  The successes that the premises of a production assert, each
    at a fuel of its own, hold together from some fuel on (`and`); the production itself then costs one more
    unit (`step`), because every function of the parser calls the others with `fuel - 1`. -/
def Eventually (P : Nat → Prop) : Prop := ∃ f, ∀ n, f ≤ n → P n

theorem Eventually.and {P Q : Nat → Prop} (h : Eventually P) (h' : Eventually Q) :
    Eventually fun n => P n ∧ Q n := by
  obtain ⟨f, hf⟩ := h
  obtain ⟨f', hf'⟩ := h'
  exact ⟨max f f', fun n hn =>
    ⟨hf n (Nat.le_trans (Nat.le_max_left f f') hn), hf' n (Nat.le_trans (Nat.le_max_right f f') hn)⟩⟩

theorem Eventually.of_ok {α} {g : Nat → PRes α} (hm : ∀ n, PRes.Le (g n) (g (n + 1))) {a : α} {r : List Span}
    (h : ∃ f, g f = .ok a r) : Eventually fun n => g n = .ok a r :=
  h.elim fun f hok => ⟨f, fun _ hn => PRes.ok_of_step hm hn hok⟩

theorem PRes.step {P : Nat → Prop} {α} {g : Nat → PRes α} {a : α} {r : List Span} (h : ∃ n, P n)
    (hs : ∀ n, P n → g (n + 1) = .ok a r) : ∃ f, g f = .ok a r :=
  h.elim fun n hn => ⟨n + 1, hs n hn⟩

theorem Eventually.step {P : Nat → Prop} {α} {g : Nat → PRes α} {a : α} {r : List Span} (h : Eventually P)
    (hs : ∀ n, P n → g (n + 1) = .ok a r) : ∃ f, g f = .ok a r :=
  PRes.step (h.elim fun f hf => ⟨f, hf f (Nat.le_refl f)⟩) hs

def PLoop (loc : Loc) (acc : RawExpr) (ts : List Span) (e : RawExpr) (r : List Span) : Prop :=
  ∃ f, postfixLoop f loc acc ts = .ok e r
def PPost (loc : Loc) (pre : Option RawExpr) (ts : List Span) (e : RawExpr) (r : List Span) : Prop :=
  ∃ f, parsePostfix f loc pre ts = .ok e r
def PIdx (e : Expr) (ts : List Span) (x : RawExpr) (r : List Span) : Prop :=
  ∃ f, parseIndexTail f e ts = .ok x r
def PREnd (e : Expr) (start : Option Expr) (ts : List Span) (x : RawExpr) (r : List Span) : Prop :=
  ∃ f, parseRangeEnd f e start ts = .ok x r
def PExpr (s : Bool) (ts : List Span) (e : Expr) (r : List Span) : Prop :=
  ∃ f, parseExpr f s ts = .ok e r
def PArgs (acc : List ListItem) (ts : List Span) (items : List ListItem) (r : List Span) : Prop :=
  ∃ f, parseArgs f acc ts = .ok items r
def PList (acc : List ListItem) (ts : List Span) (res : List ListItem × Bool) (r : List Span) : Prop :=
  ∃ f, parseExprList f acc ts = .ok res r
def PParams (acc : List Expr) (ts : List Span) (res : List Expr × Bool) (r : List Span) : Prop :=
  ∃ f, parseParams f acc ts = .ok res r
def PProps (acc : List PropItem) (ts : List Span) (res : List PropItem) (r : List Span) : Prop :=
  ∃ f, parsePropItems f acc ts = .ok res r
def PPropTail (acc : List PropItem) (ts : List Span) (res : List PropItem) (r : List Span) : Prop :=
  ∃ f, parsePropTail f acc ts = .ok res r
def PBlock (ts : List Span) (stmts : List Stmt) (r : List Span) : Prop :=
  ∃ f, parseBlock f ts = .ok stmts r

theorem PAtom.ev {pre ts e r} (h : PAtom pre ts e r) : Eventually fun n => parseAtom n pre ts = .ok e r :=
  .of_ok (fun n => (pmonoAll n).parseAtom pre ts) h
theorem PExpr1.ev {s l pre ts e r} (h : PExpr1 s l pre ts e r) :
    Eventually fun n => parseExpr1 n s l pre ts = .ok e r :=
  .of_ok (fun n => (pmonoAll n).parseExpr1 s l pre ts) h
theorem PLoop.ev {l acc ts e r} (h : PLoop l acc ts e r) : Eventually fun n => postfixLoop n l acc ts = .ok e r :=
  .of_ok (fun n => (pmonoAll n).postfixLoop l acc ts) h
theorem PIdx.ev {e ts x r} (h : PIdx e ts x r) : Eventually fun n => parseIndexTail n e ts = .ok x r :=
  .of_ok (fun n => (pmonoAll n).parseIndexTail e ts) h
theorem PREnd.ev {e st ts x r} (h : PREnd e st ts x r) : Eventually fun n => parseRangeEnd n e st ts = .ok x r :=
  .of_ok (fun n => (pmonoAll n).parseRangeEnd e st ts) h
theorem PExpr.ev {s ts e r} (h : PExpr s ts e r) : Eventually fun n => parseExpr n s ts = .ok e r :=
  .of_ok (fun n => (pmonoAll n).parseExpr s ts) h
theorem PArgs.ev {acc ts x r} (h : PArgs acc ts x r) : Eventually fun n => parseArgs n acc ts = .ok x r :=
  .of_ok (fun n => (pmonoAll n).parseArgs acc ts) h
theorem PList.ev {acc ts x r} (h : PList acc ts x r) : Eventually fun n => parseExprList n acc ts = .ok x r :=
  .of_ok (fun n => (pmonoAll n).parseExprList acc ts) h
theorem PParams.ev {acc ts x r} (h : PParams acc ts x r) : Eventually fun n => parseParams n acc ts = .ok x r :=
  .of_ok (fun n => (pmonoAll n).parseParams acc ts) h
theorem PProps.ev {acc ts x r} (h : PProps acc ts x r) : Eventually fun n => parsePropItems n acc ts = .ok x r :=
  .of_ok (fun n => (pmonoAll n).parsePropItems acc ts) h
theorem PPropTail.ev {acc ts x r} (h : PPropTail acc ts x r) :
    Eventually fun n => parsePropTail n acc ts = .ok x r :=
  .of_ok (fun n => (pmonoAll n).parsePropTail acc ts) h
theorem PBlock.ev {ts x r} (h : PBlock ts x r) : Eventually fun n => parseBlock n ts = .ok x r :=
  .of_ok (fun n => (pmonoAll n).parseBlock ts) h

theorem PExpr.mk {s : Bool} {ts r : List Span} {e : RawExpr} (h : PExpr1 s (headLoc ts) none ts e r) :
    PExpr s ts (.mk e (headLoc ts)) r :=
  PRes.step h fun n hf => by
    unfold parseExpr
    simp only [hf, PRes.map]

theorem PExpr.at_fuel {s : Bool} {ts r : List Span} {e : Expr} (h : PExpr s ts e r) (fuel : Nat)
    (hf : 10 * ts.length + 8 ≤ fuel) : parseExpr fuel s ts = .ok e r :=
  PRes.at_fuel_of_step (g := fun n => parseExpr n s ts) (fun n => (pmonoAll n).parseExpr s ts) h fuel
    ((ptotAll fuel).parseExpr s ts hf)

theorem PLoop.stop {loc : Loc} {acc : RawExpr} {ts : List Span} (h : noPostfix ts) : PLoop loc acc ts acc ts :=
  ⟨1, postfixLoop_stop 0 loc acc ts h⟩

/-- `acc ( args )` -/
theorem PLoop.call {loc : Loc} {acc X : RawExpr} {sp : Span} {r r2 r' : List Span} {args : List ListItem}
    (h : sp.tok = .ParenOpen) (h1 : PArgs [] r args r2) (h2 : PLoop loc (.Call (.mk acc loc) args) r2 X r') :
    PLoop loc acc (sp :: r) X r' :=
  (h1.ev.and h2.ev).step fun n ⟨hf1, hf2⟩ => by
    unfold postfixLoop
    simp only [h, hf1, PRes.bind, hf2]

/-- `acc [ … ]` -/
theorem PLoop.index {loc : Loc} {acc e X : RawExpr} {sp : Span} {r r2 r' : List Span}
    (h : sp.tok = .BracketOpen) (h1 : PIdx (.mk acc loc) r e r2) (h2 : PLoop loc e r2 X r') :
    PLoop loc acc (sp :: r) X r' :=
  (h1.ev.and h2.ev).step fun n ⟨hf1, hf2⟩ => by
    unfold postfixLoop
    simp only [h, hf1, PRes.bind, hf2]

/-- `acc . name` and `acc -> name` -/
theorem PLoop.prop {loc : Loc} {acc X : RawExpr} {sp sp2 : Span} {r r' : List Span} {name : List Char} (tp : Bool)
    (h : sp.tok = if tp then .DashGreaterThan else .Dot) (hn : sp2.tok = .Ident name)
    (h2 : PLoop loc (.Prop (.mk acc loc) name tp) r X r') : PLoop loc acc (sp :: sp2 :: r) X r' :=
  PRes.step h2 fun n hf2 => by
    unfold postfixLoop
    cases tp <;> simp [h, hn, expectIdent, PRes.bind, hf2]

theorem PPost.mk {loc : Loc} {pre : Option RawExpr} {ts r r' : List Span} {a X : RawExpr}
    (h1 : PAtom pre ts a r) (h2 : PLoop loc a r X r') : PPost loc pre ts X r' :=
  (h1.ev.and h2.ev).step fun n ⟨hf1, hf2⟩ => by
    unfold parsePostfix
    simp only [hf1, PRes.bind, hf2]

theorem PTier.post {k : Nat} {loc : Loc} {pre : Option RawExpr} {ts r : List Span} {e : RawExpr}
    (hk : Gen.postfixTier ≤ k) (h : PPost loc pre ts e r) : PTier k loc pre ts e r :=
  PRes.step h fun n hf => by
    unfold parseTier
    have hk' : k ≥ Gen.postfixTier := hk
    simp only [hk', if_true, hf]

/-- `e [ i ]` -/
theorem PIdx.index {e i : Expr} {sp sp2 : Span} {r r3 : List Span} (hc : sp.tok ≠ .Colon)
    (h1 : PExpr false (sp :: r) i (sp2 :: r3)) (h2 : sp2.tok = .BracketClose) :
    PIdx e (sp :: r) (.Index e i) r3 :=
  PRes.step h1 fun n hf1 => by
    unfold parseIndexTail
    simp only [hc, if_false, hf1, PRes.bind, h2, if_true]

/-- `e [ : …` -/
theorem PIdx.colon {e : Expr} {x : RawExpr} {sp : Span} {r r' : List Span} (hc : sp.tok = .Colon)
    (h1 : PREnd e none r x r') : PIdx e (sp :: r) x r' :=
  PRes.step h1 fun n hf1 => by
    unfold parseIndexTail
    simp only [hc, if_true, hf1]

/-- `e [ i : …` -/
theorem PIdx.range {e i : Expr} {x : RawExpr} {sp sp2 : Span} {r r3 r' : List Span} (hc : sp.tok ≠ .Colon)
    (h1 : PExpr false (sp :: r) i (sp2 :: r3)) (h2 : sp2.tok = .Colon) (h3 : PREnd e (some i) r3 x r') :
    PIdx e (sp :: r) x r' :=
  (h1.ev.and h3.ev).step fun n ⟨hf1, hf3⟩ => by
    unfold parseIndexTail
    simp [hc, hf1, PRes.bind, h2, hf3]

/-- `… : ]` -/
theorem PREnd.none {e : Expr} {st : Option Expr} {sp : Span} {r : List Span} (h : sp.tok = .BracketClose) :
    PREnd e st (sp :: r) (.RangeIndex e st none) r :=
  ⟨1, if_pos h⟩

/-- `… : j ]` -/
theorem PREnd.some {e j : Expr} {st : Option Expr} {sp sp2 : Span} {r r3 : List Span} (hc : sp.tok ≠ .BracketClose)
    (h1 : PExpr false (sp :: r) j (sp2 :: r3)) (h2 : sp2.tok = .BracketClose) :
    PREnd e st (sp :: r) (.RangeIndex e st (some j)) r3 :=
  PRes.step h1 fun n hf1 => by
    unfold parseRangeEnd
    simp only [hc, if_false, hf1, PRes.bind, expectTok, h2, if_true]

theorem PArgs.nil {acc : List ListItem} {sp : Span} {r : List Span} (h : sp.tok = .ParenClose) :
    PArgs acc (sp :: r) acc.reverse r :=
  ⟨1, if_pos h⟩

/-- the last argument, `e )` or `e .. )` -/
theorem PArgs.last {acc : List ListItem} {e : Expr} {sp sp2 sp3 : Span} {r r2 r3 : List Span} (s : Bool)
    (hc : sp.tok ≠ .ParenClose) (h1 : PExpr true (sp :: r) e r2)
    (hr2 : r2 = (if s then [sp2] else []) ++ sp3 :: r3) (hs : sp2.tok = .DotDot) (h3 : sp3.tok = .ParenClose) :
    PArgs acc (sp :: r) (ListItem.mk e s :: acc).reverse r3 :=
  PRes.step h1 fun n hf1 => by
    unfold parseArgs
    subst hr2
    cases s <;> simp [hc, hf1, PRes.bind, hs, h3]

/-- an argument followed by a comma, `e , …` or `e .. , …` -/
theorem PArgs.more {acc items : List ListItem} {e : Expr} {sp sp2 sp3 : Span} {r r2 r3 r' : List Span} (s : Bool)
    (hc : sp.tok ≠ .ParenClose) (h1 : PExpr true (sp :: r) e r2)
    (hr2 : r2 = (if s then [sp2] else []) ++ sp3 :: r3) (hs : sp2.tok = .DotDot) (h3 : sp3.tok = .Comma)
    (h4 : PArgs (ListItem.mk e s :: acc) r3 items r') : PArgs acc (sp :: r) items r' :=
  (h1.ev.and h4.ev).step fun n ⟨hf1, hf4⟩ => by
    unfold parseArgs
    subst hr2
    cases s <;> simp [hc, hf1, PRes.bind, hs, h3, hf4]

theorem PList.nil {acc : List ListItem} {sp : Span} {r : List Span} (h : sp.tok = .BracketClose) :
    PList acc (sp :: r) (acc.reverse, false) r :=
  ⟨1, if_pos h⟩

/-- the collecting last item, `.. e ]` or `.. e .. ]` -/
theorem PList.collect {acc : List ListItem} {e : Expr} {sp sp2 sp3 : Span} {r r2 r3 : List Span} (s : Bool)
    (hd : sp.tok = .DotDot) (h1 : PExpr true r e r2)
    (hr2 : r2 = (if s then [sp2] else []) ++ sp3 :: r3) (hs : sp2.tok = .DotDot) (h3 : sp3.tok = .BracketClose) :
    PList acc (sp :: r) ((ListItem.mk e s :: acc).reverse, true) r3 :=
  PRes.step h1 fun n hf1 => by
    unfold parseExprList
    subst hr2
    cases s <;> simp [hd, hf1, PRes.bind, hs, h3, expectTok]

/-- the last item, `e ]` or `e .. ]` -/
theorem PList.last {acc : List ListItem} {e : Expr} {sp sp2 sp3 : Span} {r r2 r3 : List Span} (s : Bool)
    (hc : sp.tok ≠ .BracketClose) (hd : sp.tok ≠ .DotDot) (h1 : PExpr true (sp :: r) e r2)
    (hr2 : r2 = (if s then [sp2] else []) ++ sp3 :: r3) (hs : sp2.tok = .DotDot) (h3 : sp3.tok = .BracketClose) :
    PList acc (sp :: r) ((ListItem.mk e s :: acc).reverse, false) r3 :=
  PRes.step h1 fun n hf1 => by
    unfold parseExprList
    subst hr2
    cases s <;> simp [hc, hd, hf1, PRes.bind, hs, h3]

/-- an item followed by a comma -/
theorem PList.more {acc : List ListItem} {res : List ListItem × Bool} {e : Expr} {sp sp2 sp3 : Span}
    {r r2 r3 r' : List Span} (s : Bool)
    (hc : sp.tok ≠ .BracketClose) (hd : sp.tok ≠ .DotDot) (h1 : PExpr true (sp :: r) e r2)
    (hr2 : r2 = (if s then [sp2] else []) ++ sp3 :: r3) (hs : sp2.tok = .DotDot) (h3 : sp3.tok = .Comma)
    (h4 : PList (ListItem.mk e s :: acc) r3 res r') : PList acc (sp :: r) res r' :=
  (h1.ev.and h4.ev).step fun n ⟨hf1, hf4⟩ => by
    unfold parseExprList
    subst hr2
    cases s <;> simp [hc, hd, hf1, PRes.bind, hs, h3, hf4]

/-- `[ … ]` -/
theorem PAtom.list {sp : Span} {r r2 : List Span} {items : List ListItem} {c : Bool} (h : sp.tok = .BracketOpen)
    (h1 : PList [] r (items, c) r2) : PAtom none (sp :: r) (.List items c) r2 :=
  PRes.step h1 fun n hf1 => by
    unfold parseAtom
    simp only [h, hf1, PRes.bind]

theorem PParams.nil {acc : List Expr} {sp : Span} {r : List Span} (h : sp.tok = .ParenClose) :
    PParams acc (sp :: r) (acc.reverse, false) r :=
  ⟨1, if_pos h⟩

/-- the collecting last parameter, `.. e )` -/
theorem PParams.collect {acc : List Expr} {e : Expr} {sp sp2 : Span} {r r3 : List Span}
    (hd : sp.tok = .DotDot) (h1 : PExpr false r e (sp2 :: r3)) (h2 : sp2.tok = .ParenClose) :
    PParams acc (sp :: r) ((e :: acc).reverse, true) r3 :=
  PRes.step h1 fun n hf1 => by
    unfold parseParams
    simp [hd, hf1, PRes.bind, h2, expectTok]

theorem PParams.last {acc : List Expr} {e : Expr} {sp sp2 : Span} {r r3 : List Span}
    (hc : sp.tok ≠ .ParenClose) (hd : sp.tok ≠ .DotDot) (h1 : PExpr false (sp :: r) e (sp2 :: r3))
    (h2 : sp2.tok = .ParenClose) : PParams acc (sp :: r) ((e :: acc).reverse, false) r3 :=
  PRes.step h1 fun n hf1 => by
    unfold parseParams
    simp [hc, hd, hf1, PRes.bind, h2]

theorem PParams.more {acc : List Expr} {res : List Expr × Bool} {e : Expr} {sp sp2 : Span} {r r3 r' : List Span}
    (hc : sp.tok ≠ .ParenClose) (hd : sp.tok ≠ .DotDot) (h1 : PExpr false (sp :: r) e (sp2 :: r3))
    (h2 : sp2.tok = .Comma) (h4 : PParams (e :: acc) r3 res r') : PParams acc (sp :: r) res r' :=
  (h1.ev.and h4.ev).step fun n ⟨hf1, hf4⟩ => by
    unfold parseParams
    simp [hc, hd, hf1, PRes.bind, h2, hf4]

theorem PProps.nil {acc : List PropItem} {sp : Span} {r : List Span} (h : sp.tok = .BraceClose) :
    PProps acc (sp :: r) acc.reverse r :=
  ⟨1, if_pos h⟩

theorem PPropTail.close {acc : List PropItem} {sp : Span} {r : List Span} (h : sp.tok = .BraceClose) :
    PPropTail acc (sp :: r) acc.reverse r := by
  refine ⟨1, ?_⟩
  unfold parsePropTail
  simp [h]

theorem PPropTail.comma {acc res : List PropItem} {sp : Span} {r r' : List Span} (h : sp.tok = .Comma)
    (h1 : PProps acc r res r') : PPropTail acc (sp :: r) res r' :=
  PRes.step h1 fun n hf1 => by
    unfold parsePropTail
    simp only [h, if_true, hf1]

/-- `.. e` or `.. e ..` -/
theorem PProps.collect {acc res : List PropItem} {e : Expr} {sp sp2 sp3 : Span} {r r2 r3 r' : List Span} (s : Bool)
    (hd : sp.tok = .DotDot) (h1 : PExpr true r e r2)
    (hr2 : r2 = (if s then [sp2] else []) ++ sp3 :: r3) (hs : sp2.tok = .DotDot) (h3 : sp3.tok ≠ .DotDot)
    (h4 : PPropTail (PropItem.Single e s true :: acc) (sp3 :: r3) res r') : PProps acc (sp :: r) res r' :=
  (h1.ev.and h4.ev).step fun n ⟨hf1, hf4⟩ => by
    unfold parsePropItems
    subst hr2
    cases s <;> simp [hd, hf1, PRes.bind, hs, h3, hf4]

/-- `k : v` -/
theorem PProps.pair {acc res : List PropItem} {k v : Expr} {sp sp2 : Span} {r r3 r4 r' : List Span}
    (hc : sp.tok ≠ .BraceClose) (hd : sp.tok ≠ .DotDot) (h1 : PExpr true (sp :: r) k (sp2 :: r3))
    (h2 : sp2.tok = .Colon) (h3 : PExpr false r3 v r4) (h4 : PPropTail (PropItem.Pair k v :: acc) r4 res r') :
    PProps acc (sp :: r) res r' :=
  ((h1.ev.and h3.ev).and h4.ev).step fun n ⟨⟨hf1, hf3⟩, hf4⟩ => by
    unfold parsePropItems
    simp [hc, hd, hf1, PRes.bind, h2, hf3, hf4]

/-- `e` or `e ..` -/
theorem PProps.single {acc res : List PropItem} {e : Expr} {sp sp2 sp3 : Span} {r r2 r3 r' : List Span} (s : Bool)
    (hc : sp.tok ≠ .BraceClose) (hd : sp.tok ≠ .DotDot) (h1 : PExpr true (sp :: r) e r2)
    (hr2 : r2 = (if s then [sp2] else []) ++ sp3 :: r3) (hs : sp2.tok = .DotDot)
    (h3 : sp3.tok ≠ .DotDot) (h3' : sp3.tok ≠ .Colon)
    (h4 : PPropTail (PropItem.Single e s false :: acc) (sp3 :: r3) res r') : PProps acc (sp :: r) res r' :=
  (h1.ev.and h4.ev).step fun n ⟨hf1, hf4⟩ => by
    unfold parsePropItems
    subst hr2
    cases s <;> simp [hc, hd, hf1, PRes.bind, hs, h3, h3', hf4]

/-- `{ … }` in expression position -/
theorem PAtom.object {sp : Span} {r r2 : List Span} {props : List PropItem} (h : sp.tok = .BraceOpen)
    (h1 : PProps [] r props r2) : PAtom none (sp :: r) (.Object props) r2 :=
  PRes.step h1 fun n hf1 => by
    unfold parseAtom
    simp only [h, hf1, PRes.bind]

/-- `fn ( params ) { stmts }` -/
theorem PAtom.func {sp sp2 : Span} {r r3 r4 : List Span} {args : List Expr} {c : Bool} {stmts : List Stmt}
    (h : sp.tok = .Fn) (h2 : sp2.tok = .ParenOpen) (h3 : PParams [] r (args, c) r3) (h4 : PBlock r3 stmts r4) :
    PAtom none (sp :: sp2 :: r) (.Func args c stmts) r4 :=
  (h3.ev.and h4.ev).step fun n ⟨hf3, hf4⟩ => by
    unfold parseAtom
    simp [h, h2, expectTok, PRes.bind, hf3, hf4]

end Seed
