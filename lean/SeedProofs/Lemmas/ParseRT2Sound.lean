/-
  ParseRT2Sound.lean — the parser only produces well-formed trees: `parse_sound`
  (`parseStmts … = .ok p r → wfStmts true p`), `parseExpr_sound`.  Together with `parse_print_prog`
  (ParseRT2Prog.lean) this makes `parse ∘ print` the identity (up to positions) exactly on the parser's
  image: the printer is a section of the parser.

  One induction on the fuel over all 22 functions of the mutual block (`PSoundAll`), with the post-condition
  calculus `PRes.Sat`.
-/
import SeedProofs.Lemmas.ParseRT2Prog
import SeedProofs.Lemmas.C18NodePos
namespace Seed

def PRes.Sat {α} (P : α → Prop) : PRes α → Prop
  | .ok a _ => P a
  | _ => True

namespace PRes.Sat
theorem ok {α} {P : α → Prop} {a : α} {r : List Span} (h : P a) : PRes.Sat P (.ok a r) := h
theorem err {α} {P : α → Prop} {e : PErr} : PRes.Sat P (.err e : PRes α) := True.intro
theorem timeout {α} {P : α → Prop} : PRes.Sat P (.timeout : PRes α) := True.intro

theorem bind {α β} {P : α → Prop} {Q : β → Prop} {r : PRes α} {f : α → List Span → PRes β} (h : PRes.Sat P r)
    (hf : ∀ a ts, P a → PRes.Sat Q (f a ts)) : PRes.Sat Q (r.bind f) := by
  cases r with
  | ok a rest => exact hf a rest h
  | err e => exact True.intro
  | timeout => exact True.intro

theorem map {α β} {Q : β → Prop} {r : PRes α} {f : α → β} (h : PRes.Sat (fun a => Q (f a)) r) :
    PRes.Sat Q (r.map f) := by
  cases r with
  | ok a rest => exact h
  | err e => exact True.intro
  | timeout => exact True.intro

theorem mono {α} {P Q : α → Prop} {r : PRes α} (h : PRes.Sat P r) (hpq : ∀ a, P a → Q a) : PRes.Sat Q r := by
  cases r with
  | ok a rest => exact hpq a h
  | err e => exact True.intro
  | timeout => exact True.intro

theorem elim {α} {P : α → Prop} {r : PRes α} {a : α} {rest : List Span} (h : PRes.Sat P r) (hr : r = .ok a rest) :
    P a := by
  subst hr; exact h
end PRes.Sat

theorem expectTok_sat (t : Token) (ts : List Span) : PRes.Sat (fun _ => True) (expectTok t ts) :=
  expectTok_cases t ts (fun _ => True.intro) fun _ _ _ _ => True.intro

theorem expectIdent_sat (ts : List Span) : PRes.Sat (fun _ => True) (expectIdent ts) :=
  expectIdent_cases ts (fun _ => True.intro) fun _ _ _ _ _ => True.intro

theorem wfItems_reverse (l : List ListItem) : wfItems true l.reverse = wfItems true l := by
  rw [Bool.eq_iff_iff, wfItems_iff, wfItems_iff]; simp only [List.mem_reverse]

theorem wfProps_reverse (l : List PropItem) : wfProps true l.reverse = wfProps true l := by
  rw [Bool.eq_iff_iff, wfProps_iff, wfProps_iff]; simp only [List.mem_reverse]

theorem wfEs_reverse (l : List Expr) : wfEs true l.reverse = wfEs true l := by
  rw [Bool.eq_iff_iff, wfEs_iff, wfEs_iff]; simp only [List.mem_reverse]

theorem wfStmts_reverse (l : List Stmt) : wfStmts true l.reverse = wfStmts true l := by
  rw [Bool.eq_iff_iff, wfStmts_iff, wfStmts_iff]; simp only [List.mem_reverse]

theorem wfItems_rev_cons {e : Expr} {s : Bool} {acc : List ListItem} (he : wfE true e = true)
    (hacc : wfItems true acc = true) : wfItems true (ListItem.mk e s :: acc).reverse = true := by
  rw [wfItems_reverse]; simp only [wfItems, he, hacc, Bool.and_self]

theorem wfEs_rev_cons {e : Expr} {acc : List Expr} (he : wfE true e = true)
    (hacc : wfEs true acc = true) : wfEs true (e :: acc).reverse = true := by
  rw [wfEs_reverse]; simp only [wfEs, he, hacc, Bool.and_self]

theorem wfStmts_rev {acc : List Stmt} (hacc : wfStmts true acc = true) : wfStmts true acc.reverse = true := by
  rw [wfStmts_reverse]; exact hacc

theorem wfItems_rev {acc : List ListItem} (hacc : wfItems true acc = true) : wfItems true acc.reverse = true := by
  rw [wfItems_reverse]; exact hacc

theorem wfEs_rev {acc : List Expr} (hacc : wfEs true acc = true) : wfEs true acc.reverse = true := by
  rw [wfEs_reverse]; exact hacc

theorem collect_ok {α} {c : Bool} {l : List α} (h : c = true → l ≠ []) : (!c || !l.isEmpty) = true := by
  cases c with
  | false => rfl
  | true => cases l with
    | nil => exact absurd rfl (h rfl)
    | cons a l => rfl

theorem assignOp_sound {t : Token} {op : BinaryOp} (h : assignOpOf t = some op) : (assignTokOf op).isSome = true := by
  cases t <;> simp [assignOpOf, lookupAssoc, Gen.assignOps] at h <;> subst h <;> rfl

theorem wfIf_ok {bs : List Branch} {els : Option (List Stmt)}
    (h : bs ≠ [] ∧ wfBs true bs = true ∧ ∀ e, els = some e → wfStmts true e = true) :
    wfStmt true (.If bs els) = true := by
  have hne : (!bs.isEmpty) = true := by
    cases bs with
    | nil => exact absurd rfl h.1
    | cons a l => rfl
  cases els with
  | none => simp only [wfStmt, hne, h.2.1, Bool.and_self]
  | some e => simp only [wfStmt, hne, h.2.1, h.2.2 e rfl, Bool.and_self]

theorem wfOpAssign_ok {t : Token} {op : BinaryOp} {l r : Expr} {ol : Loc} (h : assignOpOf t = some op)
    (hl : wfE true l = true) (hr : wfE true r = true) : wfStmt true (.OpAssign l op ol r) = true := by
  simp only [wfStmt, assignOp_sound h, hl, hr, Bool.and_self]

theorem rev_cons_ne_nil {α} (a : α) (l : List α) : (a :: l).reverse ≠ [] := by
  simp

/-- an already parsed atom handed to the expression parser is well-formed -/
def wfPre : Option RawExpr → Bool
  | none => true
  | some a => wfR true a

structure PSoundAll (n : Nat) : Prop where
  parseAtom : ∀ pre ts, wfPre pre = true → PRes.Sat (fun a => wfR true a = true) (parseAtom n pre ts)
  parsePostfix : ∀ l pre ts, wfPre pre = true → PRes.Sat (fun a => wfR true a = true) (parsePostfix n l pre ts)
  postfixLoop : ∀ l acc ts, wfR true acc = true → PRes.Sat (fun a => wfR true a = true) (postfixLoop n l acc ts)
  parseIndexTail : ∀ e ts, wfE true e = true → PRes.Sat (fun a => wfR true a = true) (parseIndexTail n e ts)
  parseRangeEnd : ∀ e s ts, wfE true e = true → wfO true s = true →
    PRes.Sat (fun a => wfR true a = true) (parseRangeEnd n e s ts)
  parseTier : ∀ k l pre ts, wfPre pre = true → PRes.Sat (fun a => wfR true a = true) (parseTier n k l pre ts)
  tierLoop : ∀ k l acc ts, wfR true acc = true → PRes.Sat (fun a => wfR true a = true) (tierLoop n k l acc ts)
  parseExpr1 : ∀ s l pre ts, wfPre pre = true → PRes.Sat (fun a => wfR true a = true) (parseExpr1 n s l pre ts)
  rangeLoop : ∀ s l acc ts, wfR true acc = true → PRes.Sat (fun a => wfR true a = true) (rangeLoop n s l acc ts)
  parseExpr : ∀ s ts, PRes.Sat (fun e => wfE true e = true) (parseExpr n s ts)
  parseArgs : ∀ acc ts, wfItems true acc = true → PRes.Sat (fun l => wfItems true l = true) (parseArgs n acc ts)
  parseExprList : ∀ acc ts, wfItems true acc = true →
    PRes.Sat (fun p => wfItems true p.1 = true ∧ (p.2 = true → p.1 ≠ [])) (parseExprList n acc ts)
  parseParams : ∀ acc ts, wfEs true acc = true →
    PRes.Sat (fun p => wfEs true p.1 = true ∧ (p.2 = true → p.1 ≠ [])) (parseParams n acc ts)
  parsePropItems : ∀ acc ts, wfProps true acc = true →
    PRes.Sat (fun l => wfProps true l = true) (parsePropItems n acc ts)
  parsePropTail : ∀ acc ts, wfProps true acc = true →
    PRes.Sat (fun l => wfProps true l = true) (parsePropTail n acc ts)
  parseBlock : ∀ ts, PRes.Sat (fun l => wfStmts true l = true) (parseBlock n ts)
  -- `acc ≠ [] → l ≠ []`: a brace statement that turns out to be a block continues as `parseStmts n true [st]`, and
  -- `wfStmt` wants the list of a `.Block` non-empty
  parseStmts : ∀ c acc ts, wfStmts true acc = true →
    PRes.Sat (fun l => wfStmts true l = true ∧ (acc ≠ [] → l ≠ [])) (parseStmts n c acc ts)
  parseIf : ∀ ts, PRes.Sat (fun p => p.1 ≠ [] ∧ wfBs true p.1 = true ∧ ∀ e, p.2 = some e → wfStmts true e = true)
    (parseIf n ts)
  parseStmtTail : ∀ lhs ts, wfE true lhs = true → PRes.Sat (fun s => wfStmt true s = true) (parseStmtTail n lhs ts)
  parseExprStmt : ∀ amb l pre ts, wfPre pre = true →
    PRes.Sat (fun s => wfStmt true s = true) (parseExprStmt n amb l pre ts)
  parseRawStmt : ∀ amb ts, PRes.Sat (fun s => wfStmt true s = true) (parseRawStmt n amb ts)
  parseBraceStmt : ∀ amb l ts, PRes.Sat (fun s => wfStmt true s = true) (parseBraceStmt n amb l ts)

theorem wfPre_none : wfPre none = true := rfl
theorem wfPre_some (a : RawExpr) : wfPre (some a) = wfR true a := rfl

/-- close a side condition or a final post-condition from the facts collected so far: mostly by unfolding `wf…` on
    the constructor, which leaves facts of the context; the shapes in which the parser returns its accumulators
    (`wf…_rev_cons`, `wf…_rev`); `simp_all` for the few that need a fact of the context unfolded as well -/
macro "ps_side" : tactic =>
  `(tactic| first
    | assumption
    | rfl
    | (simp only [wfPre_some, wfR, wfE, wfO, wfItems, wfProps, wfEs, wfStmts, wfStmt, wfBs,
        wfItems_reverse, wfProps_reverse, wfEs_reverse, wfStmts_reverse, *, Bool.and_self]; done)
    | exact ⟨wfItems_rev_cons ‹_› ‹_›, fun _ => rev_cons_ne_nil _ _⟩
    | exact ⟨wfEs_rev_cons ‹_› ‹_›, fun _ => rev_cons_ne_nil _ _⟩
    | exact ⟨wfItems_rev ‹_›, fun h => by cases h⟩
    | exact ⟨wfEs_rev ‹_›, fun h => by cases h⟩
    | exact wfIf_ok ‹_›
    | exact wfOpAssign_ok ‹_› ‹_› ‹_›
    | (focus (simp_all [wfPre_none, wfPre_some, wfR, wfE, wfO, wfItems, wfProps, wfEs, wfStmts, wfStmt, wfBs,
        wfItems_reverse, wfProps_reverse, wfEs_reverse, wfStmts_reverse, assignOp_sound, collect_ok]; done)))

/-- a (sub-)call satisfies its post-condition, by the induction hypothesis -/
macro "ps_call " ih:ident : tactic =>
  `(tactic| ((with_reducible first | exact expectTok_sat _ _ | parser_call $ih | exact expectIdent_sat _) <;> ps_side))

/-- The walk of `possat_auto` (C18NodePos.lean) for `PRes.Sat`.  The accumulator of `parseStmts` changes between the
    call and what is asked of it, hence the step through `PRes.Sat.mono`. -/
macro "ps_auto " ih:ident : tactic =>
  `(tactic| repeat' first
    | ((with_reducible apply PRes.Sat.bind); (ps_call $ih))
    | intro _ _ _
    | ((with_reducible apply iteInduction) <;> intro _)
    | split
    | (with_reducible exact PRes.Sat.err)
    | (with_reducible exact PRes.Sat.timeout)
    | ((with_reducible apply PRes.Sat.ok); ps_side)
    | ps_call $ih
    | ((with_reducible refine PRes.Sat.mono (PSoundAll.parseStmts $ih _ _ _ ?_) ?_) <;>
        first | ps_side | (intro l h; exact ⟨h.1, fun _ => h.2 (List.cons_ne_nil _ _)⟩) | (intro l h; exact h.1)))

theorem psoundAll_zero : PSoundAll 0 := by
  constructor <;> intros <;> exact True.intro

theorem psoundAll_succ (n : Nat) (ih : PSoundAll n) : PSoundAll (n + 1) := by
  constructor <;> intros
  · unfold parseAtom; ps_auto ih
  · unfold parsePostfix; ps_auto ih
  · unfold postfixLoop; ps_auto ih
  · unfold parseIndexTail; ps_auto ih
  · unfold parseRangeEnd; ps_auto ih
  · unfold parseTier; ps_auto ih
  · unfold tierLoop; ps_auto ih
  · unfold parseExpr1; ps_auto ih
  · unfold rangeLoop; ps_auto ih
  · unfold parseExpr; exact PRes.Sat.map (ih.parseExpr1 _ _ none _ rfl)
  · unfold parseArgs; ps_auto ih
  · unfold parseExprList; ps_auto ih
  · unfold parseParams; ps_auto ih
  · unfold parsePropItems; ps_auto ih
  · unfold parsePropTail; ps_auto ih
  · unfold parseBlock; ps_auto ih
  · unfold parseStmts; ps_auto ih
  · unfold parseIf; ps_auto ih
  · unfold parseStmtTail; ps_auto ih
  · unfold parseExprStmt; ps_auto ih
  · unfold parseRawStmt; ps_auto ih
  · unfold parseBraceStmt; ps_auto ih

theorem psoundAll (n : Nat) : PSoundAll n := by
  induction n with
  | zero => exact psoundAll_zero
  | succ n ih => exact psoundAll_succ n ih

/-- every statement list the parser returns is well-formed -/
theorem parse_sound {fuel : Nat} {c : Bool} {ts r : List Span} {p : List Stmt}
    (h : parseStmts fuel c [] ts = .ok p r) : wfStmts true p = true :=
  ((psoundAll fuel).parseStmts c [] ts rfl).elim h |>.1

theorem parseExpr_sound {fuel : Nat} {s : Bool} {ts r : List Span} {e : Expr}
    (h : parseExpr fuel s ts = .ok e r) : wfE true e = true :=
  ((psoundAll fuel).parseExpr s ts).elim h

/-- the front end only produces well-formed programs -/
theorem parseProg_sound {src : List Char} {p : List Stmt} (h : parseProg src = .ok p) : wfStmts true p = true :=
  have ⟨_, hp⟩ := parseProg_ok h
  parse_sound hp

theorem parseExprTop_sound {src : List Char} {e : Expr} (h : parseExprTop src = .ok e) : wfE true e = true :=
  parseExpr_sound (parseExprTop_ok h)

/-- `parse ∘ print` is the identity (up to positions) on the parser's image: a program that the front end
    produced from some source text is given back by parsing its printed tokens -/
theorem print_parse_section {src : List Char} {p : List Stmt} (h : parseProg src = .ok p) (ts : List Span)
    (hts : ts.map Span.tok = prStmts p) :
    ∃ p', parseStmts (parseFuel ts) false [] ts = .ok p' [] ∧ stripStmts p' = stripStmts p :=
  parse_print_prog p (parseProg_sound h) ts hts

theorem print_parse_section_expr {src : List Char} {e : Expr} (h : parseExprTop src = .ok e) (ts : List Span)
    (hts : ts.map Span.tok = prE 1 e) :
    ∃ e', parseExpr (parseFuel ts) false ts = .ok e' [] ∧ stripE e' = stripE e :=
  parse_print_expr e (parseExprTop_sound h) ts hts

end Seed
