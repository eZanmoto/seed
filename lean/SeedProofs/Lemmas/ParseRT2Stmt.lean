/-
  ParseRT2Stmt.lean — the print/parse round trip for statements.

  `StmtRT st`: parsing `prStmt st ++ ; ++ rest` with `parseRawStmt` (in either ambiguity mode) gives `st`
  back and stops before the `;`.  One lemma per statement production; the case analysis `stmtStep` and the
  joint induction `rt_all` (on the size of the tree) over expressions and statements are in ParseRT2Prog.lean.
-/
import SeedProofs.Lemmas.ParseRT2Brace
namespace Seed

/-- the assignment target / expression statement `r`, followed by the rest of the statement -/
theorem lhs_rt {r : RawExpr} (l : Loc) (h : SE r) (amb : Bool) (tsl rest : List Span)
    (hts : tsl.map Span.tok = prR 1 r) (hst : stops amb rest) :
    ∃ e', stripE e' = stripE (.mk r l) ∧
      ∀ st r', PStmtTail e' rest st r' → PRawStmt amb (tsl ++ rest) st r' := by
  obtain ⟨sp, tsl', rfl, _⟩ := spans_start hts (prR_starts r 1)
  obtain ⟨raw, he, _, hk⟩ := h amb sp tsl' rest hts hst
  exact ⟨.mk raw sp.start, by simp only [stripE, he], fun st r' hT => by simpa using hk st r' hT⟩

def StmtRT (st : Stmt) : Prop :=
  ∀ (amb : Bool) (ts : List Span) (se : Span) (rest : List Span), ts.map Span.tok = prStmt st → se.tok = .StmtEnd →
    ∃ st', stripStmt st' = stripStmt st ∧ PRawStmt amb (ts ++ se :: rest) st' (se :: rest)

theorem stops_stmtEnd {s : Bool} {se : Span} {rest : List Span} (h : se.tok = .StmtEnd) : stops s (se :: rest) :=
  stops_of_tok (by rw [h]; rfl)

theorem StmtRT_expr {r : RawExpr} {l : Loc} (h : SE r) : StmtRT (.Expr (.mk r l)) := by
  intro amb ts se rest hts hse
  simp only [prStmt, prE] at hts
  obtain ⟨e', he', hk⟩ := lhs_rt l h amb ts (se :: rest) hts (stops_stmtEnd hse)
  exact ⟨.Expr e', by simp only [stripStmt, he'], hk _ _ (PStmtTail.none (by rw [hse]; rfl))⟩

/-- the common part of `lhs := rhs`, `lhs = rhs` and `lhs op= rhs`: both sides round-trip, and the statement parser
    continues with the statement tail at the operator token `so` -/
theorem assign_rt {l : RawExpr} (ll : Loc) {r : Expr} (hl : SE l) (hr : FEE r) {t : Token} (ht : isStopTok t = true)
    (amb : Bool) {ts : List Span} {se : Span} (rest : List Span)
    (hts : ts.map Span.tok = prR 1 l ++ t :: prE 1 r) (hse : se.tok = .StmtEnd) :
    ∃ (e' r' : Expr) (so : Span) (tsr : List Span), stripE e' = stripE (.mk l ll) ∧ stripE r' = stripE r ∧ so.tok = t ∧
      PExpr false (tsr ++ se :: rest) r' (se :: rest) ∧
      ∀ st, PStmtTail e' (so :: (tsr ++ se :: rest)) st (se :: rest) → PRawStmt amb (ts ++ se :: rest) st (se :: rest) := by
  obtain ⟨tsl, ts2, rfl, htl, h2⟩ := map_tok_append hts
  obtain ⟨so, tsr, rfl, hso, htr⟩ := map_tok_cons h2
  obtain ⟨r', hr', hpr⟩ := hr false tsr (se :: rest) htr (stops_stmtEnd hse)
  obtain ⟨e', he', hk⟩ := lhs_rt ll hl amb tsl (so :: (tsr ++ se :: rest)) htl (stops_of_tok (by rw [hso]; exact ht))
  exact ⟨e', r', so, tsr, he', hr', hso, hpr, fun st hT => by simpa [List.append_assoc] using hk st _ hT⟩

theorem StmtRT_declare {l : RawExpr} {ll : Loc} {r : Expr} (hl : SE l) (hr : FEE r) :
    StmtRT (.Declare (.mk l ll) r) := by
  intro amb ts se rest hts hse
  simp only [prStmt, prE] at hts
  obtain ⟨e', r', so, tsr, he', hr', hso, hpr, hk⟩ := assign_rt ll hl hr rfl amb rest hts hse
  exact ⟨.Declare e' r', by simp only [stripStmt, he', hr'], hk _ (PStmtTail.declare hso hpr)⟩

theorem StmtRT_assign {l : RawExpr} {ll : Loc} {r : Expr} (hl : SE l) (hr : FEE r) :
    StmtRT (.Assign (.mk l ll) r) := by
  intro amb ts se rest hts hse
  simp only [prStmt, prE] at hts
  obtain ⟨e', r', so, tsr, he', hr', hso, hpr, hk⟩ := assign_rt ll hl hr rfl amb rest hts hse
  exact ⟨.Assign e' r', by simp only [stripStmt, he', hr'], hk _ (PStmtTail.assign hso hpr)⟩

/-- the spelling of an op-assignment operator is recognised by the parser's table lookup -/
theorem assignTok_facts {op : BinaryOp} {t : Token} (h : assignTokOf op = some t) :
    assignOpOf t = some op ∧ t ≠ .ColonEquals ∧ t ≠ .Equals ∧ isStopTok t = true := by
  cases op <;> cases h <;> exact ⟨rfl, nofun, nofun, rfl⟩

theorem StmtRT_opAssign {l : RawExpr} {ll ol : Loc} {op : BinaryOp} {r : Expr} (hop : (assignTokOf op).isSome = true)
    (hl : SE l) (hr : FEE r) : StmtRT (.OpAssign (.mk l ll) op ol r) := by
  intro amb ts se rest hts hse
  obtain ⟨t, ht⟩ := Option.isSome_iff_exists.mp hop
  have f := assignTok_facts ht
  simp only [prStmt, prE, ht, Option.getD_some] at hts
  obtain ⟨e', r', so, tsr, he', hr', hso, hpr, hk⟩ := assign_rt ll hl hr f.2.2.2 amb rest hts hse
  exact ⟨.OpAssign e' op so.start r', by simp only [stripStmt, he', hr'],
    hk _ (PStmtTail.opAssign (hso ▸ f.1) (hso ▸ f.2.1) (hso ▸ f.2.2.1) hpr)⟩

theorem StmtRT_break {l : Loc} : StmtRT (.Break l) := by
  intro amb ts se rest hts hse
  simp only [prStmt] at hts
  obtain ⟨sp, t', rfl, hsp, h'⟩ := map_tok_cons hts
  obtain rfl := map_tok_nil h'
  exact ⟨.Break sp.start, rfl, PRawStmt.break_ hsp⟩

theorem StmtRT_continue {l : Loc} : StmtRT (.Continue l) := by
  intro amb ts se rest hts hse
  simp only [prStmt] at hts
  obtain ⟨sp, t', rfl, hsp, h'⟩ := map_tok_cons hts
  obtain rfl := map_tok_nil h'
  exact ⟨.Continue sp.start, rfl, PRawStmt.continue_ hsp⟩

theorem StmtRT_return {l : Loc} {e : Expr} (he : FEE e) : StmtRT (.Return l e) := by
  intro amb ts se rest hts hse
  simp only [prStmt] at hts
  obtain ⟨sp, tse, rfl, hsp, hte⟩ := map_tok_cons hts
  obtain ⟨e', he', hpe⟩ := he false tse (se :: rest) hte (stops_stmtEnd hse)
  exact ⟨.Return sp.start e', by simp only [stripStmt, he'], PRawStmt.return_ hsp hpe⟩

theorem prStmt_head (st : Stmt) : ∃ t l, prStmt st = t :: l ∧ t ≠ Token.BraceClose ∧ t ≠ Token.DotDot := by
  have hE : ∀ (e : Expr) (tl : List Token),
      ∃ t l, prE 1 e ++ tl = t :: l ∧ t ≠ Token.BraceClose ∧ t ≠ Token.DotDot := by
    intro e tl
    obtain ⟨t, l, h, hs, _⟩ := prE_starts e 1
    exact ⟨t, l ++ tl, by rw [h]; rfl, starter_ne hs rfl, starter_ne hs rfl⟩
  cases st with
  | Expr e => simp only [prStmt]; simpa using hE e []
  | Declare l r => simp only [prStmt]; exact hE l _
  | Assign l r => simp only [prStmt]; exact hE l _
  | OpAssign l op ol r => simp only [prStmt]; exact hE l _
  | If bs els => cases els <;> simp only [prStmt, ifBody] <;> exact ⟨_, _, rfl, nofun, nofun⟩
  | _ => simp only [prStmt]; exact ⟨_, _, rfl, nofun, nofun⟩

/-- the statements of a list, followed by what ends it (`tl`: the closing brace of a block, or nothing at the end
    of a program) -/
theorem stmts_rt {closing : Bool} {tl r' : List Span} (hend : ∀ acc, PStmts closing acc tl acc.reverse r')
    (stmts : List Stmt) (h : ∀ st ∈ stmts, StmtRT st) :
    ∀ (acc : List Stmt) (ts : List Span), ts.map Span.tok = prStmts stmts →
      ∃ stmts', stmts'.map stripStmt = stmts.map stripStmt ∧
        PStmts closing acc (ts ++ tl) (acc.reverse ++ stmts') r' := by
  induction stmts with
  | nil =>
    intro acc ts hts
    obtain rfl := map_tok_nil (by simpa [prStmts] using hts)
    exact ⟨[], rfl, by simpa using hend acc⟩
  | cons st stmts ih =>
    intro acc ts hts
    simp only [prStmts] at hts
    obtain ⟨tss, ts2, rfl, hts1, h2⟩ := map_tok_append hts
    obtain ⟨se, ts3, rfl, hse, h3⟩ := map_tok_cons h2
    obtain ⟨st', hst', hp⟩ := h st (List.mem_cons_self ..) false tss se (ts3 ++ tl) hts1 hse
    obtain ⟨stmts', hs', hps⟩ := ih (fun s hs => h s (List.mem_cons_of_mem _ hs)) (st' :: acc) ts3 h3
    obtain ⟨t, l, hhead, hnc, _⟩ := prStmt_head st
    rw [hhead] at hts1
    obtain ⟨s1, tss', rfl, hs1, _⟩ := map_tok_cons hts1
    refine ⟨st' :: stmts', by simp only [List.map_cons, hst', hs'], ?_⟩
    have := PStmts.cons (acc := acc) (by rw [hs1]; exact hnc) hp hse (by simpa using hps)
    simpa [List.append_assoc] using this

/-- the statements of a program, up to the end of input -/
theorem stmts_rt_top (stmts : List Stmt) (h : ∀ st ∈ stmts, StmtRT st) :
    ∀ (acc : List Stmt) (ts : List Span), ts.map Span.tok = prStmts stmts →
      ∃ stmts', stmts'.map stripStmt = stmts.map stripStmt ∧ PStmts false acc ts (acc.reverse ++ stmts') [] :=
  fun acc ts hts => by simpa using stmts_rt (fun _ => PStmts.eof) stmts h acc ts hts

theorem block_rt {stmts : List Stmt} (h : ∀ st ∈ stmts, StmtRT st) : BlockRT stmts := by
  intro ts rest hts
  simp only [prBlock] at hts
  obtain ⟨so, ts1, rfl, hso, h1⟩ := map_tok_cons hts
  obtain ⟨tss, ts2, rfl, htss, h2⟩ := map_tok_append h1
  obtain ⟨sc, t', rfl, hsc, h'⟩ := map_tok_cons h2
  obtain rfl := map_tok_nil h'
  obtain ⟨stmts', hs', hps⟩ := stmts_rt (fun _ => PStmts.close (r := rest) hsc) stmts h [] tss htss
  refine ⟨stmts', by simp only [stripStmts_map, hs'], ?_⟩
  have := PBlock.mk hso (by simpa using hps)
  simpa [List.append_assoc] using this

/-- `{ stmt ; … }` in statement position -/
theorem StmtRT_block {st0 : Stmt} {b : List Stmt} (h : ∀ st ∈ st0 :: b, StmtRT st) : StmtRT (.Block (st0 :: b)) := by
  intro amb ts se rest hts hse
  simp only [prStmt, prStmts] at hts
  obtain ⟨so, ts1, rfl, hso, h1⟩ := map_tok_cons hts
  obtain ⟨tsb, ts2, rfl, htsb, h2⟩ := map_tok_append h1
  obtain ⟨sc, t', rfl, hsc, h'⟩ := map_tok_cons h2
  obtain rfl := map_tok_nil h'
  obtain ⟨ts0, ts3, rfl, hts0, h3⟩ := map_tok_append htsb
  obtain ⟨se0, ts4, rfl, hse0, h4⟩ := map_tok_cons h3
  obtain ⟨st0', hst0', hp0⟩ := h st0 (List.mem_cons_self ..) true ts0 se0 (ts4 ++ sc :: se :: rest) hts0 hse0
  obtain ⟨b', hb', hpb⟩ :=
    stmts_rt (fun _ => PStmts.close (r := se :: rest) hsc) b (fun s hs => h s (List.mem_cons_of_mem _ hs)) [st0'] ts4 h4
  obtain ⟨t, l, hhead, hnc, hnd⟩ := prStmt_head st0
  rw [hhead] at hts0
  obtain ⟨s1, ts0', rfl, hs1, _⟩ := map_tok_cons hts0
  refine ⟨.Block (st0' :: b'), by simp only [stripStmt, stripStmts_map, List.map_cons, hst0', hb'], ?_⟩
  have := PRawStmt.brace (amb := amb) hso
    (PBraceStmt.block (amb := amb) (loc := so.start) (by rw [hs1]; exact hnc) (by rw [hs1]; exact hnd) hp0 hse0
      (by simpa using hpb))
  simpa [List.append_assoc] using this

theorem isStop_braceOpen : isStopTok Token.BraceOpen = true := rfl

/-- a condition and its block -/
theorem branch_rt {cond : Expr} {stmts : List Stmt} (hc : FEE cond) (hb : BlockRT stmts) (tsb rest : List Span)
    (hts : tsb.map Span.tok = prE 1 cond ++ prBlock stmts) :
    ∃ cond' stmts' r, stripE cond' = stripE cond ∧ stripStmts stmts' = stripStmts stmts ∧
      PExpr false (tsb ++ rest) cond' r ∧ PBlock r stmts' rest := by
  obtain ⟨tsc, tsk, rfl, htc, htk⟩ := map_tok_append hts
  obtain ⟨stmts', hs', hpb⟩ := hb tsk rest htk
  have hk0 := htk
  simp only [prBlock] at hk0
  obtain ⟨so, tsk', rfl, hso, _⟩ := map_tok_cons hk0
  obtain ⟨cond', hc', hpc⟩ := hc false tsc ((so :: tsk') ++ rest) htc (stops_of_tok (by rw [hso]; rfl))
  exact ⟨cond', stmts', _, hc', hs', by simpa [List.append_assoc] using hpc, hpb⟩

def BranchRT : Branch → Prop
  | .mk cond stmts => FEE cond ∧ BlockRT stmts

/-- what follows the keyword `if` -/
theorem if_rt (els : Option (List Stmt)) (hels : ∀ e, els = some e → BlockRT e) (bs : List Branch)
    (hbs : ∀ b ∈ bs, BranchRT b) (hne : bs ≠ []) :
    ∀ (ts : List Span) (se : Span) (rest : List Span),
      ts.map Span.tok = ifTail (bs.map prB) (els.map prBlock) → se.tok = .StmtEnd →
      ∃ bs' els', bs'.map stripB = bs.map stripB ∧ els'.map stripStmts = els.map stripStmts ∧
        PIf (ts ++ se :: rest) (bs', els') (se :: rest) := by
  induction bs with
  | nil => exact absurd rfl hne
  | cons b bs ih =>
    intro ts se rest hts hse
    obtain ⟨cond, stmts⟩ := b
    have hb : BranchRT (.mk cond stmts) := hbs _ (List.mem_cons_self ..)
    cases bs with
    | nil =>
      cases els with
      | none =>
        simp only [List.map_cons, List.map_nil, Option.map_none, ifTail, prB] at hts
        obtain ⟨cond', stmts', r, hc', hs', hpc, hpb⟩ := branch_rt hb.1 hb.2 ts (se :: rest) hts
        exact ⟨[.mk cond' stmts'], none, by simp only [List.map_cons, List.map_nil, stripB, hc', hs'], rfl,
          PIf.last hpc hpb (by rw [hse]; decide)⟩
      | some e =>
        simp only [List.map_cons, List.map_nil, Option.map_some, ifTail, prB] at hts
        obtain ⟨tsb, ts2, rfl, htb, h2⟩ := map_tok_append hts
        obtain ⟨sl, tse, rfl, hsl, hte⟩ := map_tok_cons h2
        obtain ⟨e', he', hpe⟩ := hels e rfl tse (se :: rest) hte
        have hk0 := hte
        simp only [prBlock] at hk0
        obtain ⟨so, tse', rfl, hso, _⟩ := map_tok_cons hk0
        obtain ⟨cond', stmts', r, hc', hs', hpc, hpb⟩ :=
          branch_rt hb.1 hb.2 tsb (sl :: ((so :: tse') ++ se :: rest)) htb
        refine ⟨[.mk cond' stmts'], some e', by simp only [List.map_cons, List.map_nil, stripB, hc', hs'],
          by simp only [Option.map_some, he'], ?_⟩
        have := PIf.elseBlock hpc hpb hsl (by rw [hso]; decide) hpe
        simpa [List.append_assoc] using this
    | cons b2 bs2 =>
      simp only [List.map_cons, ifTail] at hts
      obtain ⟨tsb, ts2, rfl, htb, h2⟩ := map_tok_append hts
      simp only [prB] at htb
      obtain ⟨sl, ts3, rfl, hsl, h3⟩ := map_tok_cons h2
      obtain ⟨si, ts4, rfl, hsi, h4⟩ := map_tok_cons h3
      obtain ⟨bs', els', hbs', hels', hpi⟩ := ih (fun b hb => hbs b (List.mem_cons_of_mem _ hb))
        (List.cons_ne_nil _ _) ts4 se rest (by simpa only [List.map_cons] using h4) hse
      obtain ⟨cond', stmts', r, hc', hs', hpc, hpb⟩ :=
        branch_rt hb.1 hb.2 tsb (sl :: si :: (ts4 ++ se :: rest)) htb
      refine ⟨.mk cond' stmts' :: bs', els', by simp only [List.map_cons, stripB, hc', hs', hbs'], hels', ?_⟩
      have := PIf.elseIf hpc hpb hsl hsi hpi
      simpa [List.append_assoc] using this

theorem StmtRT_if {bs : List Branch} {els : Option (List Stmt)} (hbs : ∀ b ∈ bs, BranchRT b) (hne : bs ≠ [])
    (hels : ∀ e, els = some e → BlockRT e) : StmtRT (.If bs els) := by
  intro amb ts se rest hts hse
  have hts' : ts.map Span.tok = Token.If :: ifTail (bs.map prB) (els.map prBlock) := by
    cases els <;> simpa [prStmt, ifBody, prBs_map, prBlock] using hts
  obtain ⟨si, ts1, rfl, hsi, h1⟩ := map_tok_cons hts'
  obtain ⟨bs', els', hbs', hels', hpi⟩ := if_rt els hels bs hbs hne ts1 se rest h1 hse
  refine ⟨.If bs' els', ?_, PRawStmt.if_ hsi hpi⟩
  cases els with
  | none =>
    cases els' with
    | none => simp only [stripStmt, stripBs_map, hbs']
    | some x => simp at hels'
  | some e =>
    cases els' with
    | none => simp at hels'
    | some x =>
      simp only [Option.map_some, Option.some.injEq] at hels'
      simp only [stripStmt, stripBs_map, hbs', hels']

theorem StmtRT_while {cond : Expr} {stmts : List Stmt} (hc : FEE cond) (hb : BlockRT stmts) :
    StmtRT (.While cond stmts) := by
  intro amb ts se rest hts hse
  have hts' : ts.map Span.tok = Token.While :: (prE 1 cond ++ prBlock stmts) := by
    simpa [prStmt, prBlock] using hts
  obtain ⟨sw, ts1, rfl, hsw, h1⟩ := map_tok_cons hts'
  obtain ⟨cond', stmts', r, hc', hs', hpc, hpb⟩ := branch_rt hc hb ts1 (se :: rest) h1
  exact ⟨.While cond' stmts', by simp only [stripStmt, hc', hs'], PRawStmt.while_ hsw hpc hpb⟩

theorem StmtRT_for {lhs iter : Expr} {stmts : List Stmt} (hl : FEE lhs) (hi : FEE iter) (hb : BlockRT stmts) :
    StmtRT (.For lhs iter stmts) := by
  intro amb ts se rest hts hse
  have hts' : ts.map Span.tok = Token.For :: (prE 1 lhs ++ Token.In :: (prE 1 iter ++ prBlock stmts)) := by
    simpa [prStmt, prBlock] using hts
  obtain ⟨sf, ts1, rfl, hsf, h1⟩ := map_tok_cons hts'
  obtain ⟨tsl, ts2, rfl, htl, h2⟩ := map_tok_append h1
  obtain ⟨sn, ts3, rfl, hsn, h3⟩ := map_tok_cons h2
  obtain ⟨iter', stmts', r, hi', hs', hpi, hpb⟩ := branch_rt hi hb ts3 (se :: rest) h3
  obtain ⟨lhs', hl', hpl⟩ := hl false tsl (sn :: (ts3 ++ se :: rest)) htl (stops_of_tok (by rw [hsn]; rfl))
  refine ⟨.For lhs' iter' stmts', by simp only [stripStmt, hl', hi', hs'], ?_⟩
  have := PRawStmt.for_ (amb := amb) hsf hpl hsn hpi hpb
  simpa [List.append_assoc] using this

theorem StmtRT_func {name : List Char} {nl : Loc} {args : List Expr} {c : Bool} {stmts : List Stmt}
    (h : ∀ e ∈ args, FEE e) (hc : c = true → args ≠ []) (hb : BlockRT stmts) :
    StmtRT (.Func name nl args c stmts) := by
  intro amb ts se rest hts hse
  have hts' : ts.map Span.tok = Token.Fn :: Token.Ident name :: Token.ParenOpen ::
      (sepBody .ParenClose c (args.map (prE 1)) ++ prBlock stmts) := by
    simpa [prStmt, prBlock, prEs_map] using hts
  obtain ⟨sf, ts1, rfl, hsf, h1⟩ := map_tok_cons hts'
  obtain ⟨sn, ts2, rfl, hsn, h2⟩ := map_tok_cons h1
  obtain ⟨so, ts3, rfl, hso, h3⟩ := map_tok_cons h2
  obtain ⟨tsp, tsb, rfl, htp, htb⟩ := map_tok_append h3
  obtain ⟨stmts', hs', hpb⟩ := hb tsb (se :: rest) htb
  obtain ⟨args', ha', hpp⟩ := params_rt c args h hc [] tsp (tsb ++ se :: rest) htp
  refine ⟨.Func name sn.start args' c stmts', by simp only [stripStmt, stripEs_map, ha', hs'], ?_⟩
  have := PRawStmt.func (amb := amb) hsf hsn hso (by simpa using hpp) hpb
  simpa [List.append_assoc] using this

end Seed
