/-
  ParseRT2StmtRel.lean — fuel-free view of the statement parser: relations `PStmts`, `PIf`, `PStmtTail`,
  `PExprStmt`, `PRawStmt`, `PBraceStmt` (and `PBlock` of ParseRT2Rel.lean), one constructor lemma per
  production.
-/
import SeedProofs.Lemmas.ParseRT2Rel
namespace Seed

def PStmts (closing : Bool) (acc : List Stmt) (ts : List Span) (res : List Stmt) (r : List Span) : Prop :=
  ∃ f, parseStmts f closing acc ts = .ok res r
def PIf (ts : List Span) (res : List Branch × Option (List Stmt)) (r : List Span) : Prop :=
  ∃ f, parseIf f ts = .ok res r
def PStmtTail (lhs : Expr) (ts : List Span) (st : Stmt) (r : List Span) : Prop :=
  ∃ f, parseStmtTail f lhs ts = .ok st r
def PExprStmt (amb : Bool) (loc : Loc) (pre : Option RawExpr) (ts : List Span) (st : Stmt) (r : List Span) : Prop :=
  ∃ f, parseExprStmt f amb loc pre ts = .ok st r
def PRawStmt (amb : Bool) (ts : List Span) (st : Stmt) (r : List Span) : Prop :=
  ∃ f, parseRawStmt f amb ts = .ok st r
def PBraceStmt (amb : Bool) (loc : Loc) (ts : List Span) (st : Stmt) (r : List Span) : Prop :=
  ∃ f, parseBraceStmt f amb loc ts = .ok st r

theorem PStmts.ev {c acc ts x r} (h : PStmts c acc ts x r) : Eventually fun n => parseStmts n c acc ts = .ok x r :=
  .of_ok (fun n => (pmonoAll n).parseStmts c acc ts) h
theorem PIf.ev {ts x r} (h : PIf ts x r) : Eventually fun n => parseIf n ts = .ok x r :=
  .of_ok (fun n => (pmonoAll n).parseIf ts) h
theorem PStmtTail.ev {lhs ts x r} (h : PStmtTail lhs ts x r) :
    Eventually fun n => parseStmtTail n lhs ts = .ok x r :=
  .of_ok (fun n => (pmonoAll n).parseStmtTail lhs ts) h
theorem PExprStmt.ev {amb l pre ts x r} (h : PExprStmt amb l pre ts x r) :
    Eventually fun n => parseExprStmt n amb l pre ts = .ok x r :=
  .of_ok (fun n => (pmonoAll n).parseExprStmt amb l pre ts) h
theorem PRawStmt.ev {amb ts x r} (h : PRawStmt amb ts x r) : Eventually fun n => parseRawStmt n amb ts = .ok x r :=
  .of_ok (fun n => (pmonoAll n).parseRawStmt amb ts) h

theorem PBlock.mk {sp : Span} {r r' : List Span} {stmts : List Stmt} (h : sp.tok = .BraceOpen)
    (h1 : PStmts true [] r stmts r') : PBlock (sp :: r) stmts r' :=
  PRes.step h1 fun n hf1 => by
    unfold parseBlock
    simp only [expectTok, h, if_true, PRes.bind, hf1]

/-- end of input at top level -/
theorem PStmts.eof {acc : List Stmt} : PStmts false acc [] acc.reverse [] :=
  ⟨1, rfl⟩

/-- the closing brace of a block -/
theorem PStmts.close {acc : List Stmt} {sp : Span} {r : List Span} (h : sp.tok = .BraceClose) :
    PStmts true acc (sp :: r) acc.reverse r := by
  refine ⟨1, ?_⟩
  unfold parseStmts
  simp [h]

/-- `stmt ; …` -/
theorem PStmts.cons {closing : Bool} {acc res : List Stmt} {st : Stmt} {sp sp2 : Span} {r r3 r' : List Span}
    (hc : sp.tok ≠ .BraceClose) (h1 : PRawStmt false (sp :: r) st (sp2 :: r3)) (h2 : sp2.tok = .StmtEnd)
    (h3 : PStmts closing (st :: acc) r3 res r') : PStmts closing acc (sp :: r) res r' :=
  (h1.ev.and h3.ev).step fun n ⟨hf1, hf3⟩ => by
    unfold parseStmts
    simp [hc, hf1, PRes.bind, expectTok, h2, hf3]

/-- `cond { … }` not followed by `else` -/
theorem PIf.last {ts r : List Span} {cond : Expr} {stmts : List Stmt} {sp : Span} {r3 : List Span}
    (h1 : PExpr false ts cond r) (h2 : PBlock r stmts (sp :: r3)) (h3 : sp.tok ≠ .Else) :
    PIf ts ([.mk cond stmts], none) (sp :: r3) :=
  (h1.ev.and h2.ev).step fun n ⟨hf1, hf2⟩ => by
    unfold parseIf
    simp [hf1, PRes.bind, hf2, h3]

/-- `cond { … } else { … }` -/
theorem PIf.elseBlock {ts r : List Span} {cond : Expr} {stmts els : List Stmt} {sp sp2 : Span} {r4 r5 : List Span}
    (h1 : PExpr false ts cond r) (h2 : PBlock r stmts (sp :: sp2 :: r4)) (h3 : sp.tok = .Else)
    (h4 : sp2.tok ≠ .If) (h5 : PBlock (sp2 :: r4) els r5) : PIf ts ([.mk cond stmts], some els) r5 :=
  ((h1.ev.and h2.ev).and h5.ev).step fun n ⟨⟨hf1, hf2⟩, hf5⟩ => by
    unfold parseIf
    simp [hf1, PRes.bind, hf2, h3, h4, hf5]

/-- `cond { … } else if …` -/
theorem PIf.elseIf {ts r : List Span} {cond : Expr} {stmts : List Stmt} {bs : List Branch}
    {els : Option (List Stmt)} {sp sp2 : Span} {r4 r5 : List Span}
    (h1 : PExpr false ts cond r) (h2 : PBlock r stmts (sp :: sp2 :: r4)) (h3 : sp.tok = .Else)
    (h4 : sp2.tok = .If) (h5 : PIf r4 (bs, els) r5) : PIf ts (.mk cond stmts :: bs, els) r5 :=
  ((h1.ev.and h2.ev).and h5.ev).step fun n ⟨⟨hf1, hf2⟩, hf5⟩ => by
    unfold parseIf
    simp [hf1, PRes.bind, hf2, h3, h4, hf5]

/-- tokens after which an expression statement is just its expression -/
def isTailNone : Token → Bool
  | .StmtEnd | .Colon | .DotDot | .Comma | .BraceClose => true
  | _ => false

/-- a plain expression statement: the next token is `;` — or, where the statement may turn out to be the first
    item of an object literal, one of `:` `..` `,` `}` -/
theorem PStmtTail.none {lhs : Expr} {sp : Span} {r : List Span} (h : isTailNone sp.tok = true) :
    PStmtTail lhs (sp :: r) (.Expr lhs) (sp :: r) := by
  refine ⟨1, ?_⟩
  unfold parseStmtTail
  unfold isTailNone at h
  split at h <;> first | contradiction | (rename_i ht; simp [ht, assignOpOf, lookupAssoc, Gen.assignOps])

theorem PStmtTail.declare {lhs rhs : Expr} {sp : Span} {r r2 : List Span} (h : sp.tok = .ColonEquals)
    (h1 : PExpr false r rhs r2) : PStmtTail lhs (sp :: r) (.Declare lhs rhs) r2 :=
  PRes.step h1 fun n hf1 => by
    unfold parseStmtTail
    simp [h, hf1, PRes.bind]

theorem PStmtTail.assign {lhs rhs : Expr} {sp : Span} {r r2 : List Span} (h : sp.tok = .Equals)
    (h1 : PExpr false r rhs r2) : PStmtTail lhs (sp :: r) (.Assign lhs rhs) r2 :=
  PRes.step h1 fun n hf1 => by
    unfold parseStmtTail
    simp [h, hf1, PRes.bind]

theorem PStmtTail.opAssign {lhs rhs : Expr} {op : BinaryOp} {sp : Span} {r r2 : List Span}
    (h : assignOpOf sp.tok = some op) (hne : sp.tok ≠ .ColonEquals) (hne' : sp.tok ≠ .Equals)
    (h1 : PExpr false r rhs r2) : PStmtTail lhs (sp :: r) (.OpAssign lhs op sp.start rhs) r2 :=
  PRes.step h1 fun n hf1 => by
    unfold parseStmtTail
    simp [h, hne, hne', hf1, PRes.bind]

theorem PExprStmt.mk {amb : Bool} {loc : Loc} {pre : Option RawExpr} {ts r r' : List Span} {e : RawExpr} {st : Stmt}
    (h1 : PExpr1 amb loc pre ts e r) (h2 : PStmtTail (.mk e loc) r st r') : PExprStmt amb loc pre ts st r' :=
  (h1.ev.and h2.ev).step fun n ⟨hf1, hf2⟩ => by
    unfold parseExprStmt
    simp only [hf1, PRes.bind, hf2]

/-- tokens that begin an expression statement without further ado -/
def isExprStmtStart : Token → Bool
  | .Null | .True | .False | .Ident _ | .IntLiteral _ | .StrLiteral _ | .InterpStrLiteral _ _
  | .Sub | .ParenOpen | .BracketOpen => true
  | _ => false

theorem PRawStmt.expr {amb : Bool} {sp : Span} {r r' : List Span} {st : Stmt} (h : isExprStmtStart sp.tok = true)
    (h1 : PExprStmt amb sp.start none (sp :: r) st r') : PRawStmt amb (sp :: r) st r' :=
  PRes.step h1 fun n hf1 => by
    unfold parseRawStmt
    unfold isExprStmtStart at h
    split at h <;> first | contradiction | (rename_i ht; simp only [ht, hf1])

/-- an expression statement beginning with a function literal: `fn (` -/
theorem PRawStmt.exprFn {amb : Bool} {sp sp2 : Span} {r r' : List Span} {st : Stmt} (h : sp.tok = .Fn)
    (h2 : sp2.tok = .ParenOpen) (h1 : PExprStmt amb sp.start none (sp :: sp2 :: r) st r') :
    PRawStmt amb (sp :: sp2 :: r) st r' :=
  PRes.step h1 fun n hf1 => by
    unfold parseRawStmt
    simp only [h, h2, hf1]

theorem PRawStmt.brace {amb : Bool} {sp : Span} {r r' : List Span} {st : Stmt} (h : sp.tok = .BraceOpen)
    (h1 : PBraceStmt amb sp.start r st r') : PRawStmt amb (sp :: r) st r' :=
  PRes.step h1 fun n hf1 => by
    unfold parseRawStmt
    simp only [h, hf1]

theorem PRawStmt.if_ {amb : Bool} {sp : Span} {r r' : List Span} {bs : List Branch} {els : Option (List Stmt)}
    (h : sp.tok = .If) (h1 : PIf r (bs, els) r') : PRawStmt amb (sp :: r) (.If bs els) r' :=
  PRes.step h1 fun n hf1 => by
    unfold parseRawStmt
    simp only [h, hf1, PRes.bind]

theorem PRawStmt.while_ {amb : Bool} {sp : Span} {r r2 r' : List Span} {cond : Expr} {stmts : List Stmt}
    (h : sp.tok = .While) (h1 : PExpr false r cond r2) (h2 : PBlock r2 stmts r') :
    PRawStmt amb (sp :: r) (.While cond stmts) r' :=
  (h1.ev.and h2.ev).step fun n ⟨hf1, hf2⟩ => by
    unfold parseRawStmt
    simp only [h, hf1, PRes.bind, hf2]

theorem PRawStmt.for_ {amb : Bool} {sp sp2 : Span} {r r3 r4 r' : List Span} {lhs iter : Expr} {stmts : List Stmt}
    (h : sp.tok = .For) (h1 : PExpr false r lhs (sp2 :: r3)) (h2 : sp2.tok = .In) (h3 : PExpr false r3 iter r4)
    (h4 : PBlock r4 stmts r') : PRawStmt amb (sp :: r) (.For lhs iter stmts) r' :=
  ((h1.ev.and h3.ev).and h4.ev).step fun n ⟨⟨hf1, hf3⟩, hf4⟩ => by
    unfold parseRawStmt
    simp [h, hf1, PRes.bind, expectTok, h2, hf3, hf4]

theorem PRawStmt.break_ {amb : Bool} {sp : Span} {r : List Span} (h : sp.tok = .Break) :
    PRawStmt amb (sp :: r) (.Break sp.start) r := by
  refine ⟨1, ?_⟩
  unfold parseRawStmt
  simp only [h]

theorem PRawStmt.continue_ {amb : Bool} {sp : Span} {r : List Span} (h : sp.tok = .Continue) :
    PRawStmt amb (sp :: r) (.Continue sp.start) r := by
  refine ⟨1, ?_⟩
  unfold parseRawStmt
  simp only [h]

theorem PRawStmt.return_ {amb : Bool} {sp : Span} {r r' : List Span} {e : Expr} (h : sp.tok = .Return)
    (h1 : PExpr false r e r') : PRawStmt amb (sp :: r) (.Return sp.start e) r' :=
  PRes.step h1 fun n hf1 => by
    unfold parseRawStmt
    simp only [h, hf1, PRes.bind]

/-- `fn name ( params ) { … }` -/
theorem PRawStmt.func {amb : Bool} {sp sp2 sp3 : Span} {r r4 r' : List Span} {name : List Char} {args : List Expr}
    {c : Bool} {stmts : List Stmt} (h : sp.tok = .Fn) (h2 : sp2.tok = .Ident name) (h3 : sp3.tok = .ParenOpen)
    (h4 : PParams [] r (args, c) r4) (h5 : PBlock r4 stmts r') :
    PRawStmt amb (sp :: sp2 :: sp3 :: r) (.Func name sp2.start args c stmts) r' :=
  (h4.ev.and h5.ev).step fun n ⟨hf4, hf5⟩ => by
    unfold parseRawStmt
    simp [h, h2, expectTok, h3, PRes.bind, hf4, hf5]

/-- `{ stmt ; … }` in statement position is a block: the first statement is followed by `;` -/
theorem PBraceStmt.block {amb : Bool} {loc : Loc} {sp sp2 : Span} {r r3 r' : List Span} {st : Stmt}
    {stmts : List Stmt} (hc : sp.tok ≠ .BraceClose) (hd : sp.tok ≠ .DotDot)
    (h1 : PRawStmt true (sp :: r) st (sp2 :: r3)) (h2 : sp2.tok = .StmtEnd) (h3 : PStmts true [st] r3 stmts r') :
    PBraceStmt amb loc (sp :: r) (.Block stmts) r' :=
  (h1.ev.and h3.ev).step fun n ⟨hf1, hf3⟩ => by
    unfold parseBraceStmt
    cases st <;> simp [hc, hd, hf1, PRes.bind, expectTok, h2, hf3]

theorem PStmts.at_fuel {c : Bool} {acc res : List Stmt} {ts r : List Span} (h : PStmts c acc ts res r) (fuel : Nat)
    (hf : 10 * ts.length + 10 ≤ fuel) : parseStmts fuel c acc ts = .ok res r :=
  PRes.at_fuel_of_step (g := fun n => parseStmts n c acc ts) (fun n => (pmonoAll n).parseStmts c acc ts) h fuel
    ((ptotAll fuel).parseStmts c acc ts hf)

end Seed
