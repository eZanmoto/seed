/-
  ParseRel.lean — fuel-free view of the expression sub-parser.  `PTier k loc pre ts e r` says "with some
  amount of fuel, `parseTier … k loc pre ts` succeeds with `e`, leaving `r`" (likewise `PAtom`, `TLoop`,
  `RLoop`, `PExpr1`).  One constructor lemma per production of the grammar, a `descend` lemma, and the way
  back: a fuel-free success holds for every fuel that totality (`ptotAll`) declares sufficient.
-/
import SeedProofs.Lemmas.ParseTotal
import SeedProofs.Lemmas.Assoc
namespace Seed

def atomOf : Token → Option RawExpr
  | .Null => some .Null
  | .True => some (.Bool true)
  | .False => some (.Bool false)
  | .Ident s => some (.Var s)
  | .IntLiteral k => some (.Int k)
  | .StrLiteral s => some (.Str s none)
  | .InterpStrLiteral s slots => some (.Str s (some slots))
  | _ => none

def isPostfixOpen : Token → Bool
  | .ParenOpen | .BracketOpen | .Dot | .DashGreaterThan => true
  | _ => false

def noPostfix : List Span → Prop
  | [] => True
  | sp :: _ => isPostfixOpen sp.tok = false

/-- tier of the binary operator spelled by the next token; 0 if there is none -/
def headTier : List Span → Nat
  | [] => 0
  | sp :: _ =>
    match lookupAssoc sp.tok Gen.binOps with
    | some (_, k) => k
    | none => 0

def noDotDot : List Span → Prop
  | [] => True
  | sp :: _ => sp.tok ≠ .DotDot

/-- what is known about a token that spells a binary operator: read off the rows of the table -/
theorem binOp_facts {t : Token} {op : BinaryOp} {k : Nat} (h : lookupAssoc t Gen.binOps = some (op, k)) :
    2 ≤ k ∧ k ≤ 4 ∧ isPostfixOpen t = false ∧ t ≠ .DotDot ∧ t ≠ .ParenClose :=
  (by decide : ∀ x ∈ Gen.binOps,
    2 ≤ x.2.2 ∧ x.2.2 ≤ 4 ∧ isPostfixOpen x.1 = false ∧ x.1 ≠ .DotDot ∧ x.1 ≠ .ParenClose) _ (lookupAssoc_mem h)

theorem headTier_op {sp : Span} {r : List Span} {op : BinaryOp} {k : Nat}
    (h : lookupAssoc sp.tok Gen.binOps = some (op, k)) : headTier (sp :: r) = k := by
  simp only [headTier, h]

theorem headTier_le (ts : List Span) : headTier ts ≤ 4 := by
  cases ts with
  | nil => exact Nat.zero_le _
  | cons sp r =>
    simp only [headTier]
    split
    · rename_i h; exact (binOp_facts h).2.1
    · exact Nat.zero_le _

theorem noPostfix_op {sp : Span} {r : List Span} {op : BinaryOp} {k : Nat}
    (h : lookupAssoc sp.tok Gen.binOps = some (op, k)) : noPostfix (sp :: r) :=
  (binOp_facts h).2.2.1

theorem opAt_of_lookup {t : Token} {op : BinaryOp} {k : Nat} (h : lookupAssoc t Gen.binOps = some (op, k)) :
    opAt k t = some op := by
  simp only [opAt, h, if_true]

theorem opAt_none {sp : Span} {r : List Span} {k : Nat} (h : headTier (sp :: r) ≠ k) : opAt k sp.tok = none := by
  unfold opAt
  unfold headTier at h
  split
  · rename_i op k' heq
    simp only [heq] at h
    split
    · rename_i hk; exact absurd hk.symm h
    · rfl
  · rfl

theorem parseAtom_tok (n : Nat) (sp : Span) (r : List Span) (a : RawExpr) (h : atomOf sp.tok = some a) :
    parseAtom (n + 1) none (sp :: r) = .ok a r := by
  unfold parseAtom
  cases ht : sp.tok <;> simp [atomOf, ht] at h ⊢ <;> exact h

theorem parseAtom_neg (n : Nat) (sp sp2 : Span) (r : List Span) (k : Int) (h : sp.tok = .Sub)
    (h2 : sp2.tok = .IntLiteral k) : parseAtom (n + 1) none (sp :: sp2 :: r) = .ok (.Int (-k)) r := by
  unfold parseAtom
  simp [h, h2]

theorem postfixLoop_stop (n : Nat) (loc : Loc) (acc : RawExpr) (ts : List Span) (h : noPostfix ts) :
    postfixLoop (n + 1) loc acc ts = .ok acc ts := by
  unfold postfixLoop
  cases ts with
  | nil => rfl
  | cons sp r =>
    simp only []
    split <;> first | rfl | (rename_i heq; simp [noPostfix, isPostfixOpen, heq] at h)

theorem tierLoop_stop (n k : Nat) (loc : Loc) (acc : RawExpr) (ts : List Span) (h : headTier ts ≠ k) :
    tierLoop (n + 1) k loc acc ts = .ok acc ts := by
  unfold tierLoop
  cases ts with
  | nil => rfl
  | cons sp r => simp only [opAt_none h]

theorem rangeLoop_stop (n : Nat) (s : Bool) (loc : Loc) (acc : RawExpr) (ts : List Span) (h : noDotDot ts) :
    rangeLoop (n + 1) s loc acc ts = .ok acc ts := by
  unfold rangeLoop
  cases ts with
  | nil => rfl
  | cons sp r =>
    have h' : sp.tok ≠ .DotDot := h
    simp only [h', if_false]

def PAtom (pre : Option RawExpr) (ts : List Span) (e : RawExpr) (r : List Span) : Prop :=
  ∃ f, parseAtom f pre ts = .ok e r
def PTier (k : Nat) (loc : Loc) (pre : Option RawExpr) (ts : List Span) (e : RawExpr) (r : List Span) : Prop :=
  ∃ f, parseTier f k loc pre ts = .ok e r
def TLoop (k : Nat) (loc : Loc) (acc : RawExpr) (ts : List Span) (e : RawExpr) (r : List Span) : Prop :=
  ∃ f, tierLoop f k loc acc ts = .ok e r
def RLoop (s : Bool) (loc : Loc) (acc : RawExpr) (ts : List Span) (e : RawExpr) (r : List Span) : Prop :=
  ∃ f, rangeLoop f s loc acc ts = .ok e r
def PExpr1 (s : Bool) (loc : Loc) (pre : Option RawExpr) (ts : List Span) (e : RawExpr) (r : List Span) : Prop :=
  ∃ f, parseExpr1 f s loc pre ts = .ok e r

theorem parseAtom_ok_mono {m n pre ts e r} (h : m ≤ n) (hok : parseAtom m pre ts = .ok e r) :
    parseAtom n pre ts = .ok e r := (parseAtom_mono h pre ts).ok hok
theorem parseTier_ok_mono {m n k l pre ts e r} (h : m ≤ n) (hok : parseTier m k l pre ts = .ok e r) :
    parseTier n k l pre ts = .ok e r := (parseTier_mono h k l pre ts).ok hok
theorem tierLoop_ok_mono {m n k l acc ts e r} (h : m ≤ n) (hok : tierLoop m k l acc ts = .ok e r) :
    tierLoop n k l acc ts = .ok e r := (tierLoop_mono h k l acc ts).ok hok
theorem rangeLoop_ok_mono {m n s l acc ts e r} (h : m ≤ n) (hok : rangeLoop m s l acc ts = .ok e r) :
    rangeLoop n s l acc ts = .ok e r := (rangeLoop_mono h s l acc ts).ok hok
theorem parseExpr1_ok_mono {m n s l pre ts e r} (h : m ≤ n) (hok : parseExpr1 m s l pre ts = .ok e r) :
    parseExpr1 n s l pre ts = .ok e r := (parseExpr1_mono h s l pre ts).ok hok

theorem PAtom.tok {sp : Span} {r : List Span} {a : RawExpr} (h : atomOf sp.tok = some a) :
    PAtom none (sp :: r) a r := ⟨1, parseAtom_tok 0 sp r a h⟩

theorem PAtom.neg {sp sp2 : Span} {r : List Span} {k : Int} (h : sp.tok = .Sub) (h2 : sp2.tok = .IntLiteral k) :
    PAtom none (sp :: sp2 :: r) (.Int (-k)) r := ⟨1, parseAtom_neg 0 sp sp2 r k h h2⟩

theorem PAtom.paren {sp sp2 : Span} {ts r : List Span} {e : RawExpr} (h : sp.tok = .ParenOpen)
    (he : PExpr1 false (headLoc ts) none ts e (sp2 :: r)) (h2 : sp2.tok = .ParenClose) :
    PAtom none (sp :: ts) e r := by
  obtain ⟨f, hf⟩ := he
  refine ⟨f + 1, ?_⟩
  unfold parseAtom
  simp [h, hf, PRes.bind, expectTok, h2]

theorem PTier.atom {k : Nat} {loc : Loc} {pre : Option RawExpr} {ts r : List Span} {e : RawExpr}
    (hk : Gen.postfixTier ≤ k) (ha : PAtom pre ts e r) (hp : noPostfix r) : PTier k loc pre ts e r := by
  obtain ⟨f, hf⟩ := ha
  refine ⟨(f + 1) + 1 + 1, ?_⟩
  unfold parseTier
  have hk' : k ≥ Gen.postfixTier := hk
  simp only [hk', if_true]
  unfold parsePostfix
  simp only [parseAtom_ok_mono (Nat.le_succ f) hf, PRes.bind, postfixLoop_stop f loc e r hp]

theorem PTier.step {k : Nat} {loc : Loc} {pre : Option RawExpr} {ts r r' : List Span} {l e : RawExpr}
    (hk : k < Gen.postfixTier) (h1 : PTier (k + 1) loc pre ts l r) (h2 : TLoop k loc l r e r') :
    PTier k loc pre ts e r' := by
  obtain ⟨f1, hf1⟩ := h1
  obtain ⟨f2, hf2⟩ := h2
  refine ⟨max f1 f2 + 1, ?_⟩
  unfold parseTier
  have hk' : ¬ k ≥ Gen.postfixTier := Nat.not_le.mpr hk
  simp only [hk', if_false, parseTier_ok_mono (Nat.le_max_left f1 f2) hf1, PRes.bind,
    tierLoop_ok_mono (Nat.le_max_right f1 f2) hf2]

theorem TLoop.stop {k : Nat} {loc : Loc} {acc : RawExpr} {ts : List Span} (h : headTier ts ≠ k) :
    TLoop k loc acc ts acc ts := ⟨1, tierLoop_stop 0 k loc acc ts h⟩

theorem TLoop.step {k : Nat} {loc : Loc} {acc rhs e : RawExpr} {sp : Span} {r r2 r' : List Span} {op : BinaryOp}
    (hop : lookupAssoc sp.tok Gen.binOps = some (op, k))
    (h1 : PTier (k + 1) (headLoc r) none r rhs r2)
    (h2 : TLoop k loc (.BinaryOp op sp.start (.mk acc loc) (.mk rhs (headLoc r))) r2 e r') :
    TLoop k loc acc (sp :: r) e r' := by
  obtain ⟨f1, hf1⟩ := h1
  obtain ⟨f2, hf2⟩ := h2
  refine ⟨max f1 f2 + 1, ?_⟩
  unfold tierLoop
  simp only [opAt_of_lookup hop, parseTier_ok_mono (Nat.le_max_left f1 f2) hf1, PRes.bind,
    tierLoop_ok_mono (Nat.le_max_right f1 f2) hf2]

theorem RLoop.stop {s : Bool} {loc : Loc} {acc : RawExpr} {ts : List Span} (h : noDotDot ts) :
    RLoop s loc acc ts acc ts := ⟨1, rangeLoop_stop 0 s loc acc ts h⟩

theorem RLoop.step {s : Bool} {loc : Loc} {acc rhs e : RawExpr} {sp : Span} {r r2 r' : List Span}
    (hdd : sp.tok = .DotDot) (hs : (s && isSpreadFollow r) = false)
    (h1 : PTier Gen.firstTier (headLoc r) none r rhs r2)
    (h2 : RLoop s loc (.Range (.mk acc loc) (.mk rhs (headLoc r))) r2 e r') :
    RLoop s loc acc (sp :: r) e r' := by
  obtain ⟨f1, hf1⟩ := h1
  obtain ⟨f2, hf2⟩ := h2
  refine ⟨max f1 f2 + 1, ?_⟩
  unfold rangeLoop
  simp only [hdd, if_true, hs, Bool.false_eq_true, if_false, parseTier_ok_mono (Nat.le_max_left f1 f2) hf1,
    PRes.bind, rangeLoop_ok_mono (Nat.le_max_right f1 f2) hf2]

theorem PExpr1.mk {s : Bool} {loc : Loc} {pre : Option RawExpr} {ts r r' : List Span} {l e : RawExpr}
    (h1 : PTier Gen.firstTier loc pre ts l r) (h2 : RLoop s loc l r e r') : PExpr1 s loc pre ts e r' := by
  obtain ⟨f1, hf1⟩ := h1
  obtain ⟨f2, hf2⟩ := h2
  refine ⟨max f1 f2 + 1, ?_⟩
  unfold parseExpr1
  simp only [parseTier_ok_mono (Nat.le_max_left f1 f2) hf1, PRes.bind,
    rangeLoop_ok_mono (Nat.le_max_right f1 f2) hf2]

/-- a result at tier `j` is a result at every looser tier `k ≤ j`, provided the next token is not an
    operator of a tier in `[k, j)` -/
theorem PTier.descend {j : Nat} {loc : Loc} {pre : Option RawExpr} {ts r : List Span} {e : RawExpr}
    (h : PTier j loc pre ts e r) (hj : j ≤ Gen.postfixTier) :
    ∀ k, k ≤ j → (headTier r < k ∨ j ≤ headTier r) → PTier k loc pre ts e r := by
  have key : ∀ d k, k + d = j → (headTier r < k ∨ j ≤ headTier r) → PTier k loc pre ts e r := by
    intro d
    induction d with
    | zero => intro k hk _; have : k = j := by omega
              subst this; exact h
    | succ d ih =>
      intro k hk hr
      have hi : k < Gen.postfixTier := by omega
      exact PTier.step hi (ih (k + 1) (by omega) (by omega)) (TLoop.stop (by omega))
  intro k hkj hr
  exact key (j - k) k (by omega) hr

theorem PTier.ofAtom {k : Nat} {loc : Loc} {pre : Option RawExpr} {ts r : List Span} {e : RawExpr}
    (ha : PAtom pre ts e r) (hp : noPostfix r) (hr : headTier r < k) : PTier k loc pre ts e r := by
  by_cases hk : Gen.postfixTier ≤ k
  · exact PTier.atom hk ha hp
  · exact (PTier.atom (k := Gen.postfixTier) (Nat.le_refl _) ha hp).descend (Nat.le_refl _) k
      (by omega) (Or.inl hr)

/-- the production `tier k1 ::= tier (k1 + 1)  op  tier (k1 + 1)` with a single operator, seen from a looser tier `k` -/
theorem PTier.binop {k k1 : Nat} {loc : Loc} {pre : Option RawExpr} {ts r0 r : List Span} {sp : Span}
    {op : BinaryOp} {l rhs : RawExpr} (hl : PTier (k1 + 1) loc pre ts l (sp :: r0))
    (hop : lookupAssoc sp.tok Gen.binOps = some (op, k1)) (hr : PTier (k1 + 1) (headLoc r0) none r0 rhs r)
    (hk : k ≤ k1) (hstop : headTier r < k) :
    PTier k loc pre ts (.BinaryOp op sp.start (.mk l loc) (.mk rhs (headLoc r0))) r := by
  have f := binOp_facts hop
  have hP : Gen.postfixTier = 5 := rfl
  refine PTier.descend (j := k1) ?_ (by omega) k hk (Or.inl hstop)
  exact PTier.step (by omega) hl (TLoop.step hop hr (TLoop.stop (by omega)))

theorem PExpr1.at_fuel {s : Bool} {loc : Loc} {pre : Option RawExpr} {ts r : List Span} {e : RawExpr}
    (h : PExpr1 s loc pre ts e r) (fuel : Nat) (hf : 10 * ts.length + 7 ≤ fuel) :
    parseExpr1 fuel s loc pre ts = .ok e r := by
  obtain ⟨f, hok⟩ := h
  exact PRes.Le.at_fuel (f := fun n => parseExpr1 n s loc pre ts) (fun n => (pmonoAll n).parseExpr1 s loc pre ts) hok
    ((ptotAll fuel).parseExpr1 s loc pre ts hf)

theorem PTier.at_fuel {k : Nat} {loc : Loc} {pre : Option RawExpr} {ts r : List Span} {e : RawExpr}
    (h : PTier k loc pre ts e r) (fuel : Nat) (hf : 10 * ts.length + (3 + (Gen.postfixTier - k)) ≤ fuel) :
    parseTier fuel k loc pre ts = .ok e r := by
  obtain ⟨f, hok⟩ := h
  exact PRes.Le.at_fuel (f := fun n => parseTier n k loc pre ts) (fun n => (pmonoAll n).parseTier k loc pre ts) hok
    ((ptotAll fuel).parseTier k loc pre ts hf)

theorem PExpr1.parseExpr_at_fuel {s : Bool} {ts r : List Span} {e : RawExpr}
    (h : PExpr1 s (headLoc ts) none ts e r) (fuel : Nat) (hf : 10 * ts.length + 8 ≤ fuel) :
    parseExpr fuel s ts = .ok (.mk e (headLoc ts)) r := by
  cases fuel with
  | zero => omega
  | succ n =>
    unfold parseExpr
    rw [h.at_fuel n (by omega)]
    rfl

end Seed
