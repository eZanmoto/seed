/-
  ParseRoundTrip.lean — a minimal-parenthesis printer for the binary-operator fragment (atoms, the 15
  binary operators of `Gen.binOps`, and `..`) and the proof that parsing a printed tree gives the tree back
  (positions erased).

  On the fuel-free relations of ParseRel.lean, by induction on the tree, for every level `k`,
    `KeyT e k`: parsing `pr k e ++ rest` at tier `k` = continuing the tier-`k` loop on `rest` with `e` accumulated
  (from which the plain round trip `FT e k` follows by stopping the loop), and the same for the range
  level (`Key1`, `F1`: `parseExpr1` / `rangeLoop`).
-/
import SeedProofs.Lemmas.ParseRel
namespace Seed

/-- expressions of the binary-operator fragment, without positions; atoms are arbitrary `RawExpr`s -/
inductive BE where
  | atom (a : RawExpr)
  | bin (op : BinaryOp) (l r : BE)
  | range (l r : BE)

mutual
/-- forget the positions along the binary-operator / range spine -/
def eraseR : RawExpr → BE
  | .BinaryOp op _ l r => .bin op (eraseE l) (eraseE r)
  | .Range l r => .range (eraseE l) (eraseE r)
  | a => .atom a
def eraseE : Expr → BE
  | .mk r _ => eraseR r
end

/-- spelling and tier of an operator, read off the generated table -/
def tokOf (op : BinaryOp) : Token :=
  match Gen.binOps.find? (fun x => x.2.1 = op) with
  | some x => x.1
  | none => Token.Null
def tierOf (op : BinaryOp) : Nat :=
  match Gen.binOps.find? (fun x => x.2.1 = op) with
  | some x => x.2.2
  | none => 0

theorem lookup_tokOf (op : BinaryOp) : lookupAssoc (tokOf op) Gen.binOps = some (op, tierOf op) := by
  cases op <;> decide

/-- the tokens of a printable atom: single-token atoms and negative integer literals -/
def atomToks : RawExpr → Option (List Token)
  | .Null => some [.Null]
  | .Bool true => some [.True]
  | .Bool false => some [.False]
  | .Var x => some [.Ident x]
  | .Int (.ofNat n) => some [.IntLiteral (.ofNat n)]
  | .Int (.negSucc n) => some [.Sub, .IntLiteral (.ofNat (n + 1))]
  | .Str s none => some [.StrLiteral s]
  | .Str s (some sl) => some [.InterpStrLiteral s sl]
  | _ => none

/-- all atoms of the tree are printable -/
def BE.WF : BE → Prop
  | .atom a => ∃ toks, atomToks a = some toks
  | .bin _ l r => l.WF ∧ r.WF
  | .range l r => l.WF ∧ r.WF

def paren (b : Bool) (ts : List Token) : List Token :=
  if b then Token.ParenOpen :: (ts ++ [Token.ParenClose]) else ts

/-- print `e` in a context that accepts level `k` and tighter (1 = range, 2–4 = operator tiers,
    5 = atoms); parentheses exactly when the level of `e` is looser than `k` -/
def pr (k : Nat) : BE → List Token
  | .atom a => (atomToks a).getD []
  | .bin op l r => paren (decide (tierOf op < k)) (pr (tierOf op) l ++ tokOf op :: pr (tierOf op + 1) r)
  | .range l r => paren (decide (1 < k)) (pr 1 l ++ Token.DotDot :: pr Gen.firstTier r)

theorem map_tok_nil {ts : List Span} (h : ts.map Span.tok = []) : ts = [] := by
  cases ts with
  | nil => rfl
  | cons a l => cases h

theorem map_tok_cons {ts : List Span} {t : Token} {l : List Token} (h : ts.map Span.tok = t :: l) :
    ∃ sp ts', ts = sp :: ts' ∧ sp.tok = t ∧ ts'.map Span.tok = l := by
  cases ts with
  | nil => cases h
  | cons sp ts' =>
    simp only [List.map_cons, List.cons.injEq] at h
    exact ⟨sp, ts', rfl, h.1, h.2⟩

theorem map_tok_append {ts : List Span} {l1 l2 : List Token} (h : ts.map Span.tok = l1 ++ l2) :
    ∃ t1 t2, ts = t1 ++ t2 ∧ t1.map Span.tok = l1 ∧ t2.map Span.tok = l2 := by
  induction l1 generalizing ts with
  | nil => exact ⟨[], ts, rfl, rfl, h⟩
  | cons t l1 ih =>
    obtain ⟨sp, ts', rfl, hsp, h'⟩ := map_tok_cons h
    obtain ⟨t1, t2, rfl, h1, h2⟩ := ih h'
    exact ⟨sp :: t1, t2, rfl, by simp only [List.map_cons, hsp, h1], h2⟩

theorem eraseR_atom {a : RawExpr} {toks : List Token} (h : atomToks a = some toks) : eraseR a = .atom a := by
  cases a <;> first | rfl | simp [atomToks] at h

theorem PAtom.single {ts rest : List Span} {t : Token} {a : RawExpr} (hts : ts.map Span.tok = [t])
    (ha : atomOf t = some a) : PAtom none (ts ++ rest) a rest := by
  obtain ⟨sp, ts', rfl, hsp, h'⟩ := map_tok_cons hts
  rw [map_tok_nil h']
  exact PAtom.tok (by rw [hsp]; exact ha)

theorem PAtom.ofToks {a : RawExpr} {toks : List Token} {ts rest : List Span} (h : atomToks a = some toks)
    (hts : ts.map Span.tok = toks) : PAtom none (ts ++ rest) a rest := by
  cases a with
  | Null => simp only [atomToks, Option.some.injEq] at h; subst h; exact PAtom.single hts rfl
  | Bool b =>
    cases b <;> (simp only [atomToks, Option.some.injEq] at h; subst h; exact PAtom.single hts rfl)
  | Var x => simp only [atomToks, Option.some.injEq] at h; subst h; exact PAtom.single hts rfl
  | Int n =>
    cases n with
    | ofNat n => simp only [atomToks, Option.some.injEq] at h; subst h; exact PAtom.single hts rfl
    | negSucc n =>
      simp only [atomToks, Option.some.injEq] at h; subst h
      obtain ⟨sm, ts1, rfl, hsm, h1⟩ := map_tok_cons hts
      obtain ⟨sn, ts2, rfl, hsn, h2⟩ := map_tok_cons h1
      rw [map_tok_nil h2]
      exact PAtom.neg hsm hsn
  | Str s o =>
    cases o <;> (simp only [atomToks, Option.some.injEq] at h; subst h; exact PAtom.single hts rfl)
  | _ => simp [atomToks] at h

private theorem hP : Gen.postfixTier = 5 := rfl
private theorem hF : Gen.firstTier = 2 := rfl

/-- at tiers `≥ postfixTier` the operator loop does nothing -/
theorem TLoop.high {k : Nat} {loc : Loc} {acc X : RawExpr} {ts r' : List Span} (hk : Gen.postfixTier ≤ k)
    (h : TLoop k loc acc ts X r') : X = acc ∧ r' = ts := by
  obtain ⟨f, hf⟩ := h
  cases f with
  | zero => unfold tierLoop at hf; cases hf
  | succ n =>
    have hne : headTier ts ≠ k := by have := headTier_le ts; have := hP; omega
    rw [tierLoop_stop n k loc acc ts hne] at hf
    cases hf; exact ⟨rfl, rfl⟩

theorem PTier.atomLoop {k : Nat} {loc : Loc} {ts rest r' : List Span} {raw X : RawExpr}
    (ha : PAtom none ts raw rest) (hp : noPostfix rest) (hh : headTier rest ≤ k)
    (hX : TLoop k loc raw rest X r') : PTier k loc none ts X r' := by
  by_cases hk : k < Gen.postfixTier
  · exact PTier.step hk (PTier.ofAtom ha hp (by omega)) hX
  · obtain ⟨rfl, rfl⟩ := TLoop.high (by omega) hX
    exact PTier.atom (by omega) ha hp

def KeyT (e : BE) (k : Nat) : Prop :=
  ∀ (loc : Loc) (ts rest : List Span), ts.map Span.tok = pr k e → noPostfix rest → headTier rest ≤ k →
    ∃ raw, eraseR raw = e ∧ ∀ X r', TLoop k loc raw rest X r' → PTier k loc none (ts ++ rest) X r'

def FT (e : BE) (k : Nat) : Prop :=
  ∀ (loc : Loc) (ts rest : List Span), ts.map Span.tok = pr k e → noPostfix rest → headTier rest < k →
    ∃ raw, eraseR raw = e ∧ PTier k loc none (ts ++ rest) raw rest

def Key1 (e : BE) : Prop :=
  ∀ (loc : Loc) (ts rest : List Span), ts.map Span.tok = pr 1 e → noPostfix rest → headTier rest = 0 →
    ∃ raw, eraseR raw = e ∧ ∀ X r', RLoop false loc raw rest X r' → PExpr1 false loc none (ts ++ rest) X r'

def F1 (e : BE) : Prop :=
  ∀ (loc : Loc) (ts rest : List Span), ts.map Span.tok = pr 1 e → noPostfix rest → headTier rest = 0 →
    noDotDot rest → ∃ raw, eraseR raw = e ∧ PExpr1 false loc none (ts ++ rest) raw rest

/-- `e` printed as `toks` is an atom of the grammar -/
def Atomic (e : BE) (toks : List Token) : Prop :=
  ∀ (ts rest : List Span), ts.map Span.tok = toks → ∃ raw, eraseR raw = e ∧ PAtom none (ts ++ rest) raw rest

theorem FT_of_KeyT {e : BE} {k : Nat} (h : KeyT e k) : FT e k := by
  intro loc ts rest hts hp hh
  obtain ⟨raw, he, hk⟩ := h loc ts rest hts hp (by omega)
  exact ⟨raw, he, hk raw rest (TLoop.stop (by omega))⟩

theorem F1_of_Key1 {e : BE} (h : Key1 e) : F1 e := by
  intro loc ts rest hts hp hh hdd
  obtain ⟨raw, he, hk⟩ := h loc ts rest hts hp hh
  exact ⟨raw, he, hk raw rest (RLoop.stop hdd)⟩

theorem KeyT_of_Atomic {e : BE} {k : Nat} {toks : List Token} (hpr : pr k e = toks) (h : Atomic e toks) :
    KeyT e k := by
  intro loc ts rest hts hp hh
  obtain ⟨raw, he, ha⟩ := h ts rest (hpr ▸ hts)
  exact ⟨raw, he, fun X r' hX => PTier.atomLoop ha hp hh hX⟩

/-- a looser level than the one at which `e` round-trips, printed the same way -/
theorem KeyT_of_FT {e : BE} {k j : Nat} (hpr : pr k e = pr j e) (hkj : k < j) (hj : j ≤ Gen.postfixTier)
    (h : FT e j) : KeyT e k := by
  intro loc ts rest hts hp hh
  obtain ⟨raw, he, hPj⟩ := h loc ts rest (hpr ▸ hts) hp (by omega)
  refine ⟨raw, he, fun X r' hX => ?_⟩
  exact PTier.step (by omega) (hPj.descend hj (k + 1) (by omega) (Or.inl (by omega))) hX

theorem Key1_of_FT {e : BE} (hpr : pr 1 e = pr Gen.firstTier e) (h : FT e Gen.firstTier) : Key1 e := by
  intro loc ts rest hts hp hh
  obtain ⟨raw, he, hP2⟩ := h loc ts rest (hpr ▸ hts) hp (by have := hF; omega)
  exact ⟨raw, he, fun X r' hX => PExpr1.mk hP2 hX⟩

theorem Atomic_paren {e : BE} (h : F1 e) : Atomic e (Token.ParenOpen :: (pr 1 e ++ [Token.ParenClose])) := by
  intro ts rest hts
  obtain ⟨sl, ts1, rfl, hsl, h1⟩ := map_tok_cons hts
  obtain ⟨tsi, ts2, rfl, hi, h2⟩ := map_tok_append h1
  obtain ⟨sr, ts3, rfl, hsr, h3⟩ := map_tok_cons h2
  rw [map_tok_nil h3]
  have hnp : noPostfix (sr :: rest) := by simp [noPostfix, hsr, isPostfixOpen]
  have hht : headTier (sr :: rest) = 0 := by simp [headTier, hsr, lookupAssoc, Gen.binOps]
  have hdd : noDotDot (sr :: rest) := by simp [noDotDot, hsr]
  obtain ⟨raw, he, hpe⟩ := h (headLoc (tsi ++ sr :: rest)) tsi (sr :: rest) hi hnp hht hdd
  refine ⟨raw, he, ?_⟩
  have := PAtom.paren (sp := sl) hsl hpe hsr
  simpa [List.append_assoc] using this

/-- the production `tier t ::= tier t  op  tier (t+1)` -/
theorem KeyT_bin {op : BinaryOp} {l r : BE} (hl : KeyT l (tierOf op)) (hr : FT r (tierOf op + 1)) :
    KeyT (.bin op l r) (tierOf op) := by
  intro loc ts rest hts hp hh
  have hlook := lookup_tokOf op
  simp only [pr, paren, Nat.lt_irrefl, decide_false, Bool.false_eq_true, if_false] at hts
  obtain ⟨tsl, ts2, rfl, htl, h2⟩ := map_tok_append hts
  obtain ⟨sop, tsr, rfl, hsop, htr⟩ := map_tok_cons h2
  have hlook' : lookupAssoc sop.tok Gen.binOps = some (op, tierOf op) := by rw [hsop]; exact hlook
  obtain ⟨rawr, her, hpr⟩ := hr (headLoc (tsr ++ rest)) tsr rest htr hp (by omega)
  obtain ⟨rawl, hel, hkl⟩ := hl loc tsl (sop :: (tsr ++ rest)) htl (noPostfix_op hlook')
    (by rw [headTier_op hlook']; exact Nat.le_refl _)
  refine ⟨.BinaryOp op sop.start (.mk rawl loc) (.mk rawr (headLoc (tsr ++ rest))), ?_, ?_⟩
  · simp only [eraseR, eraseE, hel, her]
  · intro X r' hX
    have := hkl X r' (TLoop.step hlook' hpr hX)
    simpa [List.append_assoc] using this

/-- the production `range ::= range  ..  tier 2` -/
theorem Key1_range {l r : BE} (hl : Key1 l) (hr : FT r Gen.firstTier) : Key1 (.range l r) := by
  intro loc ts rest hts hp hh
  simp only [pr, paren, Nat.lt_irrefl, decide_false, Bool.false_eq_true, if_false] at hts
  obtain ⟨tsl, ts2, rfl, htl, h2⟩ := map_tok_append hts
  obtain ⟨sd, tsr, rfl, hsd, htr⟩ := map_tok_cons h2
  have hnp : noPostfix (sd :: (tsr ++ rest)) := by simp [noPostfix, hsd, isPostfixOpen]
  have hht : headTier (sd :: (tsr ++ rest)) = 0 := by simp [headTier, hsd, lookupAssoc, Gen.binOps]
  obtain ⟨rawr, her, hpr⟩ := hr (headLoc (tsr ++ rest)) tsr rest htr hp (by have := hF; omega)
  obtain ⟨rawl, hel, hkl⟩ := hl loc tsl (sd :: (tsr ++ rest)) htl hnp hht
  refine ⟨.Range (.mk rawl loc) (.mk rawr (headLoc (tsr ++ rest))), ?_, ?_⟩
  · simp only [eraseR, eraseE, hel, her]
  · intro X r' hX
    have := hkl X r' (RLoop.step hsd rfl hpr hX)
    simpa [List.append_assoc] using this

theorem keyAll (e : BE) (hwf : e.WF) : (∀ k, 2 ≤ k → k ≤ 5 → KeyT e k) ∧ Key1 e := by
  induction e with
  | atom a =>
    obtain ⟨toks, ha⟩ := hwf
    have hat : Atomic (.atom a) toks := fun ts rest hts => ⟨a, eraseR_atom ha, PAtom.ofToks ha hts⟩
    have hpr : ∀ k, pr k (.atom a) = toks := fun k => by simp only [pr, ha, Option.getD_some]
    have hk : ∀ k, KeyT (.atom a) k := fun k => KeyT_of_Atomic (hpr k) hat
    exact ⟨fun k _ _ => hk k, Key1_of_FT (by rw [hpr, hpr]) (FT_of_KeyT (hk _))⟩
  | bin op l r ihl ihr =>
    obtain ⟨ihlT, _⟩ := ihl hwf.1
    obtain ⟨ihrT, _⟩ := ihr hwf.2
    have f := binOp_facts (lookup_tokOf op)
    have hown : KeyT (.bin op l r) (tierOf op) :=
      KeyT_bin (ihlT _ f.1 (by omega)) (FT_of_KeyT (ihrT _ (by omega) (by omega)))
    have hbare : ∀ k, k ≤ tierOf op → pr k (.bin op l r) = pr (tierOf op) (.bin op l r) := by
      intro k hk
      have h1 : ¬ tierOf op < k := by omega
      simp only [pr, paren, h1, Nat.lt_irrefl, decide_false]
    have hloose : ∀ k, 1 ≤ k → k ≤ tierOf op → KeyT (.bin op l r) k := by
      intro k _ hk
      by_cases hkt : k = tierOf op
      · rw [hkt]; exact hown
      · exact KeyT_of_FT (hbare k hk) (by omega) (by have := hP; omega) (FT_of_KeyT hown)
    have h1 : Key1 (.bin op l r) :=
      Key1_of_FT (by rw [hbare 1 (by omega), hbare Gen.firstTier (by have := hF; omega)])
        (FT_of_KeyT (hloose _ (by have := hF; omega) (by have := hF; omega)))
    refine ⟨fun k hk2 hk5 => ?_, h1⟩
    by_cases hk : k ≤ tierOf op
    · exact hloose k (by omega) hk
    · refine KeyT_of_Atomic ?_ (Atomic_paren (F1_of_Key1 h1))
      have h2 : tierOf op < k := by omega
      have h3 : ¬ tierOf op < 1 := by omega
      simp only [pr, paren, h2, h3, decide_true, decide_false, if_true, Bool.false_eq_true, if_false]
  | range l r ihl ihr =>
    obtain ⟨_, ihl1⟩ := ihl hwf.1
    obtain ⟨ihrT, _⟩ := ihr hwf.2
    have h1 : Key1 (.range l r) := Key1_range ihl1 (FT_of_KeyT (ihrT _ (by have := hF; omega) (by have := hF; omega)))
    refine ⟨fun k hk2 hk5 => ?_, h1⟩
    refine KeyT_of_Atomic ?_ (Atomic_paren (F1_of_Key1 h1))
    have h2 : 1 < k := by omega
    simp only [pr, paren, h2, Nat.lt_irrefl, decide_true, decide_false, if_true, Bool.false_eq_true, if_false]

/-- fuel-free round trip, with an arbitrary continuation `rest` that cannot extend the expression -/
theorem roundtrip_rel (e : BE) (hwf : e.WF) (loc : Loc) (ts rest : List Span) (hts : ts.map Span.tok = pr 1 e)
    (hp : noPostfix rest) (hh : headTier rest = 0) (hdd : noDotDot rest) :
    ∃ raw, eraseR raw = e ∧ PExpr1 false loc none (ts ++ rest) raw rest :=
  F1_of_Key1 (keyAll e hwf).2 loc ts rest hts hp hh hdd

/-- `parse (print e) = e` up to positions, for every fuel `≥ 10 * (number of tokens) + 7` and every
    assignment of positions to the printed tokens -/
theorem roundtrip_parseExpr1 (e : BE) (hwf : e.WF) (loc : Loc) (ts : List Span) (hts : ts.map Span.tok = pr 1 e)
    (fuel : Nat) (hf : 10 * ts.length + 7 ≤ fuel) :
    ∃ raw, parseExpr1 fuel false loc none ts = .ok raw [] ∧ eraseR raw = e := by
  obtain ⟨raw, he, hpe⟩ := roundtrip_rel e hwf loc ts [] hts True.intro rfl True.intro
  rw [List.append_nil] at hpe
  exact ⟨raw, hpe.at_fuel fuel hf, he⟩

theorem roundtrip_parseExpr (e : BE) (hwf : e.WF) (ts : List Span) (hts : ts.map Span.tok = pr 1 e)
    (fuel : Nat) (hf : 10 * ts.length + 8 ≤ fuel) :
    ∃ ex, parseExpr fuel false ts = .ok ex [] ∧ eraseE ex = e := by
  obtain ⟨raw, he, hpe⟩ := roundtrip_rel e hwf (headLoc ts) ts [] hts True.intro rfl True.intro
  rw [List.append_nil] at hpe
  exact ⟨.mk raw (headLoc ts), hpe.parseExpr_at_fuel fuel hf, by simp only [eraseE, he]⟩

theorem roundtrip_parseFuel (e : BE) (hwf : e.WF) (ts : List Span) (hts : ts.map Span.tok = pr 1 e) :
    ∃ ex, parseExpr (parseFuel ts) false ts = .ok ex [] ∧ eraseE ex = e :=
  roundtrip_parseExpr e hwf ts hts _ (by unfold parseFuel; omega)

end Seed
