/-
  ParseTotal.lean — the parser never runs out of fuel when it is given `10 * (number of tokens) + c_f`
  units, where `c_f ≤ 10` is a per-function constant (for `parseTier k` it is `3 + (postfixTier - k)`).
  The potential `Φ_f(ts) = 10 * ts.length + c_f` strictly decreases along every call edge of the mutual
  block: calls on the same input go to a function with a smaller constant (the chain
  parseStmts/parseBraceStmt > parseRawStmt > parseExprStmt/parseExpr > parseExpr1 > parseTier 2 > … >
  parsePostfix > parseAtom), every other call happens after at least one token has been consumed (`pbndAll`), which
  pays for any constant.  One induction on the fuel over the conjunction of all functions.
-/
import SeedProofs.Lemmas.ParseProgress
namespace Seed

def PRes.NT {α} (r : PRes α) : Prop := r ≠ .timeout

namespace PRes.NT
theorem ok {α} (a : α) (rest : List Span) : PRes.NT (PRes.ok a rest) := by intro h; cases h
theorem err {α} (e : PErr) : PRes.NT (PRes.err e : PRes α) := by intro h; cases h

theorem bind {α β} {m : Nat} {r : PRes α} {f : α → List Span → PRes β} (hb : PRes.Bnd m r) (hn : PRes.NT r)
    (hf : ∀ a ts, ts.length < m → PRes.NT (f a ts)) : PRes.NT (r.bind f) := by
  cases r with
  | ok a rest => exact hf a rest hb
  | err e => exact PRes.NT.err e
  | timeout => exact absurd rfl hn

theorem map {α β} {r : PRes α} (f : α → β) (hn : PRes.NT r) : PRes.NT (r.map f) := by
  cases r with
  | ok a rest => exact PRes.NT.ok _ _
  | err e => exact PRes.NT.err e
  | timeout => exact absurd rfl hn
end PRes.NT

theorem expectTok_nt (t : Token) (ts : List Span) : PRes.NT (expectTok t ts) :=
  expectTok_cases t ts PRes.NT.err fun _ _ _ _ => PRes.NT.ok _ _

theorem expectIdent_nt (ts : List Span) : PRes.NT (expectIdent ts) :=
  expectIdent_cases ts PRes.NT.err fun _ _ _ _ _ => PRes.NT.ok _ _

structure PTotAll (n : Nat) : Prop where
  parseAtom : ∀ pre ts, 10 * ts.length + 1 ≤ n → PRes.NT (parseAtom n pre ts)
  parsePostfix : ∀ l pre ts, 10 * ts.length + 2 ≤ n → PRes.NT (parsePostfix n l pre ts)
  postfixLoop : ∀ l acc ts, 10 * ts.length + 1 ≤ n → PRes.NT (postfixLoop n l acc ts)
  parseIndexTail : ∀ e ts, 10 * ts.length + 9 ≤ n → PRes.NT (parseIndexTail n e ts)
  parseRangeEnd : ∀ e s ts, 10 * ts.length + 9 ≤ n → PRes.NT (parseRangeEnd n e s ts)
  parseTier : ∀ k l pre ts, 10 * ts.length + (3 + (Gen.postfixTier - k)) ≤ n → PRes.NT (parseTier n k l pre ts)
  tierLoop : ∀ k l acc ts, 10 * ts.length + 1 ≤ n → PRes.NT (tierLoop n k l acc ts)
  parseExpr1 : ∀ s l pre ts, 10 * ts.length + 7 ≤ n → PRes.NT (parseExpr1 n s l pre ts)
  rangeLoop : ∀ s l acc ts, 10 * ts.length + 1 ≤ n → PRes.NT (rangeLoop n s l acc ts)
  parseExpr : ∀ s ts, 10 * ts.length + 8 ≤ n → PRes.NT (parseExpr n s ts)
  parseArgs : ∀ acc ts, 10 * ts.length + 9 ≤ n → PRes.NT (parseArgs n acc ts)
  parseExprList : ∀ acc ts, 10 * ts.length + 9 ≤ n → PRes.NT (parseExprList n acc ts)
  parseParams : ∀ acc ts, 10 * ts.length + 9 ≤ n → PRes.NT (parseParams n acc ts)
  parsePropItems : ∀ acc ts, 10 * ts.length + 9 ≤ n → PRes.NT (parsePropItems n acc ts)
  parsePropTail : ∀ acc ts, 10 * ts.length + 1 ≤ n → PRes.NT (parsePropTail n acc ts)
  parseBlock : ∀ ts, 10 * ts.length + 1 ≤ n → PRes.NT (parseBlock n ts)
  parseStmts : ∀ c acc ts, 10 * ts.length + 10 ≤ n → PRes.NT (parseStmts n c acc ts)
  parseIf : ∀ ts, 10 * ts.length + 9 ≤ n → PRes.NT (parseIf n ts)
  parseStmtTail : ∀ lhs ts, 10 * ts.length + 1 ≤ n → PRes.NT (parseStmtTail n lhs ts)
  parseExprStmt : ∀ amb l pre ts, 10 * ts.length + 8 ≤ n → PRes.NT (parseExprStmt n amb l pre ts)
  parseRawStmt : ∀ amb ts, 10 * ts.length + 9 ≤ n → PRes.NT (parseRawStmt n amb ts)
  parseBraceStmt : ∀ amb l ts, 10 * ts.length + 10 ≤ n → PRes.NT (parseBraceStmt n amb l ts)

theorem ptotAll_zero : PTotAll 0 := by
  constructor <;> intros <;> omega

theorem ptotAll_succ (n : Nat) (ih : PTotAll n) : PTotAll (n + 1) := by
  have hb := pbndAll n
  -- what the arithmetic needs to know about the constants in the potentials and bounds
  have hP : Gen.postfixTier = 5 := rfl
  have hF : Gen.firstTier = 2 := rfl
  have h0 : optLen (none : Option RawExpr) = 0 := rfl
  constructor <;> intros
  case' parseAtom => unfold parseAtom
  case' parsePostfix l pre ts hn => have := optLen_le_one pre; unfold parsePostfix
  case' postfixLoop => unfold postfixLoop
  case' parseIndexTail => unfold parseIndexTail
  case' parseRangeEnd => unfold parseRangeEnd
  case' parseTier k l pre ts hn => have := optLen_le_one pre; unfold parseTier
  case' tierLoop => unfold tierLoop
  case' parseExpr1 s l pre ts hn => have := optLen_le_one pre; unfold parseExpr1
  case' rangeLoop => unfold rangeLoop
  case' parseExpr => unfold parseExpr
  case' parseArgs => unfold parseArgs
  case' parseExprList => unfold parseExprList
  case' parseParams => unfold parseParams
  case' parsePropItems => unfold parsePropItems
  case' parsePropTail => unfold parsePropTail
  case' parseBlock => unfold parseBlock
  case' parseStmts => unfold parseStmts
  case' parseIf => unfold parseIf
  case' parseStmtTail => unfold parseStmtTail
  case' parseExprStmt amb l pre ts hn => have := optLen_le_one pre; unfold parseExprStmt
  case' parseRawStmt => unfold parseRawStmt
  case' parseBraceStmt => unfold parseBraceStmt
  -- at a bind, `hb` bounds what the first call leaves and `ih` says it does not time out; that the potential of a
  -- callee is below the fuel that is left is linear arithmetic over the lengths
  all_goals repeat' first
    | ((with_reducible apply PRes.NT.bind); pbnd_call hb)
    | intro _ _ _
    | ((with_reducible apply iteInduction) <;> intro _)
    | split
    | (with_reducible apply PRes.NT.map)
    | (with_reducible exact PRes.NT.ok _ _)
    | (with_reducible exact PRes.NT.err _)
    | (with_reducible first | exact expectTok_nt _ _ | exact expectIdent_nt _ | parser_call ih) <;>
        first | omega | (simp only [List.length_cons] at *; omega)

theorem ptotAll (n : Nat) : PTotAll n := by
  induction n with
  | zero => exact ptotAll_zero
  | succ n ih => exact ptotAll_succ n ih

theorem parseStmts_total (fuel : Nat) (c : Bool) (acc : List Stmt) (ts : List Span)
    (h : 10 * (ts.length + 1) ≤ fuel) : parseStmts fuel c acc ts ≠ .timeout :=
  (ptotAll fuel).parseStmts c acc ts (by omega)

theorem parseExpr_total (fuel : Nat) (s : Bool) (ts : List Span)
    (h : 10 * ts.length + 8 ≤ fuel) : parseExpr fuel s ts ≠ .timeout :=
  (ptotAll fuel).parseExpr s ts h

/-- the fuel supplied by `parseProg` and `parseExprTop` always suffices -/
theorem parse_total (ts : List Span) :
    parseStmts (parseFuel ts) false [] ts ≠ .timeout ∧ parseExpr (parseFuel ts) false ts ≠ .timeout := by
  constructor
  · apply parseStmts_total; unfold parseFuel; omega
  · apply parseExpr_total; unfold parseFuel; omega

theorem parseProg_ne_timeout (src : List Char) : parseProg src ≠ .timeout :=
  fun h => (parse_total _).1 (parseProg_eq_timeout.mp h)

theorem parseExprTop_ne_timeout (src : List Char) : parseExprTop src ≠ .timeout :=
  fun h => (parse_total _).2 (parseExprTop_eq_timeout.mp h)

end Seed
