/-
  ParseWalk.lean — what every walk through the 22 mutually recursive parser functions shares: the two token tests
  as case principles (for a predicate that does not look at the error; `ParseErrTok.lean`, which does, unfolds them itself),
  the two entry points in terms of `parseStmts` / `parseExpr`, and the dispatch of an induction hypothesis that is a
  structure with one field per function.  The walker for predicates on the tree (`PRes.PosSat`, `possat_auto`) is in C18NodePos.lean.
-/
import SeedModel.Parse
namespace Seed

theorem expectTok_cases {P : PRes Unit → Prop} (t : Token) (ts : List Span) (herr : ∀ e, P (.err e))
    (hok : ∀ sp r, ts = sp :: r → sp.tok = t → P (.ok () r)) : P (expectTok t ts) := by
  unfold expectTok
  split
  · exact herr _
  · split
    · exact hok _ _ rfl ‹_›
    · exact herr _

theorem expectIdent_cases {P : PRes (List Char) → Prop} (ts : List Span) (herr : ∀ e, P (.err e))
    (hok : ∀ sp r s, ts = sp :: r → sp.tok = .Ident s → P (.ok s r)) : P (expectIdent ts) := by
  unfold expectIdent
  split
  · exact herr _
  · split
    · exact hok _ _ _ rfl ‹_›
    · exact herr _

/-- the front end succeeds exactly when the lexer reports no error and the parser, on the lexer's tokens with the fuel
    `parseFuel` gives, accepts (for a program with whatever is left over: `parseStmts false` stops only at the end of the tokens) -/
theorem parseProg_eq_ok {src : List Char} {p : List Stmt} : parseProg src = .ok p ↔
    (lexAll src).2 = none ∧ ∃ rest, parseStmts (parseFuel (lexAll src).1) false [] (lexAll src).1 = .ok p rest := by
  unfold parseProg
  rcases lexAll src with ⟨ts, le⟩
  dsimp only
  cases parseStmts (parseFuel ts) false [] ts
  · cases le <;> simp
  all_goals simp

theorem parseExprTop_eq_ok {src : List Char} {e : Expr} : parseExprTop src = .ok e ↔
    (lexAll src).2 = none ∧ parseExpr (parseFuel (lexAll src).1) false (lexAll src).1 = .ok e [] := by
  unfold parseExprTop
  rcases lexAll src with ⟨ts, le⟩
  dsimp only
  rcases parseExpr (parseFuel ts) false ts with ⟨_, _ | _⟩ | _ | _
  · cases le <;> simp
  all_goals simp

/-- the front end runs out of fuel exactly when the parser does: the lexer carries its own fuel and never does -/
theorem parseProg_eq_timeout {src : List Char} : parseProg src = .timeout ↔
    parseStmts (parseFuel (lexAll src).1) false [] (lexAll src).1 = .timeout := by
  unfold parseProg
  rcases lexAll src with ⟨ts, le⟩
  dsimp only
  cases parseStmts (parseFuel ts) false [] ts
  · cases le <;> simp
  all_goals simp

theorem parseExprTop_eq_timeout {src : List Char} : parseExprTop src = .timeout ↔
    parseExpr (parseFuel (lexAll src).1) false (lexAll src).1 = .timeout := by
  unfold parseExprTop
  rcases lexAll src with ⟨ts, le⟩
  dsimp only
  rcases parseExpr (parseFuel ts) false ts with ⟨_, _ | _⟩ | _ | _
  · cases le <;> simp
  all_goals simp

/-- A call of a parser function, by the field of that name of the induction hypothesis `ih` (the field name
    selects the structure, so this serves every invariant stated as a structure with one field per function);
    the functions called most often come first. -/
macro "parser_call " ih:ident : tactic =>
  `(tactic| with_reducible first
    | apply ($ih).parseExpr
    | apply ($ih).parsePropTail
    | apply ($ih).parseExprStmt
    | apply ($ih).parseBlock
    | apply ($ih).postfixLoop
    | apply ($ih).parseTier
    | apply ($ih).parseStmts
    | apply ($ih).parsePropItems
    | apply ($ih).parseParams
    | apply ($ih).parseExprList
    | apply ($ih).parseExpr1
    | apply ($ih).parseArgs
    | apply ($ih).tierLoop
    | apply ($ih).rangeLoop
    | apply ($ih).parseRawStmt
    | apply ($ih).parseRangeEnd
    | apply ($ih).parseIf
    | apply ($ih).parseStmtTail
    | apply ($ih).parsePostfix
    | apply ($ih).parseIndexTail
    | apply ($ih).parseBraceStmt
    | apply ($ih).parseAtom)

end Seed
