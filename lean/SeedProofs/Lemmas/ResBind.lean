/-
  ResBind.lean — the algebra of `Res.bind`: computation on a known result, unit, associativity, congruence,
  and the inversion of a `bind` that succeeded.
-/
import SeedModel.Value
namespace Seed.Res

theorem bind_ok {α β} (a : α) (σ : State) (f : α → State → Res β) : (Res.ok a σ).bind f = f a σ := rfl

theorem bind_ite {α β} (c : Prop) [Decidable c] (a b : Res α) (f : α → State → Res β) :
    (if c then a else b).bind f = if c then a.bind f else b.bind f := by
  split <;> rfl

theorem bind_pure {α} (r : Res α) : (r.bind fun a σ => .ok a σ) = r := by
  cases r <;> rfl

theorem bind_assoc {α β γ} (r : Res α) (f : α → State → Res β) (g : β → State → Res γ) :
    (r.bind f).bind g = r.bind fun a σ => (f a σ).bind g := by
  cases r <;> rfl

theorem bind_congr {α β} {r r' : Res α} {f g : α → State → Res β} (hr : r = r')
    (h : ∀ a σ, r' = .ok a σ → f a σ = g a σ) : r.bind f = r'.bind g := by
  subst hr
  cases r with
  | ok a σ => exact h a σ rfl
  | _ => rfl

theorem bind_eq_ok {α β} {r : Res α} {f : α → State → Res β} {b : β} {σ' : State} (h : r.bind f = .ok b σ') :
    ∃ a σ1, r = .ok a σ1 ∧ f a σ1 = .ok b σ' := by
  cases r <;> first | exact ⟨_, _, rfl, h⟩ | cases h

end Seed.Res
