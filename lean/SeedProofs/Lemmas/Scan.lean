/-
  The scanner of SeedModel/Lex.lean from outside: every function that transforms a scanner only advances
  it (`s' = s.advance n`); `posOf` specifies line and column without a scanner, and
  `scan_pos : ((Scanner.new src).advance k).loc = posOf src k`; what `nextToken` returns, in terms of `advance`.
-/
import SeedModel.Lex
namespace Seed

theorem Scanner.advance_zero (s : Scanner) : s.advance 0 = s := rfl

theorem Scanner.advance_succ (s : Scanner) (n : Nat) : s.advance (n + 1) = s.next.advance n := rfl

theorem Scanner.advance_one (s : Scanner) : s.advance 1 = s.next := rfl

theorem Scanner.advance_add (s : Scanner) (m n : Nat) :
    (s.advance m).advance n = s.advance (m + n) := by
  induction m generalizing s with
  | zero => rw [Nat.zero_add]; rfl
  | succ m ih => rw [Nat.add_right_comm, Scanner.advance_succ, Scanner.advance_succ, ih]

theorem Scanner.advance_succ' (s : Scanner) (n : Nat) : s.advance (n + 1) = (s.advance n).next := by
  rw [← Scanner.advance_one (s.advance n), Scanner.advance_add]

theorem Scanner.next_rest (s : Scanner) : s.next.rest = s.rest.drop 1 := by
  obtain ⟨_ | ⟨_, _⟩, _, _⟩ := s <;> rfl

theorem Scanner.advance_rest (s : Scanner) (n : Nat) : (s.advance n).rest = s.rest.drop n := by
  induction n generalizing s with
  | zero => rfl
  | succ n ih => rw [Scanner.advance_succ, ih, Scanner.next_rest, List.drop_drop, Nat.add_comm]

theorem Scanner.advance_rest_length (s : Scanner) (n : Nat) :
    (s.advance n).rest.length = s.rest.length - n := by
  rw [Scanner.advance_rest, List.length_drop]

theorem Scanner.next_of_rest_nil (s : Scanner) (h : s.rest = []) : s.next = s := by
  unfold Scanner.next; rw [h]

theorem Scanner.advance_of_rest_nil (s : Scanner) (h : s.rest = []) (n : Nat) : s.advance n = s := by
  induction n with
  | zero => rfl
  | succ n ih => rw [Scanner.advance_succ, Scanner.next_of_rest_nil s h, ih]

theorem Scanner.advance_min (s : Scanner) (n : Nat) : s.advance n = s.advance (min n s.rest.length) := by
  rcases Nat.le_total n s.rest.length with h | h
  · rw [Nat.min_eq_left h]
  · rw [Nat.min_eq_right h]
    obtain ⟨d, rfl⟩ := Nat.exists_eq_add_of_le h
    rw [← Scanner.advance_add]
    exact Scanner.advance_of_rest_nil _ (by rw [Scanner.advance_rest, List.drop_length]) d

theorem advance_add (s : Scanner) (m n : Nat) : (s.advance m).advance n = s.advance (m + n) :=
  s.advance_add m n
theorem advance_rest (s : Scanner) (n : Nat) : (s.advance n).rest = s.rest.drop n := s.advance_rest n
theorem advance_rest_length (s : Scanner) (n : Nat) : (s.advance n).rest.length = s.rest.length - n :=
  s.advance_rest_length n

theorem Scanner.next_mk_cons (ch : Char) (r : List Char) (l c : Nat) :
    (Scanner.mk (ch :: r) l c).next = ⟨r, (locAfter l c r.head?).1, (locAfter l c r.head?).2⟩ := rfl

theorem Scanner.next_eq_advance (s : Scanner) : ∃ n, s.next = s.advance n := ⟨1, rfl⟩

theorem Scanner.advance_eq_advance (s : Scanner) (k : Nat) : ∃ n, s.advance k = s.advance n := ⟨k, rfl⟩

-- In the loops below, one step on `ch :: r` at `(l, c)` continues on `r` at `locAfter l c r.head?`, which is
-- `(Scanner.mk (ch :: r) l c).next` by definition: `n` steps from there are `n + 1` steps from here.

theorem skipComment_advance (r : List Char) (l c : Nat) :
    ∃ n, skipComment r l c = (Scanner.mk r l c).advance n := by
  induction r generalizing l c with
  | nil => exact ⟨0, rfl⟩
  | cons ch r ih =>
    unfold skipComment
    split
    · exact ⟨0, rfl⟩
    · obtain ⟨n, hn⟩ := ih (locAfter l c r.head?).1 (locAfter l c r.head?).2
      exact ⟨n + 1, hn⟩

theorem skipWs_advance (r : List Char) (l c : Nat) :
    ∃ n, skipWs r l c = (Scanner.mk r l c).advance n := by
  induction r generalizing l c with
  | nil => exact ⟨0, rfl⟩
  | cons ch r ih =>
    unfold skipWs
    split
    · exact skipComment_advance _ _ _
    · split
      · exact ⟨0, rfl⟩
      · obtain ⟨n, hn⟩ := ih (locAfter l c r.head?).1 (locAfter l c r.head?).2
        exact ⟨n + 1, hn⟩

theorem Scanner.skipWs_advance (s : Scanner) : ∃ n, s.skipWs = s.advance n :=
  Seed.skipWs_advance s.rest s.line s.col

/-- the character a lexical error complains about (`none` for `IntOverflow`, which is about a whole literal) -/
def LexError.offender : LexError → Option Char
  | .Unexpected _ c => some c
  | .IntOverflow _ _ => none
  | .UnescapedDollar _ => some '$'
  | .InvalidInterpolationStart _ c => some c
  | .InvalidEscapeChar _ c => some c
  | .InvalidHexChar _ c => some c

/-- the errors raised inside string literals -/
def LexError.isStr : LexError → Bool
  | .Unexpected _ _ => false
  | .IntOverflow _ _ => false
  | _ => true

theorem strStep_fail {interp : Bool} {a : StrAcc} {ch : Char} {loc : Loc} {e : LexError}
    (h : strStep interp a ch loc = .fail e) :
    e.loc = loc ∧ e.offender = some ch ∧ e.isStr = true := by
  unfold strStep at h
  repeat' split at h
  all_goals first
    | (injection h with h; subst h; simp [LexError.loc, LexError.offender, LexError.isStr, *])
    | cases h
    | (simp only at h; split at h <;> cases h)

theorem strLoop_advance {interp : Bool} {r : List Char} {l c : Nat} {a : StrAcc} :
    match strLoop interp r l c a with
    | .ok (_, s') => ∃ n, s' = (Scanner.mk r l c).advance n
    | .error e => ∃ n ch, ((Scanner.mk r l c).advance n).rest.head? = some ch ∧
        e.loc = ((Scanner.mk r l c).advance n).loc ∧ e.offender = some ch ∧ e.isStr = true := by
  induction r generalizing l c a with
  | nil => exact ⟨0, rfl⟩
  | cons ch r ih =>
    unfold strLoop
    cases hs : strStep interp a ch (l, c) with
    | fail e => exact ⟨0, ch, rfl, strStep_fail hs⟩
    | done a' => exact ⟨1, rfl⟩
    | cont a' =>
      have := ih (l := (locAfter l c r.head?).1) (c := (locAfter l c r.head?).2) (a := a')
      cases hl : strLoop interp r (locAfter l c r.head?).1 (locAfter l c r.head?).2 a' with
      | ok p =>
        obtain ⟨a'', s'⟩ := p
        rw [hl] at this
        obtain ⟨n, hn⟩ := this
        simp only [hl]
        exact ⟨n + 1, hn⟩
      | error e =>
        rw [hl] at this
        obtain ⟨n, ch', hn⟩ := this
        simp only [hl]
        exact ⟨n + 1, ch', hn⟩

theorem lexStr_advance (interp : Bool) (s : Scanner) :
    match lexStr interp s with
    | .ok (_, s') => ∃ n, 1 ≤ n ∧ s' = s.advance n
    | .error e => ∃ n ch, 1 ≤ n ∧ (s.advance n).rest.head? = some ch ∧ e.loc = (s.advance n).loc ∧
        e.offender = some ch ∧ e.isStr = true := by
  have := strLoop_advance (interp := interp) (r := s.next.rest) (l := s.next.line) (c := s.next.col)
    (a := StrAcc.init)
  unfold lexStr
  simp only
  cases hl : strLoop interp s.next.rest s.next.line s.next.col StrAcc.init with
  | error e =>
    rw [hl] at this
    obtain ⟨n, ch, hn⟩ := this
    exact ⟨n + 1, ch, Nat.le_add_left 1 n, hn⟩
  | ok p =>
    obtain ⟨a, s'⟩ := p
    rw [hl] at this
    obtain ⟨n, hn⟩ := this
    cases interp <;> exact ⟨n + 1, Nat.le_add_left 1 n, hn⟩

theorem lexInt_ok {s s' : Scanner} {t : Token} (h : lexInt s = .ok (t, s')) :
    s' = s.advance (s.rest.takeWhile isIntChar).length := by
  unfold lexInt at h
  simp only at h
  split at h
  · injection h with h; injection h with _ h; exact h.symm
  · cases h

theorem lexInt_ok_advance {s s' : Scanner} {t : Token} (h : lexInt s = .ok (t, s')) :
    ∃ n, s' = s.advance n := ⟨_, lexInt_ok h⟩

theorem lexInt_error {s : Scanner} {e : LexError} (h : lexInt s = .error e) :
    e = LexError.IntOverflow s.loc (s.rest.takeWhile isIntChar) := by
  unfold lexInt at h
  simp only at h
  split at h
  · cases h
  · injection h with h; exact h.symm

/-- `lexSym` as a function of the two characters after `c1` (if any): the token and the number of
    characters consumed -/
def symCore (c1 : Char) (o2 o3 : Option Char) : Option Token × Nat :=
  match matchSingle c1 with
  | none =>
    match o2 with
    | none => (none, 1)
    | some c2 =>
      match matchDouble c1 c2 with
      | none =>
        match o3 with
        | none => (none, 2)
        | some c3 => (matchTriple c1 c2 c3, 3)
      | some t =>
        match o3 with
        | none => (some t, 2)
        | some c3 =>
          match matchTriple c1 c2 c3 with
          | none => (some t, 2)
          | some t3 => (some t3, 3)
  | some t =>
    match o2 with
    | none => (some t, 1)
    | some c2 =>
      match matchDouble c1 c2 with
      | none => (some t, 1)
      | some t2 =>
        match o3 with
        | none => (some t2, 2)
        | some c3 =>
          match matchTriple c1 c2 c3 with
          | none => (some t2, 2)
          | some t3 => (some t3, 3)

theorem lexSym_eq_symCore (c1 : Char) (s : Scanner) :
    lexSym c1 s = ((symCore c1 (s.rest.drop 1).head? (s.rest.drop 2).head?).1,
      s.advance (symCore c1 (s.rest.drop 1).head? (s.rest.drop 2).head?).2) := by
  obtain ⟨r, l, c⟩ := s
  rcases r with _ | ⟨a, _ | ⟨b, _ | ⟨d, r⟩⟩⟩ <;>
    simp only [lexSym, lexMultiSym, symCore, Scanner.next, Scanner.peek, List.head?, List.drop] <;>
    cases matchSingle c1 <;> simp only <;>
    (try cases matchDouble c1 b <;> simp only) <;>
    (try cases matchTriple c1 b d <;> simp only) <;>
    rfl

theorem symCore_count (c1 : Char) (o2 o3 : Option Char) :
    1 ≤ (symCore c1 o2 o3).2 ∧ (symCore c1 o2 o3).2 ≤ 3 ∧
    (o2 = none → (symCore c1 o2 o3).2 = 1) ∧ (o3 = none → (symCore c1 o2 o3).2 ≤ 2) := by
  unfold symCore
  repeat' split
  all_goals simp_all

def lineOf (l : List Char) : Nat := 1 + l.count '\n'

def colOf (l : List Char) : Nat := (l.reverse.takeWhile (· ≠ '\n')).length

/-- line/column of the character at offset `k` of `src`, as the scanner reports it:
    line = 1 + number of '\n' among `src[0..k]` inclusive; col = number of chars after the last
    '\n' in `src[0..k]` inclusive (so a '\n' itself has col 0, on the *next* line).  For
    `k ≥ src.length` it is the position of the last character (`take` saturates), and `(1,1)` for
    the empty source.  Every character other than '\n' counts as one column. -/
def posOf (src : List Char) (k : Nat) : Nat × Nat :=
  match src with
  | [] => (1, 1)
  | _ :: _ => (lineOf (src.take (k + 1)), colOf (src.take (k + 1)))

theorem lineOf_snoc (l : List Char) (c : Char) :
    lineOf (l ++ [c]) = if c = '\n' then lineOf l + 1 else lineOf l := by
  unfold lineOf
  rw [List.count_append]
  by_cases h : c = '\n'
  · subst h; simp; omega
  · simp [h]

theorem colOf_snoc (l : List Char) (c : Char) :
    colOf (l ++ [c]) = if c = '\n' then 0 else colOf l + 1 := by
  unfold colOf
  rw [List.reverse_append]
  by_cases h : c = '\n'
  · subst h; simp
  · simp [h]

theorem lineOf_append (p t : List Char) : lineOf (p ++ t) = lineOf p + t.count '\n' := by
  unfold lineOf; rw [List.count_append]; omega

theorem takeWhile_append_of_exists {α} (p : α → Bool) (l₁ l₂ : List α) (h : ∃ a ∈ l₁, p a = false) :
    (l₁ ++ l₂).takeWhile p = l₁.takeWhile p := by
  induction l₁ with
  | nil => obtain ⟨a, ha, _⟩ := h; cases ha
  | cons x l ih =>
    simp only [List.cons_append, List.takeWhile_cons]
    cases hx : p x with
    | false => rfl
    | true =>
      simp only [↓reduceIte]
      congr 1
      apply ih
      obtain ⟨a, ha, hpa⟩ := h
      rcases List.mem_cons.mp ha with rfl | ha
      · rw [hx] at hpa; cases hpa
      · exact ⟨a, ha, hpa⟩

theorem colOf_append_of_mem (p t : List Char) (h : '\n' ∈ t) : colOf (p ++ t) = colOf t := by
  unfold colOf
  rw [List.reverse_append, takeWhile_append_of_exists]
  exact ⟨'\n', by simpa using h, by simp⟩

theorem colOf_append_of_not_mem (p t : List Char) (h : '\n' ∉ t) :
    colOf (p ++ t) = colOf p + t.length := by
  unfold colOf
  rw [List.reverse_append, List.takeWhile_append_of_pos]
  · simp; omega
  · intro a ha
    have : a ≠ '\n' := by intro e; subst e; exact h (by simpa using ha)
    simpa using this

theorem colOf_nil : colOf [] = 0 := rfl
theorem lineOf_nil : lineOf [] = 1 := rfl

theorem colOf_of_not_mem (t : List Char) (h : '\n' ∉ t) : colOf t = t.length := by
  have := colOf_append_of_not_mem [] t h
  simpa [colOf_nil] using this

theorem posOf_nil (k : Nat) : posOf [] k = (1, 1) := rfl

theorem posOf_of_ne_nil {src : List Char} (h : src ≠ []) (k : Nat) :
    posOf src k = (lineOf (src.take (k + 1)), colOf (src.take (k + 1))) := by
  cases src with
  | nil => exact absurd rfl h
  | cons => rfl

theorem posOf_zero (src : List Char) : posOf src 0 = (Scanner.new src).loc := by
  cases src with
  | nil => rfl
  | cons c r =>
    by_cases h : c = '\n'
    · subst h; rfl
    · have : Scanner.new (c :: r) = ⟨c :: r, 1, 1⟩ := by
        unfold Scanner.new
        split
        · next heq => injection heq with h1 _; exact absurd h1 h
        · rfl
      rw [this]
      simp [posOf, Scanner.loc, lineOf, colOf, h]

theorem posOf_succ (src : List Char) (k : Nat) :
    posOf src (k + 1) = locAfter (posOf src k).1 (posOf src k).2 src[k + 1]? := by
  cases src with
  | nil => rfl
  | cons c r =>
    simp only [posOf]
    rw [List.take_add_one (i := k + 1)]
    cases h : (c :: r)[k + 1]? with
    | none => simp [locAfter]
    | some ch =>
      simp only [Option.toList_some, lineOf_snoc, colOf_snoc, locAfter]
      split <;> rfl

theorem posOf_of_length_le (src : List Char) (k : Nat) (h : src.length ≤ k + 1) :
    posOf src k = posOf src (src.length - 1) := by
  cases src with
  | nil => rfl
  | cons c r =>
    simp only [posOf]
    rw [List.take_of_length_le h, List.take_of_length_le (by simp)]

theorem Scanner.next_loc (s : Scanner) :
    s.next.loc = locAfter s.line s.col (s.rest.drop 1).head? := by
  obtain ⟨_ | ⟨_, _⟩, _, _⟩ := s <;> rfl

theorem Scanner.new_rest (src : List Char) : (Scanner.new src).rest = src := by
  unfold Scanner.new; split <;> rfl

theorem scan_rest (src : List Char) (k : Nat) : ((Scanner.new src).advance k).rest = src.drop k := by
  rw [Scanner.advance_rest, Scanner.new_rest]

/-- the scanner invariant: after `k` steps the scanner reports the position of offset `k`
    (for `k ≥ src.length` that of the last character, where it stays put) -/
theorem scan_pos (src : List Char) (k : Nat) : ((Scanner.new src).advance k).loc = posOf src k := by
  induction k with
  | zero => exact (posOf_zero src).symm
  | succ k ih =>
    rw [Scanner.advance_succ', Scanner.next_loc, posOf_succ, scan_rest, List.drop_drop,
      List.head?_drop, ← ih]
    rfl

theorem scan_pos_of_length_le (src : List Char) (k : Nat) (h : src.length ≤ k) :
    ((Scanner.new src).advance k).loc = posOf src (src.length - 1) := by
  rw [scan_pos]; exact posOf_of_length_le src k (by omega)

theorem scan_head (src : List Char) (k : Nat) : ((Scanner.new src).advance k).rest.head? = src[k]? := by
  rw [scan_rest, List.head?_drop]

theorem scan_lt_length {src : List Char} {k : Nat} (h : ((Scanner.new src).advance k).rest ≠ []) :
    k < src.length := by
  rw [scan_rest] at h
  exact Nat.lt_of_not_le fun hle => h (List.drop_of_length_le hle)

theorem posOf_line_le (src : List Char) (k : Nat) : (posOf src k).1 ≤ 1 + src.count '\n' := by
  cases src with
  | nil => simp [posOf]
  | cons c r =>
    simp only [posOf, lineOf]
    have := (List.take_sublist (k + 1) (c :: r)).count_le '\n'
    omega

theorem posOf_line_ge_one (src : List Char) (k : Nat) : 1 ≤ (posOf src k).1 := by
  cases src with
  | nil => simp [posOf]
  | cons c r => simp only [posOf, lineOf]; omega

theorem line_le (src : List Char) (k : Nat) :
    ((Scanner.new src).advance k).line ≤ 1 + src.count '\n' := by
  have := posOf_line_le src k
  rw [← scan_pos] at this; exact this

theorem line_ge_one (src : List Char) (k : Nat) : 1 ≤ ((Scanner.new src).advance k).line := by
  have := posOf_line_ge_one src k
  rw [← scan_pos] at this; exact this

/-- the part of `nextToken` after whitespace: `c` is the current character of `s` -/
def tokBody (c : Char) (s : Scanner) : Except LexError (Token × Scanner) :=
  if c = '\n' || c = ';' then .ok (Token.StmtEnd, s.next)
  else if isAsciiAlpha c || c = '_' then
    let w := s.rest.takeWhile isIdentChar
    .ok (keywordOrIdent w, s.advance w.length)
  else if isAsciiDigit c then lexInt s
  else if c = '"' then lexStr false s
  else if c = '$' then lexStr true s.next
  else
    match lexSym c s with
    | (some t, s') => .ok (t, s')
    | (none, _) => .error (LexError.Unexpected s.loc c)

theorem nextToken_eq (s0 : Scanner) :
    nextToken s0 =
      match s0.skipWs.rest with
      | [] => .eof
      | c :: _ =>
        match tokBody c s0.skipWs with
        | .error e => .err e
        | .ok (t, s') => .tok ⟨s0.skipWs.loc, t, endLoc s'⟩ s' := by
  unfold nextToken tokBody
  rfl

theorem takeWhile_length_pos {α} (p : α → Bool) (c : α) (r : List α) (h : p c = true) :
    1 ≤ ((c :: r).takeWhile p).length := by
  simp [h]

theorem isIdentChar_of_start {c : Char} (h : (isAsciiAlpha c || c = '_') = true) : isIdentChar c = true := by
  unfold isIdentChar
  simp only [Bool.or_eq_true, decide_eq_true_eq] at h ⊢
  rcases h with h | h
  · exact Or.inl (Or.inl h)
  · exact Or.inr h

theorem isIntChar_of_digit {c : Char} (h : isAsciiDigit c = true) : isIntChar c = true := by
  unfold isIntChar; simp [h]

theorem tokBody_cases (c : Char) :
    ((c = '\n' || c = ';') = true ∧ ∀ s, tokBody c s = .ok (Token.StmtEnd, s.next)) ∨
    ((isAsciiAlpha c || c = '_') = true ∧ ∀ s, tokBody c s =
      .ok (keywordOrIdent (s.rest.takeWhile isIdentChar), s.advance (s.rest.takeWhile isIdentChar).length)) ∨
    (isAsciiDigit c = true ∧ ∀ s, tokBody c s = lexInt s) ∨
    (c = '"' ∧ ∀ s, tokBody c s = lexStr false s) ∨
    (c = '$' ∧ ∀ s, tokBody c s = lexStr true s.next) ∨
    (c ≠ '"' ∧ c ≠ '$' ∧ ∀ s, tokBody c s =
      match lexSym c s with
      | (some t, s') => .ok (t, s')
      | (none, _) => .error (LexError.Unexpected s.loc c)) := by
  by_cases h1 : (c = '\n' || c = ';') = true
  · exact .inl ⟨h1, fun s => by unfold tokBody; rw [if_pos h1]⟩
  by_cases h2 : (isAsciiAlpha c || c = '_') = true
  · exact .inr (.inl ⟨h2, fun s => by unfold tokBody; rw [if_neg h1, if_pos h2]⟩)
  by_cases h3 : isAsciiDigit c = true
  · exact .inr (.inr (.inl ⟨h3, fun s => by unfold tokBody; rw [if_neg h1, if_neg h2, if_pos h3]⟩))
  by_cases h4 : c = '"'
  · exact .inr (.inr (.inr (.inl
      ⟨h4, fun s => by unfold tokBody; rw [if_neg h1, if_neg h2, if_neg h3, if_pos h4]⟩)))
  by_cases h5 : c = '$'
  · exact .inr (.inr (.inr (.inr (.inl
      ⟨h5, fun s => by unfold tokBody; rw [if_neg h1, if_neg h2, if_neg h3, if_neg h4, if_pos h5]⟩))))
  · exact .inr (.inr (.inr (.inr (.inr
      ⟨h4, h5, fun s => by unfold tokBody; rw [if_neg h1, if_neg h2, if_neg h3, if_neg h4, if_neg h5]⟩))))

theorem tokBody_ok_advance {c : Char} {r : List Char} {s s' : Scanner} {t : Token} (hr : s.rest = c :: r)
    (h : tokBody c s = .ok (t, s')) : ∃ j, 1 ≤ j ∧ s' = s.advance j := by
  rcases tokBody_cases c with ⟨_, e⟩ | ⟨hc, e⟩ | ⟨hc, e⟩ | ⟨_, e⟩ | ⟨_, e⟩ | ⟨_, _, e⟩ <;> rw [e] at h
  · cases h
    exact ⟨1, Nat.le_refl _, rfl⟩
  · cases h
    exact ⟨_, by rw [hr]; exact takeWhile_length_pos _ _ _ (isIdentChar_of_start hc), rfl⟩
  · exact ⟨_, by rw [hr]; exact takeWhile_length_pos _ _ _ (isIntChar_of_digit hc), lexInt_ok h⟩
  · have := lexStr_advance false s
    rwa [h] at this
  · obtain ⟨n, _, he⟩ : ∃ n, 1 ≤ n ∧ s' = s.next.advance n := by
      have := lexStr_advance true s.next
      rwa [h] at this
    exact ⟨n + 1, Nat.le_add_left 1 n, he⟩
  · rw [lexSym_eq_symCore] at h
    split at h
    · next hsym =>
      cases h
      injection hsym with _ hsym
      exact ⟨_, (symCore_count _ _ _).1, hsym.symm⟩
    · cases h

theorem tokBody_error {c : Char} {s : Scanner} {e : LexError} (h : tokBody c s = .error e) :
    e = LexError.Unexpected s.loc c ∨
    (isAsciiDigit c = true ∧ e = LexError.IntOverflow s.loc (s.rest.takeWhile isIntChar)) ∨
    (e.isStr = true ∧ ∃ j ch, 1 ≤ j ∧ (s.advance j).rest.head? = some ch ∧
      e.loc = (s.advance j).loc ∧ e.offender = some ch) := by
  rcases tokBody_cases c with ⟨_, e⟩ | ⟨_, e⟩ | ⟨hc, e⟩ | ⟨_, e⟩ | ⟨_, e⟩ | ⟨_, _, e⟩ <;> rw [e] at h
  · cases h
  · cases h
  · exact .inr (.inl ⟨hc, lexInt_error h⟩)
  · have := lexStr_advance false s
    rw [h] at this
    obtain ⟨n, ch, hn, h1, h2, h3, h4⟩ := this
    exact .inr (.inr ⟨h4, n, ch, hn, h1, h2, h3⟩)
  · have := lexStr_advance true s.next
    rw [h] at this
    obtain ⟨n, ch, _, h1, h2, h3, h4⟩ := this
    exact .inr (.inr ⟨h4, n + 1, ch, Nat.le_add_left 1 n, h1, h2, h3⟩)
  · split at h
    · cases h
    · cases h
      exact .inl rfl

theorem nextToken_tok_shape {s0 s' : Scanner} {sp : Span} (h : nextToken s0 = .tok sp s') :
    s0.skipWs.rest ≠ [] ∧ sp.start = s0.skipWs.loc ∧ sp.stop = endLoc s' ∧
      ∃ j, 1 ≤ j ∧ s' = s0.skipWs.advance j := by
  rw [nextToken_eq] at h
  split at h
  · cases h
  · next c r hr =>
    split at h
    · cases h
    · next t s'' hres =>
      injection h with h1 h2
      subst h2
      exact ⟨by rw [hr]; exact List.cons_ne_nil _ _, by rw [← h1], by rw [← h1], tokBody_ok_advance hr hres⟩

theorem nextToken_err_shape {s0 : Scanner} {e : LexError} (h : nextToken s0 = .err e) :
    ∃ c r, s0.skipWs.rest = c :: r ∧
      (e = LexError.Unexpected s0.skipWs.loc c ∨
       (isAsciiDigit c = true ∧
          e = LexError.IntOverflow s0.skipWs.loc (s0.skipWs.rest.takeWhile isIntChar)) ∨
       (e.isStr = true ∧ ∃ j ch, 1 ≤ j ∧ (s0.skipWs.advance j).rest.head? = some ch ∧
          e.loc = (s0.skipWs.advance j).loc ∧ e.offender = some ch)) := by
  rw [nextToken_eq] at h
  split at h
  · cases h
  · next c r hr =>
    split at h
    · next e' hres =>
      injection h with h; subst h
      exact ⟨c, r, hr, tokBody_error hres⟩
    · cases h

theorem nextToken_err_loc {s0 : Scanner} {e : LexError} (h : nextToken s0 = .err e) :
    ∃ j, e.loc = (s0.skipWs.advance j).loc := by
  obtain ⟨c, r, _, h | ⟨_, h⟩ | ⟨_, j, _, _, _, h, _⟩⟩ := nextToken_err_shape h
  · exact ⟨0, by rw [h]; rfl⟩
  · exact ⟨0, by rw [h]; rfl⟩
  · exact ⟨j, h⟩

theorem nextToken_eof_shape {s0 : Scanner} (h : nextToken s0 = .eof) : s0.skipWs.rest = [] := by
  rw [nextToken_eq] at h
  split at h
  · assumption
  · split at h <;> cases h

theorem nextToken_of_rest_nil (s : Scanner) (h : s.rest = []) : nextToken s = .eof := by
  obtain ⟨r, l, c⟩ := s
  cases h
  rfl

theorem lexRaw_of_rest_nil (n : Nat) (s : Scanner) (h : s.rest = []) : lexRaw n s = ([], none) := by
  cases n with
  | zero => rfl
  | succ n => rw [lexRaw, nextToken_of_rest_nil s h]

theorem nextToken_advance {s s' : Scanner} {sp : Span} (h : nextToken s = .tok sp s') :
    ∃ n, 1 ≤ n ∧ n ≤ s.rest.length ∧ s' = s.advance n := by
  obtain ⟨hne, _, _, j, hj, hs'⟩ := nextToken_tok_shape h
  obtain ⟨m, hm⟩ := s.skipWs_advance
  rw [hm, Scanner.advance_add] at hs'
  rw [hm, Scanner.advance_rest] at hne
  have hlen : m < s.rest.length := Nat.lt_of_not_le fun hle => hne (List.drop_of_length_le hle)
  refine ⟨min (m + j) s.rest.length, by omega, Nat.min_le_right _ _, ?_⟩
  rw [← Scanner.advance_min]; exact hs'

theorem nextToken_rest_lt {s s' : Scanner} {sp : Span} (h : nextToken s = .tok sp s') :
    s'.rest.length < s.rest.length := by
  obtain ⟨n, h1, h2, rfl⟩ := nextToken_advance h
  rw [Scanner.advance_rest_length]; omega

theorem lexRaw_fuel_irrelevant (n m : Nat) (s : Scanner) (hn : s.rest.length < n) (hm : s.rest.length < m) :
    lexRaw n s = lexRaw m s := by
  induction n generalizing m s with
  | zero => omega
  | succ n ih =>
    cases m with
    | zero => omega
    | succ m =>
      unfold lexRaw
      cases h : nextToken s with
      | eof => rfl
      | err e => rfl
      | tok sp s' =>
        have := nextToken_rest_lt h
        simp only
        rw [ih m s' (by omega) (by omega)]

theorem nextToken_tok_reach {src : List Char} {k : Nat} {s' : Scanner} {sp : Span}
    (h : nextToken ((Scanner.new src).advance k) = .tok sp s') :
    ∃ i j, k ≤ i ∧ i < j ∧ i < src.length ∧ j ≤ src.length ∧
      ((Scanner.new src).advance k).skipWs = (Scanner.new src).advance i ∧
      sp.start = ((Scanner.new src).advance i).loc ∧
      s' = (Scanner.new src).advance j ∧ sp.stop = endLoc s' := by
  obtain ⟨hne, hstart, hstop, j, hj, hs'⟩ := nextToken_tok_shape h
  obtain ⟨m, hm⟩ := ((Scanner.new src).advance k).skipWs_advance
  rw [Scanner.advance_add] at hm
  rw [hm] at hne hstart hs'
  rw [Scanner.advance_add, Scanner.advance_min, Scanner.new_rest] at hs'
  have hlt := scan_lt_length hne
  exact ⟨k + m, min (k + m + j) src.length, by omega, by omega, hlt, Nat.min_le_right _ _,
    hm, hstart, hs', hstop⟩

theorem nextToken_err_reach {src : List Char} {k : Nat} {e : LexError}
    (h : nextToken ((Scanner.new src).advance k) = .err e) :
    ∃ i c, k ≤ i ∧ ((Scanner.new src).advance k).skipWs = (Scanner.new src).advance i ∧
      src[i]? = some c ∧
      (e = LexError.Unexpected (posOf src i) c ∨
       (isAsciiDigit c = true ∧
          e = LexError.IntOverflow (posOf src i) ((src.drop i).takeWhile isIntChar)) ∨
       (e.isStr = true ∧ ∃ i' ch, i < i' ∧ src[i']? = some ch ∧ e.loc = posOf src i' ∧
          e.offender = some ch)) := by
  obtain ⟨c, r, hr, hcases⟩ := nextToken_err_shape h
  obtain ⟨m, hm⟩ := ((Scanner.new src).advance k).skipWs_advance
  rw [Scanner.advance_add] at hm
  rw [hm] at hr hcases
  have hc : src[k + m]? = some c := by rw [← scan_head, hr]; rfl
  refine ⟨k + m, c, by omega, hm, hc, ?_⟩
  rw [scan_pos, scan_rest] at hcases
  rcases hcases with h1 | h2 | ⟨h3, j, ch, hj, hh, hl, ho⟩
  · exact Or.inl h1
  · exact Or.inr (Or.inl h2)
  · rw [Scanner.advance_add, scan_pos] at hl
    rw [Scanner.advance_add, scan_head] at hh
    exact Or.inr (Or.inr ⟨h3, k + m + j, ch, by omega, hh, hl, ho⟩)

theorem endLoc_line (s : Scanner) : (endLoc s).1 = s.line := by
  unfold endLoc; split <;> rfl

theorem endLoc_locAfter (l c : Nat) (r : List Char) :
    endLoc ⟨r, (locAfter l c r.head?).1, (locAfter l c r.head?).2⟩ =
      if r.head? = some '\n' then locAfter l c r.head? else (l, c) := by
  cases r with
  | nil => rfl
  | cons ch r =>
    by_cases h : ch = '\n'
    · subst h; rfl
    · simp [endLoc, locAfter, h]

/-- the end location of a token whose scanner stops at offset `j`: the position of the last
    consumed character `j - 1` — unless the next character is a newline, in which case it is the
    newline's own position `(line + 1, 0)` -/
theorem endLoc_reach (src : List Char) (j : Nat) (h1 : 1 ≤ j) (h2 : j ≤ src.length) :
    endLoc ((Scanner.new src).advance j) =
      if src[j]? = some '\n' then posOf src j else posOf src (j - 1) := by
  obtain ⟨j, rfl⟩ : ∃ j', j = j' + 1 := ⟨j - 1, by omega⟩
  have e : (Scanner.new src).advance (j + 1) =
      ⟨src.drop (j + 1), (posOf src (j + 1)).1, (posOf src (j + 1)).2⟩ := by
    rw [← scan_pos, ← scan_rest]; rfl
  rw [e, posOf_succ, ← List.head?_drop, endLoc_locAfter]
  rfl

theorem lexRaw_reach (src : List Char) (n k : Nat) :
    (∀ sp ∈ (lexRaw n ((Scanner.new src).advance k)).1,
      ∃ k' s', k ≤ k' ∧ nextToken ((Scanner.new src).advance k') = .tok sp s') ∧
    (∀ e, (lexRaw n ((Scanner.new src).advance k)).2 = some e →
      ∃ k', k ≤ k' ∧ nextToken ((Scanner.new src).advance k') = .err e) := by
  induction n generalizing k with
  | zero => unfold lexRaw; simp
  | succ n ih =>
    unfold lexRaw
    cases ht : nextToken ((Scanner.new src).advance k) with
    | eof => simp
    | err e =>
      simp only [List.not_mem_nil, false_implies, implies_true, true_and, Option.some.injEq]
      rintro e' rfl
      exact ⟨k, Nat.le_refl _, ht⟩
    | tok sp0 s' =>
      obtain ⟨i, j, _, _, _, _, _, _, hs', _⟩ := nextToken_tok_reach ht
      subst hs'
      refine ⟨fun sp h => ?_, fun e h => ?_⟩
      · rcases List.mem_cons.mp h with rfl | h
        · exact ⟨k, _, Nat.le_refl _, ht⟩
        · obtain ⟨k', s'', hk', hn⟩ := (ih j).1 sp h
          exact ⟨k', s'', by omega, hn⟩
      · obtain ⟨k', hk', hn⟩ := (ih j).2 e h
        exact ⟨k', by omega, hn⟩

theorem lexRaw_mem_reach (src : List Char) (n k : Nat) (sp : Span)
    (h : sp ∈ (lexRaw n ((Scanner.new src).advance k)).1) :
    ∃ k' s', k ≤ k' ∧ nextToken ((Scanner.new src).advance k') = .tok sp s' :=
  (lexRaw_reach src n k).1 sp h

theorem lexRaw_err_reach (src : List Char) (n k : Nat) (e : LexError)
    (h : (lexRaw n ((Scanner.new src).advance k)).2 = some e) :
    ∃ k', k ≤ k' ∧ nextToken ((Scanner.new src).advance k') = .err e :=
  (lexRaw_reach src n k).2 e h

theorem lexRaw_lines_bounded (src : List Char) (P : Nat → Prop)
    (hP : ∀ k, P ((Scanner.new src).advance k).line) (n k : Nat) :
    (∀ sp ∈ (lexRaw n ((Scanner.new src).advance k)).1, P sp.start.1 ∧ P sp.stop.1) ∧
    (∀ e, (lexRaw n ((Scanner.new src).advance k)).2 = some e → P e.loc.1) := by
  refine ⟨fun sp h => ?_, fun e h => ?_⟩
  · obtain ⟨k', s', _, hn⟩ := lexRaw_mem_reach src n k sp h
    obtain ⟨i, j, _, _, _, _, _, hstart, hs', hstop⟩ := nextToken_tok_reach hn
    rw [hstart, hstop, hs', endLoc_line]
    exact ⟨hP _, hP _⟩
  · obtain ⟨k', _, hn⟩ := lexRaw_err_reach src n k e h
    obtain ⟨j, hloc⟩ := nextToken_err_loc hn
    obtain ⟨m, hm⟩ := ((Scanner.new src).advance k').skipWs_advance
    rw [hm, Scanner.advance_add, Scanner.advance_add] at hloc
    rw [hloc]; exact hP _

end Seed
