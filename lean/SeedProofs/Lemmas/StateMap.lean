/-
  Lemmas/StateMap.lean — what the two-run simulations (renaming, C04; replaced function bodies, C01) share.
  Both compare a run from `σ` with a run from `T σ`, where `T` keeps every address, the list and object cells and the
  name of every function, and both carry an invariant of the form "every function cell satisfies `Q`":
  * `==`, rendering and `toPairs` read nothing else, so they give the same answer in `T σ` as in `σ`;
  * such an invariant survives `alloc`, `set`, `scopeAssign` and `scopeDeclare` as long as no function cell is written
    that violates it.
-/
import SeedProofs.Lemmas.C04Scope
namespace Seed
open ScopeL

section reads
variable {T : State → State} (hL : ∀ σ a, (T σ).getList a = σ.getList a) (hO : ∀ σ a, (T σ).getObj a = σ.getObj a)
include hL hO

theorem eq_map (n : Nat) :
    (∀ σ a b, eqVal n (T σ) a b = eqVal n σ a b) ∧
    (∀ σ i xs ys, eqItems n (T σ) i xs ys = eqItems n σ i xs ys) ∧
    (∀ σ xs ys, eqProps n (T σ) xs ys = eqProps n σ xs ys) := by
  induction n with
  | zero =>
    refine ⟨?_, ?_, ?_⟩ <;> intros
    · unfold eqVal; rfl
    · unfold eqItems; rfl
    · unfold eqProps; rfl
  | succ n ih =>
    obtain ⟨ihV, ihI, ihP⟩ := ih
    refine ⟨?_, ?_, ?_⟩ <;> intros
    · unfold eqVal; simp only [hL, hO, ihI, ihP]
    · unfold eqItems; simp only [ihV, ihI]
    · unfold eqProps; simp only [ihV, ihP]

theorem toPairs_map (σ : State) (v : Val) : toPairs (T σ) v = toPairs σ v := by
  unfold toPairs; simp only [hL, hO]

variable {g : Addr → FuncRec → FuncRec} (hF : ∀ σ a, (T σ).getFunc a = (σ.getFunc a).map (g a))
  (hn : ∀ a fr, (g a fr).name = fr.name)
include hF hn

/-- of a function cell, rendering shows only the name -/
theorem render_map (n : Nat) :
    (∀ σ held v, render n (T σ) held v = render n σ held v) ∧
    (∀ σ held items, renderItems n (T σ) held items = renderItems n σ held items) ∧
    (∀ σ held props, renderProps n (T σ) held props = renderProps n σ held props) := by
  induction n with
  | zero =>
    refine ⟨?_, ?_, ?_⟩ <;> intros
    · unfold render; rfl
    · unfold renderItems; rfl
    · unfold renderProps; rfl
  | succ n ih =>
    obtain ⟨ihV, ihI, ihP⟩ := ih
    refine ⟨?_, ?_, ?_⟩ <;> intros
    · rename_i σ held v
      unfold render
      simp only [hL, hO, hF, ihI, ihP]
      cases v <;> try rfl
      -- left: the function value
      rename_i a
      simp only []
      cases σ.getFunc a with
      | none => rfl
      | some fr => simp only [Option.map_some, hn]
    · unfold renderItems; simp only [ihV, ihI]
    · unfold renderProps; simp only [ihV, ihP]

end reads

/-- every function cell of `σ` satisfies `Q` (which may depend on the address of the cell) -/
def FuncsAll (Q : Addr → FuncRec → Prop) (σ : State) : Prop := ∀ a fr, σ.getFunc a = some fr → Q a fr

namespace FuncsAll
variable {Q : Addr → FuncRec → Prop} {σ : State}

theorem init : FuncsAll Q State.init := by
  intro a fr h
  simp [State.getFunc, State.init] at h

/-- function cells sit at addresses below `σ.heap.size` -/
theorem mono {Q' : Addr → FuncRec → Prop} (h : FuncsAll Q σ) (hq : ∀ a fr, a < σ.heap.size → Q a fr → Q' a fr) :
    FuncsAll Q' σ :=
  fun a fr ha => hq a fr (heap_lt_of_some (getFunc_heap.mp ha)) (h a fr ha)

/-- the new cell has address `σ.heap.size` -/
theorem alloc (h : FuncsAll Q σ) (c : Cell) (hc : ∀ fr, c = .func fr → Q σ.heap.size fr) : FuncsAll Q (σ.alloc c).2 := by
  intro a fr ha
  have ha' := getFunc_heap.mp ha
  by_cases hlt : a < σ.heap.size
  · rw [alloc_old σ c hlt] at ha'
    exact h a fr (getFunc_heap.mpr ha')
  · have hlt2 := heap_lt_of_some ha'
    rw [alloc_size] at hlt2
    have heq : a = σ.heap.size := Nat.le_antisymm (Nat.le_of_lt_succ hlt2) (Nat.le_of_not_lt hlt)
    subst heq
    rw [alloc_new] at ha'
    exact hc fr (by cases ha'; rfl)

theorem set (h : FuncsAll Q σ) (a : Addr) (c : Cell) (hc : ∀ fr, c ≠ .func fr) : FuncsAll Q (σ.set a c) := by
  intro b fr hb
  have hb' := getFunc_heap.mp hb
  by_cases hba : b = a
  · subst hba
    by_cases hlt : b < σ.heap.size
    · rw [set_same σ b c hlt] at hb'
      exact absurd (by cases hb'; rfl) (hc fr)
    · rw [set_same_oob σ b c hlt] at hb; exact h b fr hb
  · rw [set_other σ a c hba] at hb'
    exact h b fr (getFunc_heap.mpr hb')

theorem scopeAssign {σ' : State} {sc : List Addr} {x : List Char} {v : SVal} (h : FuncsAll Q σ)
    (hs : scopeAssign σ sc x v = some σ') : FuncsAll Q σ' := by
  obtain ⟨pre, a, post, m, w, l, _, _, _, _, rfl⟩ := scopeAssign_some_iff.mp hs
  exact h.set _ _ (fun _ e => by cases e)

theorem scopeDeclare {σ' : State} {sc : List Addr} {x : List Char} {loc : Loc} {v : SVal} (h : FuncsAll Q σ)
    (hs : scopeDeclare σ sc x loc v = .ok σ') : FuncsAll Q σ' := by
  cases sc with
  | nil => cases hs
  | cons a r =>
    obtain ⟨m, _, _, rfl⟩ := scopeDeclare_ok_iff.mp hs
    exact h.set _ _ (fun _ e => by cases e)

end FuncsAll
end Seed
