/-
  WF.lean — well-formed states (G4, part 1): every address stored in a value, a cell or a scope chain
  denotes a heap cell of the expected kind, and every object cell is strictly sorted by key (`Sorted`, C12).
  Definitions, monotonicity under heap extension, and the
  preservation lemmas for the state-changing primitives (`alloc`, `set`, `print`, `scopeDeclare`,
  `scopeAssign`).

  Everything here depends on a state only through `State.tagAt`, so monotonicity is proved once for the
  relation `TagLe` ("every tagged address keeps its tag") and instantiated for `HeapGrows` and `Ext`.
-/
import SeedProofs.Lemmas.Instances
import SeedProofs.Lemmas.ListSet
import SeedProofs.Lemmas.C12Map
namespace Seed

def ValOK (σ : State) : Val → Prop
  | .null => True
  | .bool _ => True
  | .int _ => True
  | .str _ => True
  | .list a => σ.tagAt a = some .list
  | .obj a => σ.tagAt a = some .obj
  | .builtin _ _ => True
  | .func a => σ.tagAt a = some .func

def SValOK (σ : State) (sv : SVal) : Prop := ValOK σ sv.v ∧ ∀ s, sv.src = some s → ValOK σ s

def ListOK (σ : State) (xs : List SVal) : Prop := ∀ x ∈ xs, SValOK σ x
def ObjOK (σ : State) (m : ObjMap) : Prop := ∀ kv ∈ m, SValOK σ kv.2
def ScopeMapOK (σ : State) (m : ScopeMap) : Prop := ∀ e ∈ m, SValOK σ e.2.1

def ScTags (σ : State) (sc : List Addr) : Prop := ∀ a ∈ sc, σ.tagAt a = some .scope
def ScOK (σ : State) (sc : List Addr) : Prop := sc ≠ [] ∧ ScTags σ sc

def CellOK (σ : State) : Cell → Prop
  | .list xs => ListOK σ xs
  | .obj m => ObjOK σ m ∧ Sorted m
  | .func f => ScOK σ f.closure
  | .scope m => ScopeMapOK σ m

/-- well-formed state: every cell only refers to cells of the right kind, and every object cell is strictly
    sorted by key (`Sorted`, the `BTreeMap` order) -/
def WF (σ : State) : Prop := ∀ (a : Addr) (cell : Cell), σ.heap[a]? = some cell → CellOK σ cell

def LenStable (σ σ' : State) : Prop :=
  ∀ a xs, σ.getList a = some xs → ∃ ys, σ'.getList a = some ys ∧ ys.length = xs.length

def Ext (σ σ' : State) : Prop := HeapGrows σ σ' ∧ LenStable σ σ'

def TagLe (σ σ' : State) : Prop := ∀ a t, σ.tagAt a = some t → σ'.tagAt a = some t

theorem tagAt_lt {σ : State} {a : Addr} {t : CellTag} (h : σ.tagAt a = some t) : a < σ.heap.size := by
  cases Nat.lt_or_ge a σ.heap.size with
  | inl hlt => exact hlt
  | inr hge =>
    have : σ.heap[a]? = none := by simp; omega
    simp [State.tagAt, this] at h

theorem getFunc_tag {σ : State} {a : Addr} {f : FuncRec} (h : σ.getFunc a = some f) : σ.tagAt a = some .func :=
  tagAt_of_heap (ScopeL.getFunc_heap.1 h)

theorem heap_of_tag {σ : State} {a : Addr} {t : CellTag} (h : σ.tagAt a = some t) : ∃ c, σ.heap[a]? = some c ∧ c.tag = t := by
  unfold State.tagAt at h
  cases hc : σ.heap[a]? with
  | none => rw [hc] at h; cases h
  | some c => rw [hc] at h; exact ⟨c, rfl, Option.some.inj h⟩

theorem getList_of_tag {σ : State} {a : Addr} (h : σ.tagAt a = some .list) : ∃ xs, σ.getList a = some xs := by
  obtain ⟨c, hc, ht⟩ := heap_of_tag h
  cases c <;> first | exact ⟨_, ScopeL.getList_heap.2 hc⟩ | cases ht

theorem getObj_of_tag {σ : State} {a : Addr} (h : σ.tagAt a = some .obj) : ∃ m, σ.getObj a = some m := by
  obtain ⟨c, hc, ht⟩ := heap_of_tag h
  cases c <;> first | exact ⟨_, ScopeL.getObj_heap.2 hc⟩ | cases ht

theorem getFunc_of_tag {σ : State} {a : Addr} (h : σ.tagAt a = some .func) : ∃ f, σ.getFunc a = some f := by
  obtain ⟨c, hc, ht⟩ := heap_of_tag h
  cases c <;> first | exact ⟨_, ScopeL.getFunc_heap.2 hc⟩ | cases ht

theorem getScope_of_tag {σ : State} {a : Addr} (h : σ.tagAt a = some .scope) : ∃ m, σ.getScope a = some m := by
  obtain ⟨c, hc, ht⟩ := heap_of_tag h
  cases c <;> first | exact ⟨_, ScopeL.getScope_heap.2 hc⟩ | cases ht

/-- the "dangling address" branches of the evaluator are dead for OK values -/
theorem getList_ne_none {σ : State} {a : Addr} (h : σ.tagAt a = some .list) : σ.getList a ≠ none := by
  obtain ⟨xs, hx⟩ := getList_of_tag h; simp [hx]
theorem getObj_ne_none {σ : State} {a : Addr} (h : σ.tagAt a = some .obj) : σ.getObj a ≠ none := by
  obtain ⟨xs, hx⟩ := getObj_of_tag h; simp [hx]
theorem getFunc_ne_none {σ : State} {a : Addr} (h : σ.tagAt a = some .func) : σ.getFunc a ≠ none := by
  obtain ⟨xs, hx⟩ := getFunc_of_tag h; simp [hx]
theorem getScope_ne_none {σ : State} {a : Addr} (h : σ.tagAt a = some .scope) : σ.getScope a ≠ none := by
  obtain ⟨xs, hx⟩ := getScope_of_tag h; simp [hx]

theorem TagLe.refl (σ : State) : TagLe σ σ := fun _ _ h => h
theorem TagLe.trans {a b c : State} (h1 : TagLe a b) (h2 : TagLe b c) : TagLe a c := fun x t h => h2 x t (h1 x t h)

theorem HeapGrows.tagLe {σ σ' : State} (h : HeapGrows σ σ') : TagLe σ σ' := by
  intro a t ha
  rw [h.2 a (tagAt_lt ha)]; exact ha

theorem Ext.tagLe {σ σ' : State} (h : Ext σ σ') : TagLe σ σ' := h.1.tagLe
theorem Ext.heapGrows {σ σ' : State} (h : Ext σ σ') : HeapGrows σ σ' := h.1

theorem ValOK.tagLe {σ σ' : State} {v : Val} (h : ValOK σ v) (ht : TagLe σ σ') : ValOK σ' v := by
  cases v <;> first | trivial | exact ht _ _ h

theorem SValOK.tagLe {σ σ' : State} {v : SVal} (h : SValOK σ v) (ht : TagLe σ σ') : SValOK σ' v :=
  ⟨h.1.tagLe ht, fun s hs => (h.2 s hs).tagLe ht⟩

theorem ListOK.tagLe {σ σ' : State} {xs : List SVal} (h : ListOK σ xs) (ht : TagLe σ σ') : ListOK σ' xs :=
  fun x hx => (h x hx).tagLe ht
theorem ObjOK.tagLe {σ σ' : State} {m : ObjMap} (h : ObjOK σ m) (ht : TagLe σ σ') : ObjOK σ' m :=
  fun x hx => (h x hx).tagLe ht
theorem ScopeMapOK.tagLe {σ σ' : State} {m : ScopeMap} (h : ScopeMapOK σ m) (ht : TagLe σ σ') : ScopeMapOK σ' m :=
  fun x hx => (h x hx).tagLe ht
theorem ScTags.tagLe {σ σ' : State} {sc : List Addr} (h : ScTags σ sc) (ht : TagLe σ σ') : ScTags σ' sc :=
  fun a ha => ht _ _ (h a ha)
theorem ScOK.tagLe {σ σ' : State} {sc : List Addr} (h : ScOK σ sc) (ht : TagLe σ σ') : ScOK σ' sc :=
  ⟨h.1, h.2.tagLe ht⟩
theorem CellOK.tagLe {σ σ' : State} {c : Cell} (h : CellOK σ c) (ht : TagLe σ σ') : CellOK σ' c := by
  cases c with
  | list xs => exact ListOK.tagLe h ht
  | obj m => exact ⟨ObjOK.tagLe h.1 ht, h.2⟩
  | func f => exact ScOK.tagLe h ht
  | scope m => exact ScopeMapOK.tagLe h ht

theorem ValOK.mono_heapGrows {σ σ' : State} {v : Val} (h : ValOK σ v) (hg : HeapGrows σ σ') : ValOK σ' v := h.tagLe hg.tagLe
theorem SValOK.mono_heapGrows {σ σ' : State} {v : SVal} (h : SValOK σ v) (hg : HeapGrows σ σ') : SValOK σ' v := h.tagLe hg.tagLe
theorem ScOK.mono_heapGrows {σ σ' : State} {sc : List Addr} (h : ScOK σ sc) (hg : HeapGrows σ σ') : ScOK σ' sc := h.tagLe hg.tagLe

/-- under `Ext`, the relation the evaluator proof threads -/
theorem ValOK.mono {σ σ' : State} {v : Val} (h : ValOK σ v) (he : Ext σ σ') : ValOK σ' v := h.tagLe he.tagLe
theorem SValOK.mono {σ σ' : State} {v : SVal} (h : SValOK σ v) (he : Ext σ σ') : SValOK σ' v := h.tagLe he.tagLe
theorem ListOK.mono {σ σ' : State} {xs : List SVal} (h : ListOK σ xs) (he : Ext σ σ') : ListOK σ' xs := h.tagLe he.tagLe
theorem ObjOK.mono {σ σ' : State} {m : ObjMap} (h : ObjOK σ m) (he : Ext σ σ') : ObjOK σ' m := h.tagLe he.tagLe
theorem ScTags.mono {σ σ' : State} {sc : List Addr} (h : ScTags σ sc) (he : Ext σ σ') : ScTags σ' sc := h.tagLe he.tagLe
theorem ScOK.mono {σ σ' : State} {sc : List Addr} (h : ScOK σ sc) (he : Ext σ σ') : ScOK σ' sc := h.tagLe he.tagLe
theorem tag_mono {σ σ' : State} {a : Addr} {t : CellTag} (h : σ.tagAt a = some t) (he : Ext σ σ') : σ'.tagAt a = some t :=
  he.tagLe _ _ h

theorem Ext.refl (σ : State) : Ext σ σ := ⟨heapGrows_good.refl σ, fun _ xs h => ⟨xs, h, rfl⟩⟩

theorem Ext.trans {a b c : State} (h1 : Ext a b) (h2 : Ext b c) : Ext a c := by
  refine ⟨heapGrows_good.trans h1.1 h2.1, fun x xs hx => ?_⟩
  obtain ⟨ys, hy, hl⟩ := h1.2 x xs hx
  obtain ⟨zs, hz, hl'⟩ := h2.2 x ys hy
  exact ⟨zs, hz, hl'.trans hl⟩

theorem Ext.getList {σ σ' : State} {a : Addr} {xs : List SVal} (he : Ext σ σ') (h : σ.getList a = some xs) :
    ∃ ys, σ'.getList a = some ys ∧ ys.length = xs.length := he.2 a xs h

theorem WF.list {σ : State} {a : Addr} {xs : List SVal} (h : WF σ) (hg : σ.getList a = some xs) : ListOK σ xs :=
  h a _ (ScopeL.getList_heap.1 hg)
theorem WF.obj {σ : State} {a : Addr} {m : ObjMap} (h : WF σ) (hg : σ.getObj a = some m) : ObjOK σ m :=
  (h a _ (ScopeL.getObj_heap.1 hg)).1
theorem WF.sorted {σ : State} {a : Addr} {m : ObjMap} (h : WF σ) (hg : σ.getObj a = some m) : Sorted m :=
  (h a _ (ScopeL.getObj_heap.1 hg)).2
theorem WF.func {σ : State} {a : Addr} {f : FuncRec} (h : WF σ) (hg : σ.getFunc a = some f) : ScOK σ f.closure :=
  h a _ (ScopeL.getFunc_heap.1 hg)
theorem WF.scope {σ : State} {a : Addr} {m : ScopeMap} (h : WF σ) (hg : σ.getScope a = some m) : ScopeMapOK σ m :=
  h a _ (ScopeL.getScope_heap.1 hg)

theorem wf_init : WF State.init := by
  intro a c h
  simp [State.init] at h

theorem SValOK.plain {σ : State} {v : Val} (h : ValOK σ v) : SValOK σ (SVal.plain v) :=
  ⟨h, fun s hs => by simp [SVal.plain] at hs⟩

theorem SValOK.withSrc {σ : State} {v s : Val} (hv : ValOK σ v) (hs : ValOK σ s) : SValOK σ ⟨v, some s⟩ :=
  ⟨hv, fun s' h => by cases h; exact hs⟩

theorem ListOK.nil {σ : State} : ListOK σ [] := fun _ h => by cases h
theorem ListOK.cons {σ : State} {x : SVal} {xs : List SVal} (hx : SValOK σ x) (h : ListOK σ xs) : ListOK σ (x :: xs) :=
  List.forall_mem_cons.2 ⟨hx, h⟩
theorem ListOK.append {σ : State} {xs ys : List SVal} (hx : ListOK σ xs) (hy : ListOK σ ys) : ListOK σ (xs ++ ys) :=
  List.forall_mem_append.2 ⟨hx, hy⟩
theorem ListOK.head {σ : State} {x : SVal} {xs : List SVal} (h : ListOK σ (x :: xs)) : SValOK σ x := h x List.mem_cons_self
theorem ListOK.tail {σ : State} {x : SVal} {xs : List SVal} (h : ListOK σ (x :: xs)) : ListOK σ xs :=
  fun y hy => h y (List.mem_cons_of_mem _ hy)
theorem ListOK.take {σ : State} {xs : List SVal} (n : Nat) (hx : ListOK σ xs) : ListOK σ (xs.take n) :=
  fun y h => hx y (List.mem_of_mem_take h)
theorem ListOK.drop {σ : State} {xs : List SVal} (n : Nat) (hx : ListOK σ xs) : ListOK σ (xs.drop n) :=
  fun y h => hx y (List.mem_of_mem_drop h)
theorem ListOK.getElem? {σ : State} {xs : List SVal} {i : Nat} {v : SVal} (hx : ListOK σ xs) (h : xs[i]? = some v) : SValOK σ v :=
  hx v (List.mem_of_getElem? h)

theorem ObjOK.nil {σ : State} : ObjOK σ [] := fun _ h => by cases h
theorem ObjOK.cons {σ : State} {k : List Char} {x : SVal} {xs : ObjMap} (hx : SValOK σ x) (h : ObjOK σ xs) :
    ObjOK σ ((k, x) :: xs) := List.forall_mem_cons.2 ⟨hx, h⟩
theorem ObjOK.head {σ : State} {k : List Char} {x : SVal} {xs : ObjMap} (h : ObjOK σ ((k, x) :: xs)) : SValOK σ x :=
  h (k, x) List.mem_cons_self
theorem ObjOK.tail {σ : State} {kx : List Char × SVal} {xs : ObjMap} (h : ObjOK σ (kx :: xs)) : ObjOK σ xs :=
  fun y hy => h y (List.mem_cons_of_mem _ hy)

theorem objGet_ok {σ : State} {k : List Char} {m : ObjMap} {v : SVal} (hm : ObjOK σ m) (h : objGet k m = some v) : SValOK σ v := by
  induction m with
  | nil => cases h
  | cons kv r ih =>
    obtain ⟨k', v'⟩ := kv
    unfold objGet at h
    split at h
    · cases h; exact hm.head
    · exact ih hm.tail h

theorem objInsert_ok {σ : State} {k : List Char} {v : SVal} {m : ObjMap} (hm : ObjOK σ m) (hv : SValOK σ v) :
    ObjOK σ (objInsert k v m) := by
  induction m with
  | nil => exact ObjOK.cons hv hm
  | cons kv r ih =>
    obtain ⟨k', v'⟩ := kv
    unfold objInsert
    split
    · exact ObjOK.cons hv hm.tail
    · split
      · exact ObjOK.cons hv hm
      · exact ObjOK.cons hm.head (ih hm.tail)

theorem objInsert_foldl_ok {σ : State} (m : ObjMap) {acc : ObjMap} (hm : ObjOK σ m) (ha : ObjOK σ acc) :
    ObjOK σ (m.foldl (fun acc kv => objInsert kv.1 kv.2 acc) acc) := by
  induction m generalizing acc with
  | nil => exact ha
  | cons kv r ih =>
    simp only [List.foldl_cons]
    exact ih hm.tail (objInsert_ok ha (hm kv List.mem_cons_self))

theorem objInsert_foldl_sorted (m : ObjMap) {acc : ObjMap} (ha : Sorted acc) :
    Sorted (m.foldl (fun acc kv => objInsert kv.1 kv.2 acc) acc) := by
  induction m generalizing acc with
  | nil => exact ha
  | cons kv r ih =>
    simp only [List.foldl_cons]
    exact ih (objInsert_sorted ha)

theorem ObjOK.filter {σ : State} {m : ObjMap} (p : List Char × SVal → Bool) (hm : ObjOK σ m) : ObjOK σ (m.filter p) :=
  fun x hx => hm x (List.mem_filter.1 hx).1

theorem ScopeMapOK.cons {σ : State} {k : List Char} {v : SVal} {l : Loc} {m : ScopeMap} (hv : SValOK σ v)
    (h : ScopeMapOK σ m) : ScopeMapOK σ ((k, v, l) :: m) := List.forall_mem_cons.2 ⟨hv, h⟩
theorem ScopeMapOK.head {σ : State} {k : List Char} {v : SVal} {l : Loc} {m : ScopeMap} (h : ScopeMapOK σ ((k, v, l) :: m)) :
    SValOK σ v := h (k, v, l) List.mem_cons_self
theorem ScopeMapOK.tail {σ : State} {e : List Char × SVal × Loc} {m : ScopeMap} (h : ScopeMapOK σ (e :: m)) : ScopeMapOK σ m :=
  fun x hx => h x (List.mem_cons_of_mem _ hx)

theorem scopeLookup_ok {σ : State} {k : List Char} {m : ScopeMap} {v : SVal} {l : Loc} (hm : ScopeMapOK σ m)
    (h : scopeLookup k m = some (v, l)) : SValOK σ v := by
  induction m with
  | nil => cases h
  | cons e r ih =>
    obtain ⟨k', v', l'⟩ := e
    unfold scopeLookup at h
    split at h
    · cases h; exact hm.head
    · exact ih hm.tail h

theorem scopeSetVal_ok {σ : State} {k : List Char} {v : SVal} {m : ScopeMap} (hm : ScopeMapOK σ m) (hv : SValOK σ v) :
    ScopeMapOK σ (scopeSetVal k v m) := by
  induction m with
  | nil => exact hm
  | cons e r ih =>
    obtain ⟨k', v', l'⟩ := e
    unfold scopeSetVal
    split
    · exact ScopeMapOK.cons hv hm.tail
    · exact ScopeMapOK.cons hm.head (ih hm.tail)

theorem scopeGet_ok {σ : State} {sc : List Addr} {k : List Char} {v : SVal} (hw : WF σ) (h : scopeGet σ sc k = some v) :
    SValOK σ v := by
  induction sc with
  | nil => simp [scopeGet] at h
  | cons a r ih =>
    unfold scopeGet at h
    split at h
    · simp at h
    · rename_i m hm
      split at h
      · rename_i v' l hl
        injection h with h; subst h
        exact scopeLookup_ok (hw.scope hm) hl
      · exact ih h

theorem alloc_tag (σ : State) (c : Cell) : (σ.alloc c).2.tagAt (σ.alloc c).1 = some c.tag :=
  tagAt_of_heap (ScopeL.alloc_new σ c)

theorem alloc_ext (σ : State) (c : Cell) : Ext σ (σ.alloc c).2 := by
  refine ⟨heapGrows_good.alloc σ c, fun a xs h => ⟨xs, ?_, rfl⟩⟩
  have hlt : a < σ.heap.size := tagAt_lt (getList_tag h)
  rw [ScopeL.getList_heap] at h ⊢
  rw [ScopeL.alloc_old σ c hlt]; exact h

theorem alloc_wf {σ : State} {c : Cell} (hw : WF σ) (hc : CellOK σ c) : WF (σ.alloc c).2 := by
  intro a cell h
  have ht : TagLe σ (σ.alloc c).2 := (alloc_ext σ c).tagLe
  have hp : (σ.alloc c).2.heap[a]? = if a = σ.heap.size then some c else σ.heap[a]? := by
    show (σ.heap.push c)[a]? = _
    exact Array.getElem?_push
  rw [hp] at h
  split at h
  · injection h with h; subst h; exact hc.tagLe ht
  · exact (hw a cell h).tagLe ht

/-- the form used after `split` on `let (a, σ') := σ.alloc c` -/
theorem alloc_spec {σ σ' : State} {c : Cell} {a : Addr} (he : σ.alloc c = (a, σ')) (hw : WF σ) (hc : CellOK σ c) :
    WF σ' ∧ Ext σ σ' ∧ σ'.tagAt a = some c.tag := by
  have h1 : σ' = (σ.alloc c).2 := by rw [he]
  have h2 : a = (σ.alloc c).1 := by rw [he]
  subst h1; subst h2
  exact ⟨alloc_wf hw hc, alloc_ext σ c, alloc_tag σ c⟩

theorem set_tagLe {σ : State} {a : Addr} {c : Cell} (ht : σ.tagAt a = some c.tag) : TagLe σ (σ.set a c) := by
  intro b t hb
  rw [tagAt_set_same σ a c ht b]; exact hb

theorem set_wf {σ : State} {a : Addr} {c : Cell} (hw : WF σ) (ht : σ.tagAt a = some c.tag) (hc : CellOK σ c) :
    WF (σ.set a c) := by
  intro b cell h
  rw [ScopeL.heap_set] at h
  split at h
  · split at h
    · injection h with h; subst h; exact hc.tagLe (set_tagLe ht)
    · cases h
  · exact (hw b cell h).tagLe (set_tagLe ht)

theorem set_heapGrows {σ : State} {a : Addr} {c : Cell} (ht : σ.tagAt a = some c.tag) : HeapGrows σ (σ.set a c) :=
  ⟨by rw [ScopeL.set_size]; exact Nat.le_refl _, fun b _ => tagAt_set_same σ a c ht b⟩

theorem set_ext_list {σ : State} {a : Addr} {xs ys : List SVal} (hg : σ.getList a = some xs) (hl : ys.length = xs.length) :
    Ext σ (σ.set a (.list ys)) := by
  refine ⟨set_heapGrows (getList_tag hg), fun b zs hb => ?_⟩
  by_cases hab : a = b
  · subst hab
    rw [hg] at hb; injection hb with hb; subst hb
    refine ⟨ys, ?_, hl⟩
    rw [ScopeL.getList_heap, ScopeL.heap_set]
    simp [tagAt_lt (getList_tag hg)]
  · refine ⟨zs, ?_, rfl⟩
    rw [ScopeL.getList_heap] at hb ⊢
    rw [ScopeL.heap_set]; simp [hab, hb]

theorem set_ext_other {σ : State} {a : Addr} {c : Cell} (ht : σ.tagAt a = some c.tag) (hn : c.tag ≠ .list) :
    Ext σ (σ.set a c) := by
  refine ⟨set_heapGrows ht, fun b zs hb => ⟨zs, ?_, rfl⟩⟩
  have hab : a ≠ b := by
    intro hab; subst hab
    rw [getList_tag hb] at ht
    injection ht with ht; exact hn ht.symm
  rw [ScopeL.getList_heap] at hb ⊢
  rw [ScopeL.heap_set]; simp [hab, hb]

theorem set_ext_obj {σ : State} {a : Addr} {m : ObjMap} (m' : ObjMap) (hg : σ.getObj a = some m) : Ext σ (σ.set a (.obj m')) :=
  set_ext_other (c := .obj m') (getObj_tag hg) (by simp [Cell.tag])

theorem set_ext_scope {σ : State} {a : Addr} {m : ScopeMap} (m' : ScopeMap) (hg : σ.getScope a = some m) :
    Ext σ (σ.set a (.scope m')) :=
  set_ext_other (c := .scope m') (getScope_tag hg) (by simp [Cell.tag])

theorem set_list_wf {σ : State} {a : Addr} {xs ys : List SVal} (hw : WF σ) (hg : σ.getList a = some xs) (hy : ListOK σ ys) :
    WF (σ.set a (.list ys)) := set_wf (c := .list ys) hw (getList_tag hg) hy
theorem set_obj_wf {σ : State} {a : Addr} {m m' : ObjMap} (hw : WF σ) (hg : σ.getObj a = some m) (hy : ObjOK σ m')
    (hs : Sorted m') : WF (σ.set a (.obj m')) := set_wf (c := .obj m') hw (getObj_tag hg) ⟨hy, hs⟩
theorem set_scope_wf {σ : State} {a : Addr} {m m' : ScopeMap} (hw : WF σ) (hg : σ.getScope a = some m) (hy : ScopeMapOK σ m') :
    WF (σ.set a (.scope m')) := set_wf (c := .scope m') hw (getScope_tag hg) hy

theorem print_wf {σ : State} (l : List Char) (hw : WF σ) : WF (σ.print l) := hw
theorem print_ext (σ : State) (l : List Char) : Ext σ (σ.print l) := ⟨heapGrows_good.print σ l, fun _ xs h => ⟨xs, h, rfl⟩⟩

theorem scopeAssign_spec {σ σ' : State} {sc : List Addr} {k : List Char} {v : SVal} (hw : WF σ) (hv : SValOK σ v)
    (he : scopeAssign σ sc k v = some σ') : WF σ' ∧ Ext σ σ' := by
  induction sc with
  | nil => simp [scopeAssign] at he
  | cons a r ih =>
    unfold scopeAssign at he
    split at he
    · simp at he
    · rename_i m hm
      split at he
      · injection he with he; subst he
        exact ⟨set_scope_wf hw hm (scopeSetVal_ok (hw.scope hm) hv), set_ext_scope _ hm⟩
      · exact ih he

theorem scopeDeclare_spec {σ σ' : State} {sc : List Addr} {k : List Char} {loc : Loc} {v : SVal} (hw : WF σ) (hv : SValOK σ v)
    (he : scopeDeclare σ sc k loc v = .ok σ') : WF σ' ∧ Ext σ σ' := by
  unfold scopeDeclare at he
  split at he
  · simp at he
  · split at he
    · simp at he
    · rename_i m hm
      split at he
      · simp at he
      · injection he with he; subst he
        exact ⟨set_scope_wf hw hm (ScopeMapOK.cons hv (hw.scope hm)), set_ext_scope _ hm⟩

theorem scopeDeclare_ne_bad {σ : State} {sc : List Addr} (k : List Char) (loc : Loc) (v : SVal) (hs : ScOK σ sc) :
    scopeDeclare σ sc k loc v ≠ .bad := by
  unfold scopeDeclare
  split
  · exact absurd rfl hs.1
  · rename_i a r
    split
    · rename_i hn
      exact absurd hn (getScope_ne_none (hs.2 a (List.mem_cons_self)))
    · split <;> simp

theorem listSet_ok {σ : State} {xs : List SVal} {i : Nat} {v : SVal} (hx : ListOK σ xs) (hv : SValOK σ v) :
    ListOK σ (listSet xs i v) := by
  induction xs generalizing i with
  | nil => exact hx
  | cons x r ih =>
    cases i with
    | zero => exact ListOK.cons hv hx.tail
    | succ i => exact ListOK.cons hx.head (ih hx.tail)

theorem listSplice_length {α} (xs : List α) (lo hi : Nat) (vals : List α) (h1 : lo < hi) (h2 : hi ≤ xs.length)
    (h3 : hi - lo = vals.length) : (listSplice xs lo vals).length = xs.length := by
  unfold listSplice
  simp only [List.length_append, List.length_take, List.length_drop]
  omega

theorem listSplice_ok {σ : State} {xs vals : List SVal} (lo : Nat) (hx : ListOK σ xs) (hv : ListOK σ vals) :
    ListOK σ (listSplice xs lo vals) :=
  ListOK.append (ListOK.append (hx.take _) hv) (hx.drop _)

end Seed
