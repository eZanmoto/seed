/-
  WFPrim.lean — G4, part 2: from a well-formed state and OK arguments the primitives of Prim.lean (and the
  evaluator's non-recursive helpers `opAssignValue`, `bindNextName`, `validateArgsRes`) never take a
  "would panic" branch, except `render` meeting a container that is being rendered further up (`lock`).
  On success they return OK values in a well-formed extension of the state.
-/
import SeedProofs.Lemmas.WF
namespace Seed

def Res.state? {α : Type} : Res α → Option State
  | .ok _ σ => some σ
  | .err _ σ => some σ
  | .crash _ σ => some σ
  | .timeout => none

def Triv {α : Type} : State → α → Prop := fun _ _ => True

/-- `r`, computed from `σ`, is not a crash other than `lock`; a successful result is `P` in a
    well-formed extension of `σ`; the state carried by an error or by a `lock` crash is a well-formed
    extension of `σ` too (so `WF` — dangling-free and every object cell `Sorted` — holds in EVERY state a
    result can carry) -/
def Safe {α : Type} (P : State → α → Prop) (σ : State) : Res α → Prop
  | .ok a σ' => WF σ' ∧ Ext σ σ' ∧ P σ' a
  | .err _ σ' => WF σ' ∧ Ext σ σ'
  | .crash w σ' => w = c!"lock" ∧ WF σ' ∧ Ext σ σ'
  | .timeout => True

namespace Safe
variable {α β : Type} {P : State → α → Prop} {Q : State → β → Prop} {σ : State}

theorem ok {a : α} {σ' : State} (hw : WF σ') (he : Ext σ σ') (hp : P σ' a) : Safe P σ (.ok a σ') := ⟨hw, he, hp⟩
theorem ok_same {a : α} (hw : WF σ) (hp : P σ a) : Safe P σ (.ok a σ) := ⟨hw, Ext.refl σ, hp⟩
/-- an error raised in the current (well-formed) state; the `WF` fact is found by `assumption` -/
theorem err {e : Err} (hw : WF σ := by assumption) : Safe P σ (.err e σ : Res α) := ⟨hw, Ext.refl σ⟩
theorem errAt {loc : Loc} {l : Gen.Leaf} (hw : WF σ := by assumption) : Safe P σ (Seed.errAt loc l σ : Res α) :=
  ⟨hw, Ext.refl σ⟩
theorem err_ext {e : Err} {σ' : State} (hw : WF σ') (he : Ext σ σ') : Safe P σ (.err e σ' : Res α) := ⟨hw, he⟩
theorem timeout : Safe P σ (.timeout : Res α) := trivial
theorem lock (hw : WF σ := by assumption) : Safe P σ (.crash c!"lock" σ : Res α) := ⟨rfl, hw, Ext.refl σ⟩

theorem weaken {σ1 : State} {r : Res α} (h : Safe P σ1 r) (he : Ext σ σ1) : Safe P σ r := by
  cases r with
  | ok a σ' => exact ⟨h.1, he.trans h.2.1, h.2.2⟩
  | err e σ' => exact ⟨h.1, he.trans h.2⟩
  | crash w σ' => exact ⟨h.1, h.2.1, he.trans h.2.2⟩
  | timeout => trivial

theorem bind {r : Res α} {f : α → State → Res β} (h : Safe P σ r)
    (hf : ∀ a σ1, WF σ1 → Ext σ σ1 → P σ1 a → Safe Q σ1 (f a σ1)) : Safe Q σ (r.bind f) := by
  cases r with
  | ok a σ1 => exact weaken (hf a σ1 h.1 h.2.1 h.2.2) h.2.1
  | err e σ1 => exact h
  | crash w σ1 => exact h
  | timeout => trivial

theorem map {r : Res α} {f : α → β} (h : Safe P σ r) (hf : ∀ σ' a, P σ' a → Q σ' (f a)) : Safe Q σ (r.map f) := by
  cases r with
  | ok a σ1 => exact ⟨h.1, h.2.1, hf _ _ h.2.2⟩
  | err e σ1 => exact h
  | crash w σ1 => exact h
  | timeout => trivial

theorem mapErr {r : Res α} {f : Err → Err} (h : Safe P σ r) : Safe P σ (r.mapErr f) := by
  cases r <;> exact h

/-- a conditional, branch by branch (`split` on the whole goal is slow to check) -/
theorem ite {c : Prop} [Decidable c] {x y : Res α} (hx : c → Safe P σ x) (hy : ¬c → Safe P σ y) :
    Safe P σ (if c then x else y) := by
  split
  · exact hx ‹_›
  · exact hy ‹_›

theorem imp {P' : State → α → Prop} {r : Res α} (h : Safe P σ r) (hp : ∀ σ' a, P σ' a → P' σ' a) : Safe P' σ r := by
  cases r with
  | ok a σ1 => exact ⟨h.1, h.2.1, hp _ _ h.2.2⟩
  | err e σ1 => exact h
  | crash w σ1 => exact h
  | timeout => trivial

theorem crash_eq {r : Res α} (h : Safe P σ r) {w : List Char} {σ' : State} (hr : r = .crash w σ') : w = c!"lock" := by
  subst hr; exact h.1

/-- what `Safe` says about success (with `HeapGrows`, as in the statement of G4) -/
theorem ok_inv {r : Res α} (h : Safe P σ r) {a : α} {σ' : State} (hr : r = .ok a σ') :
    WF σ' ∧ HeapGrows σ σ' ∧ P σ' a := by
  subst hr; exact ⟨h.1, h.2.1.heapGrows, h.2.2⟩

theorem err_inv {r : Res α} (h : Safe P σ r) {e : Err} {σ' : State} (hr : r = .err e σ') : WF σ' ∧ HeapGrows σ σ' := by
  subst hr; exact ⟨h.1, h.2.heapGrows⟩

theorem crash_inv {r : Res α} (h : Safe P σ r) {w : List Char} {σ' : State} (hr : r = .crash w σ') :
    WF σ' ∧ HeapGrows σ σ' := by
  subst hr; exact ⟨h.2.1, h.2.2.heapGrows⟩

theorem state_wf {r : Res α} (h : Safe P σ r) {σ' : State} (hr : r.state? = some σ') : WF σ' := by
  cases r with
  | ok a σ1 => cases hr; exact h.1
  | err e σ1 => cases hr; exact h.1
  | crash w σ1 => cases hr; exact h.2.1
  | timeout => cases hr

theorem state_ext {r : Res α} (h : Safe P σ r) {σ' : State} (hr : r.state? = some σ') : Ext σ σ' := by
  cases r with
  | ok a σ1 => cases hr; exact h.2.1
  | err e σ1 => cases hr; exact h.2
  | crash w σ1 => cases hr; exact h.2.2
  | timeout => cases hr

theorem state_sorted {r : Res α} (h : Safe P σ r) {σ' : State} (hr : r.state? = some σ') {a : Addr} {m : ObjMap}
    (hm : σ'.getObj a = some m) : Sorted m := (h.state_wf hr).sorted hm
end Safe

/-! ### `==` never meets a dangling address -/

theorem EqRes.prefixPath_ne_bad {p : List Char} {r : EqRes} (h : r ≠ .bad) : r.prefixPath p ≠ .bad := by
  cases r <;> simp_all [EqRes.prefixPath]

theorem eq_no_bad (n : Nat) {σ : State} (hw : WF σ) :
    (∀ a b, ValOK σ a → ValOK σ b → eqVal n σ a b ≠ .bad) ∧
    (∀ i xs ys, ListOK σ xs → ListOK σ ys → eqItems n σ i xs ys ≠ .bad) ∧
    (∀ xs ys, ObjOK σ xs → ObjOK σ ys → eqProps n σ xs ys ≠ .bad) := by
  induction n with
  | zero =>
    refine ⟨?_, ?_, ?_⟩
    · intro a b _ _; unfold eqVal; intro h; cases h
    · intro i xs ys _ _; unfold eqItems; intro h; cases h
    · intro xs ys _ _; unfold eqProps; intro h; cases h
  | succ n ih =>
    obtain ⟨ihV, ihI, ihP⟩ := ih
    refine ⟨?_, ?_, ?_⟩
    · intro a b ha hb
      unfold eqVal
      repeat' first
        | split
        | (intro h; cases h; done)
        | exact ihI _ _ _ (hw.list (by assumption)) (hw.list (by assumption))
        | exact ihP _ _ (hw.obj (by assumption)) (hw.obj (by assumption))
      · rename_i hno
        obtain ⟨xs, hx⟩ := getList_of_tag ha
        obtain ⟨ys, hy⟩ := getList_of_tag hb
        exact absurd trivial (fun _ => hno xs ys hx hy)
      · rename_i hno
        obtain ⟨xs, hx⟩ := getObj_of_tag ha
        obtain ⟨ys, hy⟩ := getObj_of_tag hb
        exact absurd trivial (fun _ => hno xs ys hx hy)
    · intro i xs ys hx hy
      unfold eqItems
      repeat' first
        | split
        | (intro h; cases h; done)
        | exact ihI _ _ _ hx.tail hy.tail
        | (apply EqRes.prefixPath_ne_bad; exact ihV _ _ hx.head.1 hy.head.1)
    · intro xs ys hx hy
      unfold eqProps
      repeat' first
        | split
        | (intro h; cases h; done)
        | exact ihP _ _ hx.tail hy
        | (apply EqRes.prefixPath_ne_bad; exact ihV _ _ hx.head.1 (objGet_ok hy (by assumption)).1)

theorem eqVal_ne_bad (n : Nat) {σ : State} {a b : Val} (hw : WF σ) (ha : ValOK σ a) (hb : ValOK σ b) :
    eqVal n σ a b ≠ .bad := (eq_no_bad n hw).1 a b ha hb

/-! ### `render` never meets a dangling address (it may meet a held lock) -/

theorem render_no_bad (n : Nat) {σ : State} (hw : WF σ) :
    (∀ held v, ValOK σ v → render n σ held v ≠ .bad) ∧
    (∀ held items, ListOK σ items → renderItems n σ held items ≠ .bad) ∧
    (∀ held props, ObjOK σ props → renderProps n σ held props ≠ .bad) := by
  induction n with
  | zero =>
    refine ⟨?_, ?_, ?_⟩
    · intro held v _; unfold render; intro h; cases h
    · intro held xs _; unfold renderItems; intro h; cases h
    · intro held xs _; unfold renderProps; intro h; cases h
  | succ n ih =>
    obtain ⟨ihV, ihI, ihP⟩ := ih
    refine ⟨?_, ?_, ?_⟩
    · intro held v hv
      unfold render
      repeat' first
        | split
        | (intro h; cases h; done)
        | exact ihI _ _ (hw.list (by assumption))
        | exact ihP _ _ (hw.obj (by assumption))
        | (exact absurd (by assumption) (getList_ne_none hv))
        | (exact absurd (by assumption) (getObj_ne_none hv))
        | (exact absurd (by assumption) (getFunc_ne_none hv))
    · intro held xs hx
      unfold renderItems
      repeat' first
        | split
        | (intro h; cases h; done)
        | exact ihI _ _ hx.tail
        | exact ihV _ _ hx.head.1
    · intro held xs hx
      unfold renderProps
      repeat' first
        | split
        | (intro h; cases h; done)
        | exact ihP _ _ hx.tail
        | exact ihV _ _ hx.head.1

theorem render_ne_bad (n : Nat) {σ : State} {held : List Addr} {v : Val} (hw : WF σ) (hv : ValOK σ v) :
    render n σ held v ≠ .bad := (render_no_bad n hw).1 held v hv

theorem arith_safe (op : BinaryOp) (loc : Loc) (a b : Int) {σ : State} (hw : WF σ) : Safe ValOK σ (arith op loc a b σ) := by
  unfold arith
  simp only []
  repeat' first
    | split
    | exact Safe.err
    | exact Safe.ok_same hw trivial

theorem applyBinOp_safe (n : Nat) {σ : State} (op : BinaryOp) (loc : Loc) {a b : Val} (hw : WF σ) (ha : ValOK σ a)
    (hb : ValOK σ b) : Safe ValOK σ (applyBinOp n σ op loc a b) := by
  cases op
  case Eq | Ne =>
    simp only [applyBinOp]
    split <;> first | exact Safe.ok_same hw trivial | exact Safe.err | exact Safe.timeout | exact absurd ‹_› (eqVal_ne_bad n hw ha hb)
  case Sum =>
    simp only [applyBinOp]
    split
    · exact arith_safe _ _ _ _ hw
    · exact Safe.ok_same hw trivial
    · split
      · exact Safe.ok (alloc_wf (c := .list _) hw (ListOK.append (hw.list ‹_›) (hw.list ‹_›))) (alloc_ext _ _) (alloc_tag _ _)
      · rename_i hno
        obtain ⟨xs, hx⟩ := getList_of_tag ha
        obtain ⟨ys, hy⟩ := getList_of_tag hb
        exact absurd trivial (fun _ => hno xs ys hx hy)
    · exact Safe.err
  all_goals
    simp only [applyBinOp]
    split <;> first | exact Safe.err | exact Safe.ok_same hw trivial | exact arith_safe _ _ _ _ hw

theorem opAssignValue_safe (n : Nat) {σ : State} {cur rhs : SVal} (op : Option (BinaryOp × Loc)) (hw : WF σ)
    (hc : SValOK σ cur) (hr : SValOK σ rhs) : Safe SValOK σ (opAssignValue n σ cur rhs op) := by
  unfold opAssignValue
  split
  · exact Safe.ok_same hw hr
  · exact Safe.map (applyBinOp_safe n _ _ hw hc.1 hr.1) (fun _ _ h => SValOK.plain h)

theorem assertArgs_none {f : List Char} {e g : Nat} (h : assertArgs f e g = none) : g = e := by
  unfold assertArgs at h
  split at h
  · assumption
  · cases h

theorem callBuiltin_safe (n : Nat) {σ : State} (f : BuiltinId) {this : Option SVal} {args : List SVal} (hw : WF σ)
    (ha : ListOK σ args) : Safe SValOK σ (callBuiltin n σ f this args) := by
  unfold callBuiltin
  cases f <;> simp only [] <;> (repeat' split) <;>
    first
      | exact Safe.err
      | exact Safe.timeout
      | exact Safe.lock
      | exact Safe.ok_same hw (SValOK.plain trivial)
      | exact Safe.ok (print_wf _ hw) (print_ext _ _) (SValOK.plain trivial)
      | exact absurd (by assumption) (render_ne_bad n hw ha.head.1)
      | (have := assertArgs_none (by assumption)
         simp at this)

def PairsOK (σ : State) (ps : List (SVal × SVal)) : Prop := ∀ p ∈ ps, SValOK σ p.1 ∧ SValOK σ p.2

theorem PairsOK.mono {σ σ' : State} {ps : List (SVal × SVal)} (h : PairsOK σ ps) (he : Ext σ σ') : PairsOK σ' ps :=
  fun p hp => ⟨(h p hp).1.mono he, (h p hp).2.mono he⟩

theorem mem_enumFrom {α} {k i : Nat} {x : α} {xs : List α} (h : (i, x) ∈ enumFrom k xs) : x ∈ xs := by
  induction xs generalizing k with
  | nil => simp [enumFrom] at h
  | cons y r ih =>
    simp only [enumFrom, List.mem_cons] at h
    rcases h with h | h
    · injection h with h1 h2; subst h2; exact List.mem_cons_self
    · exact List.mem_cons_of_mem _ (ih h)

theorem toPairs_ne_none {σ : State} {v : Val} (hv : ValOK σ v) : toPairs σ v ≠ none := by
  unfold toPairs
  repeat' first
    | split
    | (intro h; cases h; done)
    | (exact absurd (by assumption) (getList_ne_none hv))
    | (exact absurd (by assumption) (getObj_ne_none hv))

theorem toPairs_ok {σ : State} {v : Val} {ps : List (SVal × SVal)} (hw : WF σ) (h : toPairs σ v = some (some ps)) :
    PairsOK σ ps := by
  unfold toPairs at h
  split at h
  · injection h with h; injection h with h; subst h
    intro p hp
    obtain ⟨⟨i, b⟩, _, rfl⟩ := List.mem_map.1 hp
    exact ⟨SValOK.plain trivial, SValOK.plain trivial⟩
  · split at h
    · cases h
    · rename_i items hg
      injection h with h; injection h with h; subst h
      intro p hp
      obtain ⟨⟨i, x⟩, hm, rfl⟩ := List.mem_map.1 hp
      exact ⟨SValOK.plain trivial, hw.list hg x (mem_enumFrom hm)⟩
  · split at h
    · cases h
    · rename_i props hg
      injection h with h; injection h with h; subst h
      intro p hp
      obtain ⟨⟨k, x⟩, hm, rfl⟩ := List.mem_map.1 hp
      exact ⟨SValOK.plain trivial, hw.obj hg (k, x) hm⟩
  · injection h with h; cases h

/-! ### type functions are builtins -/

theorem typeFnLookup_ok {σ : State} {ns name : List Char} {tbl : List (List Char × List Char × List Char × List Char)} {f : Val}
    (h : typeFnLookup ns name tbl = some f) : ValOK σ f := by
  induction tbl with
  | nil => simp [typeFnLookup] at h
  | cons e r ih =>
    obtain ⟨ns', key, bname, rustFn⟩ := e
    unfold typeFnLookup at h
    split at h
    · split at h
      · injection h with h; subst h; trivial
      · cases h
    · exact ih h

theorem validateArgsRes_safe (n : Nat) (args : List Expr) {σ : State} (hw : WF σ) : Safe Triv σ (validateArgsRes n args σ) := by
  unfold validateArgsRes
  split
  · exact Safe.timeout
  · exact Safe.err
  · exact Safe.ok_same hw trivial

theorem bindNextName_safe (n : Nat) {σ : State} {sc : List Addr} (names : List (List Char)) (name : List Char) (loc : Loc)
    {rhs : SVal} (op : Option (BinaryOp × Loc)) (decl : Bool) (hw : WF σ) (hs : ScOK σ sc) (hr : SValOK σ rhs) :
    Safe Triv σ (bindNextName n σ sc names name loc rhs op decl) := by
  unfold bindNextName
  refine Safe.ite (fun _ => Safe.ok_same hw trivial) fun _ => ?_
  refine Safe.ite (fun _ => Safe.errAt) fun _ => ?_
  have store : ∀ {σ1 : State} {v : SVal}, WF σ1 → SValOK σ1 v →
      Safe Triv σ1 (match scopeAssign σ1 sc name v with
        | some σ2 => Res.ok (name :: names) σ2
        | none => errAt loc (Gen.Leaf.Undefined name) σ1) := by
    intro σ1 v hw1 hv
    split
    · have h := scopeAssign_spec hw1 hv ‹_›; exact Safe.ok h.1 h.2 trivial
    · exact Safe.errAt
  refine Safe.ite (fun _ => ?_) fun _ => ?_
  · split
    · exact Safe.errAt
    · split
      · have h := scopeDeclare_spec hw hr ‹_›; exact Safe.ok h.1 h.2 trivial
      · exact Safe.errAt
      · exact absurd ‹_› (scopeDeclare_ne_bad _ _ _ hs)
  · split
    · exact store hw hr
    · split
      · exact Safe.errAt
      · exact Safe.bind (applyBinOp_safe n _ _ hw (scopeGet_ok hw ‹_›).1 hr.1) fun v σ1 hw1 _ hv => store hw1 (SValOK.plain hv)

end Seed
