/-
  ParseProps.lean — how the parser model (SeedModel/Parse.lean) groups operators (C08):
  "Operators of one tier group left to right; a tighter tier groups first; `..` is the loosest;
  `-` directly before an integer literal in operand position is a negative literal; parentheses override."

  Atoms `a b c` are arbitrary single-token atoms (`atomOf sp.tok = some a`: identifiers, literals, `null`,
  `true`, `false`), operators are arbitrary rows of the generated table `Gen.binOps`, positions are those
  the parser stores: a left operand (accumulator) carries the position `loc` of the start of the whole
  expression, a right operand carries the position of its first token, an operator node carries the
  position of the operator token.  Every theorem comes in a fuel-free form (`…_rel`, on the relations of
  Lemmas/ParseRel.lean) and for every fuel `≥ 10 * (number of tokens) + 7` (enough by `ptotAll`;
  `parseFuel ts = 40 * (ts.length + 2)` is more).  At the end, `parse_print` for the operator fragment
  (Lemmas/ParseRoundTrip.lean).
-/
import SeedProofs.Lemmas.ParseRoundTrip
namespace Seed

/-- the token after the expression (if any) is not a binary operator, a postfix opener or `..` -/
def stopsExpr (rest : List Span) : Prop := noPostfix rest ∧ headTier rest = 0 ∧ noDotDot rest

theorem stopsExpr_nil : stopsExpr [] := ⟨True.intro, rfl, True.intro⟩

/-- a sufficient syntactic criterion: closing brackets, `;`, `,`, `:`, `=`, … stop an expression -/
theorem stopsExpr_of_tok {sp : Span} {r : List Span}
    (h : sp.tok = .ParenClose ∨ sp.tok = .BracketClose ∨ sp.tok = .BraceClose ∨ sp.tok = .StmtEnd ∨
      sp.tok = .Comma ∨ sp.tok = .Colon ∨ sp.tok = .Equals ∨ sp.tok = .ColonEquals ∨ sp.tok = .BraceOpen) :
    stopsExpr (sp :: r) := by
  have : isPostfixOpen sp.tok = false ∧ lookupAssoc sp.tok Gen.binOps = none ∧ sp.tok ≠ .DotDot := by
    rcases h with h | h | h | h | h | h | h | h | h <;> rw [h] <;> decide
  exact ⟨this.1, by simp only [headTier, this.2.1], this.2.2⟩

theorem stopsExpr.headTier_lt {rest : List Span} (h : stopsExpr rest) (k : Nat) : headTier rest < k + 1 := by
  rw [h.2.1]; exact Nat.succ_pos k

theorem dotDot_next {sd : Span} (hd : sd.tok = .DotDot) (r : List Span) :
    noPostfix (sd :: r) ∧ headTier (sd :: r) < Gen.firstTier := by
  simp only [noPostfix, headTier, hd]
  decide

section
variable {sa sb sc s1 s2 : Span} {a b c : RawExpr} {o1 o2 : BinaryOp} {k1 k2 : Nat} {rest : List Span}

theorem PTier.tokAtom {k : Nat} {loc : Loc} {sp : Span} {r : List Span} {a : RawExpr}
    (ha : atomOf sp.tok = some a) (hp : noPostfix r) (hr : headTier r < k) : PTier k loc none (sp :: r) a r :=
  PTier.ofAtom (PAtom.tok ha) hp hr

theorem PTier.atomBefore {loc : Loc} {r : List Span} (ha : atomOf sa.tok = some a)
    (h1 : lookupAssoc s1.tok Gen.binOps = some (o1, k1)) : PTier (k1 + 1) loc none (sa :: s1 :: r) a (s1 :: r) :=
  PTier.tokAtom ha (noPostfix_op h1) (by rw [headTier_op h1]; exact Nat.lt_succ_self k1)

/-- `a o b` followed by something that is not an operator of tier `≥ k`, parsed at tier `k ≤ tier o` -/
theorem PTier.binary {k : Nat} {loc : Loc} {r : List Span}
    (ha : atomOf sa.tok = some a) (hb : atomOf sb.tok = some b)
    (h1 : lookupAssoc s1.tok Gen.binOps = some (o1, k1)) (hk : k ≤ k1)
    (hp : noPostfix r) (hr : headTier r < k) :
    PTier k loc none (sa :: s1 :: sb :: r)
      (.BinaryOp o1 s1.start (.mk a loc) (.mk b sb.start)) r :=
  PTier.binop (PTier.atomBefore ha h1) h1 (PTier.tokAtom hb hp (Nat.lt_succ_of_le (Nat.le_trans (Nat.le_of_lt hr) hk)))
    hk hr

/-- `l o r` as a whole expression: both operands at the tier above the operator's, then nothing that continues -/
theorem PExpr1.binop {s : Bool} {loc : Loc} {ts r0 : List Span} {l rhs : RawExpr}
    (hl : PTier (k1 + 1) loc none ts l (s1 :: r0)) (h1 : lookupAssoc s1.tok Gen.binOps = some (o1, k1))
    (hr : PTier (k1 + 1) (headLoc r0) none r0 rhs rest) (hstop : stopsExpr rest) :
    PExpr1 s loc none ts (.BinaryOp o1 s1.start (.mk l loc) (.mk rhs (headLoc r0))) rest :=
  PExpr1.mk (PTier.binop hl h1 hr (binOp_facts h1).1 (hstop.headTier_lt 1)) (RLoop.stop hstop.2.2)

theorem PExpr1.range {loc : Loc} {ts r0 : List Span} {sd : Span} {l rhs : RawExpr}
    (hl : PTier Gen.firstTier loc none ts l (sd :: r0)) (hd : sd.tok = .DotDot)
    (hr : PTier Gen.firstTier (headLoc r0) none r0 rhs rest) (hstop : stopsExpr rest) :
    PExpr1 false loc none ts (.Range (.mk l loc) (.mk rhs (headLoc r0))) rest :=
  PExpr1.mk hl (RLoop.step hd rfl hr (RLoop.stop hstop.2.2))

theorem left_assoc_rel (s : Bool) (loc : Loc)
    (ha : atomOf sa.tok = some a) (hb : atomOf sb.tok = some b) (hc : atomOf sc.tok = some c)
    (h1 : lookupAssoc s1.tok Gen.binOps = some (o1, k1)) (h2 : lookupAssoc s2.tok Gen.binOps = some (o2, k2))
    (hk : k1 = k2) (hstop : stopsExpr rest) :
    PExpr1 s loc none (sa :: s1 :: sb :: s2 :: sc :: rest)
      (.BinaryOp o2 s2.start (.mk (.BinaryOp o1 s1.start (.mk a loc) (.mk b sb.start)) loc) (.mk c sc.start))
      rest := by
  subst hk
  have f1 := binOp_facts h1
  have hlt := hstop.headTier_lt 1
  have hP : Gen.postfixTier = 5 := rfl
  -- two turns of the tier-`k1` loop, then down to the first tier
  refine PExpr1.mk (PTier.descend (j := k1) ?_ (by omega) Gen.firstTier f1.1 (Or.inl hlt)) (RLoop.stop hstop.2.2)
  refine PTier.step (by omega) (PTier.atomBefore ha h1) (TLoop.step h1 (PTier.atomBefore hb h2) ?_)
  exact TLoop.step h2 (PTier.tokAtom hc hstop.1 (by omega)) (TLoop.stop (by omega))

/-- `a o1 b o2 c` with `o2` tighter: `a o1 (b o2 c)` -/
theorem tighter_right_rel (s : Bool) (loc : Loc)
    (ha : atomOf sa.tok = some a) (hb : atomOf sb.tok = some b) (hc : atomOf sc.tok = some c)
    (h1 : lookupAssoc s1.tok Gen.binOps = some (o1, k1)) (h2 : lookupAssoc s2.tok Gen.binOps = some (o2, k2))
    (hk : k1 < k2) (hstop : stopsExpr rest) :
    PExpr1 s loc none (sa :: s1 :: sb :: s2 :: sc :: rest)
      (.BinaryOp o1 s1.start (.mk a loc)
        (.mk (.BinaryOp o2 s2.start (.mk b sb.start) (.mk c sc.start)) sb.start))
      rest :=
  PExpr1.binop (PTier.atomBefore ha h1) h1 (PTier.binary hb hc h2 hk hstop.1 (hstop.headTier_lt k1)) hstop

/-- `a o1 b o2 c` with `o1` tighter: `(a o1 b) o2 c` -/
theorem tighter_left_rel (s : Bool) (loc : Loc)
    (ha : atomOf sa.tok = some a) (hb : atomOf sb.tok = some b) (hc : atomOf sc.tok = some c)
    (h1 : lookupAssoc s1.tok Gen.binOps = some (o1, k1)) (h2 : lookupAssoc s2.tok Gen.binOps = some (o2, k2))
    (hk : k2 < k1) (hstop : stopsExpr rest) :
    PExpr1 s loc none (sa :: s1 :: sb :: s2 :: sc :: rest)
      (.BinaryOp o2 s2.start (.mk (.BinaryOp o1 s1.start (.mk a loc) (.mk b sb.start)) loc) (.mk c sc.start))
      rest :=
  PExpr1.binop (PTier.binary ha hb h1 hk (noPostfix_op h2) (by rw [headTier_op h2]; exact Nat.lt_succ_self k2)) h2
    (PTier.tokAtom hc hstop.1 (hstop.headTier_lt k2)) hstop

/-- `a .. b o c` is `a .. (b o c)` -/
theorem range_loosest_right_rel (loc : Loc) {sd : Span}
    (ha : atomOf sa.tok = some a) (hb : atomOf sb.tok = some b) (hc : atomOf sc.tok = some c)
    (hd : sd.tok = .DotDot) (h1 : lookupAssoc s1.tok Gen.binOps = some (o1, k1)) (hstop : stopsExpr rest) :
    PExpr1 false loc none (sa :: sd :: sb :: s1 :: sc :: rest)
      (.Range (.mk a loc) (.mk (.BinaryOp o1 s1.start (.mk b sb.start) (.mk c sc.start)) sb.start))
      rest :=
  PExpr1.range (PTier.tokAtom ha (dotDot_next hd _).1 (dotDot_next hd _).2) hd
    (PTier.binary hb hc h1 (binOp_facts h1).1 hstop.1 (hstop.headTier_lt 1)) hstop

/-- `a o b .. c` is `(a o b) .. c` -/
theorem range_loosest_left_rel (loc : Loc) {sd : Span}
    (ha : atomOf sa.tok = some a) (hb : atomOf sb.tok = some b) (hc : atomOf sc.tok = some c)
    (hd : sd.tok = .DotDot) (h1 : lookupAssoc s1.tok Gen.binOps = some (o1, k1)) (hstop : stopsExpr rest) :
    PExpr1 false loc none (sa :: s1 :: sb :: sd :: sc :: rest)
      (.Range (.mk (.BinaryOp o1 s1.start (.mk a loc) (.mk b sb.start)) loc) (.mk c sc.start))
      rest :=
  PExpr1.range (PTier.binary ha hb h1 (binOp_facts h1).1 (dotDot_next hd _).1 (dotDot_next hd _).2) hd
    (PTier.tokAtom hc hstop.1 (hstop.headTier_lt 1)) hstop

/-- `..` itself groups left to right: `a .. b .. c` is `(a .. b) .. c` -/
theorem range_left_assoc_rel (loc : Loc) {sd sd2 : Span}
    (ha : atomOf sa.tok = some a) (hb : atomOf sb.tok = some b) (hc : atomOf sc.tok = some c)
    (hd : sd.tok = .DotDot) (hd2 : sd2.tok = .DotDot) (hstop : stopsExpr rest) :
    PExpr1 false loc none (sa :: sd :: sb :: sd2 :: sc :: rest)
      (.Range (.mk (.Range (.mk a loc) (.mk b sb.start)) loc) (.mk c sc.start))
      rest :=
  PExpr1.mk (PTier.tokAtom ha (dotDot_next hd _).1 (dotDot_next hd _).2)
    (RLoop.step hd rfl (PTier.tokAtom hb (dotDot_next hd2 _).1 (dotDot_next hd2 _).2)
      (RLoop.step hd2 rfl (PTier.tokAtom hc hstop.1 (hstop.headTier_lt 1)) (RLoop.stop hstop.2.2)))

/-- in operand position, `-` directly followed by an integer literal is the literal `-n` -/
theorem neg_literal_operand_rel (s : Bool) (loc : Loc) {sm sn : Span} {n : Int}
    (hm : sm.tok = .Sub) (hn : sn.tok = .IntLiteral n) (hstop : stopsExpr rest) :
    PExpr1 s loc none (sm :: sn :: rest) (.Int (-n)) rest :=
  PExpr1.mk (PTier.ofAtom (PAtom.neg hm hn) hstop.1 (hstop.headTier_lt 1)) (RLoop.stop hstop.2.2)

/-- after an operand, `-` is the subtraction operator: `a - n` -/
theorem neg_literal_after_operand_rel (s : Bool) (loc : Loc) {sm sn : Span} {n : Int}
    (ha : atomOf sa.tok = some a) (hm : sm.tok = .Sub) (hn : sn.tok = .IntLiteral n) (hstop : stopsExpr rest) :
    PExpr1 s loc none (sa :: sm :: sn :: rest)
      (.BinaryOp .Sub sm.start (.mk a loc) (.mk (.Int n) sn.start)) rest := by
  have hl : lookupAssoc sm.tok Gen.binOps = some (BinaryOp.Sub, 3) := by rw [hm]; rfl
  have hnn : atomOf sn.tok = some (.Int n) := by rw [hn]; rfl
  exact PExpr1.binop (PTier.atomBefore ha hl) hl (PTier.tokAtom hnn hstop.1 (hstop.headTier_lt 3)) hstop

/-- `a - - n` is `a - (-n)`: the second `-` is in operand position -/
theorem neg_literal_after_operator_rel (s : Bool) (loc : Loc) {sm sm2 sn : Span} {n : Int}
    (ha : atomOf sa.tok = some a) (hm : sm.tok = .Sub) (hm2 : sm2.tok = .Sub) (hn : sn.tok = .IntLiteral n)
    (hstop : stopsExpr rest) :
    PExpr1 s loc none (sa :: sm :: sm2 :: sn :: rest)
      (.BinaryOp .Sub sm.start (.mk a loc) (.mk (.Int (-n)) sm2.start)) rest := by
  have hl : lookupAssoc sm.tok Gen.binOps = some (BinaryOp.Sub, 3) := by rw [hm]; rfl
  exact PExpr1.binop (PTier.atomBefore ha hl) hl (PTier.ofAtom (PAtom.neg hm2 hn) hstop.1 (hstop.headTier_lt 3)) hstop

/-- there is no unary minus: `-` followed by anything but an integer literal is a syntax error -/
theorem no_unary_minus (fuel : Nat) {sm sx : Span} (hm : sm.tok = .Sub) (hx : ∀ n, sx.tok ≠ .IntLiteral n)
    (hfuel : 7 ≤ fuel) (s : Bool) (loc : Loc) :
    parseExpr1 fuel s loc none (sm :: sx :: rest) = .err (.tok sx) := by
  obtain ⟨n, rfl⟩ : ∃ n, fuel = n + 7 := ⟨fuel - 7, by omega⟩
  have hat : parseAtom (n + 1) none (sm :: sx :: rest) = .err (.tok sx) := by
    unfold parseAtom
    simp only [hm]
  unfold parseExpr1
  simp only [Gen.firstTier]
  unfold parseTier; simp only [Gen.postfixTier, ge_iff_le, Nat.reduceLeDiff, if_false, Nat.reduceAdd]
  unfold parseTier; simp only [Gen.postfixTier, ge_iff_le, Nat.reduceLeDiff, if_false, Nat.reduceAdd]
  unfold parseTier; simp only [Gen.postfixTier, ge_iff_le, Nat.reduceLeDiff, if_false, Nat.reduceAdd]
  unfold parseTier; simp only [Gen.postfixTier, ge_iff_le, Nat.le_refl, if_true]
  unfold parsePostfix
  simp only [hat, PRes.bind]

/-- `( a o1 b ) o2 c` is `(a o1 b) o2 c`, whatever the tiers -/
theorem parens_override_left_rel (s : Bool) (loc : Loc) {sl sr : Span}
    (ha : atomOf sa.tok = some a) (hb : atomOf sb.tok = some b) (hc : atomOf sc.tok = some c)
    (hl : sl.tok = .ParenOpen) (hr : sr.tok = .ParenClose)
    (h1 : lookupAssoc s1.tok Gen.binOps = some (o1, k1)) (h2 : lookupAssoc s2.tok Gen.binOps = some (o2, k2))
    (hstop : stopsExpr rest) :
    PExpr1 s loc none (sl :: sa :: s1 :: sb :: sr :: s2 :: sc :: rest)
      (.BinaryOp o2 s2.start
        (.mk (.BinaryOp o1 s1.start (.mk a sa.start) (.mk b sb.start)) loc) (.mk c sc.start))
      rest := by
  have hclose : stopsExpr (sr :: s2 :: sc :: rest) := stopsExpr_of_tok (Or.inl hr)
  have inner : PAtom none (sl :: sa :: s1 :: sb :: sr :: s2 :: sc :: rest)
      (.BinaryOp o1 s1.start (.mk a sa.start) (.mk b sb.start)) (s2 :: sc :: rest) :=
    PAtom.paren hl
      (PExpr1.binop (PTier.atomBefore ha h1) h1 (PTier.tokAtom hb hclose.1 (hclose.headTier_lt k1)) hclose) hr
  exact PExpr1.binop
    (PTier.ofAtom inner (noPostfix_op h2) (by rw [headTier_op h2]; exact Nat.lt_succ_self k2)) h2
    (PTier.tokAtom hc hstop.1 (hstop.headTier_lt k2)) hstop

/-- `a o1 ( b o2 c )` is `a o1 (b o2 c)`, whatever the tiers -/
theorem parens_override_right_rel (s : Bool) (loc : Loc) {sl sr : Span}
    (ha : atomOf sa.tok = some a) (hb : atomOf sb.tok = some b) (hc : atomOf sc.tok = some c)
    (hl : sl.tok = .ParenOpen) (hr : sr.tok = .ParenClose)
    (h1 : lookupAssoc s1.tok Gen.binOps = some (o1, k1)) (h2 : lookupAssoc s2.tok Gen.binOps = some (o2, k2))
    (hstop : stopsExpr rest) :
    PExpr1 s loc none (sa :: s1 :: sl :: sb :: s2 :: sc :: sr :: rest)
      (.BinaryOp o1 s1.start (.mk a loc)
        (.mk (.BinaryOp o2 s2.start (.mk b sb.start) (.mk c sc.start)) sl.start))
      rest := by
  have hclose : stopsExpr (sr :: rest) := stopsExpr_of_tok (Or.inl hr)
  have inner : PAtom none (sl :: sb :: s2 :: sc :: sr :: rest)
      (.BinaryOp o2 s2.start (.mk b sb.start) (.mk c sc.start)) rest :=
    PAtom.paren hl
      (PExpr1.binop (PTier.atomBefore hb h2) h2 (PTier.tokAtom hc hclose.1 (hclose.headTier_lt k2)) hclose) hr
  exact PExpr1.binop (PTier.atomBefore ha h1) h1 (PTier.ofAtom inner hstop.1 (hstop.headTier_lt k1)) hstop

end

section
variable {sa sb sc s1 s2 : Span} {a b c : RawExpr} {o1 o2 : BinaryOp} {k1 k2 : Nat} {rest : List Span}

theorem left_assoc (s : Bool) (loc : Loc)
    (ha : atomOf sa.tok = some a) (hb : atomOf sb.tok = some b) (hc : atomOf sc.tok = some c)
    (h1 : lookupAssoc s1.tok Gen.binOps = some (o1, k1)) (h2 : lookupAssoc s2.tok Gen.binOps = some (o2, k2))
    (hk : k1 = k2) (hstop : stopsExpr rest) (fuel : Nat) (hf : 10 * (rest.length + 5) + 7 ≤ fuel) :
    parseExpr1 fuel s loc none (sa :: s1 :: sb :: s2 :: sc :: rest) =
      .ok (.BinaryOp o2 s2.start (.mk (.BinaryOp o1 s1.start (.mk a loc) (.mk b sb.start)) loc)
        (.mk c sc.start)) rest :=
  (left_assoc_rel s loc ha hb hc h1 h2 hk hstop).at_fuel fuel hf

theorem tighter_first_lt (s : Bool) (loc : Loc)
    (ha : atomOf sa.tok = some a) (hb : atomOf sb.tok = some b) (hc : atomOf sc.tok = some c)
    (h1 : lookupAssoc s1.tok Gen.binOps = some (o1, k1)) (h2 : lookupAssoc s2.tok Gen.binOps = some (o2, k2))
    (hk : k1 < k2) (hstop : stopsExpr rest) (fuel : Nat) (hf : 10 * (rest.length + 5) + 7 ≤ fuel) :
    parseExpr1 fuel s loc none (sa :: s1 :: sb :: s2 :: sc :: rest) =
      .ok (.BinaryOp o1 s1.start (.mk a loc)
        (.mk (.BinaryOp o2 s2.start (.mk b sb.start) (.mk c sc.start)) sb.start)) rest :=
  (tighter_right_rel s loc ha hb hc h1 h2 hk hstop).at_fuel fuel hf

theorem tighter_first_gt (s : Bool) (loc : Loc)
    (ha : atomOf sa.tok = some a) (hb : atomOf sb.tok = some b) (hc : atomOf sc.tok = some c)
    (h1 : lookupAssoc s1.tok Gen.binOps = some (o1, k1)) (h2 : lookupAssoc s2.tok Gen.binOps = some (o2, k2))
    (hk : k2 < k1) (hstop : stopsExpr rest) (fuel : Nat) (hf : 10 * (rest.length + 5) + 7 ≤ fuel) :
    parseExpr1 fuel s loc none (sa :: s1 :: sb :: s2 :: sc :: rest) =
      .ok (.BinaryOp o2 s2.start (.mk (.BinaryOp o1 s1.start (.mk a loc) (.mk b sb.start)) loc)
        (.mk c sc.start)) rest :=
  (tighter_left_rel s loc ha hb hc h1 h2 hk hstop).at_fuel fuel hf

theorem range_loosest_right (loc : Loc) {sd : Span}
    (ha : atomOf sa.tok = some a) (hb : atomOf sb.tok = some b) (hc : atomOf sc.tok = some c)
    (hd : sd.tok = .DotDot) (h1 : lookupAssoc s1.tok Gen.binOps = some (o1, k1)) (hstop : stopsExpr rest)
    (fuel : Nat) (hf : 10 * (rest.length + 5) + 7 ≤ fuel) :
    parseExpr1 fuel false loc none (sa :: sd :: sb :: s1 :: sc :: rest) =
      .ok (.Range (.mk a loc) (.mk (.BinaryOp o1 s1.start (.mk b sb.start) (.mk c sc.start)) sb.start)) rest :=
  (range_loosest_right_rel loc ha hb hc hd h1 hstop).at_fuel fuel hf

theorem range_loosest_left (loc : Loc) {sd : Span}
    (ha : atomOf sa.tok = some a) (hb : atomOf sb.tok = some b) (hc : atomOf sc.tok = some c)
    (hd : sd.tok = .DotDot) (h1 : lookupAssoc s1.tok Gen.binOps = some (o1, k1)) (hstop : stopsExpr rest)
    (fuel : Nat) (hf : 10 * (rest.length + 5) + 7 ≤ fuel) :
    parseExpr1 fuel false loc none (sa :: s1 :: sb :: sd :: sc :: rest) =
      .ok (.Range (.mk (.BinaryOp o1 s1.start (.mk a loc) (.mk b sb.start)) loc) (.mk c sc.start)) rest :=
  (range_loosest_left_rel loc ha hb hc hd h1 hstop).at_fuel fuel hf

theorem range_left_assoc (loc : Loc) {sd sd2 : Span}
    (ha : atomOf sa.tok = some a) (hb : atomOf sb.tok = some b) (hc : atomOf sc.tok = some c)
    (hd : sd.tok = .DotDot) (hd2 : sd2.tok = .DotDot) (hstop : stopsExpr rest)
    (fuel : Nat) (hf : 10 * (rest.length + 5) + 7 ≤ fuel) :
    parseExpr1 fuel false loc none (sa :: sd :: sb :: sd2 :: sc :: rest) =
      .ok (.Range (.mk (.Range (.mk a loc) (.mk b sb.start)) loc) (.mk c sc.start)) rest :=
  (range_left_assoc_rel loc ha hb hc hd hd2 hstop).at_fuel fuel hf

theorem neg_literal_operand (s : Bool) (loc : Loc) {sm sn : Span} {n : Int}
    (hm : sm.tok = .Sub) (hn : sn.tok = .IntLiteral n) (hstop : stopsExpr rest)
    (fuel : Nat) (hf : 10 * (rest.length + 2) + 7 ≤ fuel) :
    parseExpr1 fuel s loc none (sm :: sn :: rest) = .ok (.Int (-n)) rest :=
  (neg_literal_operand_rel s loc hm hn hstop).at_fuel fuel hf

theorem neg_literal_after_operand (s : Bool) (loc : Loc) {sm sn : Span} {n : Int}
    (ha : atomOf sa.tok = some a) (hm : sm.tok = .Sub) (hn : sn.tok = .IntLiteral n) (hstop : stopsExpr rest)
    (fuel : Nat) (hf : 10 * (rest.length + 3) + 7 ≤ fuel) :
    parseExpr1 fuel s loc none (sa :: sm :: sn :: rest) =
      .ok (.BinaryOp .Sub sm.start (.mk a loc) (.mk (.Int n) sn.start)) rest :=
  (neg_literal_after_operand_rel s loc ha hm hn hstop).at_fuel fuel hf

theorem neg_literal_after_operator (s : Bool) (loc : Loc) {sm sm2 sn : Span} {n : Int}
    (ha : atomOf sa.tok = some a) (hm : sm.tok = .Sub) (hm2 : sm2.tok = .Sub) (hn : sn.tok = .IntLiteral n)
    (hstop : stopsExpr rest) (fuel : Nat) (hf : 10 * (rest.length + 4) + 7 ≤ fuel) :
    parseExpr1 fuel s loc none (sa :: sm :: sm2 :: sn :: rest) =
      .ok (.BinaryOp .Sub sm.start (.mk a loc) (.mk (.Int (-n)) sm2.start)) rest :=
  (neg_literal_after_operator_rel s loc ha hm hm2 hn hstop).at_fuel fuel hf

theorem parens_override_left (s : Bool) (loc : Loc) {sl sr : Span}
    (ha : atomOf sa.tok = some a) (hb : atomOf sb.tok = some b) (hc : atomOf sc.tok = some c)
    (hl : sl.tok = .ParenOpen) (hr : sr.tok = .ParenClose)
    (h1 : lookupAssoc s1.tok Gen.binOps = some (o1, k1)) (h2 : lookupAssoc s2.tok Gen.binOps = some (o2, k2))
    (hstop : stopsExpr rest) (fuel : Nat) (hf : 10 * (rest.length + 7) + 7 ≤ fuel) :
    parseExpr1 fuel s loc none (sl :: sa :: s1 :: sb :: sr :: s2 :: sc :: rest) =
      .ok (.BinaryOp o2 s2.start
        (.mk (.BinaryOp o1 s1.start (.mk a sa.start) (.mk b sb.start)) loc) (.mk c sc.start)) rest :=
  (parens_override_left_rel s loc ha hb hc hl hr h1 h2 hstop).at_fuel fuel hf

theorem parens_override_right (s : Bool) (loc : Loc) {sl sr : Span}
    (ha : atomOf sa.tok = some a) (hb : atomOf sb.tok = some b) (hc : atomOf sc.tok = some c)
    (hl : sl.tok = .ParenOpen) (hr : sr.tok = .ParenClose)
    (h1 : lookupAssoc s1.tok Gen.binOps = some (o1, k1)) (h2 : lookupAssoc s2.tok Gen.binOps = some (o2, k2))
    (hstop : stopsExpr rest) (fuel : Nat) (hf : 10 * (rest.length + 7) + 7 ≤ fuel) :
    parseExpr1 fuel s loc none (sa :: s1 :: sl :: sb :: s2 :: sc :: sr :: rest) =
      .ok (.BinaryOp o1 s1.start (.mk a loc)
        (.mk (.BinaryOp o2 s2.start (.mk b sb.start) (.mk c sc.start)) sl.start)) rest :=
  (parens_override_right_rel s loc ha hb hc hl hr h1 h2 hstop).at_fuel fuel hf

/-- every operator of the table has one of the three tiers 2, 3, 4, so for two operators exactly one of
    `left_assoc`, `tighter_first_lt`, `tighter_first_gt` applies -/
theorem binOps_tiers : Gen.binOps.map (fun x => x.2.2) = [2, 2, 3, 3, 4, 4, 4, 4, 4, 4, 4, 4, 4, 4, 4] := by
  decide

end

/-- `parse (print e) = e` up to positions: for every tree `e` over printable atoms, the 15 binary operators
    and `..`, every token list spelling `pr 1 e` (whatever the positions) is parsed by `parseExpr` with the
    driver's fuel to an expression whose erasure is `e`, consuming all tokens. -/
theorem parse_print (e : BE) (hwf : e.WF) (ts : List Span) (hts : ts.map Span.tok = pr 1 e) :
    ∃ ex, parseExpr (parseFuel ts) false ts = .ok ex [] ∧ eraseE ex = e :=
  roundtrip_parseFuel e hwf ts hts

/-! the printer puts parentheses exactly where the grouping would otherwise change -/
example : pr 1 (.bin .Mul (.bin .Sum (.atom (.Var ['a'])) (.atom (.Var ['b']))) (.atom (.Int (-3)))) =
    [.ParenOpen, .Ident ['a'], .Sum, .Ident ['b'], .ParenClose, .Mul, .Sub, .IntLiteral 3] := by decide
example : pr 1 (.bin .Sum (.bin .Sum (.atom (.Var ['a'])) (.atom (.Var ['b']))) (.atom (.Var ['c']))) =
    [.Ident ['a'], .Sum, .Ident ['b'], .Sum, .Ident ['c']] := by decide
example : pr 1 (.bin .Sum (.atom (.Var ['a'])) (.bin .Sum (.atom (.Var ['b'])) (.atom (.Var ['c'])))) =
    [.Ident ['a'], .Sum, .ParenOpen, .Ident ['b'], .Sum, .Ident ['c'], .ParenClose] := by decide
example : pr 1 (.range (.atom (.Var ['a'])) (.range (.atom (.Var ['b'])) (.atom (.Var ['c'])))) =
    [.Ident ['a'], .DotDot, .ParenOpen, .Ident ['b'], .DotDot, .Ident ['c'], .ParenClose] := by decide

end Seed
